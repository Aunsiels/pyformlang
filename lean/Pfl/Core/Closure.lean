/-
Generic model of the Python worklist idiom

    to_process = [seeds]; processed = {seeds}
    while to_process:
        x = to_process.pop()
        for y in next(x):
            if key(y) not in processed: processed.add(key(y)); to_process.append(y)

`key` is the value by which Python compares (`State.__eq__` on the merged *name*, a
tuple of states, ...).  With `key = id` this is plain reachability.  Core Lean only.
-/
namespace Pfl

variable {α κ : Type} [DecidableEq κ]

/-- one `for y in ys` loop: push every element whose key is unseen (last pushed = next popped) -/
def addNewK (key : α → κ) : List α → List α → List α → List α × List α
  | [], todo, seen => (todo, seen)
  | y :: ys, todo, seen =>
      if key y ∈ seen.map key then addNewK key ys todo seen
      else addNewK key ys (y :: todo) (seen ++ [y])

/-- the `while to_process` loop; `none` = fuel exhausted (never a default answer) -/
def bfsK (key : α → κ) (next : α → List α) : Nat → List α → List α → Option (List α)
  | _, [], seen => some seen
  | 0, _ :: _, _ => none
  | fuel+1, x :: todo, seen =>
      let r := addNewK key (next x) todo seen
      bfsK key next fuel r.1 r.2

/-- reflexive-transitive closure of `y ∈ next x` (kept local so that model files import nothing) -/
inductive Reach (next : α → List α) : α → α → Prop
  | refl (x) : Reach next x x
  | tail {x y z} : Reach next x y → z ∈ next y → Reach next x z

theorem Reach.trans {next : α → List α} {x y z : α} (h₁ : Reach next x y) (h₂ : Reach next y z) :
    Reach next x z := by
  induction h₂ with
  | refl => exact h₁
  | tail _ hz ih => exact Reach.tail ih hz

theorem Reach.head {next : α → List α} {x y z : α} (h : y ∈ next x) (h₂ : Reach next y z) :
    Reach next x z := Reach.trans (Reach.tail (Reach.refl x) h) h₂

theorem addNewK_spec (key : α → κ) (ys todo seen : List α) :
    ∃ new, addNewK key ys todo seen = (new.reverse ++ todo, seen ++ new) ∧ new.Sublist ys ∧
      (∀ y ∈ ys, key y ∈ (seen ++ new).map key) ∧
      ((seen.map key).Nodup → ((seen ++ new).map key).Nodup) := by
  induction ys generalizing todo seen with
  | nil =>
    exact ⟨[], by simp [addNewK], List.Sublist.slnil, fun _ h => (nomatch h),
      fun h => by rwa [List.append_nil]⟩
  | cons y ys ih =>
    unfold addNewK
    split
    · rename_i hk
      obtain ⟨new, heq, hsub, hcov, hnd⟩ := ih todo seen
      refine ⟨new, heq, hsub.cons y, ?_, hnd⟩
      intro y' hy'
      rcases List.mem_cons.mp hy' with rfl | hy'
      · rw [List.map_append]; exact List.mem_append_left _ hk
      · exact hcov y' hy'
    · rename_i hk
      obtain ⟨new, heq, hsub, hcov, hnd⟩ := ih (y :: todo) (seen ++ [y])
      rw [List.append_assoc, List.singleton_append] at heq hcov hnd
      refine ⟨y :: new, by rw [heq, List.reverse_cons, List.append_assoc, List.singleton_append],
        hsub.cons_cons y, ?_, ?_⟩
      · intro y' hy'
        rcases List.mem_cons.mp hy' with rfl | hy'
        · exact List.mem_map.mpr ⟨y', by simp, rfl⟩
        · exact hcov y' hy'
      · intro h
        apply hnd
        rw [List.map_append, List.map_singleton]
        exact List.nodup_append.mpr ⟨h, by simp, fun a ha b hb hab =>
          hk (by rw [List.mem_singleton.mp hb] at hab; exact hab ▸ ha)⟩

theorem bfsK_nil (key : α → κ) (next : α → List α) (fuel : Nat) (seen : List α) :
    bfsK key next fuel [] seen = some seen := by
  cases fuel <;> rfl

theorem bfsK_invariant (key : α → κ) (next : α → List α) (I : List α → List α → Prop)
    (hstep : ∀ x todo seen, I (x :: todo) seen →
      I (addNewK key (next x) todo seen).1 (addNewK key (next x) todo seen).2) :
    ∀ fuel todo seen res, bfsK key next fuel todo seen = some res → I todo seen → I [] res := by
  intro fuel
  induction fuel with
  | zero =>
    intro todo seen res h hI
    cases todo with
    | nil => rw [bfsK_nil] at h; cases h; exact hI
    | cons a t => cases h
  | succ n ih =>
    intro todo seen res h hI
    cases todo with
    | nil => rw [bfsK_nil] at h; cases h; exact hI
    | cons x todo => exact ih _ _ res h (hstep x todo seen hI)

/-- completeness: started with the same elements queued and seen, the search keeps what it has seen and
ends closed under `next` (up to `key`).  On the way `seen` is closed except at elements still queued. -/
theorem bfsK_closed (key : α → κ) (next : α → List α) (fuel : Nat) (todo seen res : List α)
    (h : bfsK key next fuel todo seen = some res) (hts : ∀ z ∈ todo, z ∈ seen)
    (hst : ∀ z ∈ seen, z ∈ todo) :
    (∀ z ∈ seen, z ∈ res) ∧ ∀ x ∈ res, ∀ y ∈ next x, key y ∈ res.map key := by
  have := bfsK_invariant key next
    (fun todo' seen' => (∀ z ∈ seen, z ∈ seen') ∧ (∀ z ∈ todo', z ∈ seen') ∧
      ∀ x ∈ seen', x ∉ todo' → ∀ y ∈ next x, key y ∈ seen'.map key) ?_ fuel todo seen res h
    ⟨fun _ hz => hz, hts, fun x hx hxt => absurd (hst x hx) hxt⟩
  · exact ⟨this.1, fun x hx => this.2.2 x hx List.not_mem_nil⟩
  · rintro x todo seen ⟨h0, hts, hc⟩
    obtain ⟨new, heq, -, hcov, -⟩ := addNewK_spec key (next x) todo seen
    rw [heq]
    refine ⟨fun z hz => List.mem_append_left _ (h0 z hz), ?_, ?_⟩
    · intro z hz
      rcases List.mem_append.mp hz with hz | hz
      · exact List.mem_append_right _ (List.mem_reverse.mp hz)
      · exact List.mem_append_left _ (hts z (List.mem_cons_of_mem _ hz))
    · -- a processed element is `x`, whose successors have just been covered, or was processed before
      intro z hz hzt y hy
      have hzn : z ∉ new := fun hm => hzt (List.mem_append_left _ (List.mem_reverse.mpr hm))
      have hzs : z ∈ seen := (List.mem_append.mp hz).resolve_right hzn
      by_cases hzx : z = x
      · subst hzx; exact hcov y hy
      · have hnt : z ∉ x :: todo := fun hm =>
          (List.mem_cons.mp hm).elim hzx (fun hm => hzt (List.mem_append_right _ hm))
        rw [List.map_append]
        exact List.mem_append_left _ (hc z hzs hnt y hy)

theorem bfsK_sound (key : α → κ) (next : α → List α) (P : α → Prop)
    (hP : ∀ x y, P x → y ∈ next x → P y) :
    ∀ fuel todo seen res, bfsK key next fuel todo seen = some res →
      (∀ z ∈ todo, P z) → (∀ z ∈ seen, z ∈ todo) → ∀ z ∈ res, P z := by
  intro fuel todo seen res h ht hst
  refine (bfsK_invariant key next (fun todo seen => (∀ z ∈ todo, P z) ∧ ∀ z ∈ seen, P z) ?_
    fuel todo seen res h ⟨ht, fun z hz => ht z (hst z hz)⟩).2
  rintro x todo seen ⟨ht, hs⟩
  obtain ⟨new, heq, hsub, -, -⟩ := addNewK_spec key (next x) todo seen
  rw [heq]
  have hnew : ∀ z ∈ new, P z := fun z hz => hP x z (ht x List.mem_cons_self) (hsub.subset hz)
  constructor
  · intro z hz
    rcases List.mem_append.mp hz with hz | hz
    · exact hnew z (List.mem_reverse.mp hz)
    · exact ht z (List.mem_cons_of_mem _ hz)
  · intro z hz
    exact (List.mem_append.mp hz).elim (hs z) (hnew z)

theorem bfsK_nodup (key : α → κ) (next : α → List α) :
    ∀ fuel todo seen res, bfsK key next fuel todo seen = some res →
      (seen.map key).Nodup → (res.map key).Nodup := by
  intro fuel todo seen res h
  refine bfsK_invariant key next (fun _ seen => (seen.map key).Nodup) ?_ fuel todo seen res h
  intro x todo seen hnd
  obtain ⟨new, heq, -, -, hnd'⟩ := addNewK_spec key (next x) todo seen
  rw [heq]; exact hnd' hnd

/-- termination: the search stays inside a finite universe.  `I` holds of what is queued and is kept by
`next`, and the keys of the successors of what satisfies `I` lie in `U`; no key is seen twice, so at
most `|U| - |seen|` further elements are queued. -/
theorem bfsK_isSome_of (key : α → κ) (next : α → List α) (I : α → Prop) (U : List κ)
    (hI : ∀ x y, I x → y ∈ next x → I y) (hU : ∀ x y, I x → y ∈ next x → key y ∈ U) :
    ∀ fuel todo seen, (∀ x ∈ todo, I x) → (seen.map key).Nodup → (∀ z ∈ seen, key z ∈ U) →
      todo.length + U.length ≤ fuel + seen.length → (bfsK key next fuel todo seen).isSome := by
  intro fuel
  induction fuel with
  | zero =>
    intro todo seen _ hnd hsU hle
    have hlen : (seen.map key).length ≤ U.length :=
      List.Nodup.length_le_of_subset hnd (fun k hk => by
        obtain ⟨w, hw, rfl⟩ := List.mem_map.mp hk; exact hsU w hw)
    rw [List.length_map] at hlen
    cases todo with
    | nil => rfl
    | cons a t => rw [List.length_cons] at hle; omega
  | succ n ih =>
    intro todo seen ht hnd hsU hle
    cases todo with
    | nil => rfl
    | cons x todo =>
      obtain ⟨new, heq, hsub, -, hnd'⟩ := addNewK_spec key (next x) todo seen
      have hx := ht x List.mem_cons_self
      simp only [bfsK, heq]
      refine ih _ _ ?_ (hnd' hnd) ?_ ?_
      · intro z hz
        exact (List.mem_append.mp hz).elim
          (fun h => hI x z hx (hsub.subset (List.mem_reverse.mp h)))
          (fun h => ht z (List.mem_cons_of_mem _ h))
      · intro z hz
        exact (List.mem_append.mp hz).elim (hsU z) (fun h => hU x z hx (hsub.subset h))
      · simp only [List.length_append, List.length_reverse, List.length_cons] at hle ⊢
        omega

theorem bfsK_isSome (key : α → κ) (next : α → List α) (U : List κ)
    (hU : ∀ x y, y ∈ next x → key y ∈ U) (fuel : Nat) (s : α) (hs : key s ∈ U)
    (hf : U.length ≤ fuel) : (bfsK key next fuel [s] [s]).isSome :=
  bfsK_isSome_of key next (fun _ => True) U (fun _ _ _ _ => trivial) (fun x y _ => hU x y)
    fuel [s] [s] (fun _ _ => trivial) (List.pairwise_singleton _ _)
    (fun _ hz => List.mem_singleton.1 hz ▸ hs) (Nat.add_comm _ _ ▸ Nat.add_le_add_right hf 1)

variable [DecidableEq α]

def bfs (next : α → List α) (fuel : Nat) (seeds : List α) : Option (List α) :=
  bfsK id next fuel seeds seeds.eraseDups

theorem mem_bfs_iff (next : α → List α) (fuel : Nat) (seeds res : List α)
    (h : bfs next fuel seeds = some res) (z : α) :
    z ∈ res ↔ ∃ s ∈ seeds, Reach next s z := by
  unfold bfs at h
  constructor
  · intro hz
    refine bfsK_sound id next (fun z => ∃ s ∈ seeds, Reach next s z) ?_ fuel _ _ res h ?_ ?_ z hz
    · rintro x y ⟨s, hs, hr⟩ hy; exact ⟨s, hs, Reach.tail hr hy⟩
    · intro z hz; exact ⟨z, hz, Reach.refl z⟩
    · exact fun _ => List.mem_eraseDups.mp
  · rintro ⟨s, hs, hr⟩
    have inv := bfsK_closed id next fuel seeds seeds.eraseDups res h
      (fun _ => List.mem_eraseDups.mpr) (fun _ => List.mem_eraseDups.mp)
    induction hr with
    | refl => exact inv.1 s (List.mem_eraseDups.mpr hs)
    | tail _ hz ih => simpa using inv.2 _ ih _ hz

end Pfl
