/-
The plain search `bfs` inside a finite universe: it terminates and returns the closure of its
seeds (`bfs_total`).  The model's searches with a fixed fuel (`eclose`, `reachable`, `leadingToFinal`, …)
are read off `mem_bfs_getD_iff`.
-/
import Pfl.Core.Closure
import Pfl.Proofs.ListBasics
namespace Pfl

variable {α : Type} [DecidableEq α]

/-- total correctness of the plain search: when everything reachable from the seeds lies in `U`
(`I` is the invariant that shows it), fuel `|U|`, and one round more for every repeated seed, is
enough, and the answer is the closure of the seeds -/
theorem bfs_total (next : α → List α) (I : α → Prop) (U : List α)
    (hI : ∀ x y, I x → y ∈ next x → I y) (hU : ∀ x, I x → x ∈ U)
    (seeds : List α) (hs : ∀ s ∈ seeds, I s) (fuel : Nat)
    (hf : seeds.length + U.length ≤ fuel + seeds.eraseDups.length) :
    ∃ res, bfs next fuel seeds = some res ∧ ∀ z, z ∈ res ↔ ∃ s ∈ seeds, Reach next s z := by
  have h : (bfs next fuel seeds).isSome :=
    bfsK_isSome_of id next I U hI (fun x y hx hy => hU y (hI x y hx hy)) fuel seeds _ hs
      (by rw [List.map_id]; exact nodup_eraseDups seeds)
      (fun z hz => hU z (hs z (List.mem_eraseDups.mp hz))) hf
  obtain ⟨res, hres⟩ := Option.isSome_iff_exists.mp h
  exact ⟨res, hres, mem_bfs_iff next fuel seeds res hres⟩

theorem bfs_total_of_targets (next : α → List α) (U : List α) (hU : ∀ x y, y ∈ next x → y ∈ U)
    (seeds : List α) (fuel : Nat) (hf : seeds.length + U.length ≤ fuel) :
    ∃ res, bfs next fuel seeds = some res ∧ ∀ z, z ∈ res ↔ ∃ s ∈ seeds, Reach next s z :=
  bfs_total next (· ∈ seeds.eraseDups ++ U) _
    (fun x y _ hy => List.mem_append_right _ (hU x y hy)) (fun _ h => h) seeds
    (fun s hs => List.mem_append_left _ (List.mem_eraseDups.mpr hs)) fuel
    (by rw [List.length_append]; omega)

theorem bfs_isSome_of_targets (next : α → List α) (U : List α) (hU : ∀ x y, y ∈ next x → y ∈ U)
    (seeds : List α) (fuel : Nat) (hf : seeds.length + U.length ≤ fuel) :
    (bfs next fuel seeds).isSome := by
  obtain ⟨res, hres, -⟩ := bfs_total_of_targets next U hU seeds fuel hf
  rw [hres]; rfl

theorem mem_bfs_getD_iff (next : α → List α) (U : List α) (hU : ∀ x y, y ∈ next x → y ∈ U)
    (seeds : List α) (fuel : Nat) (hf : seeds.length + U.length ≤ fuel) (z : α) :
    z ∈ (bfs next fuel seeds).getD [] ↔ ∃ s ∈ seeds, Reach next s z := by
  obtain ⟨res, hres, h⟩ := bfs_total_of_targets next U hU seeds fuel hf
  rw [hres]; exact h z

end Pfl
