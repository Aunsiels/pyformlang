/-
Helper lemmas for C03 (intersection and complement).
-/
import Pfl.Proofs.FAEpsCopy
namespace Pfl
namespace ENFA
variable {σ τ : Type} [DecidableEq σ] [DecidableEq τ]

omit [DecidableEq σ] [DecidableEq τ] in
theorem mem_prod (xs : List σ) (ys : List τ) (x : σ) (y : τ) :
    (x, y) ∈ prod xs ys ↔ x ∈ xs ∧ y ∈ ys := by
  simp [prod, List.mem_flatMap, List.mem_map]

theorem inter_spec (A : ENFA σ) (B : ENFA τ) (fuel : Nat) (P : ENFA (σ × τ))
    (h : A.inter B fuel = some P) :
    ∃ seen, bfs (interNext A B) fuel (prod (A.ecloseL A.starts) (B.ecloseL B.starts)) = some seen ∧
      (∀ x, x ∈ P.starts ↔ x.1 ∈ A.ecloseL A.starts ∧ x.2 ∈ B.ecloseL B.starts) ∧
      (∀ x, x ∈ P.finals ↔ x.1 ∈ A.finals ∧ x.2 ∈ B.finals) ∧
      (∀ x l y, (x, l, y) ∈ P.delta ↔ x ∈ seen ∧ ∃ a, a ∈ A.syms ∧ a ∈ B.syms ∧ l = some a ∧
        y.1 ∈ A.ecloseL (A.succs x.1 (some a)) ∧ y.2 ∈ B.ecloseL (B.succs x.2 (some a))) := by
  unfold inter at h
  simp only [Option.map_eq_some_iff] at h
  obtain ⟨seen, hbfs, rfl⟩ := h
  refine ⟨seen, hbfs, ?_, ?_, ?_⟩
  · rintro ⟨x1, x2⟩; rw [mem_ofParts_starts, mem_prod]
  · rintro ⟨x1, x2⟩; rw [mem_ofParts_finals, mem_prod]
  · rintro x l ⟨y1, y2⟩
    rw [mem_ofParts_delta]
    simp only [List.mem_flatMap, List.mem_map, interSyms, List.mem_filter, decide_eq_true_eq]
    constructor
    · rintro ⟨p, hp, a, ⟨ha, hb⟩, t, ht, heq⟩
      obtain ⟨t1, t2⟩ := t
      simp only [Prod.mk.injEq] at heq
      obtain ⟨rfl, rfl, rfl, rfl⟩ := heq
      exact ⟨hp, a, ha, hb, rfl, (mem_prod _ _ _ _).mp ht⟩
    · rintro ⟨hp, a, ha, hb, rfl, h1, h2⟩
      exact ⟨x, hp, a, ⟨ha, hb⟩, (y1, y2), (mem_prod _ _ _ _).mpr ⟨h1, h2⟩, rfl⟩

theorem mem_interNext (A : ENFA σ) (B : ENFA τ) (x y : σ × τ) :
    y ∈ interNext A B x ↔ ∃ a, a ∈ A.syms ∧ a ∈ B.syms ∧
      y.1 ∈ A.ecloseL (A.succs x.1 (some a)) ∧ y.2 ∈ B.ecloseL (B.succs x.2 (some a)) := by
  obtain ⟨y1, y2⟩ := y
  simp only [interNext, interSyms, List.mem_flatMap, List.mem_filter, decide_eq_true_eq, mem_prod]
  constructor
  · rintro ⟨a, ⟨ha, hb⟩, h⟩; exact ⟨a, ha, hb, h⟩
  · rintro ⟨a, ha, hb, h⟩; exact ⟨a, ⟨ha, hb⟩, h⟩

theorem run_cons_of_loops {A : ENFA σ} (h : ∀ q r, (q, none, r) ∈ A.delta → r = q) (q s : σ)
    (a : Nat) (w : List Nat) :
    A.Run q (a :: w) s ↔ ∃ r, (q, some a, r) ∈ A.delta ∧ A.Run r w s := by
  rw [run_cons_iff]
  constructor
  · rintro ⟨p, r, hqp, hd, hr⟩
    have := (run_nil_of_loops h q p).mp hqp; subst this
    exact ⟨r, hd, hr⟩
  · rintro ⟨r, hd, hr⟩; exact ⟨q, r, Run.nil _, hd, hr⟩

theorem noSucc_iff {A : ENFA σ} (h : ∀ q r, (q, none, r) ∈ A.delta → r = q) (q : σ) (a : Nat) :
    ((A.eclose q).flatMap (A.succs · (some a))).isEmpty = true ↔
      ∀ r, (q, some a, r) ∉ A.delta := by
  simp only [List.isEmpty_iff, List.eq_nil_iff_forall_not_mem, List.mem_flatMap, mem_eclose_iff,
    EpsReach, run_nil_of_loops h, mem_succs, exists_eq_left]

theorem compl_core (A K : ENFA σ) (hA : A.WF) (hd : A.Deterministic) (hs : A.starts ≠ [])
    (trash : σ) (ht : trash ∉ A.states)
    (hst : ∀ q, q ∈ K.starts ↔ q ∈ A.starts)
    (hfin : ∀ q, q ∈ K.finals ↔ q = trash ∨ (q ∈ A.states ∧ q ∉ A.finals))
    (hdl : ∀ q l r, (q, l, r) ∈ K.delta ↔ (q, l, r) ∈ A.delta ∨
      ∃ a, l = some a ∧ a ∈ A.syms ∧ r = trash ∧
        ((q ∈ A.states ∧ ∀ r', (q, some a, r') ∉ A.delta) ∨ q = trash))
    (w : List Nat) :
    K.Lang w ↔ (∀ a ∈ w, a ∈ A.syms) ∧ ¬ A.Lang w := by
  obtain ⟨hd1, hd2, hd3⟩ := hd
  have hKl : ∀ q r, (q, none, r) ∈ K.delta → r = q := by
    intro q r h
    rcases (hdl q none r).mp h with h | ⟨a, ha, _⟩
    · exact hd3 q r h
    · cases ha
  -- `trash` is one more state without successors in `A`: nothing is accepted from it
  have hnoT : ∀ w, ¬ ∃ f ∈ A.finals, A.Run trash w f := by
    rintro w ⟨f, hf, hr⟩
    cases hr with
    | nil => exact ht (hA.finals_sub _ hf)
    | eps he _ => exact ht (hA.delta_src _ he)
    | step he _ => exact ht (hA.delta_src _ he)
  have hmain : ∀ w q, q = trash ∨ q ∈ A.states →
      ((∃ f ∈ K.finals, K.Run q w f) ↔
        (∀ a ∈ w, a ∈ A.syms) ∧ ¬ ∃ f ∈ A.finals, A.Run q w f) := by
    intro w
    induction w with
    | nil =>
      intro q hq
      simp only [run_nil_of_loops hKl, run_nil_of_loops hd3, exists_eq_right, List.not_mem_nil,
        false_imp_iff, implies_true, true_and, hfin]
      constructor
      · rintro (rfl | h) hf
        · exact ht (hA.finals_sub _ hf)
        · exact h.2 hf
      · intro h
        exact hq.imp_right fun hq => ⟨hq, h⟩
    | cons a w ih =>
      intro q hq
      simp only [run_cons_of_loops hKl, run_cons_of_loops hd3, List.forall_mem_cons]
      by_cases hex : ∃ r0, (q, some a, r0) ∈ A.delta
      · -- the unique `a`-edge of `A` is the unique `a`-edge of `K`
        obtain ⟨r0, hr0⟩ := hex
        have hK : ∀ r, (q, some a, r) ∈ K.delta ↔ r = r0 := by
          intro r
          rw [hdl]
          constructor
          · rintro (h | ⟨a', ha', _, _, (⟨_, hno⟩ | h)⟩)
            · exact hd2 _ _ _ _ h hr0
            · cases ha'; exact absurd hr0 (hno r0)
            · exact absurd (hA.delta_src _ hr0) (h ▸ ht)
          · rintro rfl; exact Or.inl hr0
        have hA' : ∀ r, (q, some a, r) ∈ A.delta ↔ r = r0 :=
          fun r => ⟨fun h => hd2 _ _ _ _ h hr0, fun h => h ▸ hr0⟩
        simp only [hK, hA', exists_eq_left, ih r0 (Or.inr (hA.delta_dst _ hr0))]
        exact ⟨fun h => ⟨⟨hA.delta_sym _ hr0 a rfl, h.1⟩, h.2⟩, fun h => ⟨h.1.2, h.2⟩⟩
      · -- without one, the only `a`-edge of `K` leads to `trash`
        have hno : ∀ r, (q, some a, r) ∉ A.delta := fun r hr => hex ⟨r, hr⟩
        have hK : ∀ r, (q, some a, r) ∈ K.delta ↔ a ∈ A.syms ∧ r = trash := by
          intro r
          rw [hdl]
          constructor
          · rintro (h | ⟨a', ha', hs', hr, _⟩)
            · exact absurd h (hno r)
            · cases ha'; exact ⟨hs', hr⟩
          · rintro ⟨ha, hr⟩
            exact Or.inr ⟨a, rfl, ha, hr, hq.symm.imp_left fun h => ⟨h, hno⟩⟩
        simp only [hK, hno, false_and, and_false, exists_false, not_false_eq_true, and_true]
        constructor
        · rintro ⟨f, hf, r, ⟨ha, hr0⟩, hr⟩
          exact ⟨ha, ((ih trash (Or.inl rfl)).mp ⟨f, hf, hr0 ▸ hr⟩).1⟩
        · rintro ⟨ha, hw⟩
          obtain ⟨f, hf, hr⟩ := (ih trash (Or.inl rfl)).mpr ⟨hw, hnoT w⟩
          exact ⟨f, hf, trash, ⟨ha, rfl⟩, hr⟩
  -- the unique start state
  obtain ⟨s0, hs0⟩ := List.exists_mem_of_ne_nil _ hs
  have hone : ∀ {B : ENFA σ}, (∀ q, q ∈ B.starts ↔ q ∈ A.starts) →
      (B.Lang w ↔ ∃ f ∈ B.finals, B.Run s0 w f) := by
    intro B hB
    unfold Lang
    constructor
    · rintro ⟨s, hs, h⟩
      have := hd1 _ ((hB s).mp hs) _ hs0; subst this; exact h
    · intro h; exact ⟨s0, (hB s0).mpr hs0, h⟩
  rw [hone hst, hone fun _ => Iff.rfl]
  exact hmain w s0 (Or.inr (hA.starts_sub _ hs0))

theorem complementRaw_core (A C : ENFA σ) (hA : A.WF) (hd : A.Deterministic) (hs : A.starts ≠ [])
    (trash : σ) (ht : trash ∉ A.states)
    (hCs : ∀ q, q ∈ C.starts ↔ q ∈ A.starts)
    (hCf : ∀ q, q ∈ C.finals ↔ q ∈ A.finals)
    (hCd : ∀ t, t ∈ C.delta ↔ t ∈ A.delta)
    (w : List Nat) :
    (A.complementRaw C trash).Lang w ↔ (∀ a ∈ w, a ∈ A.syms) ∧ ¬ A.Lang w := by
  apply compl_core A _ hA hd hs trash ht
  · intro q; exact hCs q
  · intro q
    simp only [complementRaw, List.mem_eraseDups, List.mem_append, List.mem_filter,
      List.mem_cons, decide_eq_true_eq, hCf]
    have := hA.finals_sub q
    constructor
    · rintro (⟨h | h, hn⟩ | ⟨h1, h2⟩)
      · exact Or.inl h
      · exact absurd ⟨this h, h⟩ hn
      · exact Or.inr ⟨h1, h2⟩
    · rintro (h | ⟨h1, h2⟩)
      · subst h; exact Or.inl ⟨Or.inl rfl, fun h => ht h.1⟩
      · exact Or.inr ⟨h1, h2⟩
  · intro q l r
    simp only [complementRaw, List.mem_eraseDups, List.mem_append, List.mem_flatMap,
      List.mem_filterMap, List.mem_map, hCd]
    constructor
    · rintro ((h | ⟨q', hq', a, ha, heq⟩) | ⟨a, ha, heq⟩)
      · exact Or.inl h
      · split at heq
        · rename_i hno
          simp only [Option.some.injEq, Prod.mk.injEq] at heq
          obtain ⟨rfl, rfl, rfl⟩ := heq
          exact Or.inr ⟨a, rfl, ha, rfl, Or.inl ⟨hq', (noSucc_iff hd.2.2 _ _).mp hno⟩⟩
        · cases heq
      · simp only [Prod.mk.injEq] at heq
        obtain ⟨rfl, rfl, rfl⟩ := heq
        exact Or.inr ⟨a, rfl, ha, rfl, Or.inr rfl⟩
    · rintro (h | ⟨a, rfl, ha, rfl, (⟨hq, hno⟩ | rfl)⟩)
      · exact Or.inl (Or.inl h)
      · refine Or.inl (Or.inr ⟨q, hq, a, ha, ?_⟩)
        rw [if_pos ((noSucc_iff hd.2.2 _ _).mpr hno)]
      · exact Or.inr ⟨a, ha, rfl⟩

end ENFA
end Pfl
