/-
Helper lemmas for C17_Inter: the triple construction `FST.intersection(indexed_grammar)`.
-/
import Pfl.Model.IndexedInter
import Pfl.Spec.Indexed
import Pfl.Spec.FST
import Pfl.Proofs.FSTLemmas
import Pfl.Proofs.IndexedLemmas
namespace Pfl
namespace IG
variable {σ : Type} [DecidableEq σ]

/-- name hygiene assumed by the construction (satisfied whenever grammar symbols are plain
identifiers and transducer states are printed without quotes, commas or parentheses); terminal
triples are named apart, so terminals may be spelled like non-terminals -/
structure InterOK (T : FST σ) (rs : σ → String) (G : IG) : Prop where
  start : G.start = "S"
  wf : T.WF
  tripleInj : ∀ p x q p' x' q', p ∈ T.states → q ∈ T.states → p' ∈ T.states → q' ∈ T.states →
    tripleStr rs p x q = tripleStr rs p' x' q' → p = p' ∧ x = x' ∧ q = q'
  terTripleInj : ∀ p x q p' x' q', p ∈ T.states → q ∈ T.states → p' ∈ T.states → q' ∈ T.states →
    terTripleStr rs p x q = terTripleStr rs p' x' q' → p = p' ∧ x = x' ∧ q = q'
  tripleNeTer : ∀ p x q p' x' q', tripleStr rs p x q ≠ terTripleStr rs p' x' q'
  tripleNotS : ∀ p x q, tripleStr rs p x q ≠ "S" ∧ terTripleStr rs p x q ≠ "S"
  tripleNotT : ∀ p x q, tripleStr rs p x q ≠ "T" ∧ terTripleStr rs p x q ≠ "T"
  /-- "epsilon" is not an input symbol of the transducer -/
  inNotEps : ∀ t ∈ T.delta, t.2.1 ≠ some "epsilon"

end IG
end Pfl

namespace Pfl.IG.Inter
open Pfl.FST Pfl.IG.Lem
set_option linter.unusedSectionVars false
variable {σ : Type} [DecidableEq σ]

theorem path_split {T : FST σ} {p q : σ} {u v o : List String} (h : T.Path p (u ++ v) o q) :
    ∃ r o₁ o₂, T.Path p u o₁ r ∧ T.Path r v o₂ q := by
  generalize hw : u ++ v = w at h
  induction h generalizing u with
  | nil q =>
    obtain ⟨rfl, rfl⟩ := List.append_eq_nil_iff.mp hw
    exact ⟨q, [], [], Path.nil q, Path.nil q⟩
  | eps he _ ih =>
    obtain ⟨r, o₁, o₂, h1, h2⟩ := ih hw
    exact ⟨r, _, o₂, Path.eps he h1, h2⟩
  | @read q r s a i o o' he hp ih =>
    cases u with
    | nil =>
      simp only [List.nil_append] at hw
      subst hw
      exact ⟨q, [], _, Path.nil q, Path.read he hp⟩
    | cons b u' =>
      simp only [List.cons_append, List.cons.injEq] at hw
      obtain ⟨rfl, hw⟩ := hw
      obtain ⟨r', o₁, o₂, h1, h2⟩ := ih hw
      exact ⟨r', _, o₂, Path.read he h1, h2⟩

theorem path_states {T : FST σ} (hT : T.WF) {p q : σ} {i o : List String} (h : T.Path p i o q)
    (hp : p ∈ T.states) : q ∈ T.states := by
  induction h with
  | nil q => exact hp
  | eps he _ ih => exact ih (hT.dst _ he)
  | read he _ ih => exact ih (hT.dst _ he)

/-- one constructor per clause that a comprehension of `interRules` writes; `epsTer` at
`t = "epsilon"` is `_extract_epsilon_transitions_intersection`, so that `complete_word` splits off
an ε-transition by one clause for "epsilon" and for the terminals -/
inductive Shape (T : FST σ) (rs : σ → String) (G : IG) : IRule → Prop
  | endT : Shape T rs G (.end_ "T" "epsilon")
  | cons {f a b : String} {p q : σ} :
      IRule.cons f a b ∈ G.rules → p ∈ T.states → q ∈ T.states →
      Shape T rs G (.cons f (tripleStr rs p a q) (tripleStr rs p b q))
  | dup {a b c : String} {p q r : σ} :
      IRule.dup a b c ∈ G.rules → p ∈ T.states → q ∈ T.states → r ∈ T.states →
      Shape T rs G (.dup (tripleStr rs p a q) (tripleStr rs p b r) (tripleStr rs r c q))
  | prod {a b f : String} {p q : σ} :
      IRule.prod a b f ∈ G.rules → p ∈ T.states → q ∈ T.states →
      Shape T rs G (.prod (tripleStr rs p a q) (tripleStr rs p b q) f)
  | end_ {a t : String} {p q : σ} :
      IRule.end_ a t ∈ G.rules → p ∈ T.states → q ∈ T.states →
      Shape T rs G (.dup (tripleStr rs p a q) (terTripleStr rs p t q) "T")
  | epsTer {t : String} {p q r : σ} :
      t ∈ "epsilon" :: G.ruleTerminals → p ∈ T.states → q ∈ T.states → r ∈ T.states →
      Shape T rs G
        (.dup (terTripleStr rs p t q) (terTripleStr rs p "epsilon" r) (terTripleStr rs r t q))
  | terEps {t : String} {p q r : σ} :
      t ∈ G.ruleTerminals → p ∈ T.states → q ∈ T.states → r ∈ T.states →
      Shape T rs G
        (.dup (terTripleStr rs p t q) (terTripleStr rs p t r) (terTripleStr rs r "epsilon" q))
  | edge {p r : σ} {a : Option String} {o : List String} : (p, a, r, o) ∈ T.delta →
      Shape T rs G (.end_ (terTripleStr rs p (a.getD "epsilon") r) (" ".intercalate o))
  | stay {p : σ} : p ∈ T.states → Shape T rs G (.end_ (terTripleStr rs p "epsilon" p) "epsilon")
  | start {f s : σ} : f ∈ T.finals → s ∈ T.starts →
      Shape T rs G (.dup "S" (tripleStr rs s "S" f) "T")

/-- `interRules` is a concatenation of eight comprehensions; the proof walks them one by one in both
directions, splitting on the kind of the grammar rule a comprehension filters on.  Everything below
uses `Shape` and never unfolds `interRules` again. -/
theorem mem_interRules {T : FST σ} {rs : σ → String} {G : IG} {r : IRule} :
    r ∈ interRules T rs G ↔ Shape T rs G r := by
  simp only [interRules, List.mem_append, List.mem_singleton, or_assoc]
  constructor
  · rintro (rfl | h | h | h | h | h | h | h)
    · exact .endT
    · obtain ⟨r0, hr0, h⟩ := List.mem_flatMap.mp h
      cases r0 with
      | cons f a b =>
        simp only [List.mem_flatMap, List.mem_map] at h
        obtain ⟨p, hp, q, hq, rfl⟩ := h
        exact .cons hr0 hp hq
      | end_ a t => exact absurd h List.not_mem_nil
      | prod a b f => exact absurd h List.not_mem_nil
      | dup a b c => exact absurd h List.not_mem_nil
    · obtain ⟨r0, hr0, h⟩ := List.mem_flatMap.mp h
      cases r0 with
      | dup a b c =>
        simp only [List.mem_flatMap, List.mem_map] at h
        obtain ⟨p, hp, q, hq, r', hr', rfl⟩ := h
        exact .dup hr0 hp hq hr'
      | prod a b f =>
        simp only [List.mem_flatMap, List.mem_map] at h
        obtain ⟨p, hp, q, hq, rfl⟩ := h
        exact .prod hr0 hp hq
      | end_ a t =>
        simp only [List.mem_flatMap, List.mem_map] at h
        obtain ⟨p, hp, q, hq, rfl⟩ := h
        exact .end_ hr0 hp hq
      | cons f a b => exact absurd h List.not_mem_nil
    · simp only [List.mem_flatMap, List.mem_cons, List.not_mem_nil, or_false] at h
      obtain ⟨t, ht, p, hp, q, hq, r', hr', (rfl | rfl)⟩ := h
      · exact .epsTer (List.mem_cons_of_mem _ ht) hp hq hr'
      · exact .terEps ht hp hq hr'
    · simp only [List.mem_flatMap, List.mem_map] at h
      obtain ⟨p, hp, q, hq, r', hr', rfl⟩ := h
      exact .epsTer List.mem_cons_self hp hq hr'
    · obtain ⟨⟨p, a, r', o⟩, he, rfl⟩ := List.mem_map.mp h
      exact .edge he
    · obtain ⟨p, hp, rfl⟩ := List.mem_map.mp h
      exact .stay hp
    · simp only [List.mem_flatMap, List.mem_map] at h
      obtain ⟨f, hf, s, hs, rfl⟩ := h
      exact .start hf hs
  · intro h
    cases h with
    | endT => exact Or.inl rfl
    | cons hr hp hq =>
      exact Or.inr (Or.inl (List.mem_flatMap.mpr ⟨_, hr,
        List.mem_flatMap.mpr ⟨_, hp, List.mem_map.mpr ⟨_, hq, rfl⟩⟩⟩))
    | dup hr hp hq hr' =>
      exact Or.inr (Or.inr (Or.inl (List.mem_flatMap.mpr ⟨_, hr, List.mem_flatMap.mpr ⟨_, hp,
        List.mem_flatMap.mpr ⟨_, hq, List.mem_map.mpr ⟨_, hr', rfl⟩⟩⟩⟩)))
    | prod hr hp hq =>
      exact Or.inr (Or.inr (Or.inl (List.mem_flatMap.mpr ⟨_, hr,
        List.mem_flatMap.mpr ⟨_, hp, List.mem_map.mpr ⟨_, hq, rfl⟩⟩⟩)))
    | end_ hr hp hq =>
      exact Or.inr (Or.inr (Or.inl (List.mem_flatMap.mpr ⟨_, hr,
        List.mem_flatMap.mpr ⟨_, hp, List.mem_map.mpr ⟨_, hq, rfl⟩⟩⟩)))
    | epsTer ht hp hq hr' =>
      rcases List.mem_cons.mp ht with rfl | ht
      · exact Or.inr (Or.inr (Or.inr (Or.inr (Or.inl (List.mem_flatMap.mpr ⟨_, hp,
          List.mem_flatMap.mpr ⟨_, hq, List.mem_map.mpr ⟨_, hr', rfl⟩⟩⟩)))))
      · exact Or.inr (Or.inr (Or.inr (Or.inl (List.mem_flatMap.mpr ⟨_, ht,
          List.mem_flatMap.mpr ⟨_, hp, List.mem_flatMap.mpr ⟨_, hq,
            List.mem_flatMap.mpr ⟨_, hr', List.mem_cons_self⟩⟩⟩⟩))))
    | terEps ht hp hq hr' =>
      exact Or.inr (Or.inr (Or.inr (Or.inl (List.mem_flatMap.mpr ⟨_, ht,
        List.mem_flatMap.mpr ⟨_, hp, List.mem_flatMap.mpr ⟨_, hq,
          List.mem_flatMap.mpr ⟨_, hr', List.mem_cons_of_mem _ List.mem_cons_self⟩⟩⟩⟩))))
    | edge he =>
      exact Or.inr (Or.inr (Or.inr (Or.inr (Or.inr (Or.inl (List.mem_map.mpr ⟨_, he, rfl⟩))))))
    | stay hp =>
      exact Or.inr (Or.inr (Or.inr (Or.inr (Or.inr (Or.inr (Or.inl
        (List.mem_map.mpr ⟨_, hp, rfl⟩)))))))
    | start hf hs =>
      exact Or.inr (Or.inr (Or.inr (Or.inr (Or.inr (Or.inr (Or.inr
        (List.mem_flatMap.mpr ⟨_, hf, List.mem_map.mpr ⟨_, hs, rfl⟩⟩)))))))

/-- the grammar before `removeUseless` -/
def pre (T : FST σ) (rs : σ → String) (G : IG) : IG := { rules := interRules T rs G, start := "S" }

/-- the word spelled by a terminal -/
def word (t : String) : List String := if t = "epsilon" then [] else [t]

theorem mem_ruleTerminals_end {G : IG} {a t : String} (h : IRule.end_ a t ∈ G.rules) :
    t ∈ G.ruleTerminals := by
  unfold ruleTerminals
  rw [List.mem_eraseDups]
  exact List.mem_flatMap.mpr ⟨_, h, by simp⟩

/-- what a derivation from the non-terminal named `x` means: for the triple of a non-terminal, for
the triple of a terminal or of "epsilon", and for the start variable -/
structure Sem (T : FST σ) (rs : σ → String) (G : IG) (x : String) (st : List String) : Prop where
  triple : ∀ p X q, p ∈ T.states → q ∈ T.states → x = tripleStr rs p X q →
    ∃ w, G.Gen X st w ∧ ∃ o, T.Path p w o q
  ter : ∀ p X q, p ∈ T.states → q ∈ T.states → x = terTripleStr rs p X q →
    ∃ o, T.Path p (word X) o q
  top : x = "S" → ∃ w, G.Gen "S" st w ∧ ∃ o, T.Rel w o

theorem word_eps : word "epsilon" = [] := by simp [word]

theorem word_ne {t : String} (h : t ≠ "epsilon") : word t = [t] := by simp [word, h]

theorem sem_triple {T : FST σ} {rs : σ → String} {G : IG} (h : InterOK T rs G) {p q : σ} {X : String}
    {st : List String} (hp : p ∈ T.states) (hq : q ∈ T.states)
    (hX : ∃ w, G.Gen X st w ∧ ∃ o, T.Path p w o q) : Sem T rs G (tripleStr rs p X q) st := by
  refine ⟨fun p' X' q' hp' hq' hx => ?_, fun _ _ _ _ _ hx => absurd hx (h.tripleNeTer _ _ _ _ _ _),
    fun hx => absurd hx (h.tripleNotS _ _ _).1⟩
  obtain ⟨rfl, rfl, rfl⟩ := h.tripleInj _ _ _ _ _ _ hp hq hp' hq' hx
  exact hX

theorem sem_ter {T : FST σ} {rs : σ → String} {G : IG} (h : InterOK T rs G) {p q : σ} {X : String}
    {st : List String} (hp : p ∈ T.states) (hq : q ∈ T.states)
    (hX : ∃ o, T.Path p (word X) o q) : Sem T rs G (terTripleStr rs p X q) st := by
  refine ⟨fun _ _ _ _ _ hx => absurd hx.symm (h.tripleNeTer _ _ _ _ _ _),
    fun p' X' q' hp' hq' hx => ?_, fun hx => absurd hx (h.tripleNotS _ _ _).2⟩
  obtain ⟨rfl, rfl, rfl⟩ := h.terTripleInj _ _ _ _ _ _ hp hq hp' hq' hx
  exact hX

theorem sem_ter_append {T : FST σ} {rs : σ → String} {G : IG} (h : InterOK T rs G) {p q r : σ}
    {u v t : String} {st : List String} (hp : p ∈ T.states) (hq : q ∈ T.states)
    (hr : r ∈ T.states) (h1 : Sem T rs G (terTripleStr rs p u r) st)
    (h2 : Sem T rs G (terTripleStr rs r v q) st) (hw : word u ++ word v = word t) :
    Sem T rs G (terTripleStr rs p t q) st := by
  obtain ⟨o1, hp1⟩ := h1.ter _ _ _ hp hr rfl
  obtain ⟨o2, hp2⟩ := h2.ter _ _ _ hr hq rfl
  exact sem_ter h hp hq ⟨o1 ++ o2, hw ▸ FST.Lem.path_append hp1 hp2⟩

theorem sem_T {T : FST σ} {rs : σ → String} {G : IG} (h : InterOK T rs G) (st : List String) :
    Sem T rs G "T" st :=
  ⟨fun _ _ _ _ _ hx => absurd hx.symm (h.tripleNotT _ _ _).1,
    fun _ _ _ _ _ hx => absurd hx.symm (h.tripleNotT _ _ _).2, fun hx => absurd hx (by decide)⟩

theorem Shape.holds {T : FST σ} {rs : σ → String} {G : IG} (h : InterOK T rs G) {r : IRule}
    (hs : Shape T rs G r) : Holds (Sem T rs G) r := by
  cases hs with
  | endT => exact sem_T h
  | cons hr hp hq =>
    intro st ih
    obtain ⟨w, hg, hpath⟩ := ih.triple _ _ _ hp hq rfl
    exact sem_triple h hp hq ⟨w, Gen.cons hr hg, hpath⟩
  | dup hr hp hq hr' =>
    intro st ih1 ih2
    obtain ⟨u, hgu, o1, hp1⟩ := ih1.triple _ _ _ hp hr' rfl
    obtain ⟨v, hgv, o2, hp2⟩ := ih2.triple _ _ _ hr' hq rfl
    exact sem_triple h hp hq ⟨u ++ v, Gen.dup hr hgu hgv, _, FST.Lem.path_append hp1 hp2⟩
  | prod hr hp hq =>
    intro st ih
    obtain ⟨w, hg, hpath⟩ := ih.triple _ _ _ hp hq rfl
    exact sem_triple h hp hq ⟨w, Gen.prod hr hg, hpath⟩
  | end_ hr hp hq =>
    intro st ih _
    obtain ⟨o, hpo⟩ := ih.ter _ _ _ hp hq rfl
    exact sem_triple h hp hq ⟨word _, Gen.end_ hr, o, hpo⟩
  | epsTer ht hp hq hr' =>
    exact fun st ih1 ih2 => sem_ter_append h hp hq hr' ih1 ih2 (by rw [word_eps, List.nil_append])
  | terEps ht hp hq hr' =>
    exact fun st ih1 ih2 => sem_ter_append h hp hq hr' ih1 ih2 (by rw [word_eps, List.append_nil])
  | @edge p r a o he =>
    refine fun st => sem_ter h (h.wf.src _ he) (h.wf.dst _ he) ⟨o, ?_⟩
    cases a with
    | none =>
      rw [Option.getD_none, word_eps]
      exact FST.Lem.path_eps_one he
    | some a =>
      have hne : a ≠ "epsilon" := fun hh => h.inNotEps _ he (by simp [hh])
      rw [Option.getD_some, word_ne hne]
      exact FST.Lem.path_read_one he
  | stay hp => exact fun st => sem_ter h hp hp ⟨[], by rw [word_eps]; exact Path.nil _⟩
  | start hf hs =>
    intro st ih _
    refine ⟨fun _ _ _ _ _ hx => absurd hx.symm (h.tripleNotS _ _ _).1,
      fun _ _ _ _ _ hx => absurd hx.symm (h.tripleNotS _ _ _).2, fun _ => ?_⟩
    obtain ⟨w, hg, o, hp⟩ :=
      ih.triple _ _ _ (h.wf.starts_sub _ hs) (h.wf.finals_sub _ hf) rfl
    exact ⟨w, hg, o, _, hs, _, hf, hp⟩

theorem sound {T : FST σ} {rs : σ → String} {G : IG} (h : InterOK T rs G) {x : String}
    {st : List String} : (pre T rs G).Derivable x st → Sem T rs G x st :=
  derivable_least (G := pre T rs G) fun _ hr => (mem_interRules.mp hr).holds h

theorem Shape.derivable {T : FST σ} {rs : σ → String} {G : IG} {r : IRule}
    (hs : Shape T rs G r) : Holds (pre T rs G).Derivable r :=
  holds_derivable (G := pre T rs G) (mem_interRules.mpr hs)

theorem word_eq_nil {t : String} (h : [] = word t) : t = "epsilon" :=
  Decidable.byContradiction fun hne => by rw [word_ne hne] at h; cases h

theorem word_eq_cons {t a : String} {i : List String} (h : a :: i = word t) :
    t ≠ "epsilon" ∧ a = t ∧ i = [] := by
  by_cases he : t = "epsilon"
  · rw [he, word_eps] at h; cases h
  · rw [word_ne he] at h; cases h; exact ⟨he, rfl, rfl⟩

/-- one induction on the path for "epsilon" and for the terminals: the first transition is split
off by the clause that has an "epsilon" triple on the other side -/
theorem complete_word {T : FST σ} (rs : σ → String) (G : IG) (hT : T.WF) {p q : σ}
    {i o : List String} (hp : T.Path p i o q) (st : List String) :
    ∀ {t : String}, t ∈ "epsilon" :: G.ruleTerminals → i = word t → p ∈ T.states →
      (pre T rs G).Derivable (terTripleStr rs p t q) st := by
  induction hp with
  | nil q =>
    intro t _ hi hps
    cases word_eq_nil hi
    exact (Shape.stay hps).derivable st
  | @eps q r s i o o' he hrest ih =>
    intro t ht hi hps
    have hr : r ∈ T.states := hT.dst _ he
    have hs : s ∈ T.states := path_states hT hrest hr
    exact (Shape.epsTer ht hps hs hr).derivable st ((Shape.edge he).derivable st) (ih ht hi hr)
  | @read q r s a i o o' he hrest ih =>
    intro t ht hi hps
    have hr : r ∈ T.states := hT.dst _ he
    have hs : s ∈ T.states := path_states hT hrest hr
    obtain ⟨hne, rfl, rfl⟩ := word_eq_cons hi
    exact (Shape.terEps ((List.mem_cons.mp ht).resolve_left hne) hps hs hr).derivable st
      ((Shape.edge he).derivable st) (ih List.mem_cons_self word_eps.symm hr)

theorem complete_gen {T : FST σ} (rs : σ → String) (G : IG) (hT : T.WF) {A : String}
    {st w : List String} (hg : G.Gen A st w) :
    ∀ p q o, p ∈ T.states → T.Path p w o q → (pre T rs G).Derivable (tripleStr rs p A q) st := by
  induction hg with
  | @end_ a t st hr =>
    intro p q o hps hp
    have hq := path_states hT hp hps
    exact (Shape.end_ hr hps hq).derivable st
      (complete_word rs G hT hp st (List.mem_cons_of_mem _ (mem_ruleTerminals_end hr)) rfl hps)
      (Shape.endT.derivable st)
  | @prod a b f st w hr _ ih =>
    intro p q o hps hp
    exact (Shape.prod hr hps (path_states hT hp hps)).derivable st (ih p q o hps hp)
  | @cons f a b st w hr _ ih =>
    intro p q o hps hp
    exact (Shape.cons hr hps (path_states hT hp hps)).derivable st (ih p q o hps hp)
  | @dup a b c st u v hr _ _ ih1 ih2 =>
    intro p q o hps hp
    obtain ⟨r, o₁, o₂, h1, h2⟩ := path_split hp
    have hrs := path_states hT h1 hps
    exact (Shape.dup hr hps (path_states hT hp hps) hrs).derivable st (ih1 p r o₁ hps h1)
      (ih2 r q o₂ hrs h2)

theorem pre_nonEmpty {T : FST σ} {rs : σ → String} {G : IG} (h : InterOK T rs G) :
    (pre T rs G).NonEmpty ↔ ∃ w, G.Gen "S" [] w ∧ ∃ o, T.Rel w o := by
  constructor
  · exact fun hd => (sound h hd).top rfl
  · rintro ⟨w, hg, o, s, hs, f, hf, hp⟩
    exact (Shape.start hf hs).derivable []
      (complete_gen rs G h.wf hg s f o (h.wf.starts_sub _ hs) hp) (Shape.endT.derivable [])

end Pfl.IG.Inter
