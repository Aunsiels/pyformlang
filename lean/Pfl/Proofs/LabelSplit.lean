/-
The separator split of the edge labels (`LabelCodec.split`, Python's `str.split(sep)`): a text without
the separator, a text with a first separator, and where an occurrence of a separator can lie in a
concatenation.  Used for the labels of `to_networkx` and for the rule lines of the text formats.
-/
import Pfl.Model.LabelCodec
namespace Pfl.LabelCodec.Lem

theorem sepArrow_eq : sepArrow = [' ', '-', '>', ' '] := by decide
theorem sepSlash_eq : sepSlash = [' ', '/', ' '] := by decide

/-! ### `split`: no separator, a first separator

`split` runs `splitOn` with the length of the text plus one as fuel.  Fuel beyond the length is never used
(`splitOn_fuel`), so the lemmas below are stated with the length itself as fuel (`split_eq`) and no step has
to count: the two steps `splitOn_sep` and `splitOn_skip`, and the only walk, `splitOn_run`. -/

theorem splitOn_fuel (sep : List Char) (n k : Nat) (s cur : List Char) (h : s.length ≤ n) :
    splitOn sep (n + k) s cur = splitOn sep n s cur := by
  fun_induction splitOn sep n s cur with
  | case1 s cur =>  -- no fuel
    obtain rfl : s = [] := List.eq_nil_of_length_eq_zero (Nat.le_zero.mp h)
    cases k <;> rfl
  | case2 n cur => cases n + k <;> rfl  -- no text
  | case3 n c rest cur hc ih =>
    have hd : ((c :: rest).drop sep.length).length ≤ n := by
      have := List.length_pos_iff.mpr hc.2
      rw [List.length_drop]; rw [List.length_cons] at h ⊢; omega
    rw [Nat.succ_add, splitOn, if_pos hc, ih hd]
  | case4 n c rest cur hc ih =>
    rw [Nat.succ_add, splitOn, if_neg hc, ih (Nat.le_of_succ_le_succ h)]

theorem split_eq (sep s : List Char) : split sep s = splitOn sep s.length s [] :=
  splitOn_fuel sep s.length 1 s [] (Nat.le_refl _)

theorem splitOn_sep (sep : List Char) (hsep : sep ≠ []) (rest cur : List Char) :
    splitOn sep (sep ++ rest).length (sep ++ rest) cur = cur.reverse :: splitOn sep rest.length rest [] := by
  obtain ⟨c, sep', rfl⟩ := List.exists_cons_of_ne_nil hsep
  have hp : (c :: sep').isPrefixOf (c :: (sep' ++ rest)) = true :=
    List.isPrefixOf_iff_prefix.mpr (List.prefix_append (c :: sep') rest)
  have hd : List.drop (c :: sep').length (c :: (sep' ++ rest)) = rest := List.drop_left
  rw [List.cons_append, List.length_cons, splitOn, if_pos ⟨hp, hsep⟩, hd, List.length_append, Nat.add_comm,
    splitOn_fuel _ _ _ rest [] (Nat.le_refl _)]

theorem splitOn_skip (sep : List Char) (c : Char) (s cur : List Char) (h : ¬ sep <+: c :: s) :
    splitOn sep (c :: s).length (c :: s) cur = splitOn sep s.length s (c :: cur) := by
  rw [List.length_cons, splitOn, if_neg fun hp => h (List.isPrefixOf_iff_prefix.mp hp.1)]

/-- through a stretch `a` in which no separator starts: its characters join the piece -/
theorem splitOn_run (sep rest : List Char) : ∀ (a cur : List Char),
    (∀ s, s <:+ a → s ≠ [] → ¬ sep <+: s ++ rest) →
    splitOn sep (a ++ rest).length (a ++ rest) cur = splitOn sep rest.length rest (a.reverse ++ cur)
  | [], cur, _ => rfl
  | x :: a, cur, h => by
    rw [List.cons_append,
      splitOn_skip sep x (a ++ rest) cur (h (x :: a) List.suffix_rfl (List.cons_ne_nil _ _)),
      splitOn_run sep rest a (x :: cur) fun s hs => h s (hs.trans (List.suffix_cons x a))]
    simp

theorem split_none (sep s : List Char) (h : ¬ sep <:+: s) : split sep s = [s] := by
  have := splitOn_run sep [] s [] fun s' hs _ hp => h (by
    rw [List.append_nil] at hp
    exact hp.isInfix.trans hs.isInfix)
  rw [List.append_nil] at this
  rw [split_eq, this]
  simp [splitOn]

theorem split_first (sep : List Char) (a rest : List Char)
    (h : ¬ sep <:+: a ++ sep.dropLast) : split sep (a ++ sep ++ rest) = a :: split sep rest := by
  have hsep : sep ≠ [] := fun e => h (e ▸ List.nil_infix)
  rw [split_eq, split_eq, List.append_assoc, splitOn_run sep (sep ++ rest) a [], splitOn_sep sep hsep,
    List.append_nil, List.reverse_reverse]
  -- a separator that starts in `a` would lie within `a ++ sep.dropLast`
  intro s hs hne hp
  obtain ⟨x, s', rfl⟩ := List.exists_cons_of_ne_nil hne
  obtain ⟨p, rfl⟩ := hs
  have h2 : x :: s' ++ sep.dropLast <+: x :: s' ++ (sep ++ rest) :=
    (List.prefix_append_right_inj _).mpr ((List.dropLast_prefix sep).trans (List.prefix_append _ _))
  refine h ((List.prefix_of_prefix_length_le hp h2 ?_).isInfix.trans ⟨p, [], by simp⟩)
  have := List.length_pos_iff.mpr hsep
  rw [List.length_append, List.length_dropLast, List.length_cons]; omega

theorem split_pair (sep : List Char) (a b : List Char)
    (ha : ¬ sep <:+: a ++ sep.dropLast) (hb : ¬ sep <:+: b) : split sep (a ++ sep ++ b) = [a, b] := by
  rw [split_first sep a b ha, split_none sep b hb]

theorem infix_append_cases {u v : Char} {sep' a b : List Char}
    (h : (u :: v :: sep') <:+: a ++ b) :
      [u, v] <:+: a ∨ (a.getLast? = some u ∧ b.head? = some v) ∨ (u :: v :: sep') <:+: b := by
  rcases List.infix_append_iff.1 h with h | h | ⟨l₁, l₂, e, h1, h2⟩
  · exact .inl ((List.prefix_append [u, v] sep').isInfix.trans h)
  · exact .inr (.inr h)
  · rcases l₁ with _ | ⟨x, _ | ⟨y, l⟩⟩
    · rw [List.nil_append] at e
      exact .inr (.inr (e ▸ h2.isInfix))
    · obtain ⟨rfl, rfl⟩ := List.cons.inj e
      obtain ⟨t, rfl⟩ := h1
      obtain ⟨t', rfl⟩ := h2
      exact .inr (.inl ⟨by simp, rfl⟩)
    · obtain ⟨rfl, e'⟩ := List.cons.inj e
      obtain ⟨rfl, -⟩ := List.cons.inj e'
      exact .inl ((List.prefix_append [u, v] l).isInfix.trans h1.isInfix)

/-- the side condition of `split_first` for a text `s` that holds no `[u, v]` and does not end with `u`:
no separator `u :: v :: sep'` begins in `s` when `s` is followed by the separator less its last character -/
theorem not_infix_append_dropLast {u v : Char} {sep' s : List Char} (h1 : ¬ [u, v] <:+: s)
    (h2 : s.getLast? ≠ some u) : ¬ (u :: v :: sep') <:+: s ++ (u :: v :: sep').dropLast := by
  intro hi
  rcases infix_append_cases hi with h | ⟨h, -⟩ | h
  · exact h1 h
  · exact h2 h
  · have := h.length_le
    rw [List.length_dropLast, List.length_cons] at this
    omega

end Pfl.LabelCodec.Lem
