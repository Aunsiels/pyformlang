/-
Coverage of ground items by the tables of the Earley model, the strengthened invariant `Base`
and the table operations `procAdd` / `pushIfNew` (pruning keeps coverage); the invariant holds of
the empty tables over a store with `StartC`.
-/
import Pfl.Proofs.EarleyCompleteSubs
import Pfl.Proofs.EarleyLemmasLoop
namespace Pfl
namespace Earley
namespace Cmp
open FsDag Lem

/-- the specification-level production of index `k`; the dummy rule beyond the list -/
def prX (C : Ctx) (k : Nat) : (String × Feat) × List (Sym × Feat) :=
  (C.spec[k]?).getD ((C.G.gammaName, none), [(Sym.var C.G.start, none)])

theorem prX_spec {C : Ctx} {k : Nat} {pr : (String × Feat) × List (Sym × Feat)}
    (h : C.spec[k]? = some pr) : prX C k = pr := by
  unfold prX; rw [h]; rfl

theorem prX_gamma {C : Ctx} {k : Nat} (h : C.spec[k]? = none) :
    prX C k = ((C.G.gammaName, none), [(Sym.var C.G.start, none)]) := by
  unfold prX; rw [h]; rfl

/-- `env` is a ground instance of the feature object `F` of production `k` -/
def Cov (C : Ctx) (st : Store) (F k : Nat) (env : Env) : Prop :=
  ∃ σ, Resp C.P st σ ∧ Occ C st σ F (prX C k) env

/-- the paths to the symbol records exist -/
def HasPaths (C : Ctx) (st : Store) (F k : Nat) : Prop :=
  (∃ r, byPath st F ["head"] = some r) ∧
    ∀ j, j < (prX C k).2.length → ∃ r, byPath st F [toString j] = some r

/-- a ground item of the instantiated grammar: production `k` instantiated by `env`, over
`word[b, e)`, with the dot at `dot`; what completeness must find covered (`CovT`) in the tables -/
structure Item where
  k : Nat
  env : Env
  b : Nat
  e : Nat
  dot : Nat

/-- the ground item is covered by a processed state -/
def CovT (C : Ctx) (T : Tables) : Item → Prop
  | ⟨k, env, b, e, dot⟩ => ∃ s ∈ procStates T e, s.prod = k ∧ s.b = b ∧ s.dot = dot ∧
    Cov C T.store s.fs k env

theorem Cov.fwd {C : Ctx} {st st' : Store} {rk : Nat → Nat} (hf : Fr st st') (hw : WFS st rk)
    {F k : Nat} {env : Env} (hF : F < st.length)
    (h : Cov C st F k env) : Cov C st' F k env := by
  obtain ⟨σ, hσ, ho⟩ := h
  have hdf := resp_default C.P st' (hσ.1 0)
  refine ⟨mixVal st id σ (dfltVal C.P st' (σ 0)), hf.resp_mix hσ hdf.1 fun c v _ => hdf.2 c v, ho.sim ?_⟩
  intro p a hp
  rw [hf.rdv_mix hw.inv.acyc hw.rng _ σ _ hF p]; exact hp

theorem Cov.back {C : Ctx} {st st' : Store} {rk : Nat → Nat} (hf : Fr st st') (hw : WFS st rk)
    {F k : Nat} {env : Env} (hF : F < st.length)
    (h : Cov C st' F k env) : Cov C st F k env := by
  obtain ⟨σ, hσ, ho⟩ := h
  refine ⟨σ, hf.resp_back hσ, ho.sim ?_⟩
  intro p a hp
  rw [← hf.rdv_eq hw.inv.acyc hw.rng σ hF p]; exact hp

theorem HasPaths.fwd {C : Ctx} {st st' : Store} {rk : Nat → Nat} (hf : Fr st st') (hw : WFS st rk)
    {F k : Nat} (hF : F < st.length) (h : HasPaths C st F k) : HasPaths C st' F k := by
  obtain ⟨h1, h2⟩ := h
  refine ⟨?_, fun j hj => ?_⟩
  · rw [hf.byPath_eq hw.inv.acyc hw.rng _ hF]; exact h1
  · rw [hf.byPath_eq hw.inv.acyc hw.rng _ hF]; exact h2 j hj

/-- the states stored under a key have that key -/
def KeyOK (pr : List Dict) : Prop :=
  ∀ j, ∀ e ∈ colGet pr j, ∀ o ∈ e.2, (o.prod, o.b, o.e, o.dot) = e.1

/-- the facts of the completeness proof about the store: those of soundness (`InvS`), further store
facts, `cov` (every admissible instance of a production is a ground instance of its never modified
object: the source of coverage for predicted items) and the paths to the symbol records in every
production object -/
structure BaseSt (C : Ctx) (st : Store) (rk : Nat → Nat) : Prop extends InvS C st rk where
  sx : SX C.P st rk
  nv : C.featured = false → NoVal st
  cov : ∀ k p env, C.G.prods[k]? = some p → C.okEnv k env → Cov C st p.feats k env
  opth : ∀ k p, C.G.prods[k]? = some p → HasPaths C st p.feats k

/-- the store facts, and the shape of the `processed` table `pr` and of the chart (`n` columns) -/
structure BaseS (C : Ctx) (st : Store) (rk : Nat → Nat) (pr : List Dict) (n : Nat) : Prop
    extends BaseSt C st rk where
  keys : KeyOK pr
  lenc : n = C.word.length + 1
  lenp : pr.length = C.word.length + 1

/-- what completeness knows of every state: `StOK`, and the paths to the symbol records (what `advance`
needs to find the records it unifies) -/
structure BaseR (C : Ctx) (st : Store) (rk : Nat → Nat) (i : Nat) (s : EState) : Prop
    extends StOK C st rk i s where
  pth : HasPaths C st s.fs s.prod

/-- the invariant of the completeness proof -/
abbrev Base (C : Ctx) (T : Tables) (rk : Nat → Nat) : Prop :=
  Lay (BaseS C) (BaseR C) T rk

/-- processed and no longer waiting on the chart -/
def Done (T : Tables) (j : Nat) (s : EState) : Prop :=
  s ∈ procStates T j ∧ s ∉ colGet T.chart j

/-- the later table: more objects, more processed states, no further done states (what is new among the
processed is on the chart, and what was on the chart is still there).  `low`: the chart columns below
`lo` are untouched — work in column `i` pushes only into columns `≥ i`, which keeps the finished
columns empty. -/
structure TLe (lo : Nat) (T T' : Tables) : Prop where
  fr : Fr T.store T'.store
  proc : ∀ j s, s ∈ procStates T j → s ∈ procStates T' j
  done : ∀ {j s}, Done T' j s → Done T j s
  low : ∀ j, j < lo → colGet T'.chart j = colGet T.chart j

theorem TLe.refl (lo : Nat) (T : Tables) : TLe lo T T :=
  ⟨Fr.refl _, fun _ _ h => h, fun h => h, fun _ _ => rfl⟩

theorem TLe.trans {lo : Nat} {T T1 T2 : Tables} (h1 : TLe lo T T1) (h2 : TLe lo T1 T2) :
    TLe lo T T2 :=
  ⟨h1.fr.trans h2.fr, fun j s h => h2.proc j s (h1.proc j s h), fun h => h1.done (h2.done h),
    fun j hj => by rw [h2.low j hj, h1.low j hj]⟩

theorem TLe.mono {lo lo' : Nat} {T T' : Tables} (h : TLe lo T T') (hl : lo' ≤ lo) : TLe lo' T T' :=
  ⟨h.fr, h.proc, h.done, fun j hj => h.low j (Nat.lt_of_lt_of_le hj hl)⟩

theorem CovT.mono {C : Ctx} {T T' : Tables} {rk : Nat → Nat} {lo : Nat}
    (hB : Base C T rk) (hle : TLe lo T T') {it : Item}
    (h : CovT C T it) : CovT C T' it := by
  obtain ⟨s, hs, h1, h2, h3, h4⟩ := h
  exact ⟨s, hle.proc _ s hs, h1, h2, h3,
    h4.fwd hle.fr hB.tab.wf (hB.p _ s hs).fs_lt⟩

theorem keys_upd {d : Dict} {k : Key} {s : EState} (key : EState → Key)
    (hd : ∀ e ∈ d, ∀ o ∈ e.2, key o = e.1) (hs : key s = k) (b : Bool) :
    ∀ e ∈ (if b then ins d k s else touch d k), ∀ o ∈ e.2, key o = e.1 := by
  intro e he o ho
  cases b with
  | false =>
    rcases mem_touch he with h | rfl
    · exact hd e h o ho
    · exact nomatch ho
  | true =>
    rcases mem_ins he with h | rfl | ⟨e0, he0, hk0, rfl⟩
    · exact hd e h o ho
    · rw [List.mem_singleton.1 ho]; exact hs
    · rcases List.mem_append.1 ho with h | h
      · exact hd e0 he0 o h
      · rw [List.mem_singleton.1 h, hs]; exact hk0.symm


theorem procAdd_keys (G : Grammar) (T : Tables) (i : Nat) (s : EState) (hk : KeyOK T.processed) :
    KeyOK (procAdd G T i s).1.processed := by
  intro j e he
  rw [procAdd_fst] at he
  rcases mem_colGet_set he with ⟨rfl, he2⟩ | he2
  · exact keys_upd (fun o => (o.prod, o.b, o.e, o.dot)) (hk j) rfl _ e he2
  · exact hk j e he2

theorem procAdd_refused (G : Grammar) (T : Tables) (i : Nat) (s : EState)
    (hk : KeyOK T.processed)
    (h : (procAdd G T i s).2 = false) :
    ∃ o ∈ procStates T i, (o.prod, o.b, o.e, o.dot) = (s.prod, s.b, s.e, s.dot) ∧
      subsumes T.store o.fs s.fs = true := by
  rw [procAdd_snd, Bool.not_eq_false', List.any_eq_true] at h
  obtain ⟨o, ho, hsub⟩ := h
  obtain ⟨e, he, hkey, hoe⟩ := mem_bucket ho
  exact ⟨o, List.mem_flatMap.2 ⟨e, he, hoe⟩, by rw [hk i e he o hoe, hkey]; rfl, hsub⟩

theorem pushIfNew_tle (G : Grammar) (T : Tables) (i : Nat) (s : EState)
    (hlen : i < T.chart.length) : TLe i T (pushIfNew G T i s) := by
  refine ⟨by rw [pushIfNew_store]; exact Fr.refl _, fun j s' h => mem_proc_pushIfNew.2 (Or.inl h), ?_, ?_⟩
  · -- what is new among the processed is on the chart
    rintro j s' ⟨hp, hc⟩
    rcases mem_proc_pushIfNew.1 hp with h | ⟨hadd, rfl, _, rfl⟩
    · exact ⟨h, fun h' => hc (mem_chart_pushIfNew.2 (Or.inl h'))⟩
    · exact absurd (mem_chart_pushIfNew.2 (Or.inr ⟨hadd, rfl, hlen, rfl⟩)) hc
  · intro j hj
    rw [pushIfNew_chart]
    split
    · rw [colGet_set_ne _ (by omega)]
    · rfl

theorem BaseS.procAdd {C : Ctx} {T : Tables} {rk : Nat → Nat} {n : Nat}
    (h : BaseS C T.store rk T.processed n) (i : Nat) (s : EState) :
    BaseS C T.store rk (procAdd C.G T i s).1.processed n :=
  { h with keys := procAdd_keys C.G T i s h.keys, lenp := (procAdd_len ..).trans h.lenp }

theorem rdv_sub {st : Store} {σ : Nat → String} {F x : Nat} {g : String} {q : List String}
    (h : byPath st F [g] = some x) : rdv st σ F (g :: q) = rdv st σ x q := by
  have e := byPath_append st [g] q F
  simp only [List.cons_append, List.nil_append] at e
  unfold rdv
  rw [e, h]; rfl

/-- `a` has the path (it reads something under `σ0`), so what `b` reads there is what `a` reads -/
theorem rd_transfer {st : Store} {σ σ0 σ' : Nat → String} {a b : Nat} {p : List String} {x0 u : String}
    (h0 : rdv st σ0 a p = some x0)
    (hs : ∀ p x, rdv st σ' a p = some x → rdv st σ b p = some x)
    (h : rdv st σ b p = some u) : rdv st σ' a p = some u := by
  obtain ⟨n, hn, _⟩ := rdv_some.1 h0
  have := hs p _ (rdv_some.2 ⟨n, hn, rfl⟩)
  rw [h] at this
  exact rdv_some.2 ⟨n, hn, (Option.some.inj this).symm⟩

theorem occ_transfer {C : Ctx} {st : Store} {σ σ0 σ' : Nat → String} {a b : Nat}
    {pr : (String × Feat) × List (Sym × Feat)} {env env0 : Env}
    (hex : Occ C st σ0 a pr env0)
    (hs : ∀ p x, rdv st σ' a p = some x → rdv st σ b p = some x)
    (ho : Occ C st σ b pr env) : Occ C st σ' a pr env :=
  ⟨fun v hv => rd_transfer (hex.1 v hv) hs (ho.1 v hv),
   fun j X v hj => rd_transfer (hex.2 j X v hj) hs (ho.2 j X v hj)⟩

theorem occ_gamma {C : Ctx} {k : Nat} (h : C.spec[k]? = none) (st : Store) (σ : Nat → String)
    (F : Nat) (env : Env) : Occ C st σ F (prX C k) env := by
  rw [prX_gamma h]
  refine ⟨fun v hv => by simp at hv, fun j X v hj => ?_⟩
  cases j with
  | zero => simp at hj
  | succ j => simp at hj

theorem pushIfNew_cov {C : Ctx} {T : Tables} {rk : Nat → Nat}
    (hB : Base C T rk) {i : Nat} {s : EState}
    (hi : i < T.processed.length) (env : Env)
    (h : Cov C T.store s.fs s.prod env) :
    CovT C (pushIfNew C.G T i s) ⟨s.prod, env, s.b, i, s.dot⟩ := by
  have hst := pushIfNew_store C.G T i s
  by_cases hadd : (procAdd C.G T i s).2 = true
  · exact ⟨s, mem_proc_pushIfNew.2 (Or.inr ⟨hadd, rfl, hi, rfl⟩), rfl, rfl, rfl, by rw [hst]; exact h⟩
  · obtain ⟨o, ho, hkey, hsub⟩ := procAdd_refused C.G T i s hB.tab.keys (by simpa using hadd)
    simp only [Prod.mk.injEq] at hkey
    obtain ⟨k1, k2, _, k4⟩ := hkey
    refine ⟨o, mem_proc_pushIfNew.2 (Or.inl ho), k1, k2, k4, ?_⟩
    rw [hst]
    obtain ⟨σ, hσ, hocc⟩ := h
    obtain ⟨σ', hσ', hs⟩ := subsumes_cov C.P hB.tab.wf.inv.acyc hsub σ hσ
    have hgood := (hB.p i o ho).good
    cases hsp : C.spec[s.prod]? with
    | none =>
      exact ⟨σ', hσ', occ_transfer (occ_gamma hsp _ σ _ env) hs hocc⟩
    | some pr =>
      obtain ⟨_, hg⟩ := hgood pr (by rw [k1]; exact hsp)
      obtain ⟨env0, _, ho0, _⟩ := hg _ (resp_default C.P T.store (hσ.1 0))
      rw [prX_spec hsp] at hocc
      refine ⟨σ', hσ', ?_⟩
      show Occ C T.store σ' o.fs (prX C s.prod) env
      rw [prX_spec hsp]
      exact occ_transfer ho0 hs hocc

theorem push_spec {C : Ctx} {T : Tables} {rk : Nat → Nat}
    (hB : Base C T rk) {i : Nat} (hi : i < C.word.length + 1)
    {s : EState} (hs : BaseR C T.store rk i s) :
    Base C (pushIfNew C.G T i s) rk ∧ TLe i T (pushIfNew C.G T i s) ∧
      ∀ env, Cov C T.store s.fs s.prod env →
        CovT C (pushIfNew C.G T i s) ⟨s.prod, env, s.b, i, s.dot⟩ :=
  ⟨hB.push C.G (hB.tab.procAdd i s) hs, pushIfNew_tle C.G T i s (by rw [hB.tab.lenc]; exact hi),
    pushIfNew_cov hB (by rw [hB.tab.lenp]; exact hi)⟩

/-- what the proofs use about the store the recogniser starts from: the store facts, and the record
of the dummy production -/
structure StartC (C : Ctx) (st0 : Store) (rk0 : Nat → Nat) : Prop extends BaseSt C st0 rk0 where
  hgam : C.G.gammaFeats < st0.length ∧ rk0 C.G.gammaFeats = 2
  hgpth : HasPaths C st0 C.G.gammaFeats C.spec.length

section
variable {C : Ctx} {st0 : Store} {rk0 : Nat → Nat}

theorem StartC.baseS (h0 : StartC C st0 rk0) :
    BaseS C st0 rk0 (List.replicate (C.word.length + 1) []) (C.word.length + 1) :=
  { h0 with
    keys := fun _ _ he => absurd he (not_mem_colGet_replicate _ _ _)
    lenc := rfl, lenp := List.length_replicate }

theorem StartC.first (hC : CtxOK C) (h0 : StartC C st0 rk0) :
    BaseR C st0 rk0 0 { prod := C.G.prods.length, b := 0, e := 0, dot := 0, fs := C.G.gammaFeats } :=
  ⟨first_ok hC h0.hgam, by rw [hC.prods_len]; exact h0.hgpth⟩

end

end Cmp
end Earley
end Pfl
