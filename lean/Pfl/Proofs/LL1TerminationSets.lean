/-
Termination of the stack machine of `get_llone_parse_tree`: what the FIRST / FOLLOW
dictionaries and the table satisfy for EVERY well-formed grammar (no hypothesis that the symbols
generate): the FIRST dictionary is the least fixed point of its rules (`firstSet_jsound`, `FJ.ref` with
`FRef.mem` in `LL1LibFirst.lean`), the FOLLOW dictionary is closed under its two rules (`FollowRes.base`,
`.edge`), and the table cells are the predict sets computed from these two dictionaries.  Collected
in `Facts`.
-/
import Pfl.Proofs.LL1LibParse
namespace Pfl
namespace LL1Lib
namespace Term
open CFG Lem

/-- `f` / `fo`: the FIRST / FOLLOW dictionaries as functions -/
structure Facts (G : CFG) (tb : List (String × Look × Pfl.Prod)) (f : Sym → List Look)
    (fo : Option Sym → List Look) : Prop where
  wf : G.WF
  tb_iff : ∀ hd a p, a ≠ Look.eps → ((hd, a, p) ∈ tb ↔ p ∈ G.prods ∧ hd = p.1 ∧
    (Lem.Reach f p.2 a ∨ ((∀ y ∈ p.2, Look.eps ∈ f y) ∧ a ∈ fo (some (.var p.1)))))
  just : ∀ k a, a ∈ f k → ∃ n, FJ G n k a
  mem : ∀ n s a, FJ G n s a → (∀ t, s = .ter t → t ∈ G.ters) → a ∈ f s
  fo1 : ∀ p ∈ G.prods, ∀ pre x rest a, p.2 = pre ++ x :: rest → a ≠ Look.eps →
    Lem.Reach f rest a → a ∈ fo (some x)
  fo2 : ∀ p ∈ G.prods, ∀ pre x rest a, p.2 = pre ++ x :: rest → (∀ y ∈ rest, Look.eps ∈ f y) →
    a ∈ fo (some (.var p.1)) → a ∈ fo (some x)

theorem facts_of_table (G : CFG) (hG : G.WF) (fuel : Nat) (tb : List (String × Look × Pfl.Prod))
    (h : table G fuel = some tb) : ∃ f fo, Facts G tb f fo := by
  obtain ⟨F, Fo, hF, hFo, rfl⟩ := table_eq G fuel tb h
  obtain ⟨F', hF', hR, hI⟩ := followSet_res G hG fuel Fo hFo
  rw [hF] at hF'; cases hF'
  refine ⟨getD F, getD Fo, hG, fun hd a p ha => ?_, firstSet_jsound G fuel F hF,
    fun n s a hj => hR.mem (hj.ref hG),
    fun p hp pre x rest a hb ha hr => hI.base _ _ (Or.inr ⟨p, hp, pre, x, rest, hb, rfl, ha, hr⟩),
    fun p hp pre x rest a hb hall =>
      hI.edge _ _ ((mem_followTriggers G F _ _).mpr ⟨p, hp, rfl, pre, rest, hb, hall⟩) a⟩
  rw [mem_tableOf_reach G F Fo hR.nul_iff, and_iff_right ha]

end Term
end LL1Lib
end Pfl
