/-
The two worklists of the LL(1) library model (`get_first_set`, `get_follow_set`) run one loop over
a dictionary of sets and a `SetQueue`.  Here: the dictionary (`getD`, `setKey`, `union`), the queue
(`qpush`), the update `upd` both perform per item, and the loop itself, `Worklist.run`, with what
holds when it ends: `run_sat` (a constraint `V F ⊆ F[k]` whose owner reads, in the sense of the
trigger dictionary, every key the constraint looks at), `run_dict` (what every item keeps).  Both
initialisations leave the state `AtEntry`: whatever reads a non-empty set is queued.
Termination: `run_isSome` in `TerminationLL1.lean`.
-/
import Pfl.Model.LL1Lib
import Pfl.Proofs.HornSat
import Pfl.Proofs.Assoc
namespace Pfl
namespace LL1Lib
namespace Lem
set_option linter.unusedSectionVars false

section SetMap
variable {κ α : Type} [DecidableEq κ] [DecidableEq α]

theorem getD_eq (m : SetMap κ α) (k : κ) : getD m k = (Assoc.get m k).getD [] := by
  unfold getD Assoc.get
  cases m.find? (·.1 = k) <;> rfl

theorem setKey_eq (m : SetMap κ α) (k : κ) (v : List α) : setKey m k v = Assoc.set m k v := rfl

theorem getD_nil (k : κ) : getD ([] : SetMap κ α) k = [] := rfl

theorem getD_cons (e : κ × List α) (m : SetMap κ α) (k : κ) :
    getD (e :: m) k = if e.1 = k then e.2 else getD m k := by
  rw [getD_eq, getD_eq, Assoc.get_cons]
  split <;> rfl

theorem getD_setKey (m : SetMap κ α) (k : κ) (v : List α) (k' : κ) :
    getD (setKey m k v) k' = if k' = k then v else getD m k' := by
  rw [getD_eq, getD_eq, setKey_eq, Assoc.get_set]
  split <;> rfl

theorem getD_setKey_self (m : SetMap κ α) (k : κ) (v : List α) : getD (setKey m k v) k = v := by
  rw [getD_setKey, if_pos rfl]

theorem getD_setKey_ne (m : SetMap κ α) (k : κ) (v : List α) (k' : κ) (h : k' ≠ k) :
    getD (setKey m k v) k' = getD m k' := by
  rw [getD_setKey, if_neg h]

theorem getD_setKey_same (m : SetMap κ α) (k k' : κ) : getD (setKey m k (getD m k)) k' = getD m k' := by
  rw [getD_setKey]; split
  · next h => rw [h]
  · rfl

theorem union_prefix (a b : List α) : a <+: union a b :=
  (add_horn fun x : α => x).fold_prefix b a

theorem mem_union (a b : List α) (x : α) : x ∈ union a b ↔ x ∈ a ∨ x ∈ b := mem_foldl_insert_end b a x

theorem union_nodup (a b : List α) (h : a.Nodup) : (union a b).Nodup :=
  (add_horn fun x : α => x).fold_nodup b a h

theorem union_eq_of_length (a b : List α) (h : (union a b).length = a.length) : union a b = a :=
  ((union_prefix a b).eq_of_length h.symm).symm

theorem mem_setKey_union (m : SetMap κ α) (k k' : κ) (v : List α) (a : α) :
    a ∈ getD (setKey m k (union (getD m k) v)) k' ↔ a ∈ getD m k' ∨ (k' = k ∧ a ∈ v) := by
  rw [getD_setKey]
  by_cases h : k' = k
  · subst h
    rw [if_pos rfl, mem_union, and_iff_right rfl]
  · rw [if_neg h, or_iff_left fun h' : _ ∧ _ => h h'.1]

theorem mem_qpush (q : List κ) (x y : κ) : y ∈ qpush q x ↔ y ∈ q ∨ y = x :=
  mem_insert_end.trans or_comm

theorem mem_foldl_qpush (l q : List κ) (y : κ) : y ∈ l.foldl qpush q ↔ y ∈ q ∨ y ∈ l :=
  mem_foldl_insert_end l q y

theorem qpush_nodup (q : List κ) (x : κ) (h : q.Nodup) : (qpush q x).Nodup := nodup_insert_end h

/-- `F[k] |= v`, and `push` on the queue when the set grew: what `get_first_set` and
`get_follow_set` do for every item of their inner loop -/
def upd {ρ : Type} (k : κ) (v : List α) (push : List ρ → List ρ) (st : SetMap κ α × List ρ) :
    SetMap κ α × List ρ :=
  let old := getD st.1 k
  let new := union old v
  let F1 := setKey st.1 k new
  if new.length ≠ old.length then (F1, push st.2) else (F1, st.2)

section Upd
variable {ρ : Type} (k : κ) (v : List α) (push : List ρ → List ρ) (st : SetMap κ α × List ρ)

theorem getD_upd (k' : κ) :
    getD (upd k v push st).1 k' = if k' = k then union (getD st.1 k) v else getD st.1 k' := by
  unfold upd
  simp only []
  split <;> exact getD_setKey _ _ _ _

theorem mem_upd {k' : κ} {a : α} :
    a ∈ getD (upd k v push st).1 k' ↔ a ∈ getD st.1 k' ∨ (k' = k ∧ a ∈ v) := by
  unfold upd
  simp only []
  split <;> exact mem_setKey_union _ _ _ _ _

theorem mem_upd_mono {k' : κ} {a : α} (h : a ∈ getD st.1 k') : a ∈ getD (upd k v push st).1 k' :=
  (mem_upd k v push st).mpr (Or.inl h)

theorem mem_upd_new {a : α} (h : a ∈ v) : a ∈ getD (upd k v push st).1 k :=
  (mem_upd k v push st).mpr (Or.inr ⟨rfl, h⟩)

theorem upd_forall (J : κ → α → Prop) (h : ∀ k' a, a ∈ getD st.1 k' → J k' a) (hv : ∀ a ∈ v, J k a) :
    ∀ k' a, a ∈ getD (upd k v push st).1 k' → J k' a := by
  intro k' a ha
  rcases (mem_upd k v push st).mp ha with h1 | ⟨rfl, h1⟩
  · exact h _ _ h1
  · exact hv a h1

theorem upd_nodup (h : ∀ k', (getD st.1 k').Nodup) : ∀ k', (getD (upd k v push st).1 k').Nodup := by
  intro k'
  rw [getD_upd]
  split
  · exact union_nodup _ _ (h _)
  · exact h k'

theorem upd_length_le (k' : κ) : (getD st.1 k').length ≤ (getD (upd k v push st).1 k').length := by
  rw [getD_upd]
  split
  · next hk => rw [hk]; exact (union_prefix _ _).length_le
  · exact Nat.le_refl _

theorem upd_snd : (upd k v push st).2 =
    if (union (getD st.1 k) v).length = (getD st.1 k).length then st.2 else push st.2 := by
  show (if _ then (_, push st.2) else (_, st.2)).2 = _
  by_cases hl : (union (getD st.1 k) v).length = (getD st.1 k).length
  · rw [if_pos hl, if_neg (not_not_intro hl)]
  · rw [if_neg hl, if_pos hl]

theorem upd_cases :
    ((∀ k', getD (upd k v push st).1 k' = getD st.1 k') ∧ (upd k v push st).2 = st.2) ∨
    ((getD st.1 k).length < (getD (upd k v push st).1 k).length ∧
        (upd k v push st).2 = push st.2) := by
  by_cases hl : (union (getD st.1 k) v).length = (getD st.1 k).length
  · refine Or.inl ⟨fun k' => ?_, by rw [upd_snd, if_pos hl]⟩
    rw [getD_upd, union_eq_of_length _ _ hl]
    split
    · next hk => rw [hk]
    · rfl
  · refine Or.inr ⟨?_, by rw [upd_snd, if_neg hl]⟩
    rw [getD_upd, if_pos rfl]
    exact Nat.lt_of_le_of_ne (union_prefix _ v).length_le (Ne.symm hl)

/-- The worklist argument for one constraint `V F ⊆ F[k']`, where `V` looks at the dictionary on the
keys `D` only and the queue entry `o` is responsible for it: "satisfied, or `o` is queued" survives
an update that pushes `o` whenever it touches a key in `D`, and is established by the update that
adds `V F` to `F[k']`. -/
theorem upd_pend (V : (κ → List α) → α → Prop) (D : κ → Prop) (k' : κ) (o : ρ)
    (hV : ∀ f f' : κ → List α, (∀ x, D x → f' x = f x) → ∀ a, V f' a → V f a)
    (hq : ∀ x ∈ st.2, x ∈ push st.2) (hpush : D k → o ∈ push st.2)
    (h : (∀ a, V (getD st.1) a → a ∈ getD st.1 k') ∨ o ∈ st.2 ∨
      (k' = k ∧ ∀ a, V (getD st.1) a → a ∈ v)) :
    (∀ a, V (getD (upd k v push st).1) a → a ∈ getD (upd k v push st).1 k') ∨
      o ∈ (upd k v push st).2 := by
  -- what the constraint reads is as before, or its owner has been pushed
  have hkey : (∀ x, D x → getD (upd k v push st).1 x = getD st.1 x) ∨ o ∈ (upd k v push st).2 := by
    rcases upd_cases k v push st with ⟨hsame, _⟩ | ⟨_, hq'⟩
    · exact Or.inl fun x _ => hsame x
    · by_cases hk : D k
      · exact Or.inr (hq' ▸ hpush hk)
      · refine Or.inl fun x hx => ?_
        rw [getD_upd, if_neg]
        rintro rfl; exact hk hx
  rcases hkey with hsame | ho
  · rcases h with h | h | ⟨rfl, h⟩
    · exact Or.inl fun a ha => mem_upd_mono _ _ _ _ (h a (hV _ _ hsame a ha))
    · right
      rcases upd_cases k v push st with ⟨_, hq'⟩ | ⟨_, hq'⟩
      · rw [hq']; exact h
      · rw [hq']; exact hq _ h
    · exact Or.inl fun a ha => mem_upd_new _ _ _ _ (h a (hV _ _ hsame a ha))
  · exact Or.inr ho

end Upd

end SetMap

section Worklist
variable {κ α ρ ι : Type} [DecidableEq κ] [DecidableEq α] [DecidableEq ρ]

/-- How `get_first_set` and `get_follow_set` enter their loop, `readers k` being the queue entries
that look at the set of `k`: every non-empty set has its readers queued, and the queue is a
duplicate-free list of entries from `Q`. -/
structure AtEntry (readers : κ → List ρ) (Q : ρ → Prop) (st : SetMap κ α × List ρ) : Prop where
  queued : ∀ k, getD st.1 k ≠ [] → ∀ o ∈ readers k, o ∈ st.2
  qnd : st.2.Nodup
  qmem : ∀ o ∈ st.2, Q o

/-- a step of either initialisation: it writes the set of one key `k` and appends the readers of `k`
to the queue, unless it left that set empty -/
theorem AtEntry.write {readers : κ → List ρ} {Q : ρ → Prop} {st : SetMap κ α × List ρ}
    (h : AtEntry readers Q st) (k : κ) (m' : SetMap κ α) (q' : List ρ)
    (hm : ∀ k', k' ≠ k → ∀ a ∈ getD m' k', a ∈ getD st.1 k')
    (hq : q' = (readers k).foldl qpush st.2 ∨ (getD m' k = [] ∧ q' = st.2))
    (hQ : ∀ o ∈ readers k, Q o) : AtEntry readers Q (m', q') := by
  have hold : ∀ k', k' ≠ k → getD m' k' ≠ [] → ∀ o ∈ readers k', o ∈ st.2 := fun k' hk hne =>
    let ⟨a, ha⟩ := List.exists_mem_of_ne_nil _ hne
    h.queued k' (List.ne_nil_of_mem (hm k' hk a ha))
  rcases hq with rfl | ⟨he, rfl⟩
  · refine ⟨fun k' hne o ho => (mem_foldl_qpush _ _ o).mpr ?_, union_nodup _ _ h.qnd,
      fun o ho => ((mem_foldl_qpush _ _ o).mp ho).elim (h.qmem o) (hQ o)⟩
    by_cases hk : k' = k
    · exact Or.inr (hk ▸ ho)
    · exact Or.inl (hold k' hk hne o ho)
  · exact ⟨fun k' hne => hold k' (fun hk => hne (hk ▸ he)) hne, h.qnd, h.qmem⟩

/-- a worklist over a dictionary of sets, as `get_first_set` and `get_follow_set` run it: popping
`cur` processes the items `items cur` in turn; item `i` does `F[key i] |= val F i` and appends the
readers of `key i` to the queue when that set grew -/
structure Worklist (κ α ρ ι : Type) where
  items : ρ → List ι
  key : ι → κ
  val : SetMap κ α → ι → List α
  readers : κ → List ρ

namespace Worklist
variable (W : Worklist κ α ρ ι)

def step (st : SetMap κ α × List ρ) (i : ι) : SetMap κ α × List ρ :=
  upd (W.key i) (W.val st.1 i) ((W.readers (W.key i)).foldl qpush) st

def round (F : SetMap κ α) (q : List ρ) (cur : ρ) : SetMap κ α × List ρ :=
  (W.items cur).foldl W.step (F, q.dropLast)

/-- the `while to_process` loop (the last element of the queue is popped); `none` = out of fuel -/
def run : Nat → SetMap κ α → List ρ → Option (SetMap κ α)
  | _, F, [] => some F
  | 0, _, _ :: _ => none
  | fuel+1, F, q =>
    match q.getLast? with
    | none => some F
    | some cur => run fuel (W.round F q cur).1 (W.round F q cur).2

theorem run_nil (fuel : Nat) (F : SetMap κ α) : W.run fuel F [] = some F := by
  cases fuel <;> rfl

theorem run_succ (fuel : Nat) (F : SetMap κ α) (q : List ρ) (cur : ρ) (h : q.getLast? = some cur) :
    W.run (fuel + 1) F q = W.run fuel (W.round F q cur).1 (W.round F q cur).2 := by
  cases q with
  | nil => cases h
  | cons x q' =>
    show (match (x :: q').getLast? with
      | none => some F
      | some cur => W.run fuel (W.round F (x :: q') cur).1 (W.round F (x :: q') cur).2) = _
    rw [h]

theorem run_inv (Inv : SetMap κ α → List ρ → Prop)
    (hround : ∀ F q cur, q.getLast? = some cur → Inv F q →
      Inv (W.round F q cur).1 (W.round F q cur).2) :
    ∀ fuel F q F', Inv F q → W.run fuel F q = some F' → Inv F' [] := by
  intro fuel
  induction fuel with
  | zero =>
    intro F q F' hI h
    cases q with
    | nil => cases h; exact hI
    | cons x q' => cases h
  | succ fuel ih =>
    intro F q F' hI h
    cases q with
    | nil => cases h; exact hI
    | cons x q' =>
      have hl := List.getLast?_eq_some_getLast (List.cons_ne_nil x q')
      rw [W.run_succ fuel F _ _ hl] at h
      exact ih _ _ F' (hround F _ _ hl hI) h

theorem run_dict (P : SetMap κ α → Prop)
    (hstep : ∀ st cur, ∀ i ∈ W.items cur, P st.1 → P (W.step st i).1)
    (fuel : Nat) (F : SetMap κ α) (q : List ρ) (F' : SetMap κ α) (h0 : P F)
    (h : W.run fuel F q = some F') : P F' :=
  W.run_inv (fun F _ => P F)
    (fun _ _ cur _ hF => foldl_inv (fun st => P st.1) W.step _ (fun st i hi => hstep st cur i hi) _ hF)
    fuel F q F' h0 h

/-- One constraint `V F ⊆ F[k']`, where `V` reads the dictionary on the keys `D` only and finds nothing
in empty sets: if `o` is a reader of every key in `D` and one of the items of `o` adds `V F` to
`F[k']`, then "satisfied, or `o` is queued" holds on entry and throughout, so the constraint is
satisfied at the end. -/
theorem run_sat (V : (κ → List α) → α → Prop) (D : κ → Prop) (k' : κ) (o : ρ)
    (hV : ∀ f f' : κ → List α, (∀ x, D x → f' x = f x) → ∀ a, V f' a → V f a)
    (hV0 : ∀ a, ¬ V (fun _ => []) a)
    (htrig : ∀ k, D k → o ∈ W.readers k)
    (hown : ∃ i ∈ W.items o, W.key i = k' ∧ ∀ F a, V (getD F) a → a ∈ W.val F i)
    (fuel : Nat) (F : SetMap κ α) (q : List ρ) (F' : SetMap κ α) {Q : ρ → Prop}
    (hE : AtEntry W.readers Q (F, q)) (h : W.run fuel F q = some F') :
    ∀ a, V (getD F') a → a ∈ getD F' k' := by
  have h0 : (∀ a, V (getD F) a → a ∈ getD F k') ∨ o ∈ q := by
    by_cases ho : o ∈ q
    · exact Or.inr ho
    · refine Or.inl fun a ha => absurd (hV _ _ (fun x hx => ?_) a ha) (hV0 a)
      exact Decidable.byContradiction fun hne => ho (hE.queued x hne o (htrig x hx))
  refine (W.run_inv (fun F q => (∀ a, V (getD F) a → a ∈ getD F k') ∨ o ∈ q) ?_
    fuel F q F' h0 h).resolve_right (by intro h; cases h)
  intro F q cur hl hI
  obtain ⟨i0, hi0, hk0, hv0⟩ := hown
  -- through the items of a round: it held before, or the establishing item `i0` has been met
  refine foldl_inv_prefix (fun st l1 =>
      ((∀ a, V (getD F) a → a ∈ getD F k') ∨ o ∈ q.dropLast) ∨ i0 ∈ l1 →
        (∀ a, V (getD st.1) a → a ∈ getD st.1 k') ∨ o ∈ st.2) W.step (W.items cur)
    (fun st l1 i _ _ ih h => ?_) (F, q.dropLast) (fun h => h.resolve_right nofun) ?_
  · refine upd_pend _ _ _ st V D k' o hV (fun x hx => (mem_foldl_qpush _ _ x).mpr (Or.inl hx))
      (fun hk => (mem_foldl_qpush _ _ o).mpr (Or.inr (htrig _ hk))) ?_
    rcases h with h | h
    · exact or_assoc.mp (Or.inl (ih (Or.inl h)))
    · rcases List.mem_append.mp h with h | h
      · exact or_assoc.mp (Or.inl (ih (Or.inr h)))
      · cases List.mem_singleton.mp h
        exact Or.inr (Or.inr ⟨hk0.symm, hv0 st.1⟩)
  · rcases hI with h | h
    · exact Or.inl (Or.inl h)
    · rcases mem_dropLast_or q cur hl _ h with h | rfl
      · exact Or.inl (Or.inr h)
      · exact Or.inr hi0

end Worklist
end Worklist

end Lem
end LL1Lib
end Pfl
