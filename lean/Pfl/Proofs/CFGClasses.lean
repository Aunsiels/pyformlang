/-
The symbol classes of C12 (`generating`, `nullable`, `reachable`): the saturation loop `closeStep`/`iter` (soundness, fixpoint after
`|prods|+1` rounds, completeness) and the worklist `reachable`.  What each class holds, in the form the
proofs about the cleaning steps use: `mem_generating`, `mem_nullable` (a symbol, terminal or variable, by
the word it yields), `mem_reachable_reach` (the search graph); C12 restates them.
-/
import Pfl.Proofs.CFGBase
import Pfl.Proofs.FABase
import Pfl.Proofs.HornSat
namespace Pfl
namespace CFG

/-- the body of the fold in `closeStep` -/
def stepF (S : List Sym) (p : Prod) : List Sym :=
  if .var p.1 ∉ S ∧ p.2.all (· ∈ S) then S ++ [.var p.1] else S

theorem stepF_horn : HornStep stepF (fun p => Sym.var p.1) (·.2) :=
  .of_ite (fun _ _ => rfl) fun S p => by simp [and_comm]

theorem iter_iter {α : Type} (f : α → α) : Iter (iter f) f := ⟨fun _ => rfl, fun _ _ => rfl⟩

theorem closeStep_prefix (G : CFG) (S : List Sym) : S <+: G.closeStep S :=
  stepF_horn.fold_prefix _ _

theorem closeStep_forall (G : CFG) (Q : Sym → Prop)
    (hQ : ∀ p ∈ G.prods, (∀ x ∈ p.2, Q x) → Q (.var p.1)) (S : List Sym)
    (hS : ∀ x ∈ S, Q x) : ∀ x ∈ G.closeStep S, Q x := stepF_horn.fold_forall Q _ hQ S hS

theorem closeStep_nodup (G : CFG) (S : List Sym) (h : S.Nodup) : (G.closeStep S).Nodup :=
  stepF_horn.fold_nodup _ S h

theorem iter_inv {α : Type} (f : α → α) (P : α → Prop) (hP : ∀ x, P x → P (f x)) :
    ∀ n x, P x → P (iter f n x) := (iter_iter f).inv P hP

theorem iter_fix {α : Type} (f : α → α) (x : α) (h : f x = x) : ∀ n, iter f n x = x :=
  (iter_iter f).fix h

theorem iter_prefix (G : CFG) (n : Nat) (S : List Sym) : S <+: iter G.closeStep n S :=
  stepF_horn.iter_prefix (iter_iter _) n S

def Closed (G : CFG) (S : List Sym) : Prop :=
  ∀ p ∈ G.prods, (∀ x ∈ p.2, x ∈ S) → .var p.1 ∈ S

theorem iter_closed (G : CFG) (S : List Sym) :
    G.Closed (iter G.closeStep (G.prods.length + 1) S) :=
  stepF_horn.iter_closed (iter_iter _) (Nat.lt_succ_self _) S

theorem closed_complete (G : CFG) (S : List Sym) (hc : G.Closed S) {s : Sym} {w : List String}
    (h : G.Gen s w) : (∀ t ∈ w, Sym.ter t ∈ S) → s ∈ S := by
  refine (Clean.gen_ind (P := fun s w => (∀ t ∈ w, Sym.ter t ∈ S) → s ∈ S)
    (Q := fun u w => (∀ t ∈ w, Sym.ter t ∈ S) → ∀ x ∈ u, x ∈ S) ?_ ?_ ?_ ?_).1 s w h
  · intro t ht; exact ht t (List.mem_singleton.2 rfl)
  · intro h body w hp _ ih hw
    exact hc (h, body) hp (ih hw)
  · intro _ x hx; cases hx
  · intro s u w₁ w₂ _ _ ih1 ih2 hw x hx
    rcases List.mem_cons.mp hx with rfl | hx
    · exact ih1 fun t ht => hw t (List.mem_append_left _ ht)
    · exact ih2 (fun t ht => hw t (List.mem_append_right _ ht)) x hx

theorem genList_over (G : CFG) (P : String → Prop) (u : List Sym)
    (h : ∀ x ∈ u, ∃ w, G.Gen x w ∧ ∀ t ∈ w, P t) : ∃ w, G.GenList u w ∧ ∀ t ∈ w, P t := by
  induction u with
  | nil => exact ⟨[], GenList.nil, fun _ ht => by cases ht⟩
  | cons s u ih =>
    obtain ⟨w₁, h1, p1⟩ := h s List.mem_cons_self
    obtain ⟨w₂, h2, p2⟩ := ih (fun x hx => h x (List.mem_cons_of_mem _ hx))
    exact ⟨w₁ ++ w₂, GenList.cons h1 h2, fun t ht => (List.mem_append.1 ht).elim (p1 t) (p2 t)⟩

theorem genList_of_forall (G : CFG) (u : List Sym) (h : ∀ x ∈ u, ∃ w, G.Gen x w) :
    ∃ w, G.GenList u w := by
  obtain ⟨w, hw, _⟩ := genList_over G (fun _ => True) u fun x hx =>
    (h x hx).imp fun _ hg => ⟨hg, fun _ _ => trivial⟩
  exact ⟨w, hw⟩

theorem genList_mem {G : CFG} {u : List Sym} {w : List String} {x : Sym} (h : G.GenList u w)
    (hx : x ∈ u) : ∃ w', G.Gen x w' := by
  obtain ⟨a, b, rfl⟩ := List.append_of_mem hx
  obtain ⟨_, _, _, _, h₂⟩ := (genList_append_iff G a (x :: b) w).mp h
  obtain ⟨w', _, _, hx', _⟩ := genList_cons_iff.mp h₂
  exact ⟨w', hx'⟩

theorem mem_iter_closeStep_iff (G : CFG) (T : List String) (s : Sym) :
    s ∈ iter G.closeStep (G.prods.length + 1) (T.map .ter) ↔ ∃ w, G.Gen s w ∧ ∀ t ∈ w, t ∈ T := by
  constructor
  · refine stepF_horn.iter_forall (iter_iter _) (fun x => ∃ w, G.Gen x w ∧ ∀ t ∈ w, t ∈ T)
      ?_ _ _ ?_ s
    · intro p hp hbody
      obtain ⟨w, hw, hT⟩ := genList_over G (· ∈ T) p.2 hbody
      exact ⟨w, Gen.var (body := p.2) hp hw, hT⟩
    · intro x hx
      obtain ⟨t, ht, rfl⟩ := List.mem_map.mp hx
      exact ⟨[t], Gen.ter t, fun _ h => List.mem_singleton.1 h ▸ ht⟩
  · rintro ⟨w, hg, hT⟩
    exact closed_complete G _ (iter_closed G _) hg fun t ht =>
      (iter_prefix G _ _).subset (List.mem_map.mpr ⟨t, hT t ht, rfl⟩)

theorem mem_generating (G : CFG) (s : Sym) :
    s ∈ G.generating ↔ ∃ w, G.Gen s w ∧ ∀ t ∈ w, t ∈ G.ters :=
  mem_iter_closeStep_iff G G.ters s

theorem mem_generating_of_gen {G : CFG} (hG : G.WF) {s : Sym} {w : List String} (h : G.Gen s w)
    (hs : ∀ t, s = .ter t → t ∈ G.ters) : s ∈ G.generating :=
  (mem_generating G s).2 ⟨w, h, C08.gen_ters hG h hs⟩

theorem mem_nullable (G : CFG) (s : Sym) : s ∈ G.nullable ↔ G.Gen s [] :=
  (mem_iter_closeStep_iff G [] s).trans
    ⟨fun ⟨_, hg, hw⟩ =>
      List.eq_nil_iff_forall_not_mem.2 (fun t ht => List.not_mem_nil (hw t ht)) ▸ hg,
     fun h => ⟨[], h, fun _ ht => absurd ht List.not_mem_nil⟩⟩

/-- the successor function used by `reachable` -/
def rnext (G : CFG) (x : Sym) : List Sym :=
  match x with
  | .var v => G.prods.flatMap fun p => if p.1 = v then p.2 else []
  | .ter _ => []

theorem mem_rnext (G : CFG) (x y : Sym) :
    y ∈ G.rnext x ↔ ∃ v body, x = .var v ∧ (v, body) ∈ G.prods ∧ y ∈ body := by
  cases x with
  | ter t => simp [rnext]
  | var v =>
    simp only [rnext, List.mem_flatMap]
    constructor
    · rintro ⟨p, hp, hy⟩
      by_cases hv : p.1 = v
      · rw [if_pos hv] at hy
        exact ⟨v, p.2, rfl, by rw [← hv]; exact hp, hy⟩
      · rw [if_neg hv] at hy; cases hy
    · rintro ⟨v', body, hv, hp, hy⟩
      cases hv
      exact ⟨(v, body), hp, by simpa using hy⟩

theorem reachable_eq (G : CFG) (s : String) (hs : G.start = some s) :
    G.reachable = (bfs G.rnext ((G.prods.flatMap (·.2)).length + 2) [Sym.var s]).getD [] := by
  unfold reachable; rw [hs]; rfl

theorem rnext_sub (G : CFG) (x y : Sym) (hy : y ∈ G.rnext x) : y ∈ G.prods.flatMap (·.2) := by
  obtain ⟨v, body, _, hp, hyb⟩ := (mem_rnext G x y).mp hy
  exact List.mem_flatMap.mpr ⟨(v, body), hp, hyb⟩

theorem reachable_bfs_isSome (G : CFG) (s : String) :
    (bfs G.rnext ((G.prods.flatMap (·.2)).length + 2) [Sym.var s]).isSome :=
  bfs_isSome_of_targets G.rnext _ (rnext_sub G) _ _ (by rw [List.length_singleton]; omega)

theorem mem_reachable_reach (G : CFG) (z : Sym) :
    z ∈ G.reachable ↔ ∃ s, G.start = some s ∧ Reach G.rnext (Sym.var s) z := by
  cases hst : G.start with
  | none => simp [reachable, hst]
  | some st =>
    rw [reachable_eq G st hst, mem_bfs_getD_iff G.rnext _ (rnext_sub G) _ _
      (by rw [List.length_singleton]; omega)]
    simp

theorem Clean.reachable_start {G : CFG} {st : String} (h : G.start = some st) :
    Sym.var st ∈ G.reachable :=
  (mem_reachable_reach G _).mpr ⟨st, h, .refl _⟩

theorem Clean.reachable_step {G : CFG} {h : String} {body : List Sym} {s : Sym}
    (hp : (h, body) ∈ G.prods) (hr : Sym.var h ∈ G.reachable) (hs : s ∈ body) :
    s ∈ G.reachable := by
  obtain ⟨st, hst, hr⟩ := (mem_reachable_reach G _).mp hr
  exact (mem_reachable_reach G s).mpr
    ⟨st, hst, hr.tail ((mem_rnext G _ s).mpr ⟨h, body, rfl, hp, hs⟩)⟩

/-- `reachable` holds the start symbol and, with the head of a production, its body
(`Clean.reachable_start`, `Clean.reachable_step`); it is the least such set. -/
theorem reachable_ind {G : CFG} {Q : Sym → Prop} (h0 : ∀ st, G.start = some st → Q (.var st))
    (hstep : ∀ h body, (h, body) ∈ G.prods → Sym.var h ∈ G.reachable → Q (.var h) →
      ∀ z ∈ body, Q z) {z : Sym} (hz : z ∈ G.reachable) : Q z := by
  obtain ⟨st, hst, hr⟩ := (mem_reachable_reach G z).mp hz
  clear hz
  induction hr with
  | refl => exact h0 st hst
  | tail hy hz ih =>
    obtain ⟨h, body, rfl, hp, hzb⟩ := (mem_rnext G _ _).mp hz
    exact hstep h body hp ((mem_reachable_reach G _).mpr ⟨st, hst, hy⟩) ih _ hzb

theorem derives_closed (G : CFG) (R : Sym → Prop) (hR : ∀ x y, R x → y ∈ G.rnext x → R y)
    {β α : List Sym} (h : G.Derives β α) : (∀ x ∈ β, R x) → ∀ x ∈ α, R x := by
  refine derives_inv G (fun γ => ∀ x ∈ γ, R x) (fun u h body v hp hγ => ?_) h
  simp only [List.forall_mem_append, List.forall_mem_singleton] at hγ ⊢
  exact ⟨⟨hγ.1.1, fun x hx => hR _ x hγ.1.2 ((mem_rnext G _ x).mpr ⟨h, body, rfl, hp, hx⟩)⟩, hγ.2⟩

end CFG
end Pfl
