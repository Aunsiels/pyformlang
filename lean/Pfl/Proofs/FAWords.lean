/-
Helper lemmas for C04_Words: bounded-language oracle, cycle oracle, `is_acyclic`,
`_get_states_leading_to_final`, `get_accepted_words`.
-/
import Pfl.Proofs.FAOracle
import Pfl.Proofs.FAEpsCopy
import Pfl.Proofs.WordLevels
import Pfl.Proofs.Walks
import Mathlib.Data.List.Basic
import Mathlib.Data.List.Nodup
namespace Pfl
namespace ENFA
variable {σ : Type} [DecidableEq σ]

theorem mem_wordsOfLen (syms : List Nat) (k : Nat) (w : List Nat) :
    w ∈ wordsOfLen syms k ↔ w.length = k ∧ ∀ a ∈ w, a ∈ syms :=
  Levels.mem ⟨rfl, fun _ => rfl⟩ k w

theorem wordsOfLen_nodup (syms : List Nat) (hs : syms.Nodup) (k : Nat) :
    (wordsOfLen syms k).Nodup :=
  Levels.nodup ⟨rfl, fun _ => rfl⟩ hs k

/-- backward successor function used by `leadingToFinal` -/
def preds (A : ENFA σ) (q : σ) : List σ :=
  A.delta.filterMap fun t => if t.2.2 = q then some t.1 else none

theorem mem_preds (A : ENFA σ) (q p : σ) :
    p ∈ A.preds q ↔ ∃ a, (p, a, q) ∈ A.delta := by
  unfold preds
  rw [mem_filterMap_ite]
  constructor
  · rintro ⟨⟨x, b, y⟩, ht, rfl, rfl⟩
    exact ⟨b, ht⟩
  · exact fun ⟨a, h⟩ => ⟨_, h, rfl, rfl⟩

theorem reach_preds_iff (A : ENFA σ) (f q : σ) :
    Reach A.preds f q ↔ ∃ w, A.Run q w f := by
  constructor
  · intro h
    induction h with
    | refl => exact ⟨[], Run.nil f⟩
    | tail _ hz ih =>
      obtain ⟨w, hw⟩ := ih
      obtain ⟨a, ha⟩ := (mem_preds A _ _).mp hz
      cases a with
      | none => exact ⟨w, Run.eps ha hw⟩
      | some a => exact ⟨a :: w, Run.step ha hw⟩
  · rintro ⟨w, hw⟩
    induction hw with
    | nil q => exact Reach.refl q
    | eps h _ ih => exact Reach.tail ih ((mem_preds A _ _).mpr ⟨_, h⟩)
    | step h _ ih => exact Reach.tail ih ((mem_preds A _ _).mpr ⟨_, h⟩)

theorem mem_leadingToFinal_iff' (A : ENFA σ) (q : σ) :
    q ∈ A.leadingToFinal ↔ ∃ w, ∃ f ∈ A.finals, A.Run q w f := by
  have h := mem_bfs_getD_iff A.preds (A.delta.map (·.1))
    (fun x y hy => List.mem_map.mpr ⟨_, ((mem_preds A x y).mp hy).choose_spec, rfl⟩) A.finals
    (A.delta.length + A.finals.length + 1) (by rw [List.length_map]; omega) q
  refine h.trans ?_
  simp only [reach_preds_iff]
  constructor
  · rintro ⟨f, hf, w, hw⟩; exact ⟨w, f, hf, hw⟩
  · rintro ⟨w, f, hf, hw⟩; exact ⟨f, hf, w, hw⟩

theorem mem_cycle_bfs_iff (A : ENFA σ) (r q : σ) :
    q ∈ (bfs A.outs (A.delta.length + 2) [r]).getD [] ↔ Reach A.outs r q :=
  (mem_bfs_getD_iff A.outs _ (outs_targets A) [r] _
    (by rw [List.length_map, List.length_singleton]; omega) q).trans (by simp)

theorem acyclicLoop_nil (A : ENFA σ) (fuel : Nat) : A.acyclicLoop fuel [] = some true := by
  cases fuel <;> rfl

theorem acyclicLoop_cons (A : ENFA σ) (fuel : Nat) (q : σ) (vis : List σ)
    (rest : List (σ × List σ)) :
    A.acyclicLoop (fuel + 1) ((q, vis) :: rest) =
      if q ∈ vis then some false
      else A.acyclicLoop fuel ((A.outs q).reverse.map (fun r => (r, q :: vis)) ++ rest) := rfl

theorem acyclicLoop_spec (A : ENFA σ) :
    ∀ fuel stk b, A.acyclicLoop fuel stk = some b →
      (b = true ↔ ∀ e ∈ stk, ¬ Closes A.outs e.1 e.2) := by
  intro fuel stk
  fun_induction acyclicLoop A fuel stk with
  | case1 => rintro _ ⟨⟩; exact ⟨fun _ _ he => (nomatch he), fun _ => rfl⟩
  | case2 => exact fun _ h => nomatch h
  | case3 fuel q vis rest hq =>
    rintro _ ⟨⟩
    exact ⟨fun h => (nomatch h), fun h => (h _ List.mem_cons_self (closes_iff.mpr (Or.inl hq))).elim⟩
  | case4 fuel q vis rest hq ih =>
    -- `(q, vis)` closes through one of its children, which have taken its place
    intro b h
    rw [ih b h, List.forall_mem_append, List.forall_mem_cons, closes_iff (q := q)]
    simp only [List.forall_mem_map, List.mem_reverse, hq, false_or, not_exists, not_and]

def lenOK (maxLen : Option Nat) (w : List Nat) : Prop :=
  match maxLen with
  | some n => w.length ≤ n
  | none => True

def ext (w : List Nat) (a : Option Nat) : List Nat :=
  match a with
  | some a => w ++ [a]
  | none => w

/-- the pairs queued when `(q, w)` is expanded -/
def newPairs (A : ENFA σ) (lead : List σ) (q : σ) (w : List Nat) : List (σ × List Nat) :=
  (A.edgesFrom q).filterMap fun e => if e.2 ∈ lead then some (e.2, ext w e.1) else none

theorem Run.extend {A : ENFA σ} {s q r : σ} {w : List Nat} {a : Option Nat} (hr : A.Run s w q)
    (he : (q, a, r) ∈ A.delta) : A.Run s (ext w a) r := by
  cases a with
  | none => exact Run.snoc_eps hr he
  | some a => exact Run.snoc hr he

theorem lenOK_nil (maxLen : Option Nat) : lenOK maxLen [] := by
  cases maxLen <;> simp [lenOK]

theorem lenOK_of_append (maxLen : Option Nat) (u v : List Nat) (h : lenOK maxLen (u ++ v)) :
    lenOK maxLen u := by
  cases maxLen with
  | none => trivial
  | some n => simp only [lenOK, List.length_append] at h ⊢; omega

theorem mem_edgesFrom (A : ENFA σ) (q : σ) (e : Option Nat × σ) :
    e ∈ A.edgesFrom q ↔ (q, e.1, e.2) ∈ A.delta := by
  unfold edgesFrom
  rw [mem_filterMap_ite]
  constructor
  · rintro ⟨⟨x, b, y⟩, ht, rfl, rfl⟩
    exact ht
  · exact fun h => ⟨_, h, rfl, rfl⟩

theorem mem_newPairs (A : ENFA σ) (lead : List σ) (q : σ) (w : List Nat) (p : σ × List Nat) :
    p ∈ A.newPairs lead q w ↔
      ∃ a, (q, a, p.1) ∈ A.delta ∧ p.1 ∈ lead ∧ p.2 = ext w a := by
  unfold newPairs
  simp only [mem_filterMap_ite, mem_edgesFrom]
  constructor
  · rintro ⟨e, he, hl, rfl⟩
    exact ⟨e.1, he, hl, rfl⟩
  · rintro ⟨a, ha, hl, hp⟩
    exact ⟨(a, p.1), ha, hl, by rw [← hp]⟩

theorem wordsLoop_nil (A : ENFA σ) (lead : List σ) (maxLen : Option Nat) (fuel : Nat)
    (wbs : List (σ × List Nat)) (out : List (List Nat)) :
    A.wordsLoop lead maxLen fuel [] wbs out = some out.reverse := by
  cases fuel <;> rfl

theorem lenOK_iff_test (maxLen : Option Nat) (w : List Nat) :
    lenOK maxLen w ↔
      ¬ (match maxLen with | some n => decide (w.length > n) | none => false) = true := by
  cases maxLen <;> simp [lenOK]

/-- Loop invariant of `wordsLoop` (`wbs` = the entries already expanded).  `run`, `len`, `out_sound`
give soundness of `out`.  Completeness, read off when the queue is empty: `start` and `closed` say that
queue ∪ `wbs` holds every (state, word) reachable through states of `lead` within the length test,
`yield` that every expanded entry at a final state has delivered its word. -/
structure WInv (A : ENFA σ) (lead : List σ) (maxLen : Option Nat)
    (queue wbs : List (σ × List Nat)) (out : List (List Nat)) : Prop where
  run : ∀ p, p ∈ queue ∨ p ∈ wbs → ∃ s ∈ A.starts, A.Run s p.2 p.1
  len : ∀ p ∈ wbs, lenOK maxLen p.2
  out_sound : ∀ w ∈ out, ∃ q ∈ A.finals, (q, w) ∈ wbs
  nodup : out.Nodup
  start : ∀ s ∈ A.starts, (s, []) ∈ queue ∨ (s, []) ∈ wbs
  closed : ∀ p ∈ wbs, ∀ a r, (p.1, a, r) ∈ A.delta → r ∈ lead → lenOK maxLen (ext p.2 a) →
    (r, ext p.2 a) ∈ queue ∨ (r, ext p.2 a) ∈ wbs
  yield : ∀ p ∈ wbs, p.1 ∈ A.finals → p.2 ∈ out

omit [DecidableEq σ] in
/-- the head entry is dropped when it is already in `wbs` or too long: whoever needed it in the
queue finds it in `wbs`, or did not need it -/
theorem WInv.drop {A : ENFA σ} {lead : List σ} {maxLen : Option Nat} {q : σ} {w : List Nat}
    {queue wbs : List (σ × List Nat)} {out : List (List Nat)}
    (hi : WInv A lead maxLen ((q, w) :: queue) wbs out) (h : (q, w) ∈ wbs ∨ ¬ lenOK maxLen w) :
    WInv A lead maxLen queue wbs out := by
  have key : ∀ p : σ × List Nat, lenOK maxLen p.2 → p ∈ (q, w) :: queue ∨ p ∈ wbs →
      p ∈ queue ∨ p ∈ wbs := by
    intro p hl hp
    rcases hp with hp | hp
    · rcases List.mem_cons.mp hp with rfl | hp
      · exact Or.inr (h.resolve_right (fun hn => hn hl))
      · exact Or.inl hp
    · exact Or.inr hp
  exact ⟨fun p hp => hi.run p (hp.imp_left (List.mem_cons_of_mem _)), hi.len, hi.out_sound,
    hi.nodup, fun s hs => key (s, []) (lenOK_nil maxLen) (hi.start s hs),
    fun p hp a r ha hr hl => key _ hl (hi.closed p hp a r ha hr hl), hi.yield⟩

theorem WInv.expand {A : ENFA σ} {lead : List σ} {maxLen : Option Nat} {q : σ} {w : List Nat}
    {queue wbs : List (σ × List Nat)} {out : List (List Nat)}
    (hi : WInv A lead maxLen ((q, w) :: queue) wbs out) (h : lenOK maxLen w) :
    WInv A lead maxLen (queue ++ A.newPairs lead q w) ((q, w) :: wbs)
      (if q ∈ A.finals ∧ w ∉ out then w :: out else out) := by
  have hqw : ∃ s ∈ A.starts, A.Run s w q := hi.run (q, w) (Or.inl List.mem_cons_self)
  -- whoever was in the queue or in `wbs` still is: the head entry has moved to `wbs`
  have key : ∀ p : σ × List Nat, p ∈ (q, w) :: queue ∨ p ∈ wbs →
      p ∈ queue ++ A.newPairs lead q w ∨ p ∈ (q, w) :: wbs := by
    rintro p (hp | hp)
    · rcases List.mem_cons.mp hp with rfl | hp
      · exact Or.inr List.mem_cons_self
      · exact Or.inl (List.mem_append_left _ hp)
    · exact Or.inr (List.mem_cons_of_mem _ hp)
  refine ⟨?_, ?_, ?_, ?_, fun s hs => key _ (hi.start s hs), ?_, ?_⟩
  · intro p hp
    rcases hp with hp | hp
    · rcases List.mem_append.mp hp with hp | hp
      · exact hi.run p (Or.inl (List.mem_cons_of_mem _ hp))
      · obtain ⟨a, ha, _, hp2⟩ := (mem_newPairs A lead q w p).mp hp
        obtain ⟨s, hs, hr⟩ := hqw
        exact ⟨s, hs, hp2 ▸ hr.extend ha⟩
    · rcases List.mem_cons.mp hp with rfl | hp
      · exact hqw
      · exact hi.run p (Or.inr hp)
  · intro p hp
    rcases List.mem_cons.mp hp with rfl | hp
    · exact h
    · exact hi.len p hp
  · intro v hv
    split at hv
    · rename_i hc
      rcases List.mem_cons.mp hv with rfl | hv
      · exact ⟨q, hc.1, List.mem_cons_self⟩
      · obtain ⟨f, hf, hm⟩ := hi.out_sound v hv
        exact ⟨f, hf, List.mem_cons_of_mem _ hm⟩
    · obtain ⟨f, hf, hm⟩ := hi.out_sound v hv
      exact ⟨f, hf, List.mem_cons_of_mem _ hm⟩
  · split
    · rename_i hc
      exact List.nodup_cons.mpr ⟨hc.2, hi.nodup⟩
    · exact hi.nodup
  · intro p hp a r ha hr hl
    rcases List.mem_cons.mp hp with rfl | hp
    · exact Or.inl (List.mem_append_right _ ((mem_newPairs A lead _ _ _).mpr ⟨a, ha, hr, rfl⟩))
    · exact key _ (hi.closed p hp a r ha hr hl)
  · intro p hp hf
    rcases List.mem_cons.mp hp with rfl | hp
    · split
      · exact List.mem_cons_self
      · rename_i hc
        by_contra hn
        exact hc ⟨hf, hn⟩
    · have := hi.yield p hp hf
      split
      · exact List.mem_cons_of_mem _ this
      · exact this

theorem wordsLoop_inv (A : ENFA σ) (lead : List σ) (maxLen : Option Nat) :
    ∀ fuel queue wbs out ws, A.wordsLoop lead maxLen fuel queue wbs out = some ws →
      WInv A lead maxLen queue wbs out →
      ∃ wbs' out', WInv A lead maxLen [] wbs' out' ∧ ws = out'.reverse := by
  intro fuel queue wbs out
  fun_induction wordsLoop A lead maxLen fuel queue wbs out with
  | case1 _ wbs out =>
    rintro _ ⟨⟩ hi
    exact ⟨wbs, out, hi, rfl⟩
  | case2 => exact fun _ h => nomatch h
  | case3 fuel q w queue wbs out hlong ih =>
    exact fun ws h hi => ih ws h (hi.drop (Or.inr fun hl => (lenOK_iff_test maxLen w).mp hl hlong))
  | case4 fuel q w queue wbs out _ hmem ih => exact fun ws h hi => ih ws h (hi.drop (Or.inl hmem))
  | case5 fuel q w queue wbs out hlong _ new out' ih =>
    -- `new` is `A.newPairs lead q w`
    exact fun ws h hi => ih ws h (hi.expand ((lenOK_iff_test maxLen w).mpr hlong))

omit [DecidableEq σ] in
theorem WInv.complete {A : ENFA σ} {lead : List σ} {maxLen : Option Nat}
    {wbs : List (σ × List Nat)} {out : List (List Nat)}
    (hi : WInv A lead maxLen [] wbs out)
    (hlead : ∀ q, (∃ w, ∃ f ∈ A.finals, A.Run q w f) → q ∈ lead)
    {q f : σ} {v : List Nat} (hr : A.Run q v f) (hf : f ∈ A.finals) :
    ∀ u, (q, u) ∈ wbs → lenOK maxLen (u ++ v) → (f, u ++ v) ∈ wbs := by
  induction hr with
  | nil q => intro u hu _; simpa using hu
  | @eps q r s v he hr ih =>
    intro u hu hl
    have hrl : r ∈ lead := hlead r ⟨v, s, hf, hr⟩
    have := hi.closed (q, u) hu none r he hrl (lenOK_of_append maxLen u v hl)
    simp only [List.not_mem_nil, false_or, ext] at this
    exact ih hf u this hl
  | @step q r s a v he hr ih =>
    intro u hu hl
    have hrl : r ∈ lead := hlead r ⟨v, s, hf, hr⟩
    have hl' : lenOK maxLen ((u ++ [a]) ++ v) := by simpa using hl
    have := hi.closed (q, u) hu (some a) r he hrl (lenOK_of_append maxLen (u ++ [a]) v hl')
    simp only [List.not_mem_nil, false_or, ext] at this
    have := ih hf (u ++ [a]) this hl'
    simpa using this

theorem wordsLoop_exact (A : ENFA σ) (maxLen : Option Nat) (fuel : Nat) (ws : List (List Nat))
    (h : A.acceptedWords maxLen fuel = some ws) :
    ws.Nodup ∧ ∀ w, w ∈ ws ↔ lenOK maxLen w ∧ A.Lang w := by
  unfold acceptedWords at h
  have h0 : WInv A A.leadingToFinal maxLen (A.starts.map fun q => (q, [])) [] [] := by
    refine ⟨?_, ?_, ?_, List.nodup_nil, ?_, ?_, ?_⟩
    · intro p hp
      rcases hp with hp | hp
      · obtain ⟨s, hs, rfl⟩ := List.mem_map.mp hp
        exact ⟨s, hs, Run.nil s⟩
      · cases hp
    · intro p hp; cases hp
    · intro w hw; cases hw
    · intro s hs; exact Or.inl (List.mem_map.mpr ⟨s, hs, rfl⟩)
    · intro p hp; cases hp
    · intro p hp; cases hp
  obtain ⟨wbs, out, hi, rfl⟩ := wordsLoop_inv A _ maxLen fuel _ _ _ ws h h0
  refine ⟨List.nodup_reverse.mpr hi.nodup, ?_⟩
  intro w
  rw [List.mem_reverse]
  constructor
  · intro hw
    obtain ⟨f, hf, hm⟩ := hi.out_sound w hw
    obtain ⟨s, hs, hr⟩ := hi.run (f, w) (Or.inr hm)
    exact ⟨hi.len _ hm, s, hs, f, hf, hr⟩
  · rintro ⟨hl, s, hs, f, hf, hr⟩
    have hs0 : (s, []) ∈ wbs := by
      have := hi.start s hs
      simpa using this
    have := hi.complete (fun q hq => (mem_leadingToFinal_iff' A q).mpr hq) hr hf [] hs0
      (by simpa using hl)
    exact hi.yield (f, [] ++ w) this hf

end ENFA
end Pfl
