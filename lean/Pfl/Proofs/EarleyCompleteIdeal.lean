/-
The ideal (ground) Earley items of the instantiated grammar, by the usual deduction rules, and
their completeness: a word of the language yields a completed start item over the whole word.
-/
import Pfl.Proofs.EarleyCompleteAdvance
import Pfl.Proofs.CFGClean
namespace Pfl
namespace Earley
namespace Cmp
open FsDag FsDag.Lem Lem

/-- the ground items derivable by initialisation, prediction, scanning and completion -/
inductive Ideal (C : Ctx) : Item → Prop
  | init : Ideal C ⟨C.spec.length, [], 0, 0, 0⟩
  | predict {k : Nat} {env : Env} {b e dot : Nat} {X : String} {f : Feat} {k' : Nat}
      {pr' : (String × Feat) × List (Sym × Feat)} {env' : Env} :
      Ideal C ⟨k, env, b, e, dot⟩ → (prX C k).2[dot]? = some (Sym.var X, f) →
      C.spec[k']? = some pr' → pr'.1.1 = X → C.okEnv k' env' → Ideal C ⟨k', env', e, e, 0⟩
  | scan {k : Nat} {env : Env} {b e dot : Nat} {t : String} {f : Feat} :
      Ideal C ⟨k, env, b, e, dot⟩ → (prX C k).2[dot]? = some (Sym.ter t, f) →
      C.word[e]? = some t → Ideal C ⟨k, env, b, e + 1, dot + 1⟩
  | complete {k : Nat} {env : Env} {b m dot : Nat} {X : String} {f : Feat} {k' : Nat}
      {pr' : (String × Feat) × List (Sym × Feat)} {env' : Env} {e : Nat} :
      Ideal C ⟨k, env, b, m, dot⟩ → (prX C k).2[dot]? = some (Sym.var X, f) →
      C.spec[k']? = some pr' → pr'.1.1 = X → Ideal C ⟨k', env', m, e, pr'.2.length⟩ →
      f.map (C.vf env) = pr'.1.2.map (C.vf env') → Ideal C ⟨k, env, b, e, dot + 1⟩

/-- what the completeness of the deduction rules needs to know about the target grammar -/
structure TgtOK (C : Ctx) : Prop where
  /-- the productions for an instantiated occurrence are instances of productions of that variable
  with the same value -/
  occ_prod : ∀ (k : Nat) (pr : (String × Feat) × List (Sym × Feat)) (env : Env) (d : Nat)
    (X : String) (f : Feat) (body : List Sym), C.spec[k]? = some pr → C.okEnv k env →
    pr.2[d]? = some (Sym.var X, f) → (nmOf C.vf env X f, body) ∈ C.tgt.prods →
    ∃ k' pr' env', C.spec[k']? = some pr' ∧ C.okEnv k' env' ∧ pr'.1.1 = X ∧
      f.map (C.vf env) = pr'.1.2.map (C.vf env') ∧ body = ibody C.vf env' pr'.2
  /-- a word of the language is generated by the body of an instance of a start production -/
  top : C.tgt.Lang C.word → ∃ k' pr' env', C.spec[k']? = some pr' ∧ C.okEnv k' env' ∧
    pr'.1.1 = C.G.start ∧ C.tgt.GenList (ibody C.vf env' pr'.2) C.word

theorem getElem?_of_drop {α : Type} {l : List α} {m : Nat} {a : α} {r : List α}
    (h : l.drop m = a :: r) : l[m]? = some a := by
  rw [← Nat.add_zero m, ← List.getElem?_drop, h]; rfl

theorem drop_add_of_drop {α : Type} {l : List α} {m : Nat} {a r : List α}
    (h : l.drop m = a ++ r) : l.drop (m + a.length) = r := by
  rw [← List.drop_drop, h, List.drop_left]

/-- the instantiated symbol of an occurrence -/
def isym (vf : Env → String → String) (env : Env) (it : Sym × Feat) : Sym :=
  match it.1 with
  | .ter t => Sym.ter t
  | .var x => Sym.var (nmOf vf env x it.2)

theorem ibody_eq_map (vf : Env → String → String) (env : Env) (body : List (Sym × Feat)) :
    ibody vf env body = body.map (isym vf env) := rfl

/-- a derivation from the rest of a body moves the dot to its end: the word and the body are read off
by `drop`, so that a split of the word generated is a split of the position -/
theorem ideal_gen {C : Ctx} (hT : TgtOK C) :
    (∀ s u, C.tgt.Gen s u → ∀ (k : Nat) (pr : (String × Feat) × List (Sym × Feat)) (env : Env)
      (b m d : Nat) (it : Sym × Feat) (rest : List (Sym × Feat)) (post : List String),
      C.spec[k]? = some pr → C.okEnv k env → pr.2.drop d = it :: rest → s = isym C.vf env it →
      C.word.drop m = u ++ post → Ideal C ⟨k, env, b, m, d⟩ →
      Ideal C ⟨k, env, b, m + u.length, d + 1⟩) ∧
    (∀ l u, C.tgt.GenList l u → ∀ (k : Nat) (pr : (String × Feat) × List (Sym × Feat)) (env : Env)
      (b m d : Nat) (rest : List (Sym × Feat)) (post : List String),
      C.spec[k]? = some pr → C.okEnv k env → pr.2.drop d = rest → l = ibody C.vf env rest →
      C.word.drop m = u ++ post → Ideal C ⟨k, env, b, m, d⟩ →
      Ideal C ⟨k, env, b, m + u.length, d + rest.length⟩) := by
  apply CFG.Clean.gen_ind
  · -- terminal
    intro t k pr env b m d it rest post hk _ hd hs hw hid
    obtain ⟨sym, f⟩ := it
    cases sym with
    | var x => exact nomatch hs
    | ter t' =>
      cases hs
      exact Ideal.scan hid (by rw [prX_spec hk]; exact getElem?_of_drop hd) (getElem?_of_drop hw)
  · -- variable
    intro h body w hp _ ih k pr env b m d it rest post hk hok hd hs hw hid
    obtain ⟨sym, f⟩ := it
    cases sym with
    | ter t' => exact nomatch hs
    | var X =>
      cases hs
      have hit := getElem?_of_drop hd
      obtain ⟨k', pr', env', hk', hok', hX, hag, rfl⟩ := hT.occ_prod k pr env d X f body hk hok hit hp
      have hpX : (prX C k).2[d]? = some (Sym.var X, f) := by rw [prX_spec hk]; exact hit
      have h2 := ih k' pr' env' m m 0 _ post hk' hok' rfl rfl hw (Ideal.predict hid hpX hk' hX hok')
      rw [Nat.zero_add] at h2
      exact Ideal.complete hid hpX hk' hX h2 hag
  · -- empty list
    intro k pr env b m d rest post _ _ _ hl _ hid
    cases rest with
    | nil => exact hid
    | cons it rest => exact nomatch hl
  · -- cons
    intro s l w1 w2 _ _ ih1 ih2 k pr env b m d rest post hk hok hd hl hw hid
    cases rest with
    | nil => exact nomatch hl
    | cons it rest =>
      obtain ⟨hs, hl⟩ := List.cons.inj hl
      rw [List.append_assoc] at hw
      have h2 := ih2 k pr env b (m + w1.length) (d + 1) rest post hk hok
        (drop_add_of_drop (a := [it]) hd) hl (drop_add_of_drop hw)
        (ih1 k pr env b m d it rest _ hk hok hd hs hw hid)
      rw [List.length_append, ← Nat.add_assoc, List.length_cons, Nat.add_comm rest.length, ← Nat.add_assoc]
      exact h2

theorem ideal_final {C : Ctx} (hT : TgtOK C) (hL : C.tgt.Lang C.word) :
    ∃ k pr env, C.spec[k]? = some pr ∧ pr.1.1 = C.G.start ∧
      Ideal C ⟨k, env, 0, C.word.length, pr.2.length⟩ := by
  obtain ⟨k', pr', env', hk', hok', hst, hgl⟩ := hT.top hL
  have hg : (prX C C.spec.length).2[0]? = some (Sym.var C.G.start, none) := by
    rw [prX_gamma (List.getElem?_eq_none (Nat.le_refl _))]; rfl
  have h2 := (ideal_gen hT).2 _ _ hgl k' pr' env' 0 0 0 _ [] hk' hok' rfl rfl
    (List.append_nil _).symm (Ideal.predict Ideal.init hg hk' hst hok')
  rw [Nat.zero_add, Nat.zero_add] at h2
  exact ⟨k', pr', env', hk', hst, h2⟩

end Cmp
end Earley
end Pfl
