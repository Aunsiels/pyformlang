/-
Base lemmas shared by all FA proofs: the fields of `ofParts`, runs, ε-closure, letter-by-letter
runs (`RunC`) and the folds over sets of states that follow them (set-based evaluation); upper
bounds on a language by a labelling of the states (`Bound`, `Then`); runs over the codes of a word
of strings (`RunOn`).
-/
import Pfl.Spec.FA
import Pfl.Proofs.ListBasics
import Pfl.Proofs.Search
namespace Pfl

namespace ENFA
variable {σ : Type} [DecidableEq σ]

omit [DecidableEq σ] in
theorem mem_filterMap_ite {α β : Type} (l : List α) (P : α → Prop) [DecidablePred P] (v : α → β)
    (b : β) : b ∈ l.filterMap (fun t => if P t then some (v t) else none) ↔
      ∃ t ∈ l, P t ∧ v t = b := by
  simp only [List.mem_filterMap, Option.ite_none_right_eq_some, Option.some.injEq]

theorem mem_succs (A : ENFA σ) (q r : σ) (a : Option Nat) :
    r ∈ A.succs q a ↔ (q, a, r) ∈ A.delta := by
  unfold succs
  rw [mem_filterMap_ite]
  constructor
  · rintro ⟨⟨x, b, y⟩, ht, ⟨rfl, rfl⟩, rfl⟩
    exact ht
  · exact fun h => ⟨_, h, ⟨rfl, rfl⟩, rfl⟩

theorem mem_ofParts_starts (s f : List σ) (d : List (σ × Option Nat × σ)) (q : σ) :
    q ∈ (ofParts s f d).starts ↔ q ∈ s := by
  simp [ofParts]

theorem mem_ofParts_finals (s f : List σ) (d : List (σ × Option Nat × σ)) (q : σ) :
    q ∈ (ofParts s f d).finals ↔ q ∈ f := by
  simp [ofParts]

theorem mem_ofParts_delta (s f : List σ) (d : List (σ × Option Nat × σ)) (t : σ × Option Nat × σ) :
    t ∈ (ofParts s f d).delta ↔ t ∈ d := by
  simp [ofParts]

theorem mem_ofParts_states (s f : List σ) (d : List (σ × Option Nat × σ)) (q : σ) :
    q ∈ (ofParts s f d).states ↔ q ∈ s ∨ q ∈ f ∨ ∃ t ∈ d, q = t.1 ∨ q = t.2.2 := by
  simp only [ofParts, List.mem_eraseDups, List.mem_append, List.mem_flatMap, List.mem_cons,
    List.not_mem_nil, or_false, or_assoc]

theorem mem_ofParts_syms (s f : List σ) (d : List (σ × Option Nat × σ)) (a : Nat) :
    a ∈ (ofParts s f d).syms ↔ ∃ t ∈ d, t.2.1 = some a := by
  simp only [ofParts, List.mem_eraseDups, List.mem_filterMap]

theorem ofParts_wf (s f : List σ) (d : List (σ × Option Nat × σ)) : (ofParts s f d).WF := by
  refine ⟨?_, ?_, ?_, ?_, ?_⟩
  · intro q hq
    exact (mem_ofParts_states s f d q).mpr (Or.inl ((mem_ofParts_starts s f d q).mp hq))
  · intro q hq
    exact (mem_ofParts_states s f d q).mpr (Or.inr (Or.inl ((mem_ofParts_finals s f d q).mp hq)))
  · intro t ht
    exact (mem_ofParts_states s f d _).mpr
      (Or.inr (Or.inr ⟨t, (mem_ofParts_delta s f d t).mp ht, Or.inl rfl⟩))
  · intro t ht
    exact (mem_ofParts_states s f d _).mpr
      (Or.inr (Or.inr ⟨t, (mem_ofParts_delta s f d t).mp ht, Or.inr rfl⟩))
  · intro t ht a ha
    exact (mem_ofParts_syms s f d a).mpr ⟨t, (mem_ofParts_delta s f d t).mp ht, ha⟩

omit [DecidableEq σ] in
theorem Run.append {A : ENFA σ} {q r s : σ} {u v : List Nat}
    (h₁ : A.Run q u r) (h₂ : A.Run r v s) : A.Run q (u ++ v) s := by
  induction h₁ with
  | nil => exact h₂
  | eps he _ ih => exact Run.eps he (ih h₂)
  | step he _ ih => exact Run.step he (ih h₂)

omit [DecidableEq σ] in
theorem Run.snoc {A : ENFA σ} {q r s : σ} {w : List Nat} {a : Nat}
    (h : A.Run q w r) (he : (r, some a, s) ∈ A.delta) : A.Run q (w ++ [a]) s :=
  Run.append h (Run.step he (Run.nil s))

omit [DecidableEq σ] in
theorem Run.snoc_eps {A : ENFA σ} {q r s : σ} {w : List Nat}
    (h : A.Run q w r) (he : (r, none, s) ∈ A.delta) : A.Run q w s := by
  have := Run.append h (Run.eps he (Run.nil s))
  simpa using this

theorem Run.embed {σ ρ : Type} {A : ENFA σ} {K : ENFA ρ} (f : σ → ρ)
    (h : ∀ q a r, (q, a, r) ∈ A.delta → (f q, a, f r) ∈ K.delta) {q r : σ} {w : List Nat}
    (hr : A.Run q w r) : K.Run (f q) w (f r) := by
  induction hr with
  | nil q => exact Run.nil _
  | eps he _ ih => exact Run.eps (h _ _ _ he) ih
  | step he _ ih => exact Run.step (h _ _ _ he) ih

theorem Run.mono {σ : Type} {A B : ENFA σ} (h : ∀ t ∈ A.delta, t ∈ B.delta) {q r : σ} {w : List Nat}
    (hr : A.Run q w r) : B.Run q w r :=
  Run.embed id (fun _ _ _ he => h _ he) hr

theorem run_congr {σ : Type} {A B : ENFA σ} (hd : ∀ t, t ∈ A.delta ↔ t ∈ B.delta) (q r : σ)
    (w : List Nat) : A.Run q w r ↔ B.Run q w r :=
  ⟨Run.mono (fun t ht => (hd t).mp ht), Run.mono (fun t ht => (hd t).mpr ht)⟩

theorem lang_congr {σ : Type} {A B : ENFA σ} (hs : ∀ q, q ∈ A.starts ↔ q ∈ B.starts)
    (hf : ∀ q, q ∈ A.finals ↔ q ∈ B.finals) (hd : ∀ t, t ∈ A.delta ↔ t ∈ B.delta)
    (w : List Nat) : A.Lang w ↔ B.Lang w := by
  unfold Lang
  constructor
  · rintro ⟨s, hs', f, hf', hr⟩
    exact ⟨s, (hs s).mp hs', f, (hf f).mp hf', (run_congr hd s f w).mp hr⟩
  · rintro ⟨s, hs', f, hf', hr⟩
    exact ⟨s, (hs s).mpr hs', f, (hf f).mpr hf', (run_congr hd s f w).mpr hr⟩

theorem Run.mem_states {σ : Type} {A : ENFA σ} (hA : A.WF) {q r : σ} {w : List Nat}
    (h : A.Run q w r) (hq : q ∈ A.states) : r ∈ A.states := by
  induction h with
  | nil q => exact hq
  | eps he _ ih => exact ih (hA.delta_dst _ he)
  | step he _ ih => exact ih (hA.delta_dst _ he)

theorem reach_eps_iff (A : ENFA σ) (q r : σ) :
    Reach (fun x => A.succs x none) q r ↔ A.Run q [] r := by
  constructor
  · intro h
    induction h with
    | refl => exact Run.nil q
    | tail _ hz ih =>
      have := Run.append ih (Run.eps ((mem_succs A _ _ none).mp hz) (Run.nil _))
      simpa using this
  · intro h
    generalize hw : ([] : List Nat) = w at h
    induction h with
    | nil => exact Reach.refl _
    | eps he _ ih => exact Reach.head ((mem_succs A _ _ none).mpr he) (ih hw)
    | step _ _ _ => cases hw

theorem succs_targets (A : ENFA σ) (a : Option Nat) (x y : σ) (hy : y ∈ A.succs x a) :
    y ∈ A.delta.map (·.2.2) :=
  List.mem_map.mpr ⟨_, (mem_succs A x y a).mp hy, rfl⟩

theorem eclose_isSome (A : ENFA σ) (q : σ) :
    (bfs (fun x => A.succs x none) (A.delta.length + 1) [q]).isSome :=
  bfs_isSome_of_targets _ _ (succs_targets A none) [q] _
    (by rw [List.length_map]; exact Nat.le_of_eq (Nat.add_comm _ _))

theorem mem_eclose_iff (A : ENFA σ) (q r : σ) : r ∈ A.eclose q ↔ A.EpsReach q r := by
  unfold eclose EpsReach
  rw [mem_bfs_getD_iff _ _ (succs_targets A none) [q] _
    (by rw [List.length_map]; exact Nat.le_of_eq (Nat.add_comm _ _)), ← reach_eps_iff]
  simp

theorem mem_ecloseL_iff (A : ENFA σ) (S : List σ) (r : σ) :
    r ∈ A.ecloseL S ↔ ∃ q ∈ S, A.EpsReach q r := by
  unfold ecloseL
  simp only [List.mem_eraseDups, List.mem_flatMap, mem_eclose_iff]

theorem ecloseL_states (A : ENFA σ) (hA : A.WF) (S : List σ) (hS : ∀ q ∈ S, q ∈ A.states) :
    ∀ r ∈ A.ecloseL S, r ∈ A.states := by
  intro r hr
  obtain ⟨q, hq, hqr⟩ := (mem_ecloseL_iff A S r).mp hr
  exact Run.mem_states hA hqr (hS q hq)

theorem mem_nextL_iff (A : ENFA σ) (S : List σ) (a : Option Nat) (r : σ) :
    r ∈ A.nextL S a ↔ ∃ q ∈ S, (q, a, r) ∈ A.delta := by
  unfold nextL
  simp only [List.mem_eraseDups, List.mem_flatMap, mem_succs]

set_option linter.unusedSectionVars false in
theorem run_cons_iff (A : ENFA σ) (q s : σ) (a : Nat) (w : List Nat) :
    A.Run q (a :: w) s ↔ ∃ p r, A.EpsReach q p ∧ (p, some a, r) ∈ A.delta ∧ A.Run r w s := by
  constructor
  · intro h
    generalize hv : a :: w = v at h
    induction h with
    | nil => cases hv
    | eps he _ ih =>
      obtain ⟨p, r, h1, h2, h3⟩ := ih hv
      exact ⟨p, r, Run.eps he h1, h2, h3⟩
    | step he hr _ =>
      cases hv
      exact ⟨_, _, Run.nil _, he, hr⟩
  · rintro ⟨p, r, h1, h2, h3⟩
    have := Run.append h1 (Run.step h2 h3)
    simpa using this

/-- letter-by-letter run: each step is an `a`-edge followed by ε-moves; no leading ε-moves.  This
is what the set constructions follow (product, subset construction, set-based evaluation): from
any set of states, closed under ε-moves or not, they reach its image under `RunC`. -/
inductive RunC (A : ENFA σ) : σ → List Nat → σ → Prop
  | nil (q : σ) : RunC A q [] q
  | cons {q r r' s : σ} {a : Nat} {w : List Nat} :
      (q, some a, r) ∈ A.delta → A.EpsReach r r' → RunC A r' w s → RunC A q (a :: w) s

theorem run_iff_runC (A : ENFA σ) (q s : σ) (w : List Nat) :
    A.Run q w s ↔ ∃ p, A.EpsReach q p ∧ RunC A p w s := by
  induction w generalizing q with
  | nil =>
    constructor
    · intro h; exact ⟨s, h, RunC.nil s⟩
    · rintro ⟨p, h, hc⟩; cases hc; exact h
  | cons a w ih =>
    rw [run_cons_iff]
    constructor
    · rintro ⟨p, r, hqp, hd, hr⟩
      obtain ⟨r', hrr', hc⟩ := (ih r).mp hr
      exact ⟨p, hqp, RunC.cons hd hrr' hc⟩
    · rintro ⟨p, hqp, hc⟩
      cases hc with
      | cons hd he hc' => exact ⟨p, _, hqp, hd, (ih _).mpr ⟨_, he, hc'⟩⟩

theorem lang_iff_runC (A : ENFA σ) (w : List Nat) :
    A.Lang w ↔ ∃ s ∈ A.ecloseL A.starts, ∃ f ∈ A.finals, RunC A s w f := by
  unfold Lang
  constructor
  · rintro ⟨s, hs, f, hf, hr⟩
    obtain ⟨p, hsp, hc⟩ := (run_iff_runC A s f w).mp hr
    exact ⟨p, (mem_ecloseL_iff A _ p).mpr ⟨s, hs, hsp⟩, f, hf, hc⟩
  · rintro ⟨p, hp, f, hf, hc⟩
    obtain ⟨s, hs, hsp⟩ := (mem_ecloseL_iff A _ p).mp hp
    exact ⟨s, hs, f, hf, (run_iff_runC A s f w).mpr ⟨p, hsp, hc⟩⟩

omit [DecidableEq σ] in
/-- a step on sets of states that takes the image under "a letter, then ε-moves", folded over a
word, takes the image under `RunC`.  The sets are lists for `EpsilonNFA.accepts`, `NFA.accepts`
and the equivalence oracle, an `Option` for `DFA.accepts`: `mem` says what a member is. -/
theorem mem_foldl_iff_runC {γ : Type} (mem : σ → γ → Prop) (A : ENFA σ) (step : γ → Nat → γ)
    (h : ∀ S a r, mem r (step S a) ↔
      ∃ q, mem q S ∧ ∃ p, (q, some a, p) ∈ A.delta ∧ A.EpsReach p r)
    (w : List Nat) (S : γ) (r : σ) : mem r (w.foldl step S) ↔ ∃ q, mem q S ∧ RunC A q w r := by
  induction w generalizing S with
  | nil => exact ⟨fun hr => ⟨r, hr, .nil r⟩, fun ⟨q, hq, hc⟩ => by cases hc; exact hq⟩
  | cons a w ih =>
    rw [List.foldl_cons, ih]
    constructor
    · rintro ⟨q', hq', hc⟩
      obtain ⟨q, hq, p, hd, he⟩ := (h S a q').mp hq'
      exact ⟨q, hq, .cons hd he hc⟩
    · rintro ⟨q, hq, hc⟩
      cases hc with
      | cons hd he hc => exact ⟨_, (h S a _).mpr ⟨q, hq, _, hd, he⟩, hc⟩

theorem mem_ecloseL_nextL_iff (A : ENFA σ) (S : List σ) (a : Nat) (r : σ) :
    r ∈ A.ecloseL (A.nextL S (some a)) ↔
      ∃ q ∈ S, ∃ p, (q, some a, p) ∈ A.delta ∧ A.EpsReach p r := by
  simp only [mem_ecloseL_iff, mem_nextL_iff]
  exact ⟨fun ⟨p, ⟨q, hq, hd⟩, hp⟩ => ⟨q, hq, p, hd, hp⟩,
    fun ⟨q, hq, p, hd, hp⟩ => ⟨p, ⟨q, hq, hd⟩, hp⟩⟩

/-- set-based evaluation of a word (what `accepts` iterates) -/
def evalE (A : ENFA σ) (S : List σ) (w : List Nat) : List σ :=
  w.foldl (fun cur a => A.ecloseL (A.nextL cur (some a))) S

theorem evalE_nil (A : ENFA σ) (S : List σ) : A.evalE S [] = S := rfl

theorem evalE_cons (A : ENFA σ) (S : List σ) (a : Nat) (w : List Nat) :
    A.evalE S (a :: w) = A.evalE (A.ecloseL (A.nextL S (some a))) w := rfl

theorem evalE_append (A : ENFA σ) (S : List σ) (u v : List Nat) :
    A.evalE S (u ++ v) = A.evalE (A.evalE S u) v := by
  unfold evalE; rw [List.foldl_append]

theorem mem_evalE_iff (A : ENFA σ) (S : List σ) (w : List Nat) (r : σ) :
    r ∈ A.evalE S w ↔ ∃ q ∈ S, RunC A q w r :=
  mem_foldl_iff_runC (· ∈ ·) A _ (mem_ecloseL_nextL_iff A) w S r

theorem lang_iff_evalE (A : ENFA σ) (w : List Nat) :
    A.Lang w ↔ ∃ f ∈ A.finals, f ∈ A.evalE (A.ecloseL A.starts) w := by
  simp only [lang_iff_runC, mem_evalE_iff]
  exact ⟨fun ⟨s, hs, f, hf, hc⟩ => ⟨f, hf, s, hs, hc⟩,
    fun ⟨f, hf, s, hs, hc⟩ => ⟨s, hs, f, hf, hc⟩⟩

theorem acceptsE_foldl (A : ENFA σ) (S : List σ) (w : List (Option Nat)) :
    w.foldl (fun cur a => match a with
      | none => cur
      | some _ => A.ecloseL (A.nextL cur a)) S = A.evalE S (w.filterMap id) := by
  induction w generalizing S with
  | nil => rfl
  | cons a w ih =>
    cases a with
    | none => simpa using ih S
    | some a =>
      rw [List.foldl_cons, ih]
      simp [evalE_cons]

theorem acceptsE_iff_lang (A : ENFA σ) (w : List (Option Nat)) :
    A.acceptsE w = true ↔ A.Lang (w.filterMap id) := by
  have h : A.acceptsE w = (A.evalE (A.ecloseL A.starts) (w.filterMap id)).any (· ∈ A.finals) := by
    unfold acceptsE
    exact congrArg (fun l => l.any (· ∈ A.finals)) (acceptsE_foldl A _ w)
  rw [h]
  simp only [List.any_eq_true, decide_eq_true_eq, lang_iff_evalE]
  constructor
  · rintro ⟨f, h1, h2⟩; exact ⟨f, h2, h1⟩
  · rintro ⟨f, h1, h2⟩; exact ⟨f, h2, h1⟩

omit [DecidableEq σ] in
theorem run_nil_of_loops {A : ENFA σ} (h : ∀ q r, (q, none, r) ∈ A.delta → r = q) (q r : σ) :
    A.Run q [] r ↔ r = q := by
  constructor
  · intro hr
    generalize hw : ([] : List Nat) = w at hr
    induction hr with
    | nil => rfl
    | eps he _ ih => have := h _ _ he; subst this; exact ih hw
    | step => cases hw
  · rintro rfl; exact Run.nil _

omit [DecidableEq σ] in
theorem EpsFree.run_nil_iff {A : ENFA σ} (h : A.EpsFree) (q r : σ) : A.Run q [] r ↔ q = r := by
  constructor
  · intro hr
    cases hr with
    | nil => rfl
    | eps he _ => exact absurd rfl (h _ he)
  · rintro rfl; exact Run.nil _

omit [DecidableEq σ] in
theorem EpsFree.run_cons_iff {A : ENFA σ} (h : A.EpsFree) (q s : σ) (a : Nat) (w : List Nat) :
    A.Run q (a :: w) s ↔ ∃ r, (q, some a, r) ∈ A.delta ∧ A.Run r w s := by
  constructor
  · intro hr
    cases hr with
    | eps he _ => exact absurd rfl (h _ he)
    | step he hr => exact ⟨_, he, hr⟩
  · rintro ⟨r, he, hr⟩; exact Run.step he hr

theorem EpsFree.run_iff_runC {A : ENFA σ} (h : A.EpsFree) (q s : σ) (w : List Nat) :
    A.Run q w s ↔ RunC A q w s := by
  rw [ENFA.run_iff_runC]
  simp only [EpsReach, h.run_nil_iff, exists_eq_left']

theorem mem_foldl_nextL_iff (A : ENFA σ) (h : A.EpsFree) (S : List σ) (w : List Nat) (r : σ) :
    r ∈ (w.map some).foldl (fun cur a => A.nextL cur a) S ↔ ∃ q ∈ S, A.Run q w r := by
  rw [List.foldl_map]
  simp only [h.run_iff_runC]
  refine mem_foldl_iff_runC (· ∈ ·) A (fun cur a => A.nextL cur (some a)) (fun S a r => ?_) w S r
  simp only [mem_nextL_iff, EpsReach, h.run_nil_iff, exists_eq_right]

end ENFA

namespace ENFA
variable {σ : Type} {A : ENFA σ} {ρ : σ → List Nat → Prop} {K : List Nat → Prop}

/-- `ρ` assigns to every state a set of words closed under reading an edge of `A` backwards: then
`ρ q` holds every word spelt by a run from `q` to a state `r` with `ρ r []`.  An upper bound
on a language is proved by naming such sets and looking at each edge once. -/
def Bound (A : ENFA σ) (ρ : σ → List Nat → Prop) : Prop :=
  ∀ e ∈ A.delta, ∀ w, ρ e.2.2 w → ρ e.1 (e.2.1.toList ++ w)

theorem Bound.run (h : A.Bound ρ) {q r : σ} {w : List Nat} (hr : A.Run q w r) (hv : ρ r []) :
    ρ q w := by
  induction hr with
  | nil => exact hv
  | eps he _ ih => exact h _ he _ (ih hv)
  | step he _ ih => exact h _ he _ (ih hv)

theorem Bound.lang (h : A.Bound ρ) (hf : ∀ f ∈ A.finals, ρ f []) {w : List Nat} (hw : A.Lang w) :
    ∃ s ∈ A.starts, ρ s w := by
  obtain ⟨s, hs, f, hf', hr⟩ := hw
  exact ⟨s, hs, h.run hr (hf f hf')⟩

/-- the words that lead from `q` to a final state, followed by a word of `K`: what the states of a
copy of `A` are given when the copy is left at its final states -/
def Then (A : ENFA σ) (K : List Nat → Prop) (q : σ) (w : List Nat) : Prop :=
  ∃ u v f, w = u ++ v ∧ A.Run q u f ∧ f ∈ A.finals ∧ K v

theorem Then.edge {q r : σ} {a : Option Nat} {w : List Nat} (he : (q, a, r) ∈ A.delta)
    (h : A.Then K r w) : A.Then K q (a.toList ++ w) := by
  obtain ⟨u, v, f, rfl, hu, hf, hv⟩ := h
  refine ⟨a.toList ++ u, v, f, (List.append_assoc _ _ _).symm, ?_, hf, hv⟩
  cases a with
  | none => exact .eps he hu
  | some a => exact .step he hu

theorem Then.final {f : σ} {w : List Nat} (hf : f ∈ A.finals) (h : K w) : A.Then K f w :=
  ⟨[], w, f, rfl, .nil f, hf, h⟩

theorem Then.lang {s : σ} {w : List Nat} (hs : s ∈ A.starts) (h : A.Then K s w) :
    ∃ u v, w = u ++ v ∧ A.Lang u ∧ K v := by
  obtain ⟨u, v, f, rfl, hu, hf, hv⟩ := h
  exact ⟨u, v, rfl, ⟨s, hs, f, hf, hu⟩, hv⟩

theorem Then.lang_nil {s : σ} {w : List Nat} (hs : s ∈ A.starts) (h : A.Then (· = []) s w) :
    A.Lang w := by
  obtain ⟨u, _, rfl, hu, rfl⟩ := h.lang hs
  rwa [List.append_nil]

end ENFA
namespace ENFA
variable {τ : Type} {D : ENFA τ} {symOf : String → Option Nat}

/-- `D` reads the codes of the letters of `w` from `p` to `r` (the automaton side of the
intersections with a grammar or a pushdown automaton, whose words are over strings) -/
def RunOn (D : ENFA τ) (symOf : String → Option Nat) (p : τ) (w : List String) (r : τ) : Prop :=
  ∃ ks, w.mapM symOf = some ks ∧ D.Run p ks r

theorem RunOn.append {p q r : τ} {u v : List String} (h₁ : D.RunOn symOf p u q)
    (h₂ : D.RunOn symOf q v r) : D.RunOn symOf p (u ++ v) r := by
  obtain ⟨k₁, hk₁, hr₁⟩ := h₁
  obtain ⟨k₂, hk₂, hr₂⟩ := h₂
  exact ⟨k₁ ++ k₂, mapM_append_some.mpr ⟨k₁, k₂, hk₁, hk₂, rfl⟩, hr₁.append hr₂⟩

theorem RunOn.mem_states (hD : D.WF) {p r : τ} {w : List String} (h : D.RunOn symOf p w r)
    (hp : p ∈ D.states) : r ∈ D.states :=
  h.elim fun _ hr => Run.mem_states hD hr.2 hp

theorem runOn_nil_iff (he : D.EpsFree) {p r : τ} : D.RunOn symOf p [] r ↔ p = r := by
  simp only [RunOn, mapM_nil_some, exists_eq_left, he.run_nil_iff]

theorem runOn_cons_iff (he : D.EpsFree) {p r : τ} {a : String} {w : List String} :
    D.RunOn symOf p (a :: w) r ↔
      ∃ k q, symOf a = some k ∧ (p, some k, q) ∈ D.delta ∧ D.RunOn symOf q w r := by
  simp only [RunOn, mapM_cons_some]
  constructor
  · rintro ⟨_, ⟨k, ks, hk, hks, rfl⟩, hr⟩
    obtain ⟨q, hd, hr⟩ := (he.run_cons_iff _ _ _ _).mp hr
    exact ⟨k, q, hk, hd, ks, hks, hr⟩
  · rintro ⟨k, q, hk, hd, ks, hks, hr⟩
    exact ⟨_, ⟨k, ks, hk, hks, rfl⟩, .step hd hr⟩

theorem runOn_append_iff (he : D.EpsFree) {p r : τ} {u v : List String} :
    D.RunOn symOf p (u ++ v) r ↔ ∃ q, D.RunOn symOf p u q ∧ D.RunOn symOf q v r := by
  induction u generalizing p with
  | nil => simp only [List.nil_append, runOn_nil_iff he, exists_eq_left']
  | cons a u ih =>
    simp only [List.cons_append, runOn_cons_iff he, ih]
    exact ⟨fun ⟨k, q, hk, hd, q', h1, h2⟩ => ⟨q', ⟨k, q, hk, hd, h1⟩, h2⟩,
      fun ⟨q', ⟨k, q, hk, hd, h1⟩, h2⟩ => ⟨k, q, hk, hd, q', h1, h2⟩⟩

end ENFA
end Pfl
