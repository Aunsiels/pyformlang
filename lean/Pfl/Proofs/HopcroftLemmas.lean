/-
Helper lemmas for C02_Hopcroft: bookkeeping and the classical Hopcroft invariant for the
step-faithful model `Pfl/Model/Hopcroft.lean`.
-/
import Pfl.Model.Hopcroft
import Pfl.Proofs.FAMin
import Mathlib.Data.List.Basic
import Mathlib.Data.List.Perm.Basic
import Mathlib.Data.List.Perm.Subperm
import Mathlib.Data.List.Nodup
namespace Pfl.ENFA.Hop
open Pfl Pfl.ENFA
set_option linter.unusedSectionVars false
variable {σ : Type} [DecidableEq σ]

/-- the universe: all states plus the trash state -/
def U (A : ENFA σ) : List (Option σ) := A.states.map some ++ [none]

theorem mem_U (A : ENFA σ) (x : Option σ) : x ∈ U A ↔ x = none ∨ ∃ q ∈ A.states, x = some q := by
  cases x <;> simp [U]

theorem none_mem_U (A : ENFA σ) : none ∈ U A := by simp [U]

theorem U_nodup (A : ENFA σ) (hnd : A.states.Nodup) : (U A).Nodup :=
  nodup_append_singleton (hnd.map fun _ _ h => Option.some.inj h) fun h =>
    nomatch List.mem_map.1 h

@[simp] theorem dnext_none (A : ENFA σ) (a : Nat) : A.dnext none a = none := rfl

theorem dnext_some_eq (A : ENFA σ) (p : σ) (a : Nat) (r : σ) (h : A.dnext (some p) a = some r) :
    (p, some a, r) ∈ A.delta := by
  simp only [dnext, Option.bind_some] at h
  exact (mem_succs A p r (some a)).mp (List.mem_of_head? h)

theorem dnext_mem_U (A : ENFA σ) (hA : A.WF) (x : Option σ) (a : Nat) : A.dnext x a ∈ U A := by
  rw [mem_U]
  cases h : A.dnext x a with
  | none => exact Or.inl rfl
  | some r =>
    right
    cases x with
    | none => simp at h
    | some p => exact ⟨r, hA.delta_dst _ (dnext_some_eq A p a r h), rfl⟩

theorem dnext_not_sym (A : ENFA σ) (hA : A.WF) (x : Option σ) (a : Nat) (ha : a ∉ A.syms) :
    A.dnext x a = none := by
  cases x with
  | none => rfl
  | some p =>
    cases h : A.dnext (some p) a with
    | none => rfl
    | some r => exact absurd (hA.delta_sym _ (dnext_some_eq A p a r h) a rfl) ha

theorem rightLang_dnext (A : ENFA σ) (hd : A.Deterministic) (he : A.EpsFree) (x : Option σ) (a : Nat)
    (w : List Nat) : A.RightLang x (a :: w) ↔ A.RightLang (A.dnext x a) w := by
  cases x with
  | none => simp [RightLang]
  | some p =>
    cases h : A.dnext (some p) a with
    | some r => exact rightLang_cons hd he (dnext_some_eq A p a r h) w
    | none =>
      simp only [RightLang, he.run_cons_iff, iff_false]
      rintro ⟨f, _, r, hr, _⟩
      have : r ∈ A.succs p (some a) := (mem_succs A p r (some a)).mpr hr
      simp only [dnext, Option.bind_some, List.head?_eq_none_iff] at h
      rw [h] at this
      simp at this

theorem nerode_dnext (A : ENFA σ) (hd : A.Deterministic) (he : A.EpsFree) (x y : Option σ) (a : Nat)
    (h : A.Nerode x y) : A.Nerode (A.dnext x a) (A.dnext y a) := by
  intro w
  rw [← rightLang_dnext A hd he, ← rightLang_dnext A hd he]
  exact h (a :: w)

theorem hprev_eq (A : ENFA σ) (x : Option σ) (a : Nat) :
    A.hprev x a = (U A).filter fun p => A.dnext p a = x := by
  unfold hprev U
  rw [List.filter_append, List.filter_map, List.filter_singleton]
  by_cases hx : x = none
  · rw [if_pos hx, hx]; rfl
  · rw [if_neg hx, dnext_none, decide_eq_false (Ne.symm hx)]; rfl

theorem mem_hprev (A : ENFA σ) (x p : Option σ) (a : Nat) :
    p ∈ A.hprev x a ↔ p ∈ U A ∧ A.dnext p a = x := by
  rw [hprev_eq, List.mem_filter, decide_eq_true_eq]

theorem hprev_nodup (A : ENFA σ) (hnd : A.states.Nodup) (x : Option σ) (a : Nat) :
    (A.hprev x a).Nodup := by
  rw [hprev_eq]
  exact (U_nodup A hnd).filter _

/-- class `j` of a partition (empty when out of range) -/
def cls {α : Type} (P : List (List α)) (j : Nat) : List α := P.getD j []

theorem cls_lt {α : Type} (P : List (List α)) (i : Nat) (h : i < P.length) : cls P i = P[i] := by
  simp [cls, List.getD_eq_getElem?_getD, h]

theorem cls_ge {α : Type} (P : List (List α)) (i : Nat) (h : P.length ≤ i) : cls P i = [] := by
  simp [cls, List.getD_eq_getElem?_getD, h]

theorem lt_of_mem_cls {α : Type} (P : List (List α)) (i : Nat) (x : α) (h : x ∈ cls P i) :
    i < P.length := by
  by_contra hc
  rw [cls_ge _ _ (by omega)] at h
  simp at h

theorem classOf_eq_findIdx? (P : List (List (Option σ))) (x : Option σ) :
    classOf P x = (P.findIdx? (x ∈ ·)).getD 0 := by
  rw [classOf, List.range_eq_range', ← List.zipIdx_eq_zip_range', List.findIdx?_eq_fst_find?_zipIdx]

theorem classOf_eq (P : List (List (Option σ))) (x : Option σ) (i : Nat)
    (hx : x ∈ cls P i) (hd : ∀ j, x ∈ cls P j → j = i) : classOf P x = i := by
  have hi : i < P.length := lt_of_mem_cls _ _ _ hx
  rw [classOf_eq_findIdx?, List.findIdx?_eq_some_iff_getElem.2 ⟨hi, ?_, fun j hj hxj => ?_⟩]
  · rfl
  · rw [cls_lt _ _ hi] at hx
    exact decide_eq_true hx
  · have hjl : j < P.length := Nat.lt_trans hj hi
    have hxj' : x ∈ cls P j := cls_lt P j hjl ▸ of_decide_eq_true hxj
    exact Nat.ne_of_lt hj (hd j hxj')

theorem splitClass_length (P : List (List (Option σ))) (i : Nat) (inv : List (Option σ)) :
    (splitClass P i inv).length = P.length + 1 := by
  unfold splitClass
  rw [List.length_append, List.length_map, List.length_zip, List.length_range, Nat.min_self]
  rfl

theorem splitClass_cls_lt (P : List (List (Option σ))) (i : Nat) (inv : List (Option σ)) {j : Nat}
    (hj : j < P.length) :
    cls (splitClass P i inv) j =
      if j = i then (cls P j).filter (· ∉ inv.filter fun x => classOf P x = i) else cls P j := by
  unfold cls splitClass
  rw [List.getD_eq_getElem?_getD, List.getElem?_append_left (by simpa using hj), List.getElem?_map,
    List.getElem?_eq_getElem (by simpa using hj)]
  simp only [List.getElem_zip, List.getElem_range, Option.map_some, Option.getD_some,
    List.getD_eq_getElem?_getD, List.getElem?_eq_getElem hj]

theorem splitClass_cls_last (P : List (List (Option σ))) (i : Nat) (inv : List (Option σ)) :
    cls (splitClass P i inv) P.length = inv.filter fun x => classOf P x = i := by
  unfold cls splitClass
  rw [List.getD_eq_getElem?_getD, List.getElem?_append_right (by simp)]
  simp

variable {A : ENFA σ} {P : List (List (Option σ))} {inv : List (Option σ)} {c : Option σ → Nat}

/-- `P` lists, each without repetition, the fibres over `U A` of the class function `c` (the library's
`_class_names`, which the model recomputes by search: `classOf`); by `lt` the index `P.length` of the
class a split appends is a value `c` does not take -/
structure Rep (A : ENFA σ) (P : List (List (Option σ))) (c : Option σ → Nat) : Prop where
  nodup : ∀ j, (cls P j).Nodup
  mem : ∀ j x, x ∈ cls P j ↔ x ∈ U A ∧ c x = j
  lt : ∀ x, c x < P.length

theorem Rep.class_eq (h : Rep A P c) {x : Option σ} (hx : x ∈ U A) : classOf P x = c x :=
  classOf_eq P x _ ((h.mem _ x).mpr ⟨hx, rfl⟩) fun j hj => ((h.mem j x).mp hj).2.symm

theorem Rep.mem_moved (h : Rep A P c) (hinv : ∀ x ∈ inv, x ∈ U A) (v : Nat) (x : Option σ) :
    x ∈ (inv.filter fun x => classOf P x = v) ↔ c x = v ∧ x ∈ inv := by
  rw [List.mem_filter, decide_eq_true_eq, and_comm]
  exact and_congr_left fun hx => by rw [h.class_eq (hinv x hx)]

/-- the class function after `splitClass P v inv`, `n` being `P.length`: the members of `inv` in
class `v` move to the new class -/
def splitFn (c : Option σ → Nat) (v n : Nat) (inv : List (Option σ)) (x : Option σ) : Nat :=
  if c x = v ∧ x ∈ inv then n else c x

theorem splitFn_old {v n : Nat} (hlt : ∀ x, c x < n) {x y : Option σ}
    (h : splitFn c v n inv x = splitFn c v n inv y) : c x = c y := by
  unfold splitFn at h
  by_cases hx : c x = v ∧ x ∈ inv <;> by_cases hy : c y = v ∧ y ∈ inv
  · exact hx.1.trans hy.1.symm
  · rw [if_pos hx, if_neg hy] at h; exact absurd h.symm (Nat.ne_of_lt (hlt y))
  · rw [if_neg hx, if_pos hy] at h; exact absurd h (Nat.ne_of_lt (hlt x))
  · rwa [if_neg hx, if_neg hy] at h

theorem Rep.split (h : Rep A P c) (hinvnd : inv.Nodup) (hinv : ∀ x ∈ inv, x ∈ U A) (v : Nat) :
    Rep A (splitClass P v inv) (splitFn c v P.length inv) := by
  have hmoved := h.mem_moved hinv v
  have hlen := splitClass_length P v inv
  refine ⟨fun j => ?_, fun j x => ?_, fun x => ?_⟩
  · rcases Nat.lt_trichotomy j P.length with hj | rfl | hj
    · rw [splitClass_cls_lt P v inv hj]
      split
      · exact (h.nodup j).filter _
      · exact h.nodup j
    · rw [splitClass_cls_last]; exact hinvnd.filter _
    · rw [cls_ge _ j (hlen ▸ hj)]; exact List.nodup_nil
  · unfold splitFn
    rcases Nat.lt_trichotomy j P.length with hj | rfl | hj
    · rw [splitClass_cls_lt P v inv hj]
      by_cases hc : c x = v ∧ x ∈ inv
      · -- `x` has moved to the new class
        rw [if_pos hc]
        refine iff_of_false ?_ fun h' => Nat.ne_of_gt hj h'.2
        split
        · exact fun hm => of_decide_eq_true (List.mem_filter.mp hm).2 ((hmoved x).mpr hc)
        · exact fun hm => ‹¬j = v› (((h.mem j x).mp hm).2.symm.trans hc.1)
      · rw [if_neg hc, ← h.mem]
        split
        · rw [List.mem_filter, decide_eq_true_eq, hmoved]; exact and_iff_left hc
        · rfl
    · rw [splitClass_cls_last, hmoved]
      constructor
      · intro hc; exact ⟨hinv x hc.2, if_pos hc⟩
      · rintro ⟨hx, hc⟩
        by_contra hn
        rw [if_neg hn] at hc
        exact absurd hc (Nat.ne_of_lt (h.lt x))
    · rw [cls_ge _ j (hlen ▸ hj)]
      refine iff_of_false List.not_mem_nil fun h' => Nat.ne_of_lt (Nat.lt_of_le_of_lt ?_ hj) h'.2
      split
      · exact Nat.le_refl _
      · exact Nat.le_of_lt (h.lt x)
  · rw [hlen, splitFn]
    split
    · exact Nat.lt_succ_self _
    · exact Nat.lt_succ_of_lt (h.lt x)

@[simp] theorem hinsert_part (st : HState σ) (c a : Nat) : (hinsert st c a).part = st.part := rfl

@[simp] theorem hinsert_stack (st : HState σ) (c a : Nat) :
    (hinsert st c a).stack = (c, a) :: st.stack := rfl

theorem mem_hinsert_incl (st : HState σ) (c a : Nat) (e : Nat × Nat) :
    e ∈ (hinsert st c a).incl ↔ e = (c, a) ∨ e ∈ st.incl := by
  unfold hinsert
  by_cases h : (c, a) ∈ st.incl
  · rw [if_pos h]
    exact ⟨Or.inr, fun h' => h'.elim (fun h' => h' ▸ h) id⟩
  · rw [if_neg h, List.mem_cons]

/-- `st'` is `st` after some calls of `hinsert`: same partition, nothing leaves the stack or
`_inclusion`; `sub`: `hinsert` always pushes and records only what was not recorded, so
`_inclusion ⊆ stack` survives -/
structure Pushed (st st' : HState σ) : Prop where
  part : st'.part = st.part
  stack : ∀ e ∈ st.stack, e ∈ st'.stack
  incl : ∀ e ∈ st.incl, e ∈ st'.incl
  sub : (∀ e ∈ st.incl, e ∈ st.stack) → ∀ e ∈ st'.incl, e ∈ st'.stack

theorem Pushed.refl (st : HState σ) : Pushed st st := ⟨rfl, fun _ h => h, fun _ h => h, id⟩

theorem Pushed.trans {st st' st'' : HState σ} (h : Pushed st st') (h' : Pushed st' st'') : Pushed st st'' :=
  ⟨h'.part.trans h.part, fun e he => h'.stack e (h.stack e he), fun e he => h'.incl e (h.incl e he),
    fun hs => h'.sub (h.sub hs)⟩

theorem pushed_hinsert (st : HState σ) (c a : Nat) : Pushed st (hinsert st c a) := by
  refine ⟨rfl, fun e he => List.mem_cons_of_mem _ he,
    fun e he => (mem_hinsert_incl st c a e).mpr (Or.inr he), fun hs e he => ?_⟩
  rcases (mem_hinsert_incl st c a e).mp he with rfl | he
  · exact List.mem_cons_self
  · exact List.mem_cons_of_mem _ (hs e he)

def pushStep (v nw : Nat) (d : Prop) [Decidable d] (st : HState σ) (a : Nat) : HState σ :=
  if (v, a) ∈ st.incl then hinsert st nw a else if d then hinsert st v a else hinsert st nw a

section
variable (v nw : Nat) (d : Prop) [Decidable d]

theorem pushStep_cases (st : HState σ) (a : Nat) :
    ∃ t, pushStep v nw d st a = hinsert st t a ∧ (t = nw ∨ (v, a) ∉ st.incl ∧ t = v) := by
  unfold pushStep
  split
  · exact ⟨nw, rfl, Or.inl rfl⟩
  · split
    · exact ⟨v, rfl, Or.inr ⟨‹_›, rfl⟩⟩
    · exact ⟨nw, rfl, Or.inl rfl⟩

theorem pushStep_incl_inv (st : HState σ) (a : Nat) (e : Nat × Nat)
    (he : e ∈ (pushStep v nw d st a).incl) : e ∈ st.incl ∨ e.2 = a := by
  obtain ⟨t, ht, -⟩ := pushStep_cases v nw d st a
  rw [ht, mem_hinsert_incl] at he
  rcases he with rfl | he
  · exact Or.inr rfl
  · exact Or.inl he

/-- the loop of `refineOne` over the symbols: one push per symbol, and for each symbol `b` the new class
`nw` is waiting afterwards, or else `v` is and was not before.  A symbol may occur twice in `l`. -/
theorem foldl_pushStep (l : List Nat) (st : HState σ) :
    Pushed st (l.foldl (pushStep v nw d) st) ∧
    (l.foldl (pushStep v nw d) st).stack.length = st.stack.length + l.length ∧
    ∀ b ∈ l, (nw, b) ∈ (l.foldl (pushStep v nw d) st).incl ∨
      (v, b) ∉ st.incl ∧ (v, b) ∈ (l.foldl (pushStep v nw d) st).incl := by
  induction l generalizing st with
  | nil => exact ⟨Pushed.refl st, rfl, fun _ h => nomatch h⟩
  | cons a l ih =>
    obtain ⟨t, ht, hc⟩ := pushStep_cases v nw d st a
    obtain ⟨hp, hl, hn⟩ := ih (hinsert st t a)
    have h1 := pushed_hinsert st t a
    rw [List.foldl_cons, ht]
    refine ⟨h1.trans hp, by rw [hl, hinsert_stack, List.length_cons, List.length_cons]; omega, fun b hb => ?_⟩
    rcases List.mem_cons.mp hb with rfl | hb
    · have := hp.incl _ ((mem_hinsert_incl st t b _).mpr (Or.inl rfl))
      rcases hc with rfl | ⟨hv, rfl⟩
      · exact Or.inl this
      · exact Or.inr ⟨hv, this⟩
    · exact (hn b hb).imp_right fun h => ⟨fun h' => h.1 (h1.incl _ h'), h.2⟩

theorem foldl_stack_mono (l : List Nat) (st : HState σ) (e : Nat × Nat) (he : e ∈ st.stack) :
    e ∈ (l.foldl (pushStep v nw d) st).stack :=
  (foldl_pushStep v nw d l st).1.stack e he
end

section
variable (syms : List Nat) (inv : List (Option σ)) (st : HState σ) (v : Nat)

theorem refineOne_spec :
    Pushed { st with part := splitClass st.part v inv } (refineOne syms inv st v) ∧
    (refineOne syms inv st v).stack.length = st.stack.length + syms.length ∧
    ∀ b ∈ syms, (st.part.length, b) ∈ (refineOne syms inv st v).incl ∨
      (v, b) ∉ st.incl ∧ (v, b) ∈ (refineOne syms inv st v).incl := by
  unfold refineOne
  simp only [splitClass_length, Nat.add_sub_cancel]
  exact foldl_pushStep v st.part.length _ syms _

theorem refineOne_part : (refineOne syms inv st v).part = splitClass st.part v inv :=
  (refineOne_spec syms inv st v).1.part
end

theorem mem_iff_cls {α : Type} (P : List (List α)) (l : List α) : l ∈ P ↔ ∃ j, j < P.length ∧ cls P j = l := by
  rw [List.mem_iff_getElem]
  constructor
  · rintro ⟨j, hj, rfl⟩; exact ⟨j, hj, cls_lt P j hj⟩
  · rintro ⟨j, hj, rfl⟩; exact ⟨j, hj, (cls_lt P j hj).symm⟩

theorem Rep.nodup_flatMap (h : Rep A P c) : (P.flatMap id).Nodup := by
  rw [List.nodup_flatMap]
  constructor
  · intro l hl
    obtain ⟨j, _, rfl⟩ := (mem_iff_cls P l).mp hl
    exact h.nodup j
  · rw [List.pairwise_iff_getElem]
    intro i j hi hj hij
    simp only [Function.onFun, id]
    rw [List.disjoint_left]
    intro x hxi hxj
    rw [← cls_lt P i hi, h.mem] at hxi
    rw [← cls_lt P j hj, h.mem] at hxj
    exact absurd (hxi.2.symm.trans hxj.2) (Nat.ne_of_lt hij)

/-- the partition is represented by `c` and has no empty class except possibly class 0, the final
states (class 1 holds the sink from the start, and `splitClass` is only called on classes it cuts) -/
structure Inv1 (A : ENFA σ) (P : List (List (Option σ))) (c : Option σ → Nat) : Prop where
  rep : Rep A P c
  ne : ∀ j, 1 ≤ j → j < P.length → ∃ x ∈ U A, c x = j

/-- the classes `1, …, P.length - 1` are values of `c` on `U A` -/
theorem Inv1.length_le (h : Inv1 A P c) : P.length ≤ A.states.length + 2 := by
  have := (List.nodup_range' (s := 1) (n := P.length - 1)).length_le_of_subset
    (l₂ := (U A).map c) fun j hj => by
      rw [List.mem_range'_1] at hj
      obtain ⟨x, hx, hc⟩ := h.ne j hj.1 (by omega)
      exact List.mem_map.mpr ⟨x, hx, hc⟩
  rw [List.length_range', List.length_map, U, List.length_append, List.length_map] at this
  exact Nat.le_add_of_sub_le (b := 1) this

def invOf (A : ENFA σ) (P : List (List (Option σ))) (c a : Nat) : List (Option σ) :=
  (cls P c).flatMap fun x => A.hprev x a

theorem mem_invOf (A : ENFA σ) (P : List (List (Option σ))) (c a : Nat) (x : Option σ) :
    x ∈ invOf A P c a ↔ x ∈ U A ∧ A.dnext x a ∈ cls P c := by
  simp only [invOf, List.mem_flatMap, mem_hprev]
  constructor
  · rintro ⟨y, hy, hx, rfl⟩; exact ⟨hx, hy⟩
  · rintro ⟨hx, hy⟩; exact ⟨_, hy, hx, rfl⟩

theorem Rep.mem_invOf (hA : A.WF) (h : Rep A P c) (j a : Nat) (x : Option σ) :
    x ∈ invOf A P j a ↔ x ∈ U A ∧ c (A.dnext x a) = j := by
  rw [Hop.mem_invOf, h.mem]
  exact and_congr_right fun _ => and_iff_right (dnext_mem_U A hA x a)

theorem invOf_nodup (hnd : A.states.Nodup) (hG : Rep A P c) (j a : Nat) : (invOf A P j a).Nodup :=
  nodup_flatMap_of_keys id (A.dnext · a) (by rw [List.map_id]; exact hG.nodup j)
    (fun x _ => hprev_nodup A hnd x a) fun x p hp => ((mem_hprev A x p a).1 hp).2

theorem mem_validSets (P : List (List (Option σ))) (inv : List (Option σ)) (v : Nat) :
    v ∈ validSets P inv ↔ v < P.length ∧ (inv.filter fun x => classOf P x = v).length ≠ 0 ∧
      (inv.filter fun x => classOf P x = v).length ≠ (cls P v).length := by
  unfold validSets cls
  rw [List.mem_filter, List.mem_range, decide_eq_true_eq]

theorem countP_mem_comm {α : Type} {l₁ l₂ : List α} [∀ x, Decidable (x ∈ l₁)] [∀ x, Decidable (x ∈ l₂)]
    (h₁ : l₁.Nodup) (h₂ : l₂.Nodup) :
    l₁.countP (· ∈ l₂) = l₂.countP (· ∈ l₁) := by
  rw [List.countP_eq_length_filter, List.countP_eq_length_filter]
  exact ((List.perm_ext_iff_of_nodup (h₁.filter _) (h₂.filter _)).2 fun x => by
    simp only [List.mem_filter, decide_eq_true_eq, and_comm]).length_eq

/-- `inv` cuts class `v` properly: these are the classes `validSets` returns (`Rep.valid_iff`) -/
def Cuts (A : ENFA σ) (c : Option σ → Nat) (inv : List (Option σ)) (v : Nat) : Prop :=
  (∃ x ∈ U A, c x = v ∧ x ∈ inv) ∧ ∃ y ∈ U A, c y = v ∧ y ∉ inv

theorem Rep.valid_iff (h : Rep A P c) (hinvnd : inv.Nodup) (hinv : ∀ x ∈ inv, x ∈ U A) (v : Nat) :
    v ∈ validSets P inv ↔ Cuts A c inv v := by
  have hmoved : (inv.filter fun x => classOf P x = v) = inv.filter (· ∈ cls P v) :=
    List.filter_congr fun x hx => by simp [h.mem, hinv x hx, h.class_eq (hinv x hx)]
  rw [mem_validSets, hmoved, ← List.countP_eq_length_filter, countP_mem_comm hinvnd (h.nodup v), Ne, Ne,
    List.countP_eq_zero, List.countP_eq_length]
  simp only [h.mem, Cuts, decide_eq_true_eq, not_forall, not_not, exists_prop, and_assoc]
  exact and_iff_right_of_imp fun ⟨⟨x, _, hc, _⟩, _⟩ => hc ▸ h.lt x

/-- after the split of `v` neither half of `v` is cut (the new class `n` was empty, so not cut, before),
and the other classes are as before -/
theorem cuts_split {v n : Nat} (hlt : ∀ x, c x < n) (v' : Nat) :
    Cuts A (splitFn c v n inv) inv v' ↔ v' ≠ v ∧ Cuts A c inv v' := by
  constructor
  · rintro ⟨⟨x, hx, hcx, hxi⟩, y, hy, hcy, hyi⟩
    rw [splitFn, if_neg fun h => hyi h.2] at hcy
    have hxv : c x ≠ v := fun h => by
      rw [splitFn, if_pos ⟨h, hxi⟩] at hcx
      exact absurd (hcx.trans hcy.symm) (Nat.ne_of_gt (hlt y))
    rw [splitFn, if_neg fun h => hxv h.1] at hcx
    exact ⟨hcx ▸ hxv, ⟨x, hx, hcx, hxi⟩, y, hy, hcy, hyi⟩
  · rintro ⟨hv, ⟨x, hx, hcx, hxi⟩, y, hy, hcy, hyi⟩
    exact ⟨⟨x, hx, (if_neg fun h => hv (hcx ▸ h.1)).trans hcx, hxi⟩,
      y, hy, (if_neg fun h => hyi h.2).trans hcy, hyi⟩

theorem Inv1.split (h : Inv1 A P c) (hinvnd : inv.Nodup) (hinv : ∀ x ∈ inv, x ∈ U A) {v : Nat}
    (hv : Cuts A c inv v) : Inv1 A (splitClass P v inv) (splitFn c v P.length inv) := by
  refine ⟨h.rep.split hinvnd hinv v, fun j hj1 hj2 => ?_⟩
  rw [splitClass_length] at hj2
  by_cases hjn : j = P.length
  · obtain ⟨x, hx, hc⟩ := hv.1
    exact ⟨x, hx, (if_pos hc).trans hjn.symm⟩
  · by_cases hjv : j = v
    · obtain ⟨y, hy, hcy, hyi⟩ := hv.2
      exact ⟨y, hy, (if_neg fun h => hyi h.2).trans (hcy.trans hjv.symm)⟩
    · obtain ⟨z, hz, hcz⟩ := h.ne j hj1 (by omega)
      exact ⟨z, hz, (if_neg fun h => hjv (hcz ▸ h.1)).trans hcz⟩

/-- What a run of `refineOne`s with the splitter `inv` does to the class function and the waiting pairs:
classes are only cut (`old`), and only along `inv` (`only`); a waiting class stays waiting, as the classes
it is cut into (`keep`); of two classes cut apart one is waiting (`new`); a split is paid for by `|syms|`
pushes (`len`). -/
structure Round (inv : List (Option σ)) (syms : List Nat) (c : Option σ → Nat) (st : HState σ)
    (c' : Option σ → Nat) (st' : HState σ) : Prop where
  sub : (∀ e ∈ st.incl, e ∈ st.stack) → ∀ e ∈ st'.incl, e ∈ st'.stack
  len : st'.stack.length + syms.length * st.part.length = st.stack.length + syms.length * st'.part.length
  old : ∀ x y, c' x = c' y → c x = c y
  only : ∀ x y, c x = c y → (x ∈ inv ↔ y ∈ inv) → c' x = c' y
  keep : ∀ b ∈ syms, ∀ z, (c z, b) ∈ st.incl → (c' z, b) ∈ st'.incl
  new : ∀ b ∈ syms, ∀ z z', c z = c z' → c' z ≠ c' z' → (c' z, b) ∈ st'.incl ∨ (c' z', b) ∈ st'.incl

section
variable {syms : List Nat} {c' c'' : Option σ → Nat} {st st' st'' : HState σ}

theorem Round.refl : Round inv syms c st c st :=
  ⟨id, rfl, fun _ _ h => h, fun _ _ h _ => h, fun _ _ _ h => h, fun _ _ _ _ h hne => absurd h hne⟩

theorem Round.trans (h : Round inv syms c st c' st') (h' : Round inv syms c' st' c'' st'') :
    Round inv syms c st c'' st'' := by
  refine ⟨fun hs => h'.sub (h.sub hs), by have := h.len; have := h'.len; omega,
    fun x y e => h.old x y (h'.old x y e), fun x y e hi => h'.only x y (h.only x y e hi) hi,
    fun b hb z hz => h'.keep b hb z (h.keep b hb z hz), fun b hb z z' e hne => ?_⟩
  -- cut apart by the first run: one was waiting then and still is; else by the second
  by_cases e' : c' z = c' z'
  · exact h'.new b hb z z' e' hne
  · exact (h.new b hb z z' e e').imp (h'.keep b hb z) (h'.keep b hb z')

theorem round_refineOne (st : HState σ) (v : Nat) (hlt : ∀ x, c x < st.part.length) :
    Round inv syms c st (splitFn c v st.part.length inv) (refineOne syms inv st v) := by
  obtain ⟨hp, hl, hpush⟩ := refineOne_spec syms inv st v
  refine ⟨hp.sub, ?_, fun x y => splitFn_old hlt, fun x y e hi => by simp only [splitFn, e, hi],
    fun b hb z hz => ?_, fun b hb z z' e hne => ?_⟩
  · rw [hl, refineOne_part, splitClass_length, Nat.mul_succ]
    omega
  · unfold splitFn
    split
    · rename_i h1
      exact (hpush b hb).resolve_right fun h => h.1 (h1.1 ▸ hz)
    · exact hp.incl _ hz
  · -- `z`, `z'` were together and are now in `v` and the new class: one of the two was pushed
    have hp2 := ((hpush b hb).imp_right And.right).symm
    unfold splitFn at hne ⊢
    by_cases h1 : c z = v ∧ z ∈ inv <;> by_cases h2 : c z' = v ∧ z' ∈ inv <;>
      simp only [h1, h2, if_false] at hne ⊢
    · exact absurd rfl hne
    · rw [← e, h1.1]; exact hp2.symm
    · rw [e, h2.1]; exact hp2
    · exact absurd e hne
end

/-- One pass of `for valid_set in …` (`vs` = the classes the splitter `inv` cuts): `Inv1` survives,
afterwards `inv` cuts no class, and the pass is a `Round`. -/
theorem fold_round (syms : List Nat) (hinvnd : inv.Nodup) (hinv : ∀ x ∈ inv, x ∈ U A) :
    ∀ (vs : List Nat) (st : HState σ) (c : Option σ → Nat), vs.Nodup →
      (∀ v, v ∈ vs ↔ Cuts A c inv v) → Inv1 A st.part c →
      ∃ c', Inv1 A (vs.foldl (refineOne syms inv) st).part c' ∧ (∀ v, ¬ Cuts A c' inv v) ∧
        Round inv syms c st c' (vs.foldl (refineOne syms inv) st) := by
  intro vs
  induction vs with
  | nil => exact fun st c _ hvs h1 => ⟨c, h1, fun v hv => List.not_mem_nil ((hvs v).mpr hv), Round.refl⟩
  | cons v vs ih =>
    intro st c hnd hvs h1
    obtain ⟨hv, hnd⟩ := List.nodup_cons.mp hnd
    have hcut : ∀ v', v' ∈ vs ↔ Cuts A (splitFn c v st.part.length inv) inv v' := by
      intro v'
      rw [cuts_split h1.rep.lt, ← hvs, List.mem_cons]
      exact ⟨fun h => ⟨fun e => hv (e ▸ h), Or.inr h⟩, fun h => h.2.resolve_left h.1⟩
    obtain ⟨c', h1', hu, hr⟩ := ih (refineOne syms inv st v) _ hnd hcut
      (by rw [refineOne_part]; exact h1.split hinvnd hinv ((hvs v).mp List.mem_cons_self))
    exact ⟨c', h1', hu, (round_refineOne st v h1.rep.lt).trans hr⟩

def popState (st : HState σ) (c a : Nat) (rest : List (Nat × Nat)) : HState σ :=
  { st with stack := rest, incl := st.incl.filter (· ≠ (c, a)) }

def iterBody (A : ENFA σ) (st : HState σ) (c a : Nat) (rest : List (Nat × Nat)) : HState σ :=
  (validSets st.part (invOf A st.part c a)).foldl (refineOne A.syms (invOf A st.part c a))
    (popState st c a rest)

theorem invOf_sub (A : ENFA σ) (P : List (List (Option σ))) (c a : Nat) :
    ∀ x ∈ invOf A P c a, x ∈ U A := fun x hx => ((mem_invOf A P c a x).mp hx).1

theorem iter_round (hnd : A.states.Nodup) (st : HState σ) (j a : Nat) (rest : List (Nat × Nat))
    (h1 : Inv1 A st.part c) :
    ∃ c', Inv1 A (iterBody A st j a rest).part c' ∧ (∀ v, ¬ Cuts A c' (invOf A st.part j a) v) ∧
      Round (invOf A st.part j a) A.syms c (popState st j a rest) c' (iterBody A st j a rest) :=
  have hinvnd := invOf_nodup hnd h1.rep j a
  have hinv := invOf_sub A st.part j a
  fold_round A.syms hinvnd hinv _ _ c (List.nodup_range.filter _) (h1.rep.valid_iff hinvnd hinv) h1

theorem iter_inv1 (hnd : A.states.Nodup) (st : HState σ) (j a : Nat) (rest : List (Nat × Nat))
    (h1 : ∃ c, Inv1 A st.part c) : ∃ c, Inv1 A (iterBody A st j a rest).part c :=
  let ⟨_, h1⟩ := h1
  let ⟨c', h, _⟩ := iter_round hnd st j a rest h1
  ⟨c', h⟩

theorem loop_inv (A : ENFA σ) (Inv : HState σ → Prop)
    (hstep : ∀ st c a rest, st.stack = (c, a) :: rest → Inv st → Inv (iterBody A st c a rest)) :
    ∀ fuel st st', Inv st → hopcroftLoop A fuel st = some st' → Inv st' ∧ st'.stack = [] := by
  intro fuel st
  -- the round of `hopcroftLoop` is `iterBody` unfolded, so `hstep` fits the induction hypothesis
  fun_induction hopcroftLoop A fuel st with
  | case1 =>
    intro st' hi h
    cases h
    exact ⟨hi, rfl⟩
  | case2 => exact fun st' _ h => nomatch h
  | case3 fuel st _ hs =>
    intro st' hi h
    cases h
    exact ⟨hi, hs⟩
  | case4 fuel st _ c a rest hs _ _ _ ih => exact fun st' hi h => ih st' (hstep st c a rest hs hi) h

/-- Termination.  The fuel pays for the pairs on the stack and for `|syms|` pushes per class still to
come, there being at most `|states| + 2` classes: by `Round.len` a round uses up exactly one unit. -/
theorem loop_isSome (hnd : A.states.Nodup) :
    ∀ fuel (st : HState σ), (∃ c, Inv1 A st.part c) →
      st.stack.length + A.syms.length * (A.states.length + 2) ≤ fuel + A.syms.length * st.part.length →
      (hopcroftLoop A fuel st).isSome := by
  intro fuel st
  fun_induction hopcroftLoop A fuel st with
  | case1 => exact fun _ _ => rfl
  | case2 st hne =>
    intro ⟨_, h1⟩ h
    have := Nat.mul_le_mul_left A.syms.length h1.length_le
    have := List.eq_nil_of_length_eq_zero (l := st.stack) (by omega)
    exact absurd (congrArg (fun s => { st with stack := s }) this) (hne _ _)
  | case3 => exact fun _ _ => rfl
  | case4 fuel st _ j a rest hs _ _ _ ih =>
    intro ⟨c, h1⟩ h
    rw [hs, List.length_cons] at h
    obtain ⟨c', h1', -, hr⟩ := iter_round hnd st j a rest h1
    have := hr.len
    have : (iterBody A st j a rest).stack.length + A.syms.length * (A.states.length + 2) ≤
        fuel + A.syms.length * (iterBody A st j a rest).part.length := by
      simp only [popState] at this
      omega
    exact ih ⟨c', h1'⟩ this

def finalsL (A : ENFA σ) : List (Option σ) := (A.states.filter (· ∈ A.finals)).map some
def nonFinalsL (A : ENFA σ) : List (Option σ) := (A.states.filter (· ∉ A.finals)).map some ++ [none]
def toAdd (A : ENFA σ) : Nat := if (nonFinalsL A).length < (finalsL A).length then 1 else 0
def initState (A : ENFA σ) : HState σ :=
  A.syms.foldl (fun st a => hinsert st (toAdd A) a)
    { part := [finalsL A, nonFinalsL A], stack := [], incl := [] }

theorem hopcroft_eq (A : ENFA σ) (fuel : Nat) :
    A.hopcroft fuel = (hopcroftLoop A fuel (initState A)).map (·.part) := rfl

/-- `insert(to_add, symbol)` for every symbol is the loop of `refineOne` with both halves called `to_add` -/
theorem initState_eq (A : ENFA σ) : initState A = A.syms.foldl (pushStep (toAdd A) (toAdd A) True)
    { part := [finalsL A, nonFinalsL A], stack := [], incl := [] } := by
  unfold initState
  congr
  funext st a
  obtain ⟨t, ht, rfl | ⟨-, rfl⟩⟩ := pushStep_cases (toAdd A) (toAdd A) True st a <;> exact ht.symm

theorem initState_pushed (A : ENFA σ) :
    Pushed { part := [finalsL A, nonFinalsL A], stack := [], incl := [] } (initState A) := by
  rw [initState_eq]
  exact (foldl_pushStep ..).1

theorem initState_part (A : ENFA σ) : (initState A).part = [finalsL A, nonFinalsL A] :=
  (initState_pushed A).part

theorem initState_stack_length (A : ENFA σ) : (initState A).stack.length = A.syms.length := by
  rw [initState_eq, (foldl_pushStep ..).2.1]
  exact Nat.zero_add _

theorem initState_incl (A : ENFA σ) (b : Nat) (hb : b ∈ A.syms) : (toAdd A, b) ∈ (initState A).incl := by
  rw [initState_eq]
  exact ((foldl_pushStep ..).2.2 b hb).elim id And.right

/-- `x` is a final state (the trash state is none) -/
def isFin (A : ENFA σ) (x : Option σ) : Bool := x.any (· ∈ A.finals)

theorem isFin_iff (he : A.EpsFree) (x : Option σ) : isFin A x = true ↔ A.RightLang x [] := by
  cases x with
  | none => simp [isFin, RightLang]
  | some p => rw [rightLang_nil he]; simp [isFin]

theorem initState_part_eq (A : ENFA σ) :
    (initState A).part = [(U A).filter (isFin A), (U A).filter fun x => !isFin A x] := by
  rw [initState_part]
  -- `U A` is `states.map some ++ [none]`: filtering commutes with `map some`, and the trash state
  -- is never final, so it drops out of the first class and ends the second
  simp [finalsL, nonFinalsL, U, isFin, List.filter_map, Function.comp_def]

theorem mem_cls_filter_pair {α : Type} (L : List α) (p : α → Bool) (j : Nat) (x : α) :
    x ∈ cls [L.filter p, L.filter fun x => !p x] j ↔ x ∈ L ∧ j = if p x then 0 else 1 := by
  match j with
  | 0 => cases h : p x <;> simp [cls, h]
  | 1 => cases h : p x <;> simp [cls, h]
  | j + 2 => cases p x <;> simp [cls]

theorem rep_filter_pair (hU : (U A).Nodup) (p : Option σ → Bool) :
    Rep A [(U A).filter p, (U A).filter fun x => !p x] fun x => if p x then 0 else 1 := by
  refine ⟨fun j => ?_, fun j x => (mem_cls_filter_pair _ p j x).trans (and_congr_right fun _ => eq_comm),
    fun x => by split <;> simp⟩
  match j with
  | 0 => exact hU.filter _
  | 1 => exact hU.filter _
  | j + 2 => exact List.nodup_nil

/-- the class function of the initial partition -/
def initFn (A : ENFA σ) (x : Option σ) : Nat := if isFin A x then 0 else 1

theorem init_inv1 (A : ENFA σ) (hnd : A.states.Nodup) : Inv1 A (initState A).part (initFn A) := by
  rw [initState_part_eq]
  refine ⟨rep_filter_pair (U_nodup A hnd) _, fun j hj1 hj2 => ⟨none, none_mem_U A, ?_⟩⟩
  simp only [List.length_cons, List.length_nil] at hj2
  exact (Nat.le_antisymm (Nat.le_of_lt_succ hj2) hj1).symm

/-- Hopcroft's invariant on the class function `c`: the partition lies between finality and Nerode
equivalence, and whenever a symbol leads two members of a class into different classes, one of these is
waiting for that symbol. -/
structure Mid (A : ENFA σ) (c : Option σ → Nat) (st : HState σ) : Prop where
  incl_sub : ∀ e ∈ st.incl, e ∈ st.stack
  nc : ∀ x y, x ∈ U A → y ∈ U A → A.Nerode x y → c x = c y
  fr : ∀ x y, x ∈ U A → y ∈ U A → c x = c y → (A.RightLang x [] ↔ A.RightLang y [])
  hi : ∀ b ∈ A.syms, ∀ x y, x ∈ U A → y ∈ U A → c x = c y → c (A.dnext x b) ≠ c (A.dnext y b) →
    (c (A.dnext x b), b) ∈ st.incl ∨ (c (A.dnext y b), b) ∈ st.incl

theorem iter_inv2 (hA : A.WF) (hd : A.Deterministic) (he : A.EpsFree) (hnd : A.states.Nodup)
    (st : HState σ) (j a : Nat) (rest : List (Nat × Nat)) (hs : st.stack = (j, a) :: rest)
    (h1 : Inv1 A st.part c) (hm : Mid A c st) :
    ∃ c', Inv1 A (iterBody A st j a rest).part c' ∧ Mid A c' (iterBody A st j a rest) := by
  have hmem := Rep.mem_invOf hA h1.rep j a
  obtain ⟨c', h1', hu, hr⟩ := iter_round hnd st j a rest h1
  -- no class is cut any more, so two members of a class are both inside or both outside the splitter
  have key : ∀ x y, x ∈ U A → y ∈ U A → c' x = c' y → x ∈ invOf A st.part j a →
      y ∈ invOf A st.part j a := fun x y hx hy h hxi =>
    Classical.byContradiction fun hyi => hu (c' x) ⟨⟨x, hx, rfl, hxi⟩, y, hy, h.symm, hyi⟩
  refine ⟨c', h1', hr.sub fun e he => ?_, fun x y hx hy hn => ?_,
    fun x y hx hy h => hm.fr x y hx hy (hr.old x y h), fun b hb x y hx hy h hne => ?_⟩
  · simp only [popState, List.mem_filter, decide_eq_true_eq] at he ⊢
    have := hm.incl_sub e he.1
    rw [hs] at this
    simpa [he.2] using this
  · -- the splitter is a union of Nerode classes
    refine hr.only x y (hm.nc x y hx hy hn) ?_
    rw [hmem, hmem, hm.nc _ _ (dnext_mem_U A hA x a) (dnext_mem_U A hA y a)
      (nerode_dnext A hd he x y a hn)]
    simp only [hx, hy]
  · by_cases hr' : c (A.dnext x b) = c (A.dnext y b)
    · exact hr.new b hb _ _ hr' hne
    · -- a class was waiting before the pop.  It was not the popped one: then `x` would lie in the splitter
      -- and `y`, whose successor is in another class, outside, and their class would be cut.
      have hw : ∀ x y, x ∈ U A → y ∈ U A → c' x = c' y → (c (A.dnext x b), b) ∈ st.incl →
          c (A.dnext x b) ≠ c (A.dnext y b) → (c' (A.dnext x b), b) ∈ (iterBody A st j a rest).incl := by
        intro x y hx hy h hw hr'
        refine hr.keep b hb _ (List.mem_filter.mpr ⟨hw, decide_eq_true ?_⟩)
        rintro ⟨⟩
        exact hr' ((hmem y).mp (key x y hx hy h ((hmem x).mpr ⟨hx, rfl⟩))).2.symm
      exact (hm.hi b hb x y hx hy (hr.old x y h) hr').imp (fun hw' => hw x y hx hy h hw' hr')
        (fun hw' => hw y x hy hx h.symm hw' (Ne.symm hr'))

theorem init_mid (he : A.EpsFree) : Mid A (initFn A) (initState A) := by
  have hfin : ∀ x y, (A.RightLang x [] ↔ A.RightLang y []) ↔ initFn A x = initFn A y := by
    intro x y
    rw [← isFin_iff he, ← isFin_iff he, initFn, initFn]
    cases isFin A x <;> cases isFin A y <;> simp
  refine ⟨(initState_pushed A).sub (fun e he => absurd he List.not_mem_nil),
    fun x y _ _ hn => (hfin x y).mp (hn []), fun x y _ _ h => (hfin x y).mpr h, ?_⟩
  intro b hb x y _ _ _ hne
  -- of two different classes among the two there are, one is `toAdd`
  have h01 : ∀ z, initFn A z = toAdd A ∨ initFn A z = 1 - toAdd A := fun z => by
    unfold initFn toAdd; split <;> split <;> simp
  have hb' := initState_incl A b hb
  rcases h01 (A.dnext x b) with h | h
  · exact Or.inl (h ▸ hb')
  · rcases h01 (A.dnext y b) with h' | h'
    · exact Or.inr (h' ▸ hb')
    · exact absurd (h.trans h'.symm) hne

/-- when the loop ends the classes are the Nerode classes: no pair is waiting, so `c` is a congruence -/
theorem Mid.nerode {st : HState σ} (hA : A.WF) (hd : A.Deterministic) (he : A.EpsFree) (hm : Mid A c st)
    (hs : st.stack = []) : ∀ x y, x ∈ U A → y ∈ U A → (c x = c y ↔ A.Nerode x y) := by
  have hincl : ∀ e, e ∉ st.incl := fun e he' => by
    have := hm.incl_sub e he'
    rw [hs] at this
    cases this
  have hsame : ∀ w x y, x ∈ U A → y ∈ U A → c x = c y → (A.RightLang x w ↔ A.RightLang y w) := by
    intro w
    induction w with
    | nil => exact hm.fr
    | cons a w ih =>
      intro x y hx hy h
      rw [rightLang_dnext A hd he, rightLang_dnext A hd he]
      by_cases ha : a ∈ A.syms
      · refine ih _ _ (dnext_mem_U A hA x a) (dnext_mem_U A hA y a) ?_
        -- the successors are in one class: otherwise a pair would still be waiting
        refine Classical.byContradiction fun hne => ?_
        exact (hm.hi a ha x y hx hy h hne).elim (hincl _) (hincl _)
      · rw [dnext_not_sym A hA x a ha, dnext_not_sym A hA y a ha]
  exact fun x y hx hy => ⟨fun h w => hsame w x y hx hy h, hm.nc x y hx hy⟩

theorem Rep.isNerodePartition (h : Rep A P c)
    (hN : ∀ x y, x ∈ U A → y ∈ U A → (c x = c y ↔ A.Nerode x y)) :
    A.IsNerodePartition (P.filter (· ≠ [])) := by
  have hmem : ∀ g ∈ P.filter (· ≠ []), ∃ j, cls P j = g := fun g hg =>
    let ⟨j, _, hj⟩ := (mem_iff_cls _ g).mp (List.mem_of_mem_filter hg)
    ⟨j, hj⟩
  refine ⟨fun x => ?_, ?_, ?_⟩
  · rw [← mem_U]
    constructor
    · rintro ⟨g, hg, hx⟩
      obtain ⟨j, rfl⟩ := hmem g hg
      exact ((h.mem j x).mp hx).1
    · intro hx
      have hxc := (h.mem _ x).mpr ⟨hx, rfl⟩
      exact ⟨_, List.mem_filter.mpr ⟨(mem_iff_cls _ _).mpr ⟨_, h.lt x, rfl⟩,
        decide_eq_true (List.ne_nil_of_mem hxc)⟩, hxc⟩
  · intro g hg x hx y hy
    obtain ⟨j, rfl⟩ := hmem g hg
    rw [h.mem] at hx hy
    exact (hN x y hx.1 hy.1).mp (hx.2.trans hy.2.symm)
  · intro g hg g' hg' x hx y hy hn
    obtain ⟨j, rfl⟩ := hmem g hg
    obtain ⟨k, rfl⟩ := hmem g' hg'
    rw [h.mem] at hx hy
    rw [← hx.2, ← hy.2, (hN x y hx.1 hy.1).mpr hn]

end Pfl.ENFA.Hop
