/-
Completeness of the Earley recogniser (abstract form): if the word is in the language of the
target grammar and the recogniser answers, it answers True.
-/
import Pfl.Proofs.EarleyCompleteLoop
namespace Pfl
namespace Earley
namespace Cmp
open FsDag Lem

theorem contains_complete {C : Ctx} (hC : CtxOK C) (hT : TgtOK C) {st0 : Store} {rk0 : Nat → Nat}
    (h0 : StartC C st0 rk0) {d : String} (hd : C.P d) (hL : C.tgt.Lang C.word) {fuel : Nat} {b : Bool}
    (h : contains C.G st0 C.word fuel = some b) : b = true := by
  rw [contains_eq, Option.map_eq_some_iff] at h
  obtain ⟨T3, hc, h⟩ := h
  obtain ⟨hB1, hle1, hcov1⟩ := push_spec (Lay.empty h0.baseS) (Nat.succ_pos _) (h0.first hC)
  have hinit : CovT C (initT C.G st0 C.word.length) ⟨C.spec.length, [], 0, 0, 0⟩ :=
    hC.prods_len ▸ hcov1 [] ⟨_, resp_default C.P st0 hd, occ_gamma (by
      rw [hC.prods_len]; exact List.getElem?_eq_none (Nat.le_refl _)) _ _ _ _⟩
  -- nothing is done yet: every processed state is still on the chart
  have hnd : ∀ {j s}, ¬ Done (initT C.G st0 C.word.length) j s := fun h =>
    not_mem_procStates_empty (hle1.done h).1
  have hL1 : LI C 0 (initT C.G st0 C.word.length) :=
    ⟨fun j hj => absurd hj (Nat.not_lt_zero j), fun j s hdn => absurd hdn hnd,
      fun j s v hdn => absurd hdn hnd, fun j s t hdn => absurd hdn hnd,
      fun m e nx c hdn => absurd hdn hnd, hinit⟩
  obtain ⟨rk3, hB3, hL3⟩ := cols_spec hC fuel _ T3 rk0 hB1 hL1 hc
  obtain ⟨k, pr, env, hk, hst, hid⟩ := ideal_final hT hL
  obtain ⟨s, hs, rfl, h2, h3, _⟩ := ideal_covered hC hB3 hL3 _ hid
  rw [← h, List.any_eq_true]
  refine ⟨s, hs, ?_⟩
  have hinc : incomplete C.G s = false := by
    rw [incomplete_prX hC, prX_spec hk, h3]; exact decide_eq_false (Nat.lt_irrefl _)
  simp only [decide_eq_true_eq, Bool.not_eq_true']
  simp only [hinc, h2, (prodOf_spec hC hk).1, hst, and_self]

end Cmp
end Earley
end Pfl
