/- Regex objects (C19): the frame facts of `setCounter`, the tree an address stands for, and `process` /
`toENFA` against the Thompson construction. -/
import Pfl.Spec.RegexObject
import Pfl.Props.C05_Regex
import Pfl.Props.C01_Accepts
namespace Pfl
namespace RxObj
namespace P
open Pfl.Rx

theorem modify_eq_set {α : Type} {H : List α} {j : Nat} {o : α} (h : H[j]? = some o) (f : α → α) :
    H.modify j f = H.set j (f o) := by
  haveI : Inhabited α := ⟨o⟩
  rw [List.modify_eq_set, h]; rfl

/-- `setCounter` and `setAcc` are core's `List.modify`, whose lemmas give their frame facts -/
theorem setCounter_eq (H : Heap) (j c : Nat) :
    setCounter H j c = H.modify j fun o => { o with counter := c } := by
  unfold setCounter
  split <;> rename_i h
  · rw [List.modify_eq_self (by simpa using h)]
  · rw [modify_eq_set h]

theorem setAcc_eq (H : Heap) (j : Nat) (A : ENFA Nat) :
    setAcc H j A = H.modify j fun o => { o with acc := some A } := by
  unfold setAcc
  split <;> rename_i h
  · rw [List.modify_eq_self (by simpa using h)]
  · rw [modify_eq_set h]

theorem length_setCounter (H : Heap) (j c : Nat) : (setCounter H j c).length = H.length := by
  rw [setCounter_eq, List.length_modify]

theorem getElem?_setCounter_self {H : Heap} {j : Nat} {o : Obj} (h : H[j]? = some o) (c : Nat) :
    (setCounter H j c)[j]? = some { o with counter := c } := by
  rw [setCounter_eq, List.getElem?_modify_eq, h]; rfl

theorem getElem?_setCounter_ne (H : Heap) {j k : Nat} (h : k ≠ j) (c : Nat) :
    (setCounter H j c)[k]? = H[k]? := by
  rw [setCounter_eq, List.getElem?_modify_ne _ _ (Ne.symm h)]

theorem setCounter_idem (H : Heap) (j c c' : Nat) :
    setCounter (setCounter H j c) j c' = setCounter H j c' := by
  simp only [setCounter_eq, List.modify_modify_eq]; rfl

theorem setCounter_same {H : Heap} {j : Nat} {o : Obj} (h : H[j]? = some o) :
    setCounter H j o.counter = H := by
  obtain ⟨hj, rfl⟩ := List.getElem?_eq_some_iff.1 h
  unfold setCounter
  rw [h]
  exact List.set_getElem_self hj

theorem setCounter_comm (H : Heap) {i j : Nat} (hij : i ≠ j) (c d : Nat) :
    setCounter (setCounter H i c) j d = setCounter (setCounter H j d) i c := by
  simp only [setCounter_eq, List.modify_modify_ne _ _ _ hij]

/-- the tree of a node, given the trees of its sons -/
def node (hd : Head) (sons : List Nat) (g : Nat → Option Rx) : Option Rx :=
  match hd, sons with
  | .empty, [] => some .empty
  | .eps, [] => some .eps
  | .sym s, [] => some (.sym s)
  | .cat, [a, b] =>
    match g a, g b with
    | some ta, some tb => some (.cat ta tb)
    | _, _ => none
  | .alt, [a, b] =>
    match g a, g b with
    | some ta, some tb => some (.alt ta tb)
    | _, _ => none
  | .star, [a] => (g a).map .star
  | _, _ => none

theorem treeOf_succ (n : Nat) (H : Heap) (i : Nat) :
    treeOf (n + 1) H i = (H[i]?).bind fun o => node o.head o.sons (treeOf n H) := by
  rw [treeOf]
  cases H[i]? <;> rfl

theorem node_mono {hd : Head} {sons : List Nat} {g g' : Nat → Option Rx} {r : Rx}
    (h : ∀ s r, g s = some r → g' s = some r) (hn : node hd sons g = some r) :
    node hd sons g' = some r := by
  unfold node at hn ⊢
  split at hn
  · exact hn
  · exact hn
  · exact hn
  · split at hn
    · rename_i ha hb; rw [h _ _ ha, h _ _ hb]; exact hn
    · cases hn
  · split at hn
    · rename_i ha hb; rw [h _ _ ha, h _ _ hb]; exact hn
    · cases hn
  · obtain ⟨ta, ha, rfl⟩ := Option.map_eq_some_iff.1 hn
    rw [h _ _ ha]; rfl
  · cases hn

inductive Shape (i : Nat) : Head → List Nat → Prop
  | empty : Shape i .empty []
  | eps : Shape i .eps []
  | sym (s : String) : Shape i (.sym s) []
  | cat {a b : Nat} : a < i → b < i → Shape i .cat [a, b]
  | alt {a b : Nat} : a < i → b < i → Shape i .alt [a, b]
  | star {a : Nat} : a < i → Shape i .star [a]

theorem WFObj_sons_lt {i : Nat} {o : Obj} (h : WFObj i o = true) : ∀ s ∈ o.sons, s < i :=
  fun s hs => of_decide_eq_true (List.all_eq_true.1 (Bool.and_eq_true_iff.1 h).1 s hs)

theorem WFObj_iff_shape {i : Nat} {o : Obj} : WFObj i o = true ↔ Shape i o.head o.sons := by
  obtain ⟨hd, sons, cnt, acc⟩ := o
  refine ⟨fun h => ?_, fun h => by cases h <;> simp [WFObj, *]⟩
  have hlt := WFObj_sons_lt h
  have hm := (Bool.and_eq_true_iff.1 h).2
  simp only at hlt hm ⊢
  split at hm
  · exact .empty
  · exact .eps
  · exact .sym _
  · exact .cat (hlt _ List.mem_cons_self) (hlt _ (.tail _ List.mem_cons_self))
  · exact .alt (hlt _ List.mem_cons_self) (hlt _ (.tail _ List.mem_cons_self))
  · exact .star (hlt _ List.mem_cons_self)
  · cases hm

theorem node_congr {i : Nat} {hd : Head} {sons : List Nat} {g g' : Nat → Option Rx}
    (hs : Shape i hd sons) (h : ∀ s, s < i → g s = g' s) : node hd sons g = node hd sons g' := by
  cases hs with
  | empty | eps | sym _ => rfl
  | cat ha hb | alt ha hb => dsimp only [node]; rw [h _ ha, h _ hb]
  | star ha => dsimp only [node]; rw [h _ ha]

theorem node_some {i : Nat} {hd : Head} {sons : List Nat} {g : Nat → Option Rx}
    (hs : Shape i hd sons) (h : ∀ s, s < i → ∃ r, g s = some r) : ∃ r, node hd sons g = some r := by
  cases hs with
  | empty | eps | sym _ => exact ⟨_, rfl⟩
  | cat ha hb | alt ha hb =>
    obtain ⟨ra, hra⟩ := h _ ha
    obtain ⟨rb, hrb⟩ := h _ hb
    dsimp only [node]; rw [hra, hrb]; exact ⟨_, rfl⟩
  | star ha =>
    obtain ⟨ra, hra⟩ := h _ ha
    dsimp only [node]; rw [hra]; exact ⟨_, rfl⟩

/-- an update of counter and cache changes no tree: trees are read off heads and sons -/
theorem treeOf_modify (κ : Obj → Nat) (α : Obj → Option (ENFA Nat)) (n : Nat) (H : Heap) (j i : Nat) :
    treeOf n (H.modify j fun o => ⟨o.head, o.sons, κ o, α o⟩) i = treeOf n H i := by
  induction n generalizing i with
  | zero => rfl
  | succ n ih =>
    rw [treeOf_succ, treeOf_succ, funext ih, List.getElem?_modify]
    cases H[i]? with
    | none => rfl
    | some o => simp only [Option.map_eq_map, Option.map_some, Option.bind_some]; split <;> rfl

theorem treeOf_setCounter (n : Nat) (H : Heap) (j c i : Nat) :
    treeOf n (setCounter H j c) i = treeOf n H i :=
  setCounter_eq H j c ▸ treeOf_modify _ _ n H j i

theorem WF_iff (H : Heap) : WF H = true ↔ ∀ i o, H[i]? = some o → Shape i o.head o.sons := by
  unfold WF
  simp only [List.all_eq_true, ← WFObj_iff_shape]
  constructor
  · intro h i o hio
    have := h i (List.mem_range.2 (List.getElem?_eq_some_iff.1 hio).1)
    rwa [hio] at this
  · intro h i hi
    have h1 := List.getElem?_eq_getElem (List.mem_range.1 hi)
    rw [h1]
    exact h i _ h1

theorem WF_modify (κ : Obj → Nat) (α : Obj → Option (ENFA Nat)) {H : Heap} (hwf : WF H = true) (j : Nat) :
    WF (H.modify j fun o => ⟨o.head, o.sons, κ o, α o⟩) = true := by
  rw [WF_iff] at hwf ⊢
  intro i o hio
  rw [List.getElem?_modify] at hio
  obtain ⟨o', ho', rfl⟩ := Option.map_eq_some_iff.1 hio
  split <;> exact hwf i o' ho'

theorem WF_setCounter {H : Heap} (hwf : WF H = true) (j c : Nat) : WF (setCounter H j c) = true :=
  setCounter_eq H j c ▸ WF_modify _ _ hwf j

theorem treeOf_mono {H : Heap} {fuel fuel' i : Nat} {r : Rx} (h : treeOf fuel H i = some r)
    (hle : fuel ≤ fuel') : treeOf fuel' H i = some r := by
  induction fuel generalizing fuel' i r with
  | zero => cases h
  | succ fuel ih =>
    obtain ⟨fuel', rfl⟩ : ∃ k, fuel' = k + 1 := ⟨fuel' - 1, by omega⟩
    rw [treeOf_succ] at h ⊢
    obtain ⟨o, ho, hn⟩ := Option.bind_eq_some_iff.1 h
    rw [ho]
    exact node_mono (fun s r hs => ih hs (by omega)) hn

theorem treeOf_some {H : Heap} (hwf : WF H = true) {i : Nat} (hi : i < H.length) :
    ∃ r, treeOf (i + 1) H i = some r := by
  induction i using Nat.strongRecOn with
  | _ i ih =>
    have ho : H[i]? = some H[i] := List.getElem?_eq_getElem hi
    rw [treeOf_succ, ho]
    refine node_some ((WF_iff H).1 hwf i _ ho) fun s hsi => ?_
    obtain ⟨r, hr⟩ := ih s hsi (by omega)
    exact ⟨r, treeOf_mono hr (by omega)⟩

theorem nextState_eq {H : Heap} {i : Nat} {o : Obj} (h : H[i]? = some o) :
    nextState H i = some (o.counter, setCounter H i (o.counter + 1)) := by
  unfold nextState; rw [h]

theorem nextState_setCounter {H : Heap} {i : Nat} {o : Obj} (h : H[i]? = some o) (c : Nat) :
    nextState (setCounter H i c) i = some (c, setCounter H i (c + 1)) := by
  rw [nextState_eq (getElem?_setCounter_self h c), setCounter_idem]

/-- lending and taking back: the son `s` ran with the lent counter up to `c'`, the parent takes `c'` and the
son gets its own counter back -/
theorem restore_eq {G : Heap} {i s : Nat} {so : Obj} (hso : G[s]? = some so) (hsi : s ≠ i) (c' : Nat) :
    setCounter (setCounter (setCounter G s c') i c') s so.counter = setCounter G i c' := by
  rw [setCounter_comm (setCounter G s c') (fun h => hsi h.symm) c' so.counter, setCounter_idem,
    setCounter_same hso]

theorem counterOf_setCounter {H : Heap} {i : Nat} {o : Obj} (h : H[i]? = some o) (c : Nat) :
    counterOf (setCounter H i c) i = some c := by
  rw [counterOf, getElem?_setCounter_self h]; rfl

/-- what `_process_to_enfa(f, t)` on object `i` returns when the object stands for `r` and its counter is
`c`: the Thompson edges of `r` numbered from `c`; only the counter of `i` has moved -/
def outcome (code : String → Nat) (H : Heap) (i f t c : Nat) (r : Rx) : List Edge × Heap :=
  ((thompsonAux code r f t c).1, setCounter H i (thompsonAux code r f t c).2)

/-- `_process_to_enfa` on object `i` of a well-formed heap is the Thompson construction on the tree of
`i`, numbered from the object's counter, and leaves the heap as it was except for that counter (the sons
have their counters back).  `process` and `treeOf` spend their fuel alike, one unit per node, so the
equation is exact: the call answers with the fuel with which `treeOf` reads the tree. -/
theorem process_eq (code : String → Nat) {fuel : Nat} {H : Heap} {i : Nat} (f t : Nat)
    (hwf : WF H = true) :
    process code fuel H i f t =
      (counterOf H i).bind fun c => (treeOf fuel H i).map (outcome code H i f t c) := by
  induction fuel generalizing H i f t with
  | zero => unfold counterOf; cases H[i]? <;> rfl
  | succ fuel ih =>
    -- `unfold` keeps the local helper as a `let` (`rw [process]` would inline it at its five calls)
    unfold process counterOf
    extract_lets son
    cases ho : H[i]? with
    | none => rfl
    | some o =>
      have hsh := (WF_iff H).1 hwf i o ho
      -- `_process_to_enfa_son` when the parent's counter stands at `c`: the son builds the fragment of its
      -- tree from `c`, the parent's counter moves on, and the son has its own counter back
      have hson : ∀ {s : Nat} (f t c : Nat), s < i →
          son (setCounter H i c) s f t = (treeOf fuel H s).map (outcome code H i f t c) := by
        intro s f t c hsi
        have hs : s < H.length := Nat.lt_trans hsi (List.getElem?_eq_some_iff.1 ho).1
        have hso : (setCounter H i c)[s]? = some H[s] := by
          rw [getElem?_setCounter_ne H (Nat.ne_of_lt hsi), List.getElem?_eq_getElem hs]
        simp only [son, getElem?_setCounter_self ho, hso]
        rw [ih f t (WF_setCounter (WF_setCounter hwf i c) s c), counterOf_setCounter hso c,
          treeOf_setCounter, treeOf_setCounter]
        cases treeOf fuel H s with
        | none => rfl
        | some r =>
          simp only [Option.map_some, Option.bind_some, outcome]
          rw [setCounter_idem, getElem?_setCounter_self hso]
          simp only
          rw [restore_eq hso (Nat.ne_of_lt hsi), setCounter_idem]
      clear_value son
      rw [treeOf_succ, ho]
      obtain ⟨hd, sons, cnt, acc⟩ := o
      simp only [Option.map_some, Option.bind_some, nextState_eq ho, nextState_setCounter ho] at hsh ⊢
      cases hsh with
      | empty | eps | sym _ =>
        simp only [node, Option.map_some, outcome, thompsonAux, setCounter_same ho]
      | cat ha hb | alt ha hb =>
        simp only [node]
        rw [hson _ _ _ ha]
        cases treeOf fuel H _ with
        | none => rfl
        | some ra =>
          simp only [Option.map_some, outcome, nextState_setCounter ho]
          rw [hson _ _ _ hb]
          cases treeOf fuel H _ <;> rfl
      | star ha =>
        simp only [node]
        rw [hson _ _ _ ha]
        cases treeOf fuel H _ <;> rfl

theorem treeOf_fuel {H : Heap} (hwf : WF H = true) {n i : Nat} {r : Rx} (h : treeOf n H i = some r) :
    treeOf (i + 1) H i = some r := by
  have hi : i < H.length := by
    cases n with
    | zero => cases h
    | succ n =>
      rw [treeOf_succ] at h
      obtain ⟨o, ho, -⟩ := Option.bind_eq_some_iff.1 h
      exact (List.getElem?_eq_some_iff.1 ho).1
  obtain ⟨r', hr'⟩ := treeOf_some hwf hi
  rw [hr', ← treeOf_mono hr' (Nat.le_max_left _ n), treeOf_mono h (Nat.le_max_right _ n)]

/-- `_process_to_enfa` on object `i` of a well-formed heap adds exactly the edges of the Thompson
construction of its tree, numbered from the object's counter, and leaves the heap as it was except for
that counter: the sons have their counters back -/
theorem process_spec (code : String → Nat) {fuel : Nat} {H H' : Heap} {i f t : Nat} {es : List Edge}
    (hwf : WF H = true) (h : process code fuel H i f t = some (es, H')) :
    ∃ r c, treeOf (i + 1) H i = some r ∧ counterOf H i = some c ∧
      es = (thompsonAux code r f t c).1 ∧ H' = setCounter H i (thompsonAux code r f t c).2 := by
  rw [process_eq code f t hwf] at h
  obtain ⟨c, hc, h⟩ := Option.bind_eq_some_iff.1 h
  obtain ⟨r, hr, he⟩ := Option.map_eq_some_iff.1 h
  cases he
  exact ⟨r, c, treeOf_fuel hwf hr, hc, rfl, rfl⟩

theorem process_isSome (code : String → Nat) {H : Heap} (hwf : WF H = true) {i : Nat}
    (hi : i < H.length) (f t : Nat) {fuel : Nat} (hf : i + 1 ≤ fuel) :
    (process code fuel H i f t).isSome := by
  obtain ⟨r, hr⟩ := treeOf_some hwf hi
  rw [process_eq code f t hwf, treeOf_mono hr hf, counterOf, List.getElem?_eq_getElem hi]
  rfl

/-- `to_epsilon_nfa()`: the automaton of the tree, numbered from the current counter; only the
counter of the object itself moves -/
theorem toENFA_eq (code : String → Nat) {fuel : Nat} {H : Heap} {i : Nat} (hwf : WF H = true) :
    toENFA code fuel H i = (counterOf H i).bind fun c => (treeOf fuel H i).map fun r =>
      ((r.thompson code c).1, setCounter H i (r.thompson code c).2) := by
  unfold toENFA counterOf
  cases ho : H[i]? with
  | none => simp only [nextState, ho]; rfl
  | some o =>
    simp only [nextState_eq ho, nextState_setCounter ho]
    rw [process_eq code _ _ (WF_setCounter hwf i _), counterOf_setCounter ho, treeOf_setCounter]
    cases treeOf fuel H i with
    | none => rfl
    | some r => simp only [Option.map_some, Option.bind_some, outcome, setCounter_idem]; rfl

theorem toENFA_spec (code : String → Nat) {fuel : Nat} {H H' : Heap} {i : Nat} {A : ENFA Nat}
    (hwf : WF H = true) (h : toENFA code fuel H i = some (A, H')) :
    ∃ r c, treeOf (i + 1) H i = some r ∧ counterOf H i = some c ∧
      A = (r.thompson code c).1 ∧ H' = setCounter H i (r.thompson code c).2 := by
  rw [toENFA_eq code hwf] at h
  obtain ⟨c, hc, h⟩ := Option.bind_eq_some_iff.1 h
  obtain ⟨r, hr, he⟩ := Option.map_eq_some_iff.1 h
  cases he
  exact ⟨r, c, treeOf_fuel hwf hr, hc, rfl, rfl⟩

theorem toENFA_isSome (code : String → Nat) {H : Heap} (hwf : WF H = true) {fuel i : Nat}
    (hi : i < H.length) (hf : i + 1 ≤ fuel) : (toENFA code fuel H i).isSome := by
  obtain ⟨r, hr⟩ := treeOf_some hwf hi
  rw [toENFA_eq code hwf, treeOf_mono hr hf, counterOf, List.getElem?_eq_getElem hi]
  rfl

theorem toENFA_lang (code : String → Nat) {fuel : Nat} {H H' : Heap} {i : Nat} {A : ENFA Nat}
    (hwf : WF H = true) (h : toENFA code fuel H i = some (A, H')) :
    ∃ r, treeOf (i + 1) H i = some r ∧ ∀ ks, A.Lang ks ↔ ∃ w, Denote r w ∧ w.map code = ks := by
  obtain ⟨r, c, hr, -, hA, -⟩ := toENFA_spec code hwf h
  refine ⟨r, hr, fun ks => ?_⟩
  rw [hA]
  exact thompson_lang code r c ks

end P
end RxObj
end Pfl
