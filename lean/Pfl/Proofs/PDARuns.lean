/-
Runs of pushdown automata: well-formedness of the value, the few ways runs are built, composed,
framed and taken apart, and `Pops`, the runs that empty a stack word, in the shape of a tree.
-/
import Pfl.Spec.PDA
namespace Pfl
namespace PDA

/-- `_states` / `_stack_alphabet` mention everything in use -/
structure WF {σ γ : Type} (P : PDA σ γ) : Prop where
  src : ∀ t ∈ P.delta, t.1 ∈ P.states
  dst : ∀ t ∈ P.delta, t.2.2.2.1 ∈ P.states
  pop : ∀ t ∈ P.delta, t.2.2.1 ∈ P.stack
  push : ∀ t ∈ P.delta, ∀ x ∈ t.2.2.2.2, x ∈ P.stack
  inp : ∀ t ∈ P.delta, ∀ c, t.2.1 = some c → c ∈ P.inputs
  start : ∀ s, P.start = some s → s ∈ P.states
  startStack : ∀ z, P.startStack = some z → z ∈ P.stack
  finals : ∀ f ∈ P.finals, f ∈ P.states

variable {σ γ : Type}

theorem WF.grow {P Q : PDA σ γ} (hP : P.WF)
    (hs : ∀ q ∈ P.states, q ∈ Q.states) (hk : ∀ x ∈ P.stack, x ∈ Q.stack)
    (hi : ∀ c ∈ P.inputs, c ∈ Q.inputs)
    (hd : ∀ t ∈ Q.delta, t ∈ P.delta ∨ (t.1 ∈ Q.states ∧ t.2.2.2.1 ∈ Q.states ∧ t.2.2.1 ∈ Q.stack ∧
      (∀ x ∈ t.2.2.2.2, x ∈ Q.stack) ∧ ∀ c, t.2.1 = some c → c ∈ Q.inputs))
    (hst : ∀ s, Q.start = some s → P.start = some s ∨ s ∈ Q.states)
    (hss : ∀ z, Q.startStack = some z → P.startStack = some z ∨ z ∈ Q.stack)
    (hf : ∀ f ∈ Q.finals, f ∈ P.finals ∨ f ∈ Q.states) : Q.WF where
  src t ht := (hd t ht).elim (fun h => hs _ (hP.src t h)) (·.1)
  dst t ht := (hd t ht).elim (fun h => hs _ (hP.dst t h)) (·.2.1)
  pop t ht := (hd t ht).elim (fun h => hk _ (hP.pop t h)) (·.2.2.1)
  push t ht x hx := (hd t ht).elim (fun h => hk _ (hP.push t h x hx)) (·.2.2.2.1 x hx)
  inp t ht c hc := (hd t ht).elim (fun h => hi _ (hP.inp t h c hc)) (·.2.2.2.2 c hc)
  start s h := (hst s h).elim (fun h => hs _ (hP.start s h)) id
  startStack z h := (hss z h).elim (fun h => hk _ (hP.startStack z h)) id
  finals f h := (hf f h).elim (fun h => hs _ (hP.finals f h)) id

/-- the move `c → c'` uses transition `t` -/
def StepBy (t : σ × Option String × γ × σ × List γ) (c c' : Config σ γ) : Prop :=
  ∃ β u', c = (t.1, t.2.1.toList ++ u', t.2.2.1 :: β) ∧ c' = (t.2.2.2.1, u', t.2.2.2.2 ++ β)

theorem step_iff {P : PDA σ γ} {c c' : Config σ γ} :
    P.Step c c' ↔ ∃ t ∈ P.delta, StepBy t c c' := by
  constructor
  · intro h
    cases h with
    | @read q q' a x push β w hm => exact ⟨_, hm, β, w, rfl, rfl⟩
    | @eps q q' x push β w hm => exact ⟨_, hm, β, w, rfl, rfl⟩
  · rintro ⟨⟨q, a, x, q', push⟩, hm, β, u', rfl, rfl⟩
    cases a with
    | none => exact .eps hm
    | some a => exact .read hm

theorem Step.of_mem {P : PDA σ γ} {q q' : σ} {a : Option String} {x : γ} {push : List γ}
    (ht : (q, a, x, q', push) ∈ P.delta) (w : List String) (β : List γ) :
    P.Step (q, a.toList ++ w, x :: β) (q', w, push ++ β) :=
  step_iff.2 ⟨_, ht, β, w, rfl, rfl⟩

theorem Step.mono {P Q : PDA σ γ} (h : ∀ t ∈ P.delta, t ∈ Q.delta) {c c' : Config σ γ}
    (hs : P.Step c c') : Q.Step c c' := by
  obtain ⟨t, ht, hb⟩ := step_iff.1 hs
  exact step_iff.2 ⟨t, h t ht, hb⟩

theorem Step.frame {P : PDA σ γ} {c c' : Config σ γ} (h : P.Step c c') (v : List String)
    (β : List γ) : P.Step (c.1, c.2.1 ++ v, c.2.2 ++ β) (c'.1, c'.2.1 ++ v, c'.2.2 ++ β) := by
  cases h with
  | read ht =>
    simp only [List.cons_append, List.append_assoc]
    exact .read ht
  | eps ht =>
    simp only [List.cons_append, List.append_assoc]
    exact .eps ht

theorem Steps.trans {P : PDA σ γ} {a b c : Config σ γ} (h1 : P.Steps a b) (h2 : P.Steps b c) :
    P.Steps a c := by
  induction h1 with
  | refl _ => exact h2
  | head hs _ ih => exact .head hs (ih h2)

theorem Steps.single {P : PDA σ γ} {a b : Config σ γ} (h : P.Step a b) : P.Steps a b :=
  .head h (.refl _)

theorem Steps.tail {P : PDA σ γ} {a b c : Config σ γ} (h1 : P.Steps a b) (h2 : P.Step b c) :
    P.Steps a c := h1.trans (.single h2)

theorem Steps.mono {P Q : PDA σ γ} (h : ∀ t ∈ P.delta, t ∈ Q.delta) {c c' : Config σ γ}
    (hs : P.Steps c c') : Q.Steps c c' := by
  induction hs with
  | refl _ => exact .refl _
  | head h1 _ ih => exact .head (h1.mono h) ih

theorem Steps.frame {P : PDA σ γ} {c c' : Config σ γ} (h : P.Steps c c') (v : List String)
    (β : List γ) : P.Steps (c.1, c.2.1 ++ v, c.2.2 ++ β) (c'.1, c'.2.1 ++ v, c'.2.2 ++ β) := by
  induction h with
  | refl _ => exact .refl _
  | head hs _ ih => exact .head (hs.frame v β) ih

theorem Steps.above {P : PDA σ γ} (β : List γ) {q q' : σ} {u u' : List String} {α α' : List γ}
    (h : P.Steps (q, u, α) (q', u', α')) : P.Steps (q, u, α ++ β) (q', u', α' ++ β) := by
  simpa using h.frame [] β

theorem steps_cases {P : PDA σ γ} {c c' : Config σ γ} (h : P.Steps c c') :
    c = c' ∨ ∃ c1, P.Step c c1 ∧ P.Steps c1 c' := by
  cases h with
  | refl _ => exact .inl rfl
  | head h1 h2 => exact .inr ⟨_, h1, h2⟩

theorem steps_nil_stack {P : PDA σ γ} {q : σ} {u : List String} {c' : Config σ γ}
    (h : P.Steps (q, u, []) c') : c' = (q, u, []) := by
  rcases steps_cases h with h0 | ⟨c1, h1, _⟩
  · exact h0.symm
  · obtain ⟨t, _, β, w, hc, _⟩ := step_iff.1 h1
    cases hc

/-- `c'` is bound last, so that `refine steps_inv ?_ ?_` finds `I` from a goal `∀ c', P.Steps c c' → …` -/
theorem steps_inv {P : PDA σ γ} {I : Config σ γ → Prop}
    (hstep : ∀ c c', I c → P.Step c c' → I c') {c : Config σ γ} (hc : I c) :
    ∀ c', P.Steps c c' → I c' := by
  intro c' h
  induction h with
  | refl _ => exact hc
  | head h1 _ ih => exact ih (hstep _ _ hc h1)

theorem wf_steps {P : PDA σ γ} (hP : P.WF) {c c' : Config σ γ} (h : P.Steps c c')
    (hc : c.1 ∈ P.states ∧ ∀ x ∈ c.2.2, x ∈ P.stack) :
    c'.1 ∈ P.states ∧ ∀ x ∈ c'.2.2, x ∈ P.stack := by
  refine steps_inv (I := fun c => c.1 ∈ P.states ∧ ∀ x ∈ c.2.2, x ∈ P.stack) ?_ hc _ h
  rintro c c' hI hs
  obtain ⟨t, ht, β, u', rfl, rfl⟩ := step_iff.1 hs
  refine ⟨hP.dst t ht, fun x hx => ?_⟩
  rcases List.mem_append.mp hx with hx | hx
  · exact hP.push t ht x hx
  · exact hI.2 x (List.mem_cons_of_mem _ hx)

theorem StepBy.above {t : σ × Option String × γ × σ × List γ} {nb : γ} {q : σ} {u : List String}
    {α : List γ} {c' : Config σ γ} (hst : StepBy t (q, u, α ++ [nb]) c') (hnb : t.2.2.1 ≠ nb) :
    ∃ q' u' α', c' = (q', u', α' ++ [nb]) ∧ StepBy t (q, u, α) (q', u', α') := by
  obtain ⟨β, u', h1, rfl⟩ := hst
  cases α with
  | nil => exact absurd (List.cons.inj (Prod.mk.inj (Prod.mk.inj h1).2).2).1.symm hnb
  | cons x α0 =>
    simp only [List.cons_append, Prod.mk.injEq, List.cons.injEq] at h1
    obtain ⟨rfl, rfl, rfl, rfl⟩ := h1
    exact ⟨_, u', t.2.2.2.2 ++ α0, by simp, α0, u', rfl, rfl⟩

/-- `Pops P q u α p`: reading `u` from state `q`, the automaton removes exactly `α` from the top of
its stack and ends in `p`.  A move is recorded together with the run that removes what it pushed, so
a derivation has the shape of a parse tree: of `toCFG P`, and of `G` when `P` is `ofCFG G`. -/
inductive Pops (P : PDA σ γ) : σ → List String → List γ → σ → Prop
  | nil (q : σ) : Pops P q [] [] q
  | cons {q q₁ m p : σ} {a : Option String} {x : γ} {push α : List γ} {u v : List String} :
      (q, a, x, q₁, push) ∈ P.delta → Pops P q₁ u push m → Pops P m v α p →
      Pops P q (a.toList ++ u ++ v) (x :: α) p

theorem pops_split {P : PDA σ γ} {α β : List γ} {q p : σ} {w : List String}
    (h : Pops P q w (α ++ β) p) : ∃ m u v, w = u ++ v ∧ Pops P q u α m ∧ Pops P m v β p := by
  induction α generalizing q w with
  | nil => exact ⟨q, [], w, rfl, .nil q, h⟩
  | cons x α ih =>
    cases h with
    | cons ht h₁ h₂ =>
      obtain ⟨m, u, v, rfl, h₃, h₄⟩ := ih h₂
      exact ⟨m, _, v, (List.append_assoc ..).symm, .cons ht h₁ h₃, h₄⟩

/-- after a move, the rest of the run first removes what was pushed, then the rest of the stack -/
theorem pops_of_steps {P : PDA σ γ} {c c' : Config σ γ} (h : P.Steps c c') :
    c'.2.1 = [] → c'.2.2 = [] → Pops P c.1 c.2.1 c.2.2 c'.1 := by
  induction h with
  | refl c => intro h₁ h₂; rw [h₁, h₂]; exact .nil _
  | head hs _ ih =>
    intro h₁ h₂
    obtain ⟨⟨q, a, x, q₁, push⟩, ht, β, u, rfl, rfl⟩ := step_iff.1 hs
    obtain ⟨m, u₁, u₂, hu, h₃, h₄⟩ := pops_split (α := push) (β := β) (ih h₁ h₂)
    have hu : u = u₁ ++ u₂ := hu
    subst hu
    exact (List.append_assoc ..) ▸ Pops.cons ht h₃ h₄

theorem pops_end {P : PDA σ γ} (hP : P.WF) {q p : σ} {u : List String} {α : List γ}
    (h : Pops P q u α p) : q ∈ P.states → p ∈ P.states := by
  induction h with
  | nil q => exact id
  | cons ht _ _ ih₁ ih₂ => exact fun _ => ih₂ (ih₁ (hP.dst _ ht))

end PDA
end Pfl
