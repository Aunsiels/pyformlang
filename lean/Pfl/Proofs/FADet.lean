/-
Helper lemmas for the subset construction (`toDet`): the invariant of the worklist `detSeen`, and
what the result accepts from the state named by a processed subset (`detOf_accepts`).
-/
import Pfl.Proofs.FABase
namespace Pfl

namespace ENFA
variable {σ κ : Type} [DecidableEq σ] [DecidableEq κ]

/-- the naming function separates different sets of states -/
def KeyInj (A : ENFA σ) (key : List σ → κ) : Prop :=
  ∀ S T : List σ, (∀ q ∈ S, q ∈ A.states) → (∀ q ∈ T, q ∈ A.states) →
    key S = key T → ∀ q, q ∈ S ↔ q ∈ T

theorem mem_stepSet_iff (A : ENFA σ) (useE : Bool) (hE : useE = true ∨ A.EpsFree) (S : List σ)
    (a : Nat) (r : σ) :
    r ∈ A.stepSet useE S a ↔ ∃ q ∈ S, ∃ p, (q, some a, p) ∈ A.delta ∧ A.EpsReach p r := by
  cases useE with
  | true => exact mem_ecloseL_nextL_iff A S a r
  | false =>
    have hE := hE.resolve_left Bool.false_ne_true
    simp only [stepSet, Bool.false_eq_true, if_false, mem_nextL_iff, EpsReach, hE.run_nil_iff,
      exists_eq_right]

theorem ite_isEmpty_eq_some {α β : Type} (T : List α) (v x : β) :
    (if T.isEmpty then none else some v) = some x ↔ T ≠ [] ∧ v = x := by
  cases T <;> simp

theorem mem_detNext_iff (A : ENFA σ) (useE : Bool) (S T : List σ) :
    T ∈ A.detNext useE S ↔ ∃ a ∈ A.syms, A.stepSet useE S a ≠ [] ∧ A.stepSet useE S a = T := by
  simp only [detNext, List.mem_filterMap, ite_isEmpty_eq_some]

section seen
variable (A : ENFA σ) (key : List σ → κ) (useE : Bool) (fuel : Nat) (seen : List (List σ))

theorem detSeen_start (hs : A.detSeen key useE fuel = some seen) : A.detStart useE ∈ seen := by
  unfold detSeen at hs
  exact (bfsK_closed key (A.detNext useE) fuel _ _ seen hs (fun _ h => h) (fun _ h => h)).1 _
    List.mem_cons_self

theorem detSeen_inj (hs : A.detSeen key useE fuel = some seen) :
    ∀ S ∈ seen, ∀ T ∈ seen, key S = key T → S = T := by
  unfold detSeen at hs
  exact key_inj_of_nodup key (bfsK_nodup key (A.detNext useE) fuel _ _ seen hs (by simp))

theorem detStart_states (h : A.WF) : ∀ q ∈ A.detStart useE, q ∈ A.states := by
  intro q hq
  cases useE with
  | true =>
    exact ecloseL_states A h _ h.starts_sub q hq
  | false =>
    simp only [detStart, Bool.false_eq_true, if_false, List.mem_eraseDups] at hq
    exact h.starts_sub q hq

theorem stepSet_states (h : A.WF) (S : List σ) (a : Nat) :
    ∀ q ∈ A.stepSet useE S a, q ∈ A.states := by
  have hn : ∀ q ∈ A.nextL S (some a), q ∈ A.states := fun q hq => by
    obtain ⟨_, _, hd⟩ := (mem_nextL_iff ..).mp hq
    exact h.delta_dst _ hd
  cases useE with
  | true => exact ecloseL_states A h _ hn
  | false => exact hn

theorem detSeen_states (h : A.WF) (hs : A.detSeen key useE fuel = some seen) :
    ∀ S ∈ seen, ∀ q ∈ S, q ∈ A.states := by
  unfold detSeen at hs
  refine bfsK_sound key (A.detNext useE) (fun S => ∀ q ∈ S, q ∈ A.states) ?_ fuel _ _ seen hs ?_ ?_
  · intro S T _ hT
    obtain ⟨a, _, _, rfl⟩ := (mem_detNext_iff A useE S T).mp hT
    exact stepSet_states A useE h S a
  · intro z hz
    simp only [List.mem_singleton] at hz
    subst hz; exact detStart_states A useE h
  · exact fun _ h => h

theorem detSeen_closed (h : A.WF) (hk : A.KeyInj key) (hs : A.detSeen key useE fuel = some seen)
    {S : List σ} (hS : S ∈ seen) {a : Nat} (ha : a ∈ A.syms) (hne : A.stepSet useE S a ≠ []) :
    ∃ T ∈ seen, key T = key (A.stepSet useE S a) ∧ ∀ q, q ∈ T ↔ q ∈ A.stepSet useE S a := by
  have hst := detSeen_states A key useE fuel seen h hs
  unfold detSeen at hs
  have := bfsK_closed key (A.detNext useE) fuel _ _ seen hs (fun _ h => h) (fun _ h => h)
  obtain ⟨T, hT, hkT⟩ := List.mem_map.mp (this.2 S hS _
    ((mem_detNext_iff A useE S _).mpr ⟨a, ha, hne, rfl⟩))
  exact ⟨T, hT, hkT, hk T _ (hst T hT) (stepSet_states A useE h S a) hkT⟩

end seen

/-- the automaton built by `toDet` from the list of processed subsets -/
def detOf (A : ENFA σ) (key : List σ → κ) (useE : Bool) (seen : List (List σ)) : ENFA κ :=
  ofParts [key (A.detStart useE)]
    ((seen.filter fun S => S.any (· ∈ A.finals)).map key)
    (seen.flatMap fun S => A.syms.filterMap fun a =>
      let T := A.stepSet useE S a
      if T.isEmpty then none else some (key S, some a, key T))

theorem toDet_eq (A : ENFA σ) (key : List σ → κ) (useE : Bool) (fuel : Nat) (D : ENFA κ)
    (hD : A.toDet key useE fuel = some D) :
    ∃ seen, A.detSeen key useE fuel = some seen ∧ D = A.detOf key useE seen := by
  unfold toDet at hD
  obtain ⟨seen, hs, hd⟩ := Option.map_eq_some_iff.mp hD
  exact ⟨seen, hs, hd.symm⟩

theorem toDet_wf {A : ENFA σ} {key : List σ → κ} {useE : Bool} {fuel : Nat} {D : ENFA κ}
    (hD : A.toDet key useE fuel = some D) : D.WF ∧ D.states.Nodup := by
  obtain ⟨seen, -, rfl⟩ := toDet_eq A key useE fuel D hD
  exact ⟨ofParts_wf _ _ _, by simpa [detOf, ofParts] using @nodup_eraseDups _ instBEqOfDecidableEq _ _⟩

section detOf
variable (A : ENFA σ) (key : List σ → κ) (useE : Bool) (seen : List (List σ))

theorem mem_detOf_starts (k : κ) : k ∈ (A.detOf key useE seen).starts ↔ k = key (A.detStart useE) := by
  simp only [detOf, mem_ofParts_starts, List.mem_singleton]

theorem mem_detOf_finals (k : κ) :
    k ∈ (A.detOf key useE seen).finals ↔ ∃ S ∈ seen, (∃ f ∈ A.finals, f ∈ S) ∧ key S = k := by
  simp only [detOf, mem_ofParts_finals, List.mem_map, List.mem_filter, List.any_eq_true,
    decide_eq_true_eq]
  constructor
  · rintro ⟨S, ⟨hS, f, hf, hfin⟩, rfl⟩; exact ⟨S, hS, ⟨f, hfin, hf⟩, rfl⟩
  · rintro ⟨S, hS, ⟨f, hfin, hf⟩, rfl⟩; exact ⟨S, ⟨hS, f, hf, hfin⟩, rfl⟩

theorem mem_detOf_delta (t : κ × Option Nat × κ) :
    t ∈ (A.detOf key useE seen).delta ↔
      ∃ S ∈ seen, ∃ a ∈ A.syms, A.stepSet useE S a ≠ [] ∧
        t = (key S, some a, key (A.stepSet useE S a)) := by
  simp only [detOf, mem_ofParts_delta, List.mem_flatMap, List.mem_filterMap, ite_isEmpty_eq_some]
  constructor
  · rintro ⟨S, hS, a, ha, hne, rfl⟩; exact ⟨S, hS, a, ha, hne, rfl⟩
  · rintro ⟨S, hS, a, ha, hne, rfl⟩; exact ⟨S, hS, a, ha, hne, rfl⟩

theorem detOf_epsFree : (A.detOf key useE seen).EpsFree := by
  intro t ht
  obtain ⟨S, _, a, _, _, rfl⟩ := (mem_detOf_delta A key useE seen t).mp ht
  simp

theorem detOf_deterministic (hinj : ∀ S ∈ seen, ∀ T ∈ seen, key S = key T → S = T) :
    (A.detOf key useE seen).Deterministic := by
  refine ⟨?_, ?_, ?_⟩
  · intro p hp q hq
    rw [mem_detOf_starts] at hp hq
    rw [hp, hq]
  · intro q a r r' h1 h2
    obtain ⟨S1, hS1, a1, _, _, e1⟩ := (mem_detOf_delta A key useE seen _).mp h1
    obtain ⟨S2, hS2, a2, _, _, e2⟩ := (mem_detOf_delta A key useE seen _).mp h2
    simp only [Prod.mk.injEq] at e1 e2
    obtain ⟨e1q, e1a, e1r⟩ := e1
    obtain ⟨e2q, e2a, e2r⟩ := e2
    have hS : S1 = S2 := hinj S1 hS1 S2 hS2 (by rw [← e1q, ← e2q])
    have ha : a1 = a2 := by
      have : some a1 = some a2 := by rw [← e1a, ← e2a]
      exact Option.some.inj this
    rw [e1r, e2r, hS, ha]
  · intro q r h
    obtain ⟨S, _, a, _, _, e⟩ := (mem_detOf_delta A key useE seen _).mp h
    simp at e

end detOf

/-- from the state named by a processed subset `S`, the result accepts the words on which `A` goes
letter by letter from a state of `S` to a final state.  Stated with `RunC`, not with the fold of
`stepSet`: a name only determines the members of a subset, and this side only mentions members. -/
theorem detOf_accepts (A : ENFA σ) (h : A.WF) (key : List σ → κ) (hk : A.KeyInj key)
    (useE : Bool) (hE : useE = true ∨ A.EpsFree) (fuel : Nat) (seen : List (List σ))
    (hs : A.detSeen key useE fuel = some seen) (w : List Nat) :
    ∀ S ∈ seen,
      (∃ k ∈ (A.detOf key useE seen).finals, (A.detOf key useE seen).Run (key S) w k) ↔
        ∃ q ∈ S, ∃ f ∈ A.finals, RunC A q w f := by
  have hef := detOf_epsFree A key useE seen
  have hinj := detSeen_inj A key useE fuel seen hs
  induction w with
  | nil =>
    intro S hS
    simp only [hef.run_nil_iff, mem_detOf_finals]
    constructor
    · rintro ⟨k, ⟨S', hS', ⟨f, hf, hfS⟩, hkS'⟩, rfl⟩
      cases hinj S' hS' S hS hkS'
      exact ⟨f, hfS, f, hf, .nil f⟩
    · rintro ⟨q, hq, f, hf, hc⟩
      cases hc
      exact ⟨key S, ⟨S, hS, ⟨q, hf, hq⟩, rfl⟩, rfl⟩
  | cons a w ih =>
    intro S hS
    simp only [hef.run_cons_iff]
    constructor
    · rintro ⟨k, hkf, r, hd, hr⟩
      obtain ⟨S1, hS1, a1, ha1, hne, e⟩ := (mem_detOf_delta A key useE seen _).mp hd
      simp only [Prod.mk.injEq, Option.some.injEq] at e
      obtain ⟨eq1, rfl, rfl⟩ := e
      have : S1 = S := hinj S1 hS1 S hS eq1.symm
      subst this
      obtain ⟨T, hT, hkT, hmem⟩ := detSeen_closed A key useE fuel seen h hk hs hS1 ha1 hne
      rw [← hkT] at hr
      obtain ⟨q', hq', f, hf, hc⟩ := (ih T hT).mp ⟨k, hkf, hr⟩
      obtain ⟨q, hq, p, hd, he⟩ := (mem_stepSet_iff A useE hE S1 a q').mp ((hmem q').mp hq')
      exact ⟨q, hq, f, hf, .cons hd he hc⟩
    · rintro ⟨q, hq, f, hf, hc⟩
      cases hc with
      | @cons _ p q' _ _ _ hd he hc =>
      have hq' := (mem_stepSet_iff A useE hE S a q').mpr ⟨q, hq, p, hd, he⟩
      have ha := h.delta_sym _ hd a rfl
      have hne := List.ne_nil_of_mem hq'
      obtain ⟨T, hT, hkT, hmem⟩ := detSeen_closed A key useE fuel seen h hk hs hS ha hne
      obtain ⟨k, hkf, hr⟩ := (ih T hT).mpr ⟨q', (hmem q').mpr hq', f, hf, hc⟩
      exact ⟨k, hkf, key T,
        hkT ▸ (mem_detOf_delta A key useE seen _).mpr ⟨S, hS, a, ha, hne, rfl⟩, hr⟩

/-- both ways the library calls the subset construction keep the language: with closure, and
without it on an automaton that has no ε-edge -/
theorem toDet_lang_of (A : ENFA σ) (h : A.WF) (key : List σ → κ) (hk : A.KeyInj key)
    (useE : Bool) (hE : useE = true ∨ A.EpsFree) (fuel : Nat) (D : ENFA κ)
    (hD : A.toDet key useE fuel = some D) (w : List Nat) : D.Lang w ↔ A.Lang w := by
  obtain ⟨seen, hs, rfl⟩ := toDet_eq A key useE fuel D hD
  have hstart : A.Lang w ↔ ∃ q ∈ A.detStart useE, ∃ f ∈ A.finals, RunC A q w f := by
    cases useE with
    | true => exact lang_iff_runC A w
    | false =>
      have he := hE.resolve_left Bool.false_ne_true
      simp only [Lang, he.run_iff_runC, detStart, Bool.false_eq_true, if_false,
        List.mem_eraseDups]
  rw [hstart,
    ← detOf_accepts A h key hk useE hE fuel seen hs w _ (detSeen_start A key useE fuel seen hs)]
  unfold Lang
  simp only [mem_detOf_starts, exists_eq_left]

end ENFA
end Pfl
