/-
Helper lemmas for C04: emptiness test, determinism tests, language-equivalence oracle.
-/
import Pfl.Proofs.FABase
import Pfl.Oracle.LangEquiv
namespace Pfl

namespace FAOracle
variable {α : Type} [DecidableEq α]

theorem eraseDups_length_le_one_iff (l : List α) :
    l.eraseDups.length ≤ 1 ↔ ∀ p ∈ l, ∀ q ∈ l, p = q :=
  ⟨fun h _ hp _ hq => eq_of_length_le_one h (List.mem_eraseDups.mpr hp) (List.mem_eraseDups.mpr hq),
   fun h => length_le_one_of_nodup (nodup_eraseDups l) fun _ hp _ hq =>
     h _ (List.mem_eraseDups.mp hp) _ (List.mem_eraseDups.mp hq)⟩

end FAOracle

namespace ENFA
variable {σ τ : Type} [DecidableEq σ] [DecidableEq τ]

theorem mem_outs (A : ENFA σ) (q r : σ) :
    r ∈ A.outs q ↔ (∃ a ∈ A.syms, (q, some a, r) ∈ A.delta) ∨ (q, none, r) ∈ A.delta := by
  unfold outs
  simp only [List.mem_append, List.mem_flatMap, mem_succs]

theorem WF.mem_outs {A : ENFA σ} (hA : A.WF) {q r : σ} :
    r ∈ A.outs q ↔ ∃ a, (q, a, r) ∈ A.delta := by
  rw [ENFA.mem_outs]
  constructor
  · rintro (⟨a, _, h⟩ | h)
    · exact ⟨_, h⟩
    · exact ⟨_, h⟩
  · rintro ⟨_ | a, h⟩
    · exact Or.inr h
    · exact Or.inl ⟨a, hA.delta_sym _ h a rfl, h⟩

theorem outs_targets (A : ENFA σ) (x y : σ) (hy : y ∈ A.outs x) : y ∈ A.delta.map (·.2.2) := by
  rcases List.mem_append.mp hy with h | h
  · obtain ⟨a, _, h⟩ := List.mem_flatMap.mp h
    exact succs_targets A _ x y h
  · exact succs_targets A _ x y h

theorem reachable_bfs_isSome (A : ENFA σ) :
    (bfs A.outs (A.delta.length + A.starts.length + 1) A.starts).isSome :=
  bfs_isSome_of_targets A.outs _ (outs_targets A) _ _ (by rw [List.length_map]; omega)

theorem mem_reachable_reach (A : ENFA σ) (q : σ) :
    q ∈ A.reachable ↔ ∃ s ∈ A.starts, Reach A.outs s q :=
  mem_bfs_getD_iff A.outs _ (outs_targets A) _ _ (by rw [List.length_map]; omega) q

theorem reach_outs_iff (A : ENFA σ) (hA : A.WF) (s q : σ) :
    Reach A.outs s q ↔ ∃ w, A.Run s w q := by
  constructor
  · intro h
    induction h with
    | refl => exact ⟨[], Run.nil s⟩
    | tail _ hz ih =>
      obtain ⟨w, hw⟩ := ih
      obtain ⟨_ | a, h⟩ := hA.mem_outs.mp hz
      · exact ⟨w, hw.snoc_eps h⟩
      · exact ⟨w ++ [a], hw.snoc h⟩
  · rintro ⟨w, hw⟩
    induction hw with
    | nil q => exact Reach.refl q
    | eps h _ ih => exact Reach.head (hA.mem_outs.mpr ⟨_, h⟩) ih
    | step h _ ih => exact Reach.head (hA.mem_outs.mpr ⟨_, h⟩) ih

theorem mem_reachable_iff (A : ENFA σ) (hA : A.WF) (q : σ) :
    q ∈ A.reachable ↔ ∃ s ∈ A.starts, ∃ w, A.Run s w q := by
  simp only [mem_reachable_reach, reach_outs_iff A hA]

theorem tfDeterministic_iff (A : ENFA σ) :
    A.tfDeterministic = true ↔
      ∀ q a r r', (q, a, r) ∈ A.delta → (q, a, r') ∈ A.delta → r = r' := by
  unfold tfDeterministic
  simp only [List.all_eq_true, decide_eq_true_eq, FAOracle.eraseDups_length_le_one_iff, mem_succs]
  constructor
  · intro h q a r r' h1 h2
    exact h (q, a, r) h1 r h1 r' h2
  · intro h t _ p hp q hq
    exact h _ _ _ _ hp hq

theorem ecloseSelf_iff (A : ENFA σ) (hA : A.WF) :
    (A.states.all fun q => (A.eclose q).all (· = q)) = true ↔
      ∀ q r, (q, none, r) ∈ A.delta → r = q := by
  simp only [List.all_eq_true, decide_eq_true_eq, mem_eclose_iff]
  constructor
  · intro h q r he
    exact h q (hA.delta_src _ he) r (Run.eps he (Run.nil r))
  · intro h q _ r hr
    exact (run_nil_of_loops h q r).mp hr

theorem mem_canonS (A : ENFA σ) (S : List σ) (q : σ) :
    q ∈ A.canonS S ↔ q ∈ A.states ∧ q ∈ S := by
  unfold canonS; simp [List.mem_filter]

theorem mem_subsetStep (A : ENFA σ) (hA : A.WF) (S : List σ) (a : Nat) (r : σ) :
    r ∈ A.subsetStep S a ↔ ∃ q ∈ S, ∃ p, (q, some a, p) ∈ A.delta ∧ A.EpsReach p r := by
  unfold subsetStep
  rw [mem_canonS, mem_ecloseL_nextL_iff]
  exact and_iff_right_of_imp fun ⟨_, _, p, hd, hp⟩ => Run.mem_states hA hp (hA.delta_dst _ hd)

theorem hasFinal_foldl (A : ENFA σ) (hA : A.WF) (w : List Nat) :
    A.hasFinal (w.foldl A.subsetStep A.subsetStart) = true ↔ A.Lang w := by
  simp only [hasFinal, List.any_eq_true, decide_eq_true_eq,
    mem_foldl_iff_runC (· ∈ ·) A A.subsetStep (mem_subsetStep A hA), lang_iff_runC, subsetStart, mem_canonS]
  constructor
  · rintro ⟨f, ⟨q, ⟨_, hq⟩, hc⟩, hf⟩; exact ⟨q, hq, f, hf, hc⟩
  · rintro ⟨q, hq, f, hf, hc⟩
    obtain ⟨s, hs, hr⟩ := (mem_ecloseL_iff A _ q).mp hq
    exact ⟨f, ⟨q, ⟨Run.mem_states hA hr (hA.starts_sub s hs), hq⟩, hc⟩, hf⟩

omit [DecidableEq σ] in
theorem run_syms (A : ENFA σ) {q r : σ} {w : List Nat} (h : A.Run q w r) :
    ∀ a ∈ w, a ∈ A.delta.filterMap (·.2.1) := by
  induction h with
  | nil => intro a ha; cases ha
  | eps _ _ ih => exact ih
  | step he _ ih =>
    intro a ha
    rcases List.mem_cons.mp ha with rfl | ha
    · exact List.mem_filterMap.mpr ⟨_, he, rfl⟩
    · exact ih a ha

omit [DecidableEq σ] in
theorem WF.run_syms {A : ENFA σ} (hA : A.WF) {q r : σ} {w : List Nat} (h : A.Run q w r) :
    ∀ a ∈ w, a ∈ A.syms := by
  intro a ha
  obtain ⟨t, ht, hta⟩ := List.mem_filterMap.mp (ENFA.run_syms A h a ha)
  exact hA.delta_sym t ht a hta

omit [DecidableEq σ] [DecidableEq τ] in
theorem lang_allSyms (A : ENFA σ) (B : ENFA τ) {w : List Nat} (h : A.Lang w ∨ B.Lang w) :
    ∀ a ∈ w, a ∈ allSyms A B := by
  intro a ha
  unfold allSyms
  simp only [List.mem_eraseDups, List.mem_append]
  rcases h with ⟨_, _, _, _, hr⟩ | ⟨_, _, _, _, hr⟩
  · exact Or.inl (Or.inr (run_syms A hr a ha))
  · exact Or.inr (run_syms B hr a ha)

/-- the search result of `langDiff` -/
def diffSeen (A : ENFA σ) (B : ENFA τ) (fuel : Nat) :
    Option (List ((List σ × List τ) × List Nat)) :=
  bfsK (·.1) (diffNext A B) fuel [((A.subsetStart, B.subsetStart), [])]
    [((A.subsetStart, B.subsetStart), [])]

theorem diffSeen_sound (A : ENFA σ) (B : ENFA τ) (hA : A.WF) (hB : B.WF) (fuel : Nat)
    (res : List ((List σ × List τ) × List Nat)) (h : diffSeen A B fuel = some res) :
    ∀ n ∈ res, A.hasFinal n.1.1 = B.hasFinal n.1.2 ↔ (A.Lang n.2 ↔ B.Lang n.2) := by
  unfold diffSeen at h
  have hfold : ∀ n ∈ res, n.1.1 = n.2.foldl A.subsetStep A.subsetStart ∧
      n.1.2 = n.2.foldl B.subsetStep B.subsetStart := by
    refine bfsK_sound (·.1) (diffNext A B) _ ?_ fuel _ _ res h ?_ ?_
    · rintro x y ⟨h1, h2⟩ hy
      unfold diffNext at hy
      obtain ⟨a, _, rfl⟩ := List.mem_map.mp hy
      simp only [List.foldl_append, List.foldl_cons, List.foldl_nil, ← h1, ← h2, and_self]
    · intro z hz; simp at hz; subst hz; exact ⟨rfl, rfl⟩
    · exact fun _ h => h
  intro n hn
  rw [← hasFinal_foldl A hA, ← hasFinal_foldl B hB, ← (hfold n hn).1, ← (hfold n hn).2]
  exact Bool.eq_iff_iff

theorem diffSeen_complete (A : ENFA σ) (B : ENFA τ) (fuel : Nat)
    (res : List ((List σ × List τ) × List Nat)) (h : diffSeen A B fuel = some res)
    (w : List Nat) (hw : ∀ a ∈ w, a ∈ allSyms A B) :
    ∃ m ∈ res, m.1 = (w.foldl A.subsetStep A.subsetStart, w.foldl B.subsetStep B.subsetStart) := by
  unfold diffSeen at h
  have inv := bfsK_closed (·.1) (diffNext A B) fuel _ _ res h (fun _ h => h) (fun _ h => h)
  have key : ∀ (v : List Nat), (∀ a ∈ v, a ∈ allSyms A B) → ∀ n ∈ res,
      ∃ m ∈ res, m.1 = (v.foldl A.subsetStep n.1.1, v.foldl B.subsetStep n.1.2) := by
    intro v
    induction v with
    | nil => intro _ n hn; exact ⟨n, hn, rfl⟩
    | cons a v ih =>
      intro hv n hn
      have ha : a ∈ allSyms A B := hv a List.mem_cons_self
      have hy : ((A.subsetStep n.1.1 a, B.subsetStep n.1.2 a), n.2 ++ [a]) ∈ diffNext A B n := by
        unfold diffNext; exact List.mem_map.mpr ⟨a, ha, rfl⟩
      obtain ⟨m', hm', hk⟩ := List.mem_map.mp (inv.2 n hn _ hy)
      obtain ⟨m, hm, hmk⟩ := ih (fun b hb => hv b (List.mem_cons_of_mem _ hb)) m' hm'
      refine ⟨m, hm, ?_⟩
      rw [hmk, hk]; rfl
  exact key w hw _ (inv.1 _ List.mem_cons_self)

theorem langDiff_eq (A : ENFA σ) (B : ENFA τ) (fuel : Nat) :
    A.langDiff B fuel = (diffSeen A B fuel).map fun seen =>
      (seen.find? fun n => A.hasFinal n.1.1 != B.hasFinal n.1.2).map (·.2) := rfl

end ENFA
end Pfl
