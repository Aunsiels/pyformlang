/-
Words over a list of symbols enumerated length by length, each level the previous one extended at the
end (`Levels`): the candidates of the bounded-language oracles (`ENFA.wordsOfLen`, `CFG.wordsOfLenS`).
And all words of length at most `n` in one list (`wordsLE`), with a bound on its length: the finite
universe in which the loops of `get_accepted_words` and `FST.translate` are counted.
-/
import Mathlib.Data.List.Basic
import Mathlib.Data.List.Nodup
import Pfl.Proofs.ListBasics
namespace Pfl
variable {α : Type}

structure Levels (syms : List α) (f : Nat → List (List α)) : Prop where
  zero : f 0 = [[]]
  succ : ∀ n, f (n + 1) = (f n).flatMap fun w => syms.map fun a => w ++ [a]

theorem Levels.mem {syms : List α} {f : Nat → List (List α)} (h : Levels syms f) (k : Nat)
    (w : List α) : w ∈ f k ↔ w.length = k ∧ ∀ a ∈ w, a ∈ syms := by
  induction k generalizing w with
  | zero =>
    rw [h.zero, List.mem_singleton, List.length_eq_zero_iff]
    exact ⟨fun e => ⟨e, fun a ha => by rw [e] at ha; cases ha⟩, fun e => e.1⟩
  | succ k ih =>
    simp only [h.succ, List.mem_flatMap, List.mem_map]
    constructor
    · rintro ⟨u, hu, a, ha, rfl⟩
      obtain ⟨h1, h2⟩ := (ih u).mp hu
      refine ⟨by simp [h1], ?_⟩
      intro b hb
      rcases List.mem_append.mp hb with hb | hb
      · exact h2 b hb
      · simp at hb; subst hb; exact ha
    · rintro ⟨hl, hs⟩
      have hne : w ≠ [] := by intro h; subst h; simp at hl
      refine ⟨w.dropLast, (ih _).mpr ⟨by simp [hl], ?_⟩, w.getLast hne, ?_, ?_⟩
      · intro a ha; exact hs a (List.dropLast_subset _ ha)
      · exact hs _ (List.getLast_mem hne)
      · exact List.dropLast_append_getLast hne

theorem Levels.nodup {syms : List α} {f : Nat → List (List α)} (h : Levels syms f)
    (hs : syms.Nodup) (k : Nat) : (f k).Nodup := by
  induction k with
  | zero => simp [h.zero]
  | succ k ih =>
    rw [h.succ]
    refine nodup_flatMap_of_keys id List.dropLast (by rwa [List.map_id]) (fun u _ => ?_) fun u w hw => ?_
    · refine List.Nodup.map ?_ hs
      intro a b hab
      have := List.append_cancel_left hab
      simpa using this
    · obtain ⟨a, _, rfl⟩ := List.mem_map.1 hw
      exact List.dropLast_concat

theorem nodup_flatMap_range (g : Nat → List (List α)) (hnd : ∀ k, (g k).Nodup)
    (hlen : ∀ k, ∀ w ∈ g k, w.length = k) (n : Nat) : ((List.range n).flatMap g).Nodup :=
  nodup_flatMap_of_keys id List.length (by rw [List.map_id]; exact List.nodup_range) (fun k _ => hnd k) hlen

/-- all words over `A` of length at most `n` -/
def wordsLE (A : List α) : Nat → List (List α)
  | 0 => [[]]
  | n + 1 => [] :: A.flatMap fun a => (wordsLE A n).map (a :: ·)

theorem mem_wordsLE (A : List α) (n : Nat) (w : List α) (hl : w.length ≤ n)
    (hs : ∀ a ∈ w, a ∈ A) : w ∈ wordsLE A n := by
  induction n generalizing w with
  | zero =>
    rw [List.length_eq_zero_iff.mp (Nat.le_zero.mp hl)]
    exact List.mem_singleton.2 rfl
  | succ n ih =>
    cases w with
    | nil => exact List.mem_cons_self
    | cons a w =>
      refine List.mem_cons_of_mem _ (List.mem_flatMap.mpr
        ⟨a, hs a List.mem_cons_self, List.mem_map.mpr ⟨w, ?_, rfl⟩⟩)
      exact ih w (Nat.le_of_succ_le_succ hl) fun b hb => hs b (List.mem_cons_of_mem _ hb)

theorem length_wordsLE_le (A : List α) (n : Nat) : (wordsLE A n).length ≤ (A.length + 1) ^ n := by
  induction n with
  | zero => exact Nat.le_refl 1
  | succ n ih =>
    have e : (A.flatMap fun a => (wordsLE A n).map (a :: ·)).length =
        A.length * (wordsLE A n).length := by
      simp [List.length_flatMap]
    have h1 : 1 ≤ (A.length + 1) ^ n := Nat.one_le_pow _ _ (Nat.succ_pos _)
    have h2 := Nat.mul_le_mul_left A.length ih
    rw [wordsLE, List.length_cons, e, Nat.pow_succ, Nat.mul_succ,
      Nat.mul_comm ((A.length + 1) ^ n) A.length]
    omega

end Pfl
