/-
The texts between `_preprocess_brackets` and `_separate` as token lists of a grammar (`Pat`: leaf tokens
for plain characters, escaped characters and `.`, unions of tokens standing for character sets, the
operators), with their level and meaning; a pattern without `+ ? {..}` is an expression of the reader.
-/
import Pfl.Proofs.PyRxTokenText
namespace Pfl.PyRx.E2E.S3
open Pfl.RegexReader Pfl.RegexReader.Lem Pfl.PyPass
open E

/-- a plain character that none of the later passes nor the reader reacts to -/
def Tk1 (c : Char) : Prop := c ∉ ['\\', '(', ')', '|', '*', '+', '?', '{', '.', '$', ' ', '\x08']

/-- the character after a backslash: not a letter or digit (those escapes mean something else) -/
def EscOK (c : Char) : Prop := c.isAlphanum = false

/-- leaf tokens; `q` says whether `_preprocess_optional` has still to run (then `\?` is written so,
afterwards it is the plain token `?`) -/
def LeafTok (q : Bool) (t : Tok) : Prop :=
  (∃ c, t = [c] ∧ Tk1 c) ∨ t = ['$'] ∨ t = ['.'] ∨
    (∃ c, t = ['\\', c] ∧ EscOK c ∧ (q = false → c ≠ '?')) ∨ (q = false ∧ t = ['?'])

/-- tokens inside a union standing for a set: `{` is the only character that stays unescaped there
although it is escaped elsewhere -/
def UTok (q : Bool) (t : Tok) : Prop := (LeafTok q t ∧ t ≠ ['.']) ∨ t = ['{']

def altc : List Tok → E
  | [] => .tok []
  | [t] => .tok t
  | t :: r => .alt (.tok t) (altc r)

/-- the meaning of a leaf token -/
def tkRx (t : Tok) : Rx := if t = ['.'] then tree (altc escapedPrintables) else leaf t

/-- `t₁ | … | tₙ` over tokens of the class `A`: what stands between the parentheses written for a set of
characters, and for `.`. -/
inductive Alts (A : Tok → Prop) : List Tok → Rx → Prop
  | one {t : Tok} : A t → Alts A [t] (leaf t)
  | cons {t : Tok} {ts : List Tok} {r : Rx} :
      A t → Alts A ts r → Alts A (t :: ['|'] :: ts) (.alt (leaf t) r)

theorem alts_insertOr {A : Tok → Prop} : ∀ ts : List Tok, ts ≠ [] → (∀ t ∈ ts, A t) →
    Alts A (insertOr ts) (tree (altc ts))
  | [], h, _ => absurd rfl h
  | [t], _, h => .one (h t (by simp))
  | t :: t' :: r, _, h =>
    .cons (h t (by simp)) (alts_insertOr (t' :: r) (by simp) fun x hx => h x (by simp [hx]))

theorem Alts.all {A P : Tok → Prop} {ts : List Tok} {r : Rx} (h : Alts A ts r) (hA : ∀ t, A t → P t)
    (hb : P ['|']) : ∀ t ∈ ts, P t := by
  induction h with
  | one h => exact List.forall_mem_singleton.mpr (hA _ h)
  | cons h _ ih => exact List.forall_mem_cons.mpr ⟨hA _ h, List.forall_mem_cons.mpr ⟨hb, ih⟩⟩

/-- `Pat pl rp op l ts r`: the tokens `ts` are a pattern as it stands after `_preprocess_brackets`, of level
at most `l` (0: a token, the union written for a set, or a parenthesised pattern; 1: no `|` outside
parentheses; 2: any), and have the language of `r` (`eqv`: nothing looks at the tree itself); the flags say
whether `+`, `{..}`, `?` may occur.  A postfix operator takes an operand of level 0.  The levels are
cumulative, so that each later pass keeps both indices: `a+` becomes the juxtaposition `a a*`, still of
level 1. -/
inductive Pat (pl rp op : Bool) : Nat → List Tok → Rx → Prop
  | tk {l : Nat} {t : Tok} : LeafTok op t → Pat pl rp op l [t] (tkRx t)
  | set {l : Nat} {ts : List Tok} {r : Rx} :
      Alts (UTok op) ts r → Pat pl rp op l (['('] :: (ts ++ [[')']])) r
  | grp {l : Nat} {ts : List Tok} {r : Rx} :
      Pat pl rp op 2 ts r → Pat pl rp op l (['('] :: (ts ++ [[')']])) r
  | seq {l : Nat} {us vs : List Tok} {a b : Rx} :
      Pat pl rp op 1 us a → Pat pl rp op 1 vs b → Pat pl rp op (l + 1) (us ++ vs) (.cat a b)
  | bar {l : Nat} {us vs : List Tok} {a b : Rx} :
      Pat pl rp op 2 us a → Pat pl rp op 2 vs b → Pat pl rp op (l + 2) (us ++ ['|'] :: vs) (.alt a b)
  | star {l : Nat} {us : List Tok} {a : Rx} :
      Pat pl rp op 0 us a → Pat pl rp op (l + 1) (us ++ [['*']]) (.star a)
  | plus {l : Nat} {us : List Tok} {a : Rx} :
      pl = true → Pat pl rp op 0 us a → Pat pl rp op (l + 1) (us ++ [['+']]) (.cat a (.star a))
  | opt {l : Nat} {us : List Tok} {a : Rx} :
      op = true → Pat pl rp op 0 us a → Pat pl rp op (l + 1) (us ++ [['?']]) (.alt a .eps)
  | rep {l : Nat} {us : List Tok} {a : Rx} {m n : Nat} :
      rp = true → Pat pl rp op 0 us a → m ≤ n →
      Pat pl rp op (l + 1) (us ++ sing (C.braces m n)) (.cat (copies a m) (optCopies a (n - m)))
  | eqv {l : Nat} {ts : List Tok} {r r' : Rx} : Pat pl rp op l ts r → Eqv r r' → Pat pl rp op l ts r'

theorem Pat.mono {pl rp op : Bool} {l l' : Nat} {ts : List Tok} {r : Rx} (h : Pat pl rp op l ts r)
    (hl : l ≤ l') : Pat pl rp op l' ts r := by
  have h1 : ∀ k, k + 1 ≤ l' → ∃ j, l' = j + 1 := fun k hk => ⟨l' - 1, by omega⟩
  induction h with
  | tk h => exact .tk h
  | set h => exact .set h
  | grp h => exact .grp h
  | seq ha hb => obtain ⟨j, rfl⟩ := h1 _ hl; exact .seq ha hb
  | bar ha hb => obtain ⟨j, rfl⟩ : ∃ j, l' = j + 2 := ⟨l' - 2, by omega⟩; exact .bar ha hb
  | star h => obtain ⟨j, rfl⟩ := h1 _ hl; exact .star h
  | plus hp h => obtain ⟨j, rfl⟩ := h1 _ hl; exact .plus hp h
  | opt ho h => obtain ⟨j, rfl⟩ := h1 _ hl; exact .opt ho h
  | rep hr h hmn => obtain ⟨j, rfl⟩ := h1 _ hl; exact .rep hr h hmn
  | eqv _ e ih => exact (ih hl).eqv e

theorem Pat.up {pl rp op : Bool} {l : Nat} {ts : List Tok} {r : Rx} (h : Pat pl rp op 0 ts r) :
    Pat pl rp op l ts r := h.mono (Nat.zero_le _)

theorem Pat.ne_nil {pl rp op : Bool} {l : Nat} {ts : List Tok} {r : Rx} (h : Pat pl rp op l ts r) :
    ts ≠ [] := by
  induction h <;> simp [*]

theorem toNode_esc (c : Char) : toNode ['\\', c] = .nSym [c] := by
  unfold toNode
  have h1 : (['\\', c] : List Char) ≠ ['.'] := by simp
  have h2 : (['\\', c] : List Char) ≠ ['|'] := by simp
  have h3 : (['\\', c] : List Char) ≠ ['+'] := by simp
  have h4 : (['\\', c] : List Char) ≠ ['*'] := by simp
  have h5 : (['\\', c] : List Char) ≠ ['$'] := by simp
  simp

theorem tk1_ne {c : Char} (h : Tk1 c) (d : Char)
    (hd : d ∈ ['\\', '(', ')', '|', '*', '+', '?', '{', '.', '$', ' ', '\x08']) : c ≠ d := by
  rintro rfl; exact h hd

theorem tk1_iff {c : Char} : Tk1 c ↔ c ∉ mustEsc ∧ c ≠ '{' ∧ c ≠ '\x08' := by
  simp only [Tk1, mustEsc, List.mem_cons, List.not_mem_nil, or_false, not_or]
  constructor <;> (intro h; simp [h])

theorem tk1_pl {c : Char} (h : Tk1 c) : IsPl [c] := isPl_plain c (tk1_iff.mp h).1

theorem one_ne_epsilon (c : Char) : [c] ≠ "epsilon".toList := by
  intro e; have := congrArg List.length e; simp at this

theorem pl_sym {c : Char} (hpl : IsPl [c]) : IsSym [c] ∧ IsLeaf [c] :=
  ⟨Or.inr (Or.inl hpl), hpl.ne_sp (by decide), hpl.ne_sp (by decide),
    Or.inl ⟨_, toNode_pl hpl (one_ne_epsilon c)⟩⟩

theorem esc_sym (c : Char) : IsSym ['\\', c] ∧ IsLeaf ['\\', c] :=
  ⟨Or.inr (Or.inr ⟨c, rfl⟩), by simp, by simp, Or.inl ⟨_, toNode_esc c⟩⟩

theorem isPl_one (c : Char) (h : c ≠ ' ' ∧ c ≠ '\\' ∧ isSpecialChar c = false) : IsPl [c] :=
  ⟨by simp, fun d hd => by rw [List.mem_singleton.mp hd]; exact h⟩

theorem leafTok_sym {t : Tok} (h : LeafTok false t) (hd : t ≠ ['.']) : IsSym t ∧ IsLeaf t := by
  rcases h with ⟨c, rfl, hc⟩ | rfl | rfl | ⟨c, rfl, _, _⟩ | ⟨_, rfl⟩
  · exact pl_sym (tk1_pl hc)
  · exact ⟨Or.inl ⟨_, rfl, by decide⟩, by decide, by decide, Or.inr (by decide)⟩
  · exact absurd rfl hd
  · exact esc_sym c
  · exact pl_sym (isPl_one '?' (by decide))

theorem UTok.ne_dot {q : Bool} {t : Tok} (h : UTok q t) : t ≠ ['.'] := by
  rcases h with h | rfl
  · exact h.2
  · simp

theorem UTok.sym {t : Tok} (h : UTok false t) : IsSym t ∧ IsLeaf t := by
  rcases h with h | rfl
  · exact leafTok_sym h.1 h.2
  · exact pl_sym (isPl_one '{' (by decide))

theorem escapedPrintables_leaf : ∀ t ∈ escapedPrintables, IsSym t ∧ IsLeaf t := by
  intro t ht
  rcases escapedPrintables_a3n t ht with ⟨hpl, hne⟩ | ⟨c, rfl⟩
  · exact ⟨Or.inr (Or.inl hpl), hpl.ne_sp (by decide), hpl.ne_sp (by decide), Or.inl ⟨_, toNode_pl hpl hne⟩⟩
  · exact esc_sym c

theorem escapedPrintables_ne : escapedPrintables ≠ [] := by decide

theorem expand_ne {t : Tok} (h : t ≠ ['.']) : expand t = [t] := by simp [expand, h]

theorem flatMap_expand_id (l : List Tok) (h : ∀ t ∈ l, t ≠ ['.']) : l.flatMap expand = l := by
  induction l with
  | nil => rfl
  | cons t l ih =>
    rw [List.flatMap_cons, expand_ne (h t (by simp)), ih (fun x hx => h x (by simp [hx]))]
    rfl

theorem insertOr_mem (ts : List Tok) (t : Tok) (h : t ∈ insertOr ts) : t ∈ ts ∨ t = ['|'] := by
  by_cases hne : ts = []
  · subst hne; simp [insertOr] at h
  · exact (alts_insertOr (A := (· ∈ ts)) ts hne fun _ => id).all (P := fun t => t ∈ ts ∨ t = ['|'])
      (fun _ => Or.inl) (Or.inr rfl) t h

theorem flatMap_expand_wrap (l : List Tok) :
    (['('] :: (l ++ [[')']])).flatMap expand = ['('] :: (l.flatMap expand ++ [[')']]) := by
  simp [expand]

theorem Alts.reads {A : Tok → Prop} {ts : List Tok} {r : Rx} (hA : ∀ t, A t → IsSym t ∧ IsLeaf t)
    (h : Alts A ts r) : ∃ l k, Reads l k ts r := by
  induction h with
  | one h => exact ⟨0, 1, .tok (hA _ h).1 (hA _ h).2⟩
  | cons h _ ih =>
    obtain ⟨_, _, hr⟩ := ih
    exact ⟨2, _, .alt (.tok (hA _ h).1 (hA _ h).2) (Nat.zero_le 1) hr⟩

/-- A pattern without `+ ? {..}` is an expression of the reader's grammar, of at most the same level, with
the tokens of the text `_separate` writes, and is read as a tree with its language. -/
theorem Pat.reads {l : Nat} {ts : List Tok} {r : Rx} (h : Pat false false false l ts r) :
    ∃ l' k r', l' ≤ l ∧ Reads l' k (ts.flatMap expand) r' ∧ Eqv r' r := by
  induction h with
  | @tk l t h =>
    by_cases hd : t = ['.']
    · subst hd
      obtain ⟨_, k, hk⟩ := (alts_insertOr _ escapedPrintables_ne escapedPrintables_leaf).reads fun _ => id
      exact ⟨0, k, _, Nat.zero_le _, by simpa [expand] using hk.par, by simp [tkRx]; exact Eqv.rfl'⟩
    · have := leafTok_sym h hd
      exact ⟨0, 1, _, Nat.zero_le _, by simpa [expand_ne hd] using Reads.tok this.1 this.2, by
        simp only [tkRx, if_neg hd]; exact Eqv.rfl'⟩
  | @set l ts r h =>
    obtain ⟨_, k, hk⟩ := h.reads fun _ => UTok.sym
    refine ⟨0, k, _, Nat.zero_le _, ?_, Eqv.rfl'⟩
    rw [flatMap_expand_wrap, flatMap_expand_id _ (h.all (fun _ => UTok.ne_dot) (by simp))]
    exact hk.par
  | grp _ ih =>
    obtain ⟨_, k, r', _, hr, e⟩ := ih
    exact ⟨0, k, r', Nat.zero_le _, by rw [flatMap_expand_wrap]; exact .par hr, e⟩
  | seq _ _ iha ihb =>
    obtain ⟨_, _, _, hla, ha, ea⟩ := iha
    obtain ⟨_, _, _, hlb, hb, eb⟩ := ihb
    obtain ⟨k, r', hr, e⟩ := ha.app hla hb hlb
    exact ⟨1, k, r', by omega, by rw [List.flatMap_append]; exact hr, e.trans (Eqv.cat ea eb)⟩
  | bar _ _ iha ihb =>
    obtain ⟨_, _, _, _, ha, ea⟩ := iha
    obtain ⟨_, _, _, _, hb, eb⟩ := ihb
    obtain ⟨k, r', hr, e⟩ := ha.uni hb
    exact ⟨2, k, r', by omega, by rw [List.flatMap_append]; simpa [expand] using hr,
      e.trans (Eqv.alt ea eb)⟩
  | star _ ih =>
    obtain ⟨l', k, r', hl, hr, e⟩ := ih
    obtain rfl : l' = 0 := by omega
    exact ⟨0, k + 1, _, Nat.zero_le _, by rw [List.flatMap_append]; simpa [expand] using Reads.star hr,
      Eqv.star e⟩
  | plus hp => exact absurd hp (by simp)
  | opt ho => exact absurd ho (by simp)
  | rep hr => exact absurd hr (by simp)
  | eqv _ e ih =>
    obtain ⟨l', k, r', hl, hr, e'⟩ := ih
    exact ⟨l', k, r', hl, hr, e'.trans e⟩

theorem Pat.parse {l : Nat} {ts : List Tok} {r : Rx} (h : Pat false false false l ts r) :
    ∃ fuel r', parse fuel (join [' '] (ts.map expT)) = .ok r' ∧ Eqv r' r := by
  obtain ⟨_, k, r', _, hr, e⟩ := h.reads
  exact ⟨k, r', hr.parse_written (Nat.le_refl _) (written_separate _), e⟩

end Pfl.PyRx.E2E.S3
