/-
Completeness of `advance`: when the waiting state and the completed state cover ground items
that agree on the value of the expected symbol, the unification succeeds and the new state (or a
state subsuming it) covers the advanced ground item.  The walk through `advance` is that of
`EarleyAdvance` (`adv_walk`); here are what the facts of `Base` and `BaseR` of a state become along it
(`AdvWalk.baseS`, `baseS3`, `pushed`), for this proof and for the termination proof, and the
valuations of two compatible instances carried forward through it (`AdvWalk.fwd`).
-/
import Pfl.Proofs.EarleyCompleteTables
namespace Pfl
namespace Earley
namespace Cmp
open FsDag FsDag.Lem Lem

/-- the value of the symbol after the dot of `(k, env)` is the value of the head of `(k', env')` -/
def Agree (C : Ctx) (k dot : Nat) (env : Env) (k' : Nat) (env' : Env) : Prop :=
  ∀ it, (prX C k).2[dot]? = some it → it.2.map (C.vf env) = (prX C k').1.2.map (C.vf env')

/-- moving `nx` over the variable completed by `c`: every pair of compatible instances, read in
the store `st`, yields a covered item that ends in column `e` of `T'` -/
def CompCov (C : Ctx) (st : Store) (T' : Tables) (nx c : EState) (e : Nat) : Prop :=
  ∀ env env', Cov C st nx.fs nx.prod env → Cov C st c.fs c.prod env' →
    Agree C nx.prod nx.dot env c.prod env' → CovT C T' ⟨nx.prod, env, nx.b, e, nx.dot + 1⟩

theorem CompCov.mono {C : Ctx} {st : Store} {T1 T2 : Tables} {nx c : EState} {e : Nat}
    (h : CompCov C st T1 nx c e) {rk : Nat → Nat} {lo : Nat}
    (hB : Base C T1 rk) (hle : TLe lo T1 T2) : CompCov C st T2 nx c e :=
  fun env env' h1 h2 h3 => (h env env' h1 h2 h3).mono hB hle

theorem body_prX {C : Ctx} (hC : CtxOK C) (k : Nat) :
    (prodOf C.G k).body = (prX C k).2.map (·.1) := by
  cases h : C.spec[k]? with
  | none => rw [prodOf_gamma hC h, prX_gamma h]; rfl
  | some pr => rw [(prodOf_spec hC h).2.1, prX_spec h]

theorem head_prX {C : Ctx} (hC : CtxOK C) (k : Nat) :
    (prodOf C.G k).head = (prX C k).1.1 := by
  cases h : C.spec[k]? with
  | none => rw [prodOf_gamma hC h, prX_gamma h]
  | some pr => rw [(prodOf_spec hC h).1, prX_spec h]

theorem incomplete_prX {C : Ctx} (hC : CtxOK C) (s : EState) :
    incomplete C.G s = decide (s.dot < (prX C s.prod).2.length) := by
  unfold incomplete; rw [body_prX hC, List.length_map]

theorem nextSym_prX {C : Ctx} (hC : CtxOK C) (s : EState) :
    nextSym C.G s = ((prX C s.prod).2[s.dot]?).map (·.1) := by
  unfold nextSym; rw [body_prX hC, List.getElem?_map]

theorem occ_vacuous {C : Ctx} (hC : CtxOK C) (hf : C.featured = false) (k : Nat) (st : Store)
    (σ : Nat → String) (F : Nat) (env : Env) : Occ C st σ F (prX C k) env := by
  cases h : C.spec[k]? with
  | none => exact occ_gamma h st σ F env
  | some pr =>
    rw [prX_spec h]
    have hm := List.mem_of_getElem? h
    obtain ⟨h1, h2⟩ := hC.uniform pr hm
    rw [hf] at h1 h2
    refine ⟨fun v hv => by rw [hv] at h1; simp at h1, fun j X v hj => ?_⟩
    have := h2 _ (List.mem_of_getElem? hj) X rfl
    simp at this

theorem rk_path2 {st : Store} {rk : Nat → Nat} (hw : WFS st rk) {F n : Nat} {g1 g2 : String}
    (hF : rk F = 2) (h : byPath st F [g1, g2] = some n) : rk n = 0 := by
  rw [byPath_two] at h
  obtain ⟨c, hc, hn⟩ := Option.bind_eq_some_iff.1 h
  have r1 := rk_lookup hw.inv hc
  have r2 := rk_lookup hw.inv hn
  omega

theorem rdv_const_getD (st : Store) (d : String) (F : Nat) (p : List String) :
    (rdv st (fun _ => d) F p).getD d = d := by
  unfold rdv; cases byPath st F p <;> rfl

theorem BaseS.step {C : Ctx} {st st' : Store} {rk rk' : Nat → Nat} {pr : List Dict} {n : Nat}
    (h : BaseS C st rk pr n) (hs : Lem.Step C.P st rk st' rk') (hf : Fr st st') (hw : WFS st' rk')
    (hsx : SX C.P st' rk') (hnv : C.featured = false → NoVal st') : BaseS C st' rk' pr n :=
  { h with
    toInvS := h.toInvS.step hs hw, sx := hsx, nv := hnv
    cov := fun k p env hp he => (h.cov k p env hp he).fwd hf h.wf (h.objs k p hp).1
    opth := fun k p hp => (h.opth k p hp).fwd hf h.wf (h.objs k p hp).1 }

theorem BaseR.step {C : Ctx} {st st' : Store} {rk rk' : Nat → Nat} {j : Nat} {s : EState}
    (h : BaseR C st rk j s) (hs : Lem.Step C.P st rk st' rk') (hf : Fr st st') (hw : WFS st rk) :
    BaseR C st' rk' j s :=
  ⟨h.toStOK.step hs, h.pth.fwd hf hw h.fs_lt⟩

theorem tle_store (lo : Nat) (T : Tables) {st' : Store} (hf : Fr T.store st') :
    TLe lo T { T with store := st' } :=
  ⟨hf, fun _ _ h => h, fun h => h, fun _ _ => rfl⟩

section
variable {C : Ctx} {st : Store} {rk : Nat → Nat} {nx c : EState} {st1 : Store} {cl : Nat}
  {rk1 : Nat → Nat} {st2 : Store} {cr : Nat} {rk2 : Nat → Nat} {left considered : Nat}
  (W : AdvWalk C.P st rk c.fs nx.fs nx.dot st1 cl rk1 st2 cr rk2 left considered)
include W

theorem AdvWalk.baseS {pr : List Dict} {n : Nat} (h : BaseS C st rk pr n) : BaseS C st2 rk2 pr n :=
  h.step W.step W.fr W.o2.wf (W.sx h.sx) fun hf => W.o2.nv (W.o1.nv (h.nv hf))

theorem AdvWalk.fwd (hsx : SX C.P st rk) (hnx : nx.fs < st.length) {d : String} (hd : C.P d)
    {σa σc : Nat → String} (hσa : Resp C.P st σa) (hσc : Resp C.P st σc)
    (H : (rdv st σa nx.fs [toString nx.dot, "n"]).getD d =
      (rdv st σc c.fs ["head", "n"]).getD d) :
    ∃ st3, unify (st2.length + 2) st2 considered left = .ok st3 ∧ ∃ σ3, Resp C.P st3 σ3 ∧
      ∀ g1 g2 u, rdv st σa nx.fs [g1, g2] = some u → rdv st3 σ3 cr [g1, g2] = some u := by
  obtain ⟨σ1, hσ1, keep1, cp1⟩ := W.o1.fwd σa σc hσa hσc
  obtain ⟨σ2, hσ2, keep2, cp2⟩ := W.o2.fwd σ1 σ1 hσ1 hσ1
  have rA : ∀ p, rdv st2 σ2 cr p = rdv st σa nx.fs p := fun p => by rw [cp2, keep1 _ _ hnx]
  obtain ⟨st3, hu, σ3, hσ3, hrd⟩ := unify_fwd W.o2.wf (W.sx hsx) hσ2 hd
    (byPath_lt W.o2.wf.rng _ _ _ W.o2.lt W.cons0) (byPath_lt W.o2.wf.rng _ _ _ W.cl_lt W.left2)
    W.rkcons W.rkleft
    (by rw [← rdv_sub W.cons0, ← rdv_sub W.left2, rA, keep2 _ _ W.o1.lt, cp1]; exact H)
  refine ⟨st3, hu, σ3, hσ3, fun g1 g2 u h => ?_⟩
  rw [← rA] at h
  obtain ⟨n, hp, h⟩ := rdv_some.1 h
  rw [← h]
  exact hrd cr _ n W.o2.lt hp (rk_path2 W.o2.wf W.rkcr hp)

variable {st3 : Store} {rk3 : Nat → Nat} (u : UnifyOut C.P st2 rk2 considered left st3 rk3)
include u

theorem AdvWalk.baseS3 {pr : List Dict} {n : Nat} (h : BaseS C st rk pr n) :
    BaseS C st3 rk3 pr n :=
  h.step (W.step.trans u.step) (W.fr3 u h.wf h.sx) u.wf (u.sx (W.sx h.sx)).1
    fun hf j => by rw [(u.sx (W.sx h.sx)).2.vals j]; exact W.o2.nv (W.o1.nv (h.nv hf)) j

theorem AdvWalk.pushed (hC : CtxOK C) (hw : WFS st rk) {i : Nat} (hc : BaseR C st rk i c)
    (hnx : BaseR C st rk c.b nx) (hcomp : incomplete C.G c = false)
    (hnext : nextSym C.G nx = some (.var (prodOf C.G c.prod).head)) :
    BaseR C st3 rk3 c.e { prod := nx.prod, b := nx.b, e := c.e, dot := nx.dot + 1, fs := cr } :=
  ⟨compl_good hC W u hc.toStOK hnx.toStOK hcomp hnext,
    hnx.pth.1.elim fun _ hr => W.path3 u hw hnx.fs_lt hr,
    fun j hj => (hnx.pth.2 j hj).elim fun _ hr => W.path3 u hw hnx.fs_lt hr⟩

end

theorem advance_walk {C : Ctx} (hC : CtxOK C) {T : Tables} {rk : Nat → Nat}
    (hB : Base C T rk) {i : Nat} {c nx : EState} (hcOK : BaseR C T.store rk i c)
    (hnxOK : BaseR C T.store rk c.b nx) {X : Sym} (hnext : nextSym C.G nx = some X) :
    ∃ st1 cl rk1 st2 cr rk2 left considered,
      AdvWalk C.P T.store rk c.fs nx.fs nx.dot st1 cl rk1 st2 cr rk2 left considered := by
  rcases adv_walk C.P hB.tab.wf hcOK.fs_lt hnxOK.fs_lt hcOK.rk2 hnxOK.rk2 nx.dot with
    ⟨_, _, _, _, _, h | h⟩ | W
  · obtain ⟨r, hr⟩ := hcOK.pth.1; rw [hr] at h; cases h
  · obtain ⟨r, hr⟩ := hnxOK.pth.2 nx.dot
      (of_decide_eq_true ((incomplete_prX hC nx).symm.trans (incomplete_of_nextSym hnext)))
    rw [hr] at h; cases h
  · exact W

/-- a compatible pair of ground instances is read by two valuations that agree on the value of the
symbol after the dot and of the completed head (a missing leaf counting as `d`): those of the two
instances, or the constant `d` when the grammar has no features -/
theorem agree_reads {C : Ctx} (hC : CtxOK C) {d : String} (hd : C.P d) {st : Store}
    (hnv : C.featured = false → NoVal st) {nx c : EState}
    (hnext : nextSym C.G nx = some (.var (prodOf C.G c.prod).head)) {env env' : Env}
    (h1 : Cov C st nx.fs nx.prod env) (h2 : Cov C st c.fs c.prod env')
    (hag : Agree C nx.prod nx.dot env c.prod env') :
    ∃ σa σc, Resp C.P st σa ∧ Resp C.P st σc ∧ Occ C st σa nx.fs (prX C nx.prod) env ∧
      (rdv st σa nx.fs [toString nx.dot, "n"]).getD d =
        (rdv st σc c.fs ["head", "n"]).getD d := by
  obtain ⟨σa, hσa, hoa⟩ := h1
  obtain ⟨σc, hσc, hoc⟩ := h2
  cases hf : C.featured with
  | false =>
    have hr : Resp C.P st fun _ => d := ⟨fun _ => hd, fun c' v _ hv _ => by
      rw [hnv hf c'] at hv; exact nomatch hv⟩
    exact ⟨_, _, hr, hr, occ_vacuous hC hf _ _ _ _ _,
      (rdv_const_getD ..).trans (rdv_const_getD ..).symm⟩
  | true =>
    -- the symbol after the dot is that of the `dot`-th item of the production
    obtain ⟨it, hit, hit1⟩ := Option.map_eq_some_iff.1 ((nextSym_prX hC nx).symm.trans hnext)
    have hagi := hag it hit
    obtain ⟨prs, hsp⟩ := hC.completed_spec hnext
    have hprs := (hC.uniform prs (List.mem_of_getElem? hsp)).1
    rw [hf] at hprs
    obtain ⟨v', hv'⟩ := Option.isSome_iff_exists.1 hprs
    rw [prX_spec hsp, hv'] at hagi
    simp only [Option.map_some, Option.map_eq_some_iff] at hagi
    obtain ⟨v, hv, hvv⟩ := hagi
    have hj : (prX C nx.prod).2[nx.dot]? = some (Sym.var (prodOf C.G c.prod).head, some v) := by
      rw [hit]; congr 1; exact Prod.ext hit1 hv
    refine ⟨σa, σc, hσa, hσc, hoa, ?_⟩
    rw [hoa.2 nx.dot _ v hj, hoc.1 v' (by rw [prX_spec hsp]; exact hv'), hvv]

theorem advance_spec {C : Ctx} (hC : CtxOK C) {T : Tables}
    {rk : Nat → Nat} (hB : Base C T rk) {i : Nat} {c nx : EState} (hcOK : BaseR C T.store rk i c)
    (hnxOK : BaseR C T.store rk c.b nx) (hi : i < C.word.length + 1)
    (hcomp : incomplete C.G c = false)
    (hnext : nextSym C.G nx = some (.var (prodOf C.G c.prod).head)) :
    ∃ rk', (Base C (Pfl.Earley.advance C.G T nx c) rk' ∧
        Carry (BaseR C) T.store rk (Pfl.Earley.advance C.G T nx c).store rk') ∧
      TLe i T (Pfl.Earley.advance C.G T nx c) ∧
      CompCov C T.store (Pfl.Earley.advance C.G T nx c) nx c i := by
  obtain rfl := hcOK.e_eq
  obtain ⟨st1, cl, rk1, st2, cr, rk2, left, considered, W⟩ := advance_walk hC hB hcOK hnxOK hnext
  have hw0 := hB.tab.wf
  -- for a compatible pair of instances the unification succeeds, and the copy of the waiting
  -- record covers the instance
  have key2 : ∀ env env', Cov C T.store nx.fs nx.prod env → Cov C T.store c.fs c.prod env' →
      Agree C nx.prod nx.dot env c.prod env' →
      ∃ st3, unify (st2.length + 2) st2 considered left = .ok st3 ∧ Cov C st3 cr nx.prod env := by
    intro env env' h1 h2 hag
    -- the values of the valuation that reads `env` are admissible: there is a default value
    obtain ⟨d, hd⟩ : ∃ d, C.P d := h1.elim fun σ hσ => ⟨σ 0, hσ.1.1 0⟩
    obtain ⟨σa, σc, hσa, hσc, hoa, H⟩ := agree_reads hC hd hB.tab.nv hnext h1 h2 hag
    obtain ⟨st3, hu, σ3, hσ3, hrd⟩ := W.fwd hB.tab.sx hnxOK.fs_lt hd hσa hσc H
    exact ⟨st3, hu, σ3, hσ3, fun v hv => hrd _ _ _ (hoa.1 v hv),
      fun j X v hj => hrd _ _ _ (hoa.2 j X v hj)⟩
  rw [advance_eq, W.eq]
  cases hun : unify (st2.length + 2) st2 considered left with
  | ok st3 =>
    obtain ⟨rk3, u⟩ := W.ok st3 hun
    have hfr3 := W.fr3 u hw0 hB.tab.sx
    have hcar : Carry (BaseR C) T.store rk st3 rk3 :=
      fun _ _ r => r.step (W.step.trans u.step) hfr3 hw0
    obtain ⟨hBp, hlep, hcovp⟩ := push_spec (hB.store (W.baseS3 u hB.tab) hcar) (i := c.e)
      hi (W.pushed u hC hw0 hcOK hnxOK hcomp hnext)
    refine ⟨rk3, ⟨hBp, hcar.push _ _ _⟩, (tle_store c.e T hfr3).trans hlep, ?_⟩
    intro env env' h1 h2 hag
    obtain ⟨st', hu', hcov3⟩ := key2 env env' h1 h2 hag
    rw [hun] at hu'
    obtain rfl := Res.ok.inj hu'
    exact hcovp env hcov3
  | _ =>
    -- without a successful unification only the copies are left; no instances were compatible
    have hcar : Carry (BaseR C) T.store rk st2 rk2 := fun _ _ r => r.step W.step W.fr hw0
    refine ⟨rk2, ⟨hB.store (W.baseS hB.tab) hcar, hcar⟩,
      tle_store c.e T W.fr, fun env env' h1 h2 hag => ?_⟩
    obtain ⟨st', hu', _⟩ := key2 env env' h1 h2 hag
    rw [hun] at hu'; exact nomatch hu'

end Cmp
end Earley
end Pfl
