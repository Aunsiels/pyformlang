/-
Termination of the Earley model (C18): the shape `Sh` of a state's record and the two store
operations of `advance` that keep it.  `copy` renames the record injectively.  The unification is
not computed: by the `UPost` of `UnifyOut.sx` it leaves every object outside `Touched` (the classes of the two
symbol records and of their leaves) as it was and keeps that set closed, classes only merge and
paths survive.  So `deref` of the new store is the identity on the untouched classes and maps the
touched ones among themselves, hence is injective on the classes of the record, of which at most
one symbol record and one leaf are touched.
-/
import Pfl.Proofs.EarleyTerminationSubs
namespace Pfl
namespace Earley
namespace Term
open FsDag Lem Cmp

/-- every feature leads to an object without features (the stores of feature-free grammars) -/
def PlainSt (st : Store) : Prop := ∀ i g x, (g, x) ∈ cont st i → cont st (deref st x) = []

theorem PlainSt.slot {st : Store} (hp : PlainSt st) {F j u : Nat} (h : slotOf st F j = some u) :
    cont st u = [] := by
  obtain ⟨c, hc, rfl⟩ := slotOf_some h
  exact hp _ _ _ (lookupC_mem hc)

theorem plain_copy {st : Store} {F : Nat} {st1 : Store} {F' : Nat} {κ : Nat → Nat}
    {dom : Nat → Prop} {π : Nat → Nat} (hc : CopySpec st F st1 F' κ dom π) (hr : Rng st)
    (ha : Acyc st) (hp : PlainSt st) : PlainSt st1 := by
  intro n g x hx
  rcases hc.node_cases n with ⟨h1, h2⟩ | ⟨_, h3, _, h2⟩ | h2
  · rw [cont, h2] at hx
    have hxl : x < st.length := hr.c n g x hx
    rw [hc.fr.deref_eq ha hr hxl, cont, hc.fr.old _ (deref_lt hr hxl)]
    exact hp n g x hx
  · rw [cont, h2] at hx
    obtain ⟨e, he, heq⟩ := List.mem_map.1 hx
    cases heq
    obtain ⟨hd, hdd⟩ := hc.deref_κ hr ha e.2 (hc.dom_cont _ e.1 e.2 h3 he)
    rw [hd, cont, hc.node _ hdd]
    show (cont st (deref st e.2)).map (fun e => (e.1, κ e.2)) = []
    rw [hp _ e.1 e.2 he]; rfl
  · rw [cont, h2] at hx; exact absurd hx List.not_mem_nil

theorem leafOf_none_plain {st : Store} (hp : PlainSt st) (F j : Nat) : leafOf st F j = none := by
  cases h : leafOf st F j with
  | none => rfl
  | some u =>
    obtain ⟨c, x, hc, hx, _⟩ := leafOf_some h
    rw [hp _ _ _ (lookupC_mem hc)] at hx
    simp [lookupC] at hx

/-- the shape of a state's record `F` (in `st`) relative to the record `P` of its production as the start
store `st0` has it: the symbol records of `F` are pairwise distinct and there where `P` has one, its leaves
coincide as those of `P` do.  `P` is read in `st0` so that no store operation has to say that it kept `P` -/
structure Sh (st : Store) (F : Nat) (st0 : Store) (P : Nat) : Prop where
  slot : ∀ i j, (∃ c, slotOf st F i = some c ∧ slotOf st F j = some c) ↔
    i = j ∧ (slotOf st0 P i).isSome = true
  leaf : ∀ i j, i ≠ j →
    ((∃ x, leafOf st F i = some x ∧ leafOf st F j = some x) ↔
      (∃ x, leafOf st0 P i = some x ∧ leafOf st0 P j = some x))

/-- what is asked of the production records of the start store -/
abbrev TSh (st : Store) (F P : Nat) : Prop := Sh st F st P

/-- transfer of the shape to a record `F'` of a store `st'` whose symbol records and leaves are those
of `F` renamed by `α` (injective on the ones and on the others); a leaf that `F` does not have may
appear, shared with no other -/
theorem Sh.transfer {st st' st0 : Store} {F F' P : Nat} (h : Sh st F st0 P) (α : Nat → Nat)
    (hα : ∀ i j u v, slotOf st F i = some u → slotOf st F j = some v → α u = α v → u = v)
    (hβ : ∀ i j u v, leafOf st F i = some u → leafOf st F j = some v → α u = α v → u = v)
    (hs : ∀ j, slotOf st' F' j = (slotOf st F j).map α)
    (hl : ∀ j u, leafOf st F j = some u → leafOf st' F' j = some (α u))
    (hnew : ∀ i j w, i ≠ j → leafOf st F i = none → leafOf st' F' i = some w →
      leafOf st' F' j ≠ some w) : Sh st' F' st0 P := by
  refine ⟨?_, ?_⟩
  · intro i j
    rw [hs i, hs j, ← h.slot i j]
    constructor
    · rintro ⟨c, h1, h2⟩
      obtain ⟨u, hu, hu'⟩ := Option.map_eq_some_iff.1 h1
      obtain ⟨v, hv, hv'⟩ := Option.map_eq_some_iff.1 h2
      obtain rfl := hα i j u v hu hv (hu'.trans hv'.symm)
      exact ⟨u, hu, hv⟩
    · rintro ⟨c, h1, h2⟩
      exact ⟨α c, by rw [h1]; rfl, by rw [h2]; rfl⟩
  · intro i j hij
    rw [← h.leaf i j hij]
    constructor
    · rintro ⟨x, h1, h2⟩
      cases hu : leafOf st F i with
      | none => exact absurd h2 (hnew i j x hij hu h1)
      | some u =>
        cases hv : leafOf st F j with
        | none => exact absurd h1 (hnew j i x (Ne.symm hij) hv h2)
        | some v =>
          rw [hl i u hu] at h1; rw [hl j v hv] at h2
          obtain rfl := hβ i j u v hu hv ((Option.some.inj h1).trans (Option.some.inj h2).symm)
          exact ⟨u, rfl, rfl⟩
    · rintro ⟨x, h1, h2⟩
      exact ⟨α x, hl i x h1, hl j x h2⟩

theorem Sh.fr {st st' st0 : Store} (hf : Fr st st') (ha : Acyc st) (hr : Rng st) {F P : Nat}
    (hF : F < st.length) (h : Sh st F st0 P) : Sh st' F st0 P :=
  ⟨fun i j => by rw [slotOf_fr hf ha hr hF, slotOf_fr hf ha hr hF]; exact h.slot i j,
    fun i j => by rw [leafOf_fr hf ha hr hF, leafOf_fr hf ha hr hF]; exact h.leaf i j⟩

theorem Sh.copy {st st0 : Store} {F : Nat} {st1 : Store} {F' : Nat} {κ : Nat → Nat}
    {dom : Nat → Prop} {π : Nat → Nat} (hc : CopySpec st F st1 F' κ dom π) (hr : Rng st)
    (ha : Acyc st) {P : Nat} (h : Sh st F st0 P) : Sh st1 F' st0 P :=
  have cs : ∀ j, slotOf st1 F' j = (slotOf st F j).map κ ∧ ∀ u, slotOf st F j = some u → dom u :=
    fun _ => derefPath_copy hc hr ha _
  have cl : ∀ j, leafOf st1 F' j = (leafOf st F j).map κ ∧ ∀ u, leafOf st F j = some u → dom u :=
    fun _ => derefPath_copy hc hr ha _
  h.transfer κ
    (fun i j u v hu hv => hc.inj u v ((cs i).2 u hu) ((cs j).2 v hv))
    (fun i j u v hu hv => hc.inj u v ((cl i).2 u hu) ((cl j).2 v hv))
    (fun j => (cs j).1)
    (fun j u hu => by rw [(cl j).1, hu]; rfl)
    (fun i j w _ hn hw => by rw [(cl i).1, hn] at hw; cases hw)

/-- the setting of the unification in `advance`: `F` is a record of rank 2 all of whose classes lie
above `n`; `a` is its symbol record `j0`; `b` is a symbol record whose class and leaf (`sep`) lie
below `n` -/
structure SlotCtx (st : Store) (rk : Nat → Nat) (F n j0 a b : Nat) : Prop where
  wf : WFS st rk
  hF : F < st.length
  rkF : rk F = 2
  hR : ∀ p u, (byPath st F p).map (deref st) = some u → n ≤ u
  slot : slotOf st F j0 = some (deref st a)
  sep : ∀ u, NearC st (deref st b) u → u < n

section
variable {st : Store} {rk : Nat → Nat} {F n j0 a b : Nat}

theorem SlotCtx.rka (g : SlotCtx st rk F n j0 a b) : rk (deref st a) = 1 :=
  rk_slotOf g.wf.inv g.rkF g.slot

theorem SlotCtx.slot_S (g : SlotCtx st rk F n j0 a b) {j u : Nat} (hu : slotOf st F j = some u)
    (hS : Touched st a b u) : u = deref st a := by
  have hlt : u < st.length := derefPath_lt g.wf.rng g.hF hu
  have hrk : rk u = 1 := rk_slotOf g.wf.inv g.rkF hu
  have hd : deref st u = u := by
    obtain ⟨c, _, rfl⟩ := slotOf_some hu; exact deref_idem g.wf.inv.acyc c
  rw [Touched, hd] at hS
  rcases hS with h | (h | ⟨x, hx, h⟩) | h
  · exact absurd hlt (Nat.not_lt.2 h)
  · exact h
  · have := g.wf.inv.rk_succ (lookupC_mem hx)
    rw [h, rkR_deref g.wf.inv] at hrk; rw [hrk, g.rka] at this; cases this
  · exact absurd (g.sep u h) (Nat.not_lt.2 (g.hR _ u hu))

theorem SlotCtx.leaf_S (g : SlotCtx st rk F n j0 a b) {j v : Nat} (hv : leafOf st F j = some v)
    (hS : Touched st a b v) : leafOf st F j0 = some v := by
  have hlt : v < st.length := derefPath_lt g.wf.rng g.hF hv
  have hrk : rk v = 0 := rk_leafOf g.wf.inv g.rkF hv
  have hd : deref st v = v := by
    obtain ⟨c, x, _, _, rfl⟩ := leafOf_some hv; exact deref_idem g.wf.inv.acyc x
  rw [Touched, hd] at hS
  rcases hS with h | (h | ⟨x, hx, h⟩) | h
  · exact absurd hlt (Nat.not_lt.2 h)
  · rw [h, g.rka] at hrk; cases hrk
  · obtain ⟨c, hc, hca⟩ := slotOf_some g.slot
    rw [h]; exact leafOf_of hc (hca ▸ hx)
  · exact absurd (g.sep v h) (Nat.not_lt.2 (g.hR _ v hv))

variable {P : String → Prop} {rk' : Nat → Nat} {st' : Store}
variable (g : SlotCtx st rk F n j0 a b) (u : UnifyOut P st rk a b st' rk')
  (hU : UPost (Touched st a b) (TouchedLab st a b) st st')
include g

section
include hU

/-- when both symbol records are empty no touched object has a feature afterwards -/
theorem SlotCtx.plain (hp : PlainSt st) (hb0 : cont st (deref st b) = []) : PlainSt st' := by
  have hS0 : ∀ i, Touched st a b i → cont st' i = [] := by
    intro i hi
    refine List.eq_nil_iff_forall_not_mem.2 fun e he => ?_
    rcases (hU.ui.kp i e.1 e.2 hi he).2 with h | h
    · exact h (hp.slot g.slot)
    · exact h hb0
  intro i l x hx
  by_cases hSi : Touched st a b i
  · rw [hS0 i hSi] at hx; cases hx
  · rw [cont, hU.frame i hSi] at hx
    have hxlt := g.wf.rng.c _ _ _ hx
    by_cases hSx : Touched st a b x
    · exact hS0 _ (hU.touched_deref hSx)
    · obtain ⟨h1, h2⟩ := hU.frozen g.wf hxlt hSx
      rw [h1, cont, h2]; exact hp i l x hx

end

include u

theorem SlotCtx.root : deref st' F = deref st F ∧ cont st' (deref st F) = cont st (deref st F) :=
  ext_root u.ext g.wf g.hF (by rw [g.rkF]; exact Nat.one_lt_two)

theorem SlotCtx.leafOf_eq {j v : Nat} (hv : leafOf st F j = some v) :
    leafOf st' F j = some (deref st' v) := by
  unfold leafOf at hv ⊢
  obtain ⟨x, hx, rfl⟩ := Option.map_eq_some_iff.1 hv
  obtain ⟨x', hx', hd⟩ := u.path _ _ _ g.hF hx
  rw [hx', Option.map_some, hd, u.deref_deref g.wf (byPath_lt g.wf.rng _ _ _ g.hF hx)]

theorem SlotCtx.slotOf_eq (j : Nat) : slotOf st' F j = (slotOf st F j).map (deref st') := by
  unfold slotOf
  rw [byPath_one, byPath_one, (g.root u).1, (g.root u).2]
  cases hl : lookupC (lab j) (cont st (deref st F)) with
  | none => rfl
  | some c => exact congrArg some (u.deref_deref g.wf (g.wf.rng.c _ _ _ (lookupC_mem hl)))

include hU

theorem SlotCtx.new_leaf {st0 : Store} {P' : Nat} (h : Sh st F st0 P') {i w : Nat}
    (hn : leafOf st F i = none) (hw : leafOf st' F i = some w) : i = j0 ∧ Touched st a b w := by
  obtain ⟨c, x, hc, hx, rfl⟩ := leafOf_some hw
  rw [(g.root u).1, (g.root u).2] at hc
  have hclt := g.wf.rng.c _ _ _ (lookupC_mem hc)
  have hSc : Touched st a b c := by
    by_contra hS
    obtain ⟨h1, h2⟩ := hU.frozen g.wf hclt hS
    rw [h1, cont, h2] at hx
    rw [leafOf_of hc hx] at hn; cases hn
  refine ⟨((h.slot i j0).1 ⟨_, slotOf_of hc, ?_⟩).1,
    hU.touched_deref (hU.ui.cc _ _ _ (hU.touched_deref hSc) (lookupC_mem hx))⟩
  rw [g.slot, g.slot_S (slotOf_of hc) ?_]
  rcases hSc with h | h
  · exact absurd hclt (Nat.not_lt.2 h)
  · right; rw [deref_idem g.wf.inv.acyc]; exact h

theorem SlotCtx.sh {st0 : Store} {P' : Nat} (h : Sh st F st0 P') : Sh st' F st0 P' := by
  have ha := g.wf.inv.acyc
  refine h.transfer (deref st') ?_ ?_ (g.slotOf_eq u)
    (fun j v hv => g.leafOf_eq u hv) ?_
  · intro i j x y hx hy
    obtain ⟨c, _, rfl⟩ := slotOf_some hx
    obtain ⟨c', _, rfl⟩ := slotOf_some hy
    exact hU.deref_inj g.wf (derefPath_lt g.wf.rng g.hF hx) (derefPath_lt g.wf.rng g.hF hy)
      (deref_idem ha c) (deref_idem ha c') fun h1 h2 => (g.slot_S hx h1).trans (g.slot_S hy h2).symm
  · intro i j x y hx hy
    obtain ⟨_, z, _, _, rfl⟩ := leafOf_some hx
    obtain ⟨_, z', _, _, rfl⟩ := leafOf_some hy
    exact hU.deref_inj g.wf (derefPath_lt g.wf.rng g.hF hx) (derefPath_lt g.wf.rng g.hF hy)
      (deref_idem ha z) (deref_idem ha z') fun h1 h2 =>
        Option.some.inj ((g.leaf_S hx h1).symm.trans (g.leaf_S hy h2))
  · intro i j w hij hn hw hw'
    obtain ⟨rfl, hSw⟩ := g.new_leaf u hU h hn hw
    cases hv : leafOf st F j with
    | none => exact hij ((g.new_leaf u hU h hv hw').1.symm)
    | some v =>
      rw [g.leafOf_eq u hv] at hw'
      have hvlt := derefPath_lt g.wf.rng g.hF hv
      have hSv : ¬ Touched st a b v := fun hS => by rw [g.leaf_S hv hS] at hn; cases hn
      obtain ⟨_, x, _, _, rfl⟩ := leafOf_some hv
      rw [(hU.frozen g.wf hvlt hSv).1, deref_idem ha] at hw'
      exact hSv (Option.some.inj hw' ▸ hSw)


end

section
variable {P : String → Prop} {st : Store} {rk : Nat → Nat} {sfs nxfs dot : Nat} {st1 : Store}
  {cl : Nat} {rk1 : Nat → Nat} {st2 : Store} {cr : Nat} {rk2 : Nat → Nat} {left considered : Nat}
  (W : AdvWalk P st rk sfs nxfs dot st1 cl rk1 st2 cr rk2 left considered)
include W

/-- the unification in `advance` happens in the setting `SlotCtx`: the copy `cr` of the waiting
record was made after the store `st1` that holds the head record `left` of the completed one -/
theorem advWalk_slotCtx : SlotCtx st2 rk2 cr st1.length (dot + 1) considered left := by
  have o1 := W.o1
  have o2 := W.o2
  refine ⟨o2.wf, o2.lt, W.rkcr, o2.ge, ?_, fun u hu => ?_⟩
  · show (byPath st2 cr [toString dot]).map (deref st2) = _
    rw [W.cons0]; rfl
  · obtain ⟨p, hp⟩ := near_path W.left2 hu
    rw [derefPath_fr o2.fr o1.wf.inv.acyc o1.wf.rng o1.lt] at hp
    exact derefPath_lt o1.wf.rng o1.lt hp

theorem advWalk_sh (hw : WFS st rk) {st0 : Store} {P' : Nat} (hF : nxfs < st.length)
    (h : Sh st nxfs st0 P') : Sh st2 cr st0 P' := by
  obtain ⟨κ2, dom2, π2, hc2⟩ := W.o2.spec
  exact (h.fr W.o1.fr hw.inv.acyc hw.rng hF).copy hc2 W.o1.wf.rng W.o1.wf.inv.acyc

theorem advWalk_plain (hw : WFS st rk) (hp : PlainSt st) :
    PlainSt st2 ∧ cont st2 (deref st2 left) = [] := by
  obtain ⟨κ1, dom1, π1, hc1⟩ := W.o1.spec
  obtain ⟨κ2, dom2, π2, hc2⟩ := W.o2.spec
  have hp2 := plain_copy hc2 W.o1.wf.rng W.o1.wf.inv.acyc (plain_copy hc1 hw.rng hw.inv.acyc hp)
  have hm := W.left2
  rw [byPath_one] at hm
  exact ⟨hp2, hp2 _ _ _ (lookupC_mem hm)⟩

end

end Term
end Earley
end Pfl
