/-
Ranked stores for the Earley model: the rank discipline "every feature of an object of rank `r` has
rank `r - 1`" (roots of productions 2, symbol records 1, leaves 0) is the instance `ch := crE` of
the ranked stores of `Pfl/Proofs/FeatureDagLemmas.lean`, whose results are used through `InvR.toC`.
-/
import Pfl.Proofs.FeatureDagLemmas
namespace Pfl
namespace Earley
namespace Lem
open FsDag FsDag.Lem

/-- rank of the `g`-child of a record of rank `r` -/
def crE (r : Nat) (_g : String) : Nat := r - 1

theorem crE_lt (r : Nat) (g : String) (h : 0 < r) : crE r g < r := by
  unfold crE; omega

structure InvR (st : Store) (rk : Nat → Nat) : Prop where
  acyc : Acyc st
  rkp : ∀ i j, ptr st i = some j → rk i = rk j
  rkc : ∀ i g x, (g, x) ∈ cont st i → rk x = crE (rk i) g ∧ 0 < rk i
  rkv : ∀ i v, val st i = some v → rk i = 0

theorem InvR.toC {st : Store} {rk : Nat → Nat} (h : InvR st rk) : InvC crE st rk :=
  ⟨h.acyc, h.rkp, h.rkc, h.rkv⟩

theorem InvR.ofC {st : Store} {rk : Nat → Nat} (h : InvC crE st rk) : InvR st rk :=
  ⟨h.acyc, h.rkp, h.rkc, h.rkv⟩

theorem rkR_deref {st : Store} {rk : Nat → Nat} (hI : InvR st rk) (i : Nat) :
    rk (deref st i) = rk i :=
  rk_deref hI.toC i

theorem InvR.rk_succ {st : Store} {rk : Nat → Nat} (hI : InvR st rk) {i x : Nat} {g : String}
    (h : (g, x) ∈ cont st i) : rk x + 1 = rk i := by
  rw [(hI.rkc i g x h).1]; exact Nat.sub_add_cancel (hI.rkc i g x h).2

theorem rk_lookup {st : Store} {rk : Nat → Nat} (hI : InvR st rk) {i x : Nat} {g : String}
    (h : lookupC g (cont st (deref st i)) = some x) : rk x + 1 = rk i :=
  (hI.rk_succ (lookupC_mem h)).trans (rkR_deref hI i)

theorem cont_nil_of_rkR_zero {st : Store} {rk : Nat → Nat} (hI : InvR st rk) {i : Nat}
    (h : rk i = 0) : cont st i = [] :=
  cont_nil_of_rk_zero hI.toC h

end Lem
end Earley
end Pfl
