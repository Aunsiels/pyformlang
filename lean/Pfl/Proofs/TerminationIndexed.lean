/-
Termination of the library's marking loop (`Pfl/Model/IndexedMark.lean`).  The sets of the table are
canonical lists (`normS` / `unionS`): strictly increasing, members among the non-terminals, so the
table as a whole holds at most `|N| * 2 ^ |N|` different sets.  Every call keeps the sets canonical,
only adds sets, and reports `was_modified = True` only when the entry of its left term gained a set
(the instance `WFT` of the walk in `Pfl/Proofs/IndexedMarkSound.lean`): a pass that reports a
modification strictly increases the number of different marked sets.
-/
import Pfl.Proofs.TerminationBase
import Pfl.Proofs.IndexedMarkSound
import Mathlib.Data.String.Basic
import Mathlib.Data.List.Sublists

namespace Pfl.Term
open Pfl.IG Pfl.IG.Lib Pfl.IG.LibP Pfl.IG.Lem

/-- canonical form of a set of non-terminals over `N`: strictly increasing, members in `N` -/
def Canon (N : List String) (E : SetS) : Prop := E.Pairwise (· < ·) ∧ ∀ x ∈ E, x ∈ N

theorem insertS_sorted (x : String) : ∀ (l : List String), l.Pairwise (· < ·) →
    (insertS x l).Pairwise (· < ·) := by
  intro l
  fun_induction insertS x l with
  | case1 => exact fun _ => List.pairwise_singleton _ _
  | case2 ys => exact id
  | case3 y ys _ hlt =>
    intro h
    refine List.pairwise_cons.mpr ⟨fun z hz => ?_, h⟩
    rcases List.mem_cons.mp hz with rfl | hz
    · exact hlt
    · exact lt_trans hlt ((List.pairwise_cons.mp h).1 z hz)
  | case4 y ys hxy hnlt ih =>
    intro h
    rw [List.pairwise_cons] at h
    refine List.pairwise_cons.mpr ⟨fun z hz => ?_, ih h.2⟩
    rcases mem_insertS.mp hz with rfl | hz
    · rcases lt_trichotomy z y with h1 | h1 | h1
      · exact absurd h1 hnlt
      · exact absurd h1 hxy
      · exact h1
    · exact h.1 z hz

theorem normS_sorted (l : List String) : (normS l).Pairwise (· < ·) := by
  unfold normS
  induction l with
  | nil => exact List.Pairwise.nil
  | cons x l ih => rw [List.foldr_cons]; exact insertS_sorted x _ ih

theorem canon_nil (N : List String) : Canon N [] := ⟨List.Pairwise.nil, fun _ h => by cases h⟩

theorem canon_single {N : List String} {a : String} (ha : a ∈ N) : Canon N [a] :=
  ⟨List.pairwise_singleton _ _, fun x hx => by
    simp only [List.mem_singleton] at hx; subst hx; exact ha⟩

theorem canon_unionS {N : List String} {a b : List String} (ha : Canon N a) (hb : Canon N b) :
    Canon N (unionS a b) :=
  ⟨normS_sorted _, fun x hx => (mem_unionS.mp hx).elim (ha.2 x) (hb.2 x)⟩

theorem canon_dupTemp {N : List String} {E0 E1 : SetS} (h0 : Canon N E0) (h1 : Canon N E1) :
    Canon N (dupTemp E0 E1) := by
  unfold dupTemp
  split
  · exact h1
  · split
    · exact h0
    · exact canon_unionS h0 h1

theorem canon_ext {N : List String} {E E' : SetS} (h : Canon N E) (h' : Canon N E')
    (hm : ∀ x, x ∈ E ↔ x ∈ E') : E = E' := by
  have hnd : E.Nodup := h.1.imp (fun hab => ne_of_lt hab)
  have hnd' : E'.Nodup := h'.1.imp (fun hab => ne_of_lt hab)
  have hp : E.Perm E' := (List.perm_ext_iff_of_nodup hnd hnd').mpr hm
  exact hp.eq_of_pairwise (fun a b _ _ hab hba => absurd hba (lt_asymm hab)) h.1 h'.1

theorem canon_mem_sublists {N : List String} {E : SetS} (h : Canon N E) :
    E ∈ N.sublists.map normS :=
  List.mem_map.mpr ⟨N.filter (· ∈ E), List.mem_sublists.mpr List.filter_sublist,
    canon_ext ⟨normS_sorted _, fun x hx => (List.mem_filter.mp (mem_normS.mp hx)).1⟩ h fun x => by
      rw [mem_normS, List.mem_filter, decide_eq_true_eq]
      exact ⟨fun hx => hx.2, fun hx => ⟨h.2 x hx, hx⟩⟩⟩

/-- every set of the table is canonical -/
def WFT (N : List String) (T : Table) : Prop := ∀ a E, E ∈ get T a → Canon N E

/-- how many pairs of a non-terminal and a canonical subset of `N` are marked.  Counted inside the
fixed universe, so that neither bound nor growth needs the rows to be duplicate-free. -/
def total (N : List String) (T : Table) : Nat :=
  sumOver N fun a => (N.sublists.map normS).countP (· ∈ get T a)

theorem total_le (N : List String) (T : Table) : total N T ≤ N.length * 2 ^ N.length :=
  sumOver_le_mul N _ _ fun a _ => by
    simpa only [List.length_map, List.length_sublists] using
      List.countP_le_length (p := (· ∈ get T a)) (l := N.sublists.map normS)

def Grew (N : List String) (T T' : Table) : Prop := ∃ a ∈ N, W T a T'

theorem sub_decide {T T' : Table} (hs : Sub T T') (a : String) (E : SetS) :
    decide (E ∈ get T a) = true → decide (E ∈ get T' a) = true :=
  fun h => decide_eq_true (hs a E (of_decide_eq_true h))

theorem total_mono {N : List String} {T T' : Table} (hs : Sub T T') :
    total N T ≤ total N T' :=
  sumOver_le N _ _ fun a _ => List.countP_mono_left fun E _ => sub_decide hs a E

theorem total_lt {N : List String} {T T' : Table} (hs : Sub T T') (hT' : WFT N T')
    (hg : Grew N T T') : total N T < total N T' := by
  obtain ⟨a, ha, E, h1, h2⟩ := hg
  exact sumOver_lt N _ _ (fun a _ => List.countP_mono_left fun E _ => sub_decide hs a E) a ha
    (countP_lt_of _ _ _ (fun E _ => sub_decide hs a E) E (canon_mem_sublists (hT' a E h1))
      (decide_eq_true h1) fun h => h2 (of_decide_eq_true h))

theorem initTable_wft (G : IG) : WFT G.nonTerminals (initTable G) := by
  intro a E hE
  rcases mem_initMarks.mp (mem_get_initTable.mp hE) with ⟨ha, rfl⟩ | ⟨_, rfl, _⟩
  · exact canon_single ha
  · exact canon_nil _

theorem total_initTable (G : IG) : G.nonTerminals.length ≤ total G.nonTerminals (initTable G) := by
  have := mul_le_sumOver G.nonTerminals
    (fun a => (G.nonTerminals.sublists.map normS).countP (· ∈ get (initTable G) a)) 1 fun a ha =>
      List.countP_pos_iff.mpr ⟨[a], canon_mem_sublists (canon_single ha), decide_eq_true
        (mem_get_initTable.mpr (mem_initMarks.mpr (Or.inl ⟨ha, rfl⟩)))⟩
  rwa [Nat.mul_one] at this

variable {N : List String}

theorem leaves_canon {T : Table} (hT : WFT N T) (lt : List (String × String)) :
    ∀ t ∈ leavesOf (choicesOf T lt), Canon N t := by
  unfold leavesOf
  refine foldl_inv (fun acc : List SetS => ∀ t ∈ acc, Canon N t) leafStep _ ?_ _ ?_
  · intro acc ch hch hacc t ht
    obtain ⟨t0, ht0, m, hm, rfl⟩ := mem_leafStep.mp ht
    obtain ⟨s, _, rfl⟩ := mem_choicesOf.mp hch
    obtain ⟨d, _, hmd⟩ := mem_choice.mp hm
    exact canon_unionS (hacc t0 ht0) (hT d m hmd)
  · intro t ht
    cases List.mem_singleton.mp ht
    exact canon_nil N

/-- every set a call builds is a `dupTemp`, a leaf, a set of the table or `[]` -/
theorem ruleP_canon (G : IG) (r : IRule) : RuleP (fun _ E => Canon N E) G r := by
  cases r with
  | dup a b c => exact fun _ _ => canon_dupTemp
  | prod a b f => exact ⟨fun hT _ _ => leaves_canon hT _, fun _ _ _ _ h => h, fun h => h⟩
  | end_ a t => trivial
  | cons f a b => trivial

theorem pass_prog {ord : List SetS → List SetS} (hord : OrdOK ord) (G : IG) (T : Table)
    (hT : WFT G.nonTerminals T) :
    Sub T (pass ord G (libRules G) T false).1 ∧
      WFT G.nonTerminals (pass ord G (libRules G) T false).1 ∧
      ((pass ord G (libRules G) T false).2.1 = true →
        Grew G.nonTerminals T (pass ord G (libRules G) T false).1) := by
  obtain ⟨h1, h2, _, h4⟩ := pass_inv hord G (libRules G) (fun r _ => ruleP_canon G r) T false hT
  refine ⟨h1, h2, fun hm => ?_⟩
  obtain ⟨r, hr, w⟩ := (h4 hm).resolve_left Bool.false_ne_true
  exact ⟨headOf r, headOf_mem_nonTerminals (mem_libRules.mp hr).1, w⟩

theorem loop_isSome {ord : List SetS → List SetS} (hord : OrdOK ord) (G : IG) :
    ∀ (fuel : Nat) (T : Table), WFT G.nonTerminals T →
      G.nonTerminals.length * 2 ^ G.nonTerminals.length < fuel + total G.nonTerminals T →
      (loop ord G fuel T).isSome := by
  intro fuel T
  fun_induction loop ord G fuel T with
  | case1 T => exact fun _ hf => absurd hf (by have := total_le G.nonTerminals T; omega)
  | case2 | case4 => exact fun _ _ => rfl
  | case3 fuel T res hs hm ih =>
    -- a pass that modified the table made it grow
    intro hT hf
    obtain ⟨h1, h2, h3⟩ := pass_prog hord G T hT
    have : total G.nonTerminals T < total G.nonTerminals res.1 := total_lt h1 h2 (h3 hm)
    exact ih h2 (by omega)

end Pfl.Term
