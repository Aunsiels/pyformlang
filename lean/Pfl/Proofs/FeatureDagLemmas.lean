/-
Stores of feature-structure objects (`Pfl/Model/FeatureDag.lean`) and the destructive `unify` on them:
the invariants (`Acyc`, `Rng`, `InvC`, `CCat`, together `WF`) and semantic models (`Model`), the
primitive store updates, the object-local invariant `ObjInvA` of a store under construction, and the one
walk of `unify` (`unify_U`), on a store interpreted in a ranked feature algebra (`FAlg`, `AModel`): at the
ranks alone it gives the structural correctness on stores ranked by a child-rank function `ch` and bounds
the fuel, at ranks paired with path functions the semantic soundness; `unify_wf` is what callers use.
-/
import Pfl.Model.FeatureDag
import Mathlib.Data.List.Basic
namespace Pfl
namespace FsDag
namespace Lem
open FsGround

abbrev ptr (st : Store) (i : Nat) : Option Nat := (get st i).pointer
abbrev cont (st : Store) (i : Nat) : List (String × Nat) := (get st i).content
abbrev val (st : Store) (i : Nat) : Option String := (get st i).value

def emptyNode : Node := { value := none, content := [], pointer := none }

theorem get_ge {st : Store} {i : Nat} (h : st.length ≤ i) : get st i = emptyNode := by
  simp [get, emptyNode, List.getD_eq_getElem?_getD, List.getElem?_eq_none h]

theorem get_lt {st : Store} {i : Nat} (h : i < st.length) : get st i = st[i] := by
  simp [get, List.getD_eq_getElem?_getD, List.getElem?_eq_getElem h]

theorem get_set (st : Store) (i j : Nat) (n : Node) :
    get (st.set i n) j = if i = j ∧ i < st.length then n else get st j := by
  simp only [get, List.getD_eq_getElem?_getD, List.getElem?_set]
  by_cases h : i = j
  · subst h
    by_cases h2 : i < st.length
    · simp [h2]
    · simp [h2]
  · simp [h]

theorem get_set_self {st : Store} {i : Nat} (n : Node) (h : i < st.length) :
    get (st.set i n) i = n := by
  rw [get_set]; simp [h]

theorem get_set_ne {st : Store} {i j : Nat} (n : Node) (h : i ≠ j) :
    get (st.set i n) j = get st j := by
  rw [get_set]; simp [h]

theorem get_append_lt {st : Store} (l : Store) {i : Nat} (h : i < st.length) :
    get (st ++ l) i = get st i := by
  simp [get, List.getD_eq_getElem?_getD, List.getElem?_append_left h]

theorem get_append_len (st : Store) (n : Node) : get (st ++ [n]) st.length = n := by
  simp [get, List.getD_eq_getElem?_getD]

theorem ptr_lt {st : Store} {i j : Nat} (h : ptr st i = some j) : i < st.length := by
  by_contra hc
  rw [ptr, get_ge (Nat.le_of_not_lt hc)] at h
  simp [emptyNode] at h

theorem cont_lt {st : Store} {i : Nat} {e : String × Nat} (h : e ∈ cont st i) : i < st.length := by
  by_contra hc
  rw [cont, get_ge (Nat.le_of_not_lt hc)] at h
  simp [emptyNode] at h

theorem val_lt {st : Store} {i : Nat} {v : String} (h : val st i = some v) : i < st.length := by
  by_contra hc
  rw [val, get_ge (Nat.le_of_not_lt hc)] at h
  simp [emptyNode] at h

theorem lookupC_mem {g : String} {x : Nat} : ∀ {c : List (String × Nat)},
    lookupC g c = some x → (g, x) ∈ c
  | [], h => by simp [lookupC] at h
  | (h', y) :: rest, h => by
    simp only [lookupC] at h
    split at h
    · rename_i hg; subst hg; simp at h; subst h; simp
    · exact List.mem_cons_of_mem _ (lookupC_mem h)

theorem lookupC_isSome_of_mem {g : String} {x : Nat} : ∀ {c : List (String × Nat)},
    (g, x) ∈ c → ∃ x', lookupC g c = some x'
  | [], h => by simp at h
  | (h', y) :: rest, h => by
    simp only [lookupC]
    split
    · exact ⟨_, rfl⟩
    · rename_i hg
      rcases List.mem_cons.1 h with h | h
      · simp only [Prod.mk.injEq] at h; exact absurd h.1.symm hg
      · exact lookupC_isSome_of_mem h

theorem lookupC_append (g : String) (c d : List (String × Nat)) :
    lookupC g (c ++ d) = match lookupC g c with
      | some x => some x
      | none => lookupC g d := by
  induction c with
  | nil => simp [lookupC]
  | cons e c ih =>
    obtain ⟨h, y⟩ := e
    simp only [List.cons_append, lookupC]
    split
    · rfl
    · exact ih

theorem lookupC_append_some {g : String} {c : List (String × Nat)} {x : Nat}
    (d : List (String × Nat)) (h : lookupC g c = some x) : lookupC g (c ++ d) = some x := by
  rw [lookupC_append, h]

theorem lookupC_append_single_self {g : String} {c : List (String × Nat)} (n : Nat)
    (h : lookupC g c = none) : lookupC g (c ++ [(g, n)]) = some n := by
  rw [lookupC_append, h]; simp [lookupC]

theorem lookupC_append_single_ne {g g' : String} (c : List (String × Nat)) (n : Nat)
    (h : g' ≠ g) : lookupC g (c ++ [(g', n)]) = lookupC g c := by
  rw [lookupC_append]
  cases lookupC g c with
  | some x => rfl
  | none => simp [lookupC, h]

theorem lookupC_map (κ : Nat → Nat) (g : String) : ∀ c : List (String × Nat),
    lookupC g (c.map fun e => (e.1, κ e.2)) = (lookupC g c).map κ
  | [] => rfl
  | (h, x) :: rest => by
    simp only [List.map_cons, lookupC]
    split
    · rfl
    · exact lookupC_map κ g rest

theorem derefF_zero (st : Store) (i : Nat) : derefF st 0 i = i := rfl

theorem derefF_succ_some {st : Store} {i j : Nat} (f : Nat) (h : ptr st i = some j) :
    derefF st (f + 1) i = derefF st f j := by
  simp only [derefF]; rw [show (get st i).pointer = some j from h]

theorem derefF_none {st : Store} {i : Nat} (f : Nat) (h : ptr st i = none) :
    derefF st f i = i := by
  cases f with
  | zero => rfl
  | succ f => simp only [derefF]; rw [show (get st i).pointer = none from h]

theorem derefF_stable {st : Store} : ∀ (f : Nat) (i : Nat),
    ptr st (derefF st f i) = none → derefF st (f + 1) i = derefF st f i := by
  intro f
  induction f with
  | zero => intro i h; simp only [derefF_zero] at h; rw [derefF_none _ h]; rfl
  | succ f ih =>
    intro i h
    cases hp : ptr st i with
    | none => rw [derefF_none _ hp, derefF_none _ hp]
    | some j =>
      rw [derefF_succ_some _ hp] at h
      rw [derefF_succ_some _ hp, derefF_succ_some _ hp]
      exact ih j h

theorem derefF_stable_le {st : Store} {f f' : Nat} {i : Nat} (hle : f ≤ f')
    (h : ptr st (derefF st f i) = none) : derefF st f' i = derefF st f i := by
  induction hle with
  | refl => rfl
  | step _ ih => rw [derefF_stable _ _ (by rw [ih]; exact h), ih]

/-- the pointer chains end.  Stated by a height function that decreases along pointers rather than
by "no cycle": a walk then never meets again the object it leaves (`derefF_fuel`), and an update is
followed by exhibiting the new heights. -/
def Acyc (st : Store) : Prop := ∃ h : Nat → Nat, ∀ i j, ptr st i = some j → h j < h i

/-- a list that holds every object with a pointer that lies no higher than `i` is fuel enough: each step
strikes the object it leaves, which is higher than all that follow -/
theorem derefF_fuel {st : Store} {h : Nat → Nat} (hh : ∀ i j, ptr st i = some j → h j < h i) :
    ∀ (s : List Nat) (i : Nat), (∀ x j, ptr st x = some j → h x ≤ h i → x ∈ s) →
      ptr st (derefF st s.length i) = none := by
  intro s
  induction hf : s.length generalizing s with
  | zero =>
    intro i hc
    cases hp : ptr st i with
    | none => exact hp
    | some j => rw [List.length_eq_zero_iff.1 hf] at hc; cases hc i j hp (Nat.le_refl _)
  | succ f ih =>
    intro i hc
    cases hp : ptr st i with
    | none => rw [derefF_none _ hp]; exact hp
    | some j =>
      rw [derefF_succ_some _ hp]
      have hi := hc i j hp (Nat.le_refl _)
      have hji := hh i j hp
      refine ih (s.erase i) (by rw [List.length_erase_of_mem hi, hf]; rfl) j fun x j' hx hle => ?_
      exact (List.mem_erase_of_ne fun e => Nat.lt_irrefl _ (Nat.lt_of_le_of_lt (e ▸ hle) hji)).2
        (hc x j' hx (Nat.le_trans hle (Nat.le_of_lt hji)))

theorem deref_ptr_none {st : Store} (ha : Acyc st) (i : Nat) : ptr st (deref st i) = none := by
  obtain ⟨h, hh⟩ := ha
  have := derefF_fuel hh (List.range st.length) i fun x j hx _ => List.mem_range.2 (ptr_lt hx)
  rwa [List.length_range] at this

theorem deref_of_none {st : Store} {i : Nat} (h : ptr st i = none) : deref st i = i :=
  derefF_none _ h

theorem deref_step {st : Store} (ha : Acyc st) {i j : Nat} (hp : ptr st i = some j) :
    deref st i = deref st j := by
  rw [deref, ← derefF_stable _ _ (deref_ptr_none ha i), derefF_succ_some _ hp, deref]

theorem deref_idem {st : Store} (ha : Acyc st) (i : Nat) : deref st (deref st i) = deref st i :=
  deref_of_none (deref_ptr_none ha i)

theorem deref_unique {st : Store} (ha : Acyc st) (F : Nat → Nat)
    (h0 : ∀ i, ptr st i = none → F i = i) (h1 : ∀ i j, ptr st i = some j → F i = F j) :
    ∀ i, deref st i = F i := by
  obtain ⟨h, hh⟩ := id ha
  intro i
  induction hn : h i using Nat.strongRecOn generalizing i with
  | _ n ih =>
    cases hp : ptr st i with
    | none => rw [deref_of_none hp, h0 i hp]
    | some j =>
      rw [deref_step ha hp, h1 i j hp]
      exact ih (h j) (by rw [← hn]; exact hh i j hp) j rfl

theorem derefF_frame {st st' : Store} (P : Nat → Prop)
    (hP : ∀ j, P j → ptr st' j = ptr st j)
    (hcl : ∀ j j2, P j → ptr st j = some j2 → P j2) :
    ∀ (f i : Nat), P i → derefF st' f i = derefF st f i ∧ P (derefF st f i) := by
  intro f
  induction f with
  | zero => intro i hi; exact ⟨rfl, hi⟩
  | succ f ih =>
    intro i hi
    cases hp : ptr st i with
    | none =>
      rw [derefF_none _ hp, derefF_none _ (by rw [hP i hi]; exact hp)]
      exact ⟨rfl, hi⟩
    | some j =>
      rw [derefF_succ_some _ hp, derefF_succ_some _ (by rw [hP i hi]; exact hp)]
      exact ih j (hcl i j hi hp)

theorem deref_frame {st st' : Store} (ha : Acyc st) (hlen : st.length ≤ st'.length) (P : Nat → Prop)
    (hP : ∀ j, P j → ptr st' j = ptr st j)
    (hcl : ∀ j j2, P j → ptr st j = some j2 → P j2) (i : Nat) (hi : P i) :
    deref st' i = deref st i := by
  obtain ⟨e, hc⟩ := derefF_frame P hP hcl st.length i hi
  have hn : ptr st' (derefF st' st.length i) = none := by
    rw [e, hP _ hc]; exact deref_ptr_none ha i
  rw [deref, derefF_stable_le hlen hn, e]; rfl

theorem deref_mem_closed {st : Store} (P : Nat → Prop)
    (hcl : ∀ j j2, P j → ptr st j = some j2 → P j2) (i : Nat) (hi : P i) : P (deref st i) :=
  (derefF_frame (st := st) (st' := st) P (fun _ _ => rfl) hcl st.length i hi).2

theorem deref_const {α : Type} {st : Store} {F : Nat → α} (h : ∀ i j, ptr st i = some j → F i = F j)
    (i : Nat) : F (deref st i) = F i :=
  deref_mem_closed (fun j => F j = F i) (fun j j2 hj hp => by rw [← h j j2 hp]; exact hj) i rfl

structure Rng (st : Store) : Prop where
  p : ∀ i j, ptr st i = some j → j < st.length
  c : ∀ i g x, (g, x) ∈ cont st i → x < st.length

theorem deref_lt {st : Store} (hr : Rng st) {i : Nat} (hi : i < st.length) :
    deref st i < st.length :=
  deref_mem_closed (· < st.length) (fun j j2 _ h => hr.p j j2 h) i hi

/-- ranked store: `ch r g` is the rank of the `g`-child of a record of rank `r > 0`, atoms sit at rank 0 -/
structure InvC (ch : Nat → String → Nat) (st : Store) (rk : Nat → Nat) : Prop where
  acyc : Acyc st
  rkp : ∀ i j, ptr st i = some j → rk i = rk j
  rkc : ∀ i g x, (g, x) ∈ cont st i → rk x = ch (rk i) g ∧ 0 < rk i
  rkv : ∀ i v, val st i = some v → rk i = 0

theorem rk_deref {ch : Nat → String → Nat} {st : Store} {rk : Nat → Nat} (hI : InvC ch st rk) (i : Nat) :
    rk (deref st i) = rk i :=
  deref_const hI.rkp i

theorem cont_nil_of_rk_zero {ch : Nat → String → Nat} {st : Store} {rk : Nat → Nat} (hI : InvC ch st rk) {i : Nat}
    (h : rk i = 0) : cont st i = [] := by
  cases hc : cont st i with
  | nil => rfl
  | cons e rest =>
    have := (hI.rkc i e.1 e.2 (by rw [hc]; simp)).2
    omega

/-- the representative of the class of `i` has every feature of `i`, with equivalent value -/
def CCat (st : Store) (i : Nat) : Prop :=
  ∀ g x, lookupC g (cont st i) = some x →
    ∃ x', lookupC g (cont st (deref st i)) = some x' ∧ deref st x' = deref st x

theorem CCat_of_rep {st : Store} {i : Nat} (h : ptr st i = none) : CCat st i := by
  intro g x hx
  rw [deref_of_none h]
  exact ⟨x, hx, rfl⟩

/-- well-formed store: references in range, ranked by `ch`, congruence closed.  What `unify` asks of
its store and gives back (`unify_wf`). -/
structure WF (ch : Nat → String → Nat) (st : Store) (rk : Nat → Nat) : Prop where
  rng : Rng st
  inv : InvC ch st rk
  cc : ∀ i, CCat st i

/-- `ρ` gives every object a function from paths to values that agrees with the store.  Soundness of
`unify` (`PostS`) is stated over all models. -/
structure Model (st : Store) (ρ : Nat → List String → String) : Prop where
  p : ∀ i j, ptr st i = some j → ρ i = ρ j
  v : ∀ i v, val st i = some v → ρ i [] = v
  c : ∀ i g x, (g, x) ∈ cont st i → ∀ q, ρ i (g :: q) = ρ x q

theorem model_deref {st : Store} {ρ : Nat → List String → String} (hm : Model st ρ) (i : Nat) :
    ρ (deref st i) = ρ i :=
  deref_const hm.p i

theorem byPath_nil (st : Store) (i : Nat) : byPath st i [] = some i := rfl

theorem byPath_cons (st : Store) (i : Nat) (g : String) (p : List String) :
    byPath st i (g :: p) = match lookupC g (cont st (deref st i)) with
      | some x => byPath st x p
      | none => none := rfl

theorem byPath_cons_of {st : Store} {i : Nat} {g : String} {x : Nat} (p : List String)
    (h : lookupC g (cont st (deref st i)) = some x) : byPath st i (g :: p) = byPath st x p := by
  rw [byPath_cons, h]

theorem byPath_one (st : Store) (F : Nat) (g : String) :
    byPath st F [g] = lookupC g (cont st (deref st F)) := by
  rw [byPath_cons]
  cases lookupC g (cont st (deref st F)) <;> rfl

theorem byPath_two (st : Store) (F : Nat) (g h : String) :
    byPath st F [g, h] = (lookupC g (cont st (deref st F))).bind fun c =>
      lookupC h (cont st (deref st c)) := by
  rw [byPath_cons]
  cases lookupC g (cont st (deref st F)) with
  | none => rfl
  | some c => exact byPath_one st c h

theorem byPath_congr {st : Store} {i j : Nat} (h : deref st i = deref st j) (g : String)
    (p : List String) : byPath st i (g :: p) = byPath st j (g :: p) := by
  rw [byPath_cons, byPath_cons, h]

theorem byPath_rel {st st' : Store} {R : Nat → Nat → Prop}
    (step : ∀ i i' g x, R i i' → lookupC g (cont st (deref st i)) = some x →
      ∃ x', lookupC g (cont st' (deref st' i')) = some x' ∧ R x x') :
    ∀ (p : List String) {i i' n : Nat}, R i i' → byPath st i p = some n →
      ∃ n', byPath st' i' p = some n' ∧ R n n'
  | [], _, i', _, hR, h => ⟨i', rfl, Option.some.inj h ▸ hR⟩
  | g :: p, i, i', n, hR, h => by
    rw [byPath_cons] at h
    cases hl : lookupC g (cont st (deref st i)) with
    | none => rw [hl] at h; cases h
    | some x =>
      rw [hl] at h
      obtain ⟨x', hx', hR'⟩ := step i i' g x hR hl
      rw [byPath_cons_of p hx']
      exact byPath_rel step p hR' h

theorem model_byPath {st : Store} {ρ : Nat → List String → String} (hm : Model st ρ) :
    ∀ (p : List String) (i n : Nat), byPath st i p = some n → ∀ q, ρ i (p ++ q) = ρ n q := by
  intro p
  induction p with
  | nil => intro i n h q; simp [byPath_nil] at h; subst h; rfl
  | cons g p ih =>
    intro i n h q
    rw [byPath_cons] at h
    cases hl : lookupC g (cont st (deref st i)) with
    | none => rw [hl] at h; simp at h
    | some x =>
      rw [hl] at h
      have := hm.c _ g x (lookupC_mem hl) (p ++ q)
      rw [model_deref hm] at this
      rw [List.cons_append, this]
      exact ih x n h q

/-- the field `g` of record `ca`, created (fresh empty object) when missing -/
def addFresh (st : Store) (ca : Nat) (g : String) : Store :=
  (st ++ [emptyNode]).set ca
    { get (st ++ [emptyNode]) ca with content := (get (st ++ [emptyNode]) ca).content ++ [(g, st.length)] }

def fieldOf (st : Store) (ca : Nat) (g : String) : Store × Nat :=
  match lookupC g (cont st ca) with
  | some x => (st, x)
  | none => (addFresh st ca g, st.length)

theorem go_nil (f ca : Nat) (st : Store) : unify.go f ca st [] = .ok st := unify.go.eq_1 f ca st

theorem go_cons (f ca : Nat) (st : Store) (g : String) (y : Nat) (rest : List (String × Nat)) :
    unify.go f ca st ((g, y) :: rest) =
      match unify f (fieldOf st ca g).1 (fieldOf st ca g).2 y with
      | .ok st2 => unify.go f ca st2 rest
      | r => r := by
  rw [unify.go.eq_2]
  unfold fieldOf addFresh alloc emptyNode
  cases lookupC g (cont st ca) <;> rfl

theorem unify_zero (st : Store) (a b : Nat) : unify 0 st a b = .fuel := unify.eq_1 st a b

theorem unify_succ (f : Nat) (st : Store) (a b : Nat) :
    unify (f + 1) st a b =
      if deref st a = deref st b then .ok st else
      if cont st (deref st a) = [] ∧ cont st (deref st b) = [] then
        if val st (deref st a) = val st (deref st b) then .ok (setPointer st (deref st a) (deref st b))
        else if val st (deref st a) = none then .ok (setPointer st (deref st a) (deref st b))
        else if val st (deref st b) = none then .ok (setPointer st (deref st b) (deref st a))
        else .conflict
      else unify.go f (deref st a) (setPointer st (deref st b) (deref st a)) (cont st (deref st b)) := by
  rw [unify.eq_2]
  simp only [List.isEmpty_iff]

theorem unify_leaf {st : Store} {a b : Nat} (f : Nat) (hne : deref st a ≠ deref st b)
    (hemp : cont st (deref st a) = [] ∧ cont st (deref st b) = []) :
    (∃ c d, unify (f + 1) st a b = .ok (setPointer st c d) ∧
      ((c = deref st a ∧ d = deref st b) ∨ (c = deref st b ∧ d = deref st a)) ∧
      ∀ v, val st c = some v → val st d = some v) ∨
    (unify (f + 1) st a b = .conflict ∧ ∃ va vb, val st (deref st a) = some va ∧
      val st (deref st b) = some vb ∧ va ≠ vb) := by
  rw [unify_succ, if_neg hne, if_pos hemp]
  by_cases h1 : val st (deref st a) = val st (deref st b)
  · rw [if_pos h1]
    exact Or.inl ⟨_, _, rfl, Or.inl ⟨rfl, rfl⟩, fun v h => by rw [← h1]; exact h⟩
  rw [if_neg h1]
  by_cases h2 : val st (deref st a) = none
  · rw [if_pos h2]
    exact Or.inl ⟨_, _, rfl, Or.inl ⟨rfl, rfl⟩, fun v h => by rw [h2] at h; cases h⟩
  rw [if_neg h2]
  by_cases h3 : val st (deref st b) = none
  · rw [if_pos h3]
    exact Or.inl ⟨_, _, rfl, Or.inr ⟨rfl, rfl⟩, fun v h => by rw [h3] at h; cases h⟩
  rw [if_neg h3]
  obtain ⟨va, hva⟩ := Option.ne_none_iff_exists'.1 h2
  obtain ⟨vb, hvb⟩ := Option.ne_none_iff_exists'.1 h3
  exact Or.inr ⟨rfl, va, vb, hva, hvb, fun e => h1 (by rw [hva, hvb, e])⟩

theorem unify_succ_ok {f : Nat} {st : Store} {a b : Nat} {st' : Store}
    (h : unify (f + 1) st a b = .ok st') :
    st' = st ∨ st' = setPointer st (deref st a) (deref st b) ∨
      st' = setPointer st (deref st b) (deref st a) ∨
      unify.go f (deref st a) (setPointer st (deref st b) (deref st a)) (cont st (deref st b)) =
        .ok st' := by
  by_cases h1 : deref st a = deref st b
  · rw [unify_succ, if_pos h1] at h; exact Or.inl (Res.ok.inj h).symm
  by_cases h2 : cont st (deref st a) = [] ∧ cont st (deref st b) = []
  · rcases unify_leaf f h1 h2 with ⟨c, d, hu, hcd, _⟩ | ⟨hu, _⟩
    · rw [hu] at h
      cases h
      rcases hcd with ⟨rfl, rfl⟩ | ⟨rfl, rfl⟩
      · exact Or.inr (Or.inl rfl)
      · exact Or.inr (Or.inr (Or.inl rfl))
    · rw [hu] at h; cases h
  · rw [unify_succ, if_neg h1, if_neg h2] at h; exact Or.inr (Or.inr (Or.inr h))

theorem length_setPointer (st : Store) (c d : Nat) : (setPointer st c d).length = st.length := by
  simp [setPointer]

theorem get_setPointer (st : Store) (c d j : Nat) :
    get (setPointer st c d) j =
      { get st j with pointer := if c = j ∧ c < st.length then some d else ptr st j } := by
  unfold setPointer; rw [get_set]
  by_cases h : c = j ∧ c < st.length
  · rw [if_pos h, if_pos h, h.1]
  · rw [if_neg h, if_neg h]

theorem get_setPointer_ne {st : Store} {c j : Nat} (d : Nat) (h : c ≠ j) :
    get (setPointer st c d) j = get st j := by
  rw [get_setPointer, if_neg (fun e => h e.1)]

theorem ptr_setPointer (st : Store) (c d j : Nat) :
    ptr (setPointer st c d) j = if c = j ∧ c < st.length then some d else ptr st j := by
  rw [ptr, get_setPointer]

theorem ptr_setPointer_self {st : Store} {c : Nat} (d : Nat) (h : c < st.length) :
    ptr (setPointer st c d) c = some d := by
  rw [ptr_setPointer, if_pos ⟨rfl, h⟩]

theorem cont_setPointer (st : Store) (c d j : Nat) : cont (setPointer st c d) j = cont st j := by
  rw [cont, get_setPointer]

theorem val_setPointer (st : Store) (c d j : Nat) : val (setPointer st c d) j = val st j := by
  rw [val, get_setPointer]

theorem ptr_setPointer_cases {st : Store} {c d i j : Nat} (h : ptr (setPointer st c d) i = some j) :
    ptr st i = some j ∨ (i = c ∧ j = d) := by
  rw [ptr_setPointer] at h
  by_cases hc : c = i ∧ c < st.length
  · rw [if_pos hc] at h; exact Or.inr ⟨hc.1.symm, (Option.some.inj h).symm⟩
  · rw [if_neg hc] at h; exact Or.inl h

theorem acyc_setPointer {st : Store} (ha : Acyc st) {c d : Nat} (hc : ptr st c = none)
    (hd : ptr st d = none) (hcd : c ≠ d) : Acyc (setPointer st c d) := by
  obtain ⟨h, hh⟩ := id ha
  -- the class of `c` is lifted above `d`
  refine ⟨fun i => if deref st i = c then h i + h d + 1 else h i, ?_⟩
  intro i j hp
  rcases ptr_setPointer_cases hp with hp | ⟨rfl, rfl⟩
  · have := hh i j hp
    simp only [deref_step ha hp]
    split <;> omega
  · simp only [deref_of_none hc, deref_of_none hd, if_true, if_neg (Ne.symm hcd)]
    omega

theorem deref_setPointer {st : Store} (ha : Acyc st) {c d : Nat} (hc : ptr st c = none)
    (hd : ptr st d = none) (hcd : c ≠ d) (hlt : c < st.length) (i : Nat) :
    deref (setPointer st c d) i = if deref st i = c then d else deref st i := by
  refine deref_unique (acyc_setPointer ha hc hd hcd)
    (fun i => if deref st i = c then d else deref st i) ?_ ?_ i
  · intro i hp
    have hic : i ≠ c := fun e => by rw [e, ptr_setPointer_self d hlt] at hp; cases hp
    rw [ptr, get_setPointer_ne d (Ne.symm hic)] at hp
    simp [deref_of_none hp, hic]
  · intro i j hp
    rcases ptr_setPointer_cases hp with hp | ⟨rfl, rfl⟩
    · rw [deref_step ha hp]
    · simp [deref_of_none hc, deref_of_none hd, Ne.symm hcd]

theorem rng_setPointer {st : Store} (hr : Rng st) (c : Nat) {d : Nat} (hd : d < st.length) :
    Rng (setPointer st c d) := by
  constructor
  · intro i j hp
    rw [length_setPointer]
    rcases ptr_setPointer_cases hp with hp | ⟨_, rfl⟩
    · exact hr.p i j hp
    · exact hd
  · intro i g x hx
    rw [length_setPointer]
    rw [cont_setPointer] at hx
    exact hr.c i g x hx

def addField (st : Store) (r : Nat) (g : String) (x : Nat) : Store :=
  st.set r { get st r with content := (get st r).content ++ [(g, x)] }

theorem get_snoc (st : Store) (nd : Node) (i : Nat) :
    get (st ++ [nd]) i = if i = st.length then nd else get st i := by
  by_cases h : i = st.length
  · subst h; simp [get_append_len]
  · rw [if_neg h]
    by_cases h2 : i < st.length
    · exact get_append_lt _ h2
    · rw [get_ge (by simp; omega), get_ge (by omega)]

theorem ptr_snoc (st : Store) (nd : Node) (i : Nat) :
    ptr (st ++ [nd]) i = if i = st.length then nd.pointer else ptr st i := by
  rw [ptr, get_snoc, apply_ite Node.pointer]

theorem cont_snoc (st : Store) (nd : Node) (i : Nat) :
    cont (st ++ [nd]) i = if i = st.length then nd.content else cont st i := by
  rw [cont, get_snoc, apply_ite Node.content]

theorem val_snoc (st : Store) (nd : Node) (i : Nat) :
    val (st ++ [nd]) i = if i = st.length then nd.value else val st i := by
  rw [val, get_snoc, apply_ite Node.value]

theorem length_snoc (st : Store) (nd : Node) : (st ++ [nd]).length = st.length + 1 := by simp

theorem length_addField (st : Store) (r : Nat) (g : String) (x : Nat) :
    (addField st r g x).length = st.length := by simp [addField]

theorem get_addField (st : Store) (r : Nat) (g : String) (x : Nat) (i : Nat) :
    get (addField st r g x) i =
      { get st i with
        content := if r = i ∧ r < st.length then cont st r ++ [(g, x)] else cont st i } := by
  unfold addField; rw [get_set]
  by_cases h : r = i ∧ r < st.length
  · rw [if_pos h, if_pos h, h.1]
  · rw [if_neg h, if_neg h]

theorem ptr_addField (st : Store) (r : Nat) (g : String) (x : Nat) (i : Nat) :
    ptr (addField st r g x) i = ptr st i := by
  rw [ptr, get_addField]

theorem val_addField (st : Store) (r : Nat) (g : String) (x : Nat) (i : Nat) :
    val (addField st r g x) i = val st i := by
  rw [val, get_addField]

theorem cont_addField {st : Store} {r : Nat} (h : r < st.length) (g : String) (x : Nat) (i : Nat) :
    cont (addField st r g x) i = if i = r then cont st r ++ [(g, x)] else cont st i := by
  rw [cont, get_addField]
  by_cases hi : i = r
  · rw [if_pos hi, if_pos ⟨hi.symm, h⟩]
  · rw [if_neg hi, if_neg (fun e => hi e.1.symm)]

theorem cont_addField_ne {st : Store} {r : Nat} (g : String) (x : Nat) {i : Nat} (h : i ≠ r) :
    cont (addField st r g x) i = cont st i := by
  rw [cont, get_addField, if_neg (fun e => h e.1.symm)]

theorem get_addField_lt {st : Store} {r : Nat} (g : String) (x : Nat) {i : Nat} (h : i < r) :
    get (addField st r g x) i = get st i := by
  rw [get_addField, if_neg (fun e => Nat.ne_of_gt h e.1)]

theorem mem_cont_addField {st : Store} {r : Nat} {g : String} {x i : Nat} {e : String × Nat}
    (h : e ∈ cont (addField st r g x) i) : e ∈ cont st i ∨ (i = r ∧ e = (g, x)) := by
  rw [cont, get_addField] at h
  by_cases hr : r = i ∧ r < st.length
  · rw [if_pos hr] at h
    rcases List.mem_append.1 h with h | h
    · exact Or.inl (hr.1 ▸ h)
    · exact Or.inr ⟨hr.1.symm, List.mem_singleton.1 h⟩
  · rw [if_neg hr] at h; exact Or.inl h

theorem Rng_snoc {st : Store} {nd : Node} (h : Rng st) (hc : nd.content = [])
    (hp : ∀ j, nd.pointer = some j → j < st.length) : Rng (st ++ [nd]) := by
  constructor
  · intro i j hij
    rw [ptr_snoc] at hij
    rw [length_snoc]
    by_cases hi : i = st.length
    · rw [if_pos hi] at hij; exact Nat.lt_succ_of_lt (hp j hij)
    · rw [if_neg hi] at hij; exact Nat.lt_succ_of_lt (h.p i j hij)
  · intro i g x hx
    rw [cont_snoc] at hx
    rw [length_snoc]
    by_cases hi : i = st.length
    · rw [if_pos hi, hc] at hx; cases hx
    · rw [if_neg hi] at hx; exact Nat.lt_succ_of_lt (h.c i g x hx)

theorem Rng_addField {st : Store} {r : Nat} {g : String} {x : Nat} (h : Rng st) (hx : x < st.length) :
    Rng (addField st r g x) := by
  constructor
  · intro i j hij
    rw [ptr_addField] at hij
    rw [length_addField]; exact h.p i j hij
  · intro i g' y hy
    rw [length_addField]
    rcases mem_cont_addField hy with hy | ⟨_, hy⟩
    · exact h.c i g' y hy
    · cases hy; exact hx

theorem addFresh_eq (st : Store) (ca : Nat) (g : String) :
    addFresh st ca g = addField (st ++ [emptyNode]) ca g st.length := rfl

/-- objects out of range read as `emptyNode`: appending one changes no `get` -/
theorem get_snoc_empty (st : Store) (i : Nat) : get (st ++ [emptyNode]) i = get st i := by
  rw [get_snoc]
  split
  · rename_i h; rw [h, get_ge (Nat.le_refl _)]
  · rfl

theorem length_addFresh (st : Store) (ca : Nat) (g : String) :
    (addFresh st ca g).length = st.length + 1 := by
  simp [addFresh]

theorem get_addFresh {st : Store} {ca : Nat} (g : String) (hca : ca < st.length) (j : Nat) :
    get (addFresh st ca g) j =
      if j = ca then { get st ca with content := cont st ca ++ [(g, st.length)] }
      else get st j := by
  unfold addFresh
  rw [get_set]
  simp only [get_snoc_empty]
  by_cases h : j = ca
  · subst h; simp [Nat.lt_succ_of_lt hca]
  · rw [if_neg (fun e => h e.1.symm), if_neg h]

theorem ptr_addFresh (st : Store) (ca : Nat) (g : String) (j : Nat) :
    ptr (addFresh st ca g) j = ptr st j := by
  rw [addFresh_eq, ptr_addField, ptr, get_snoc_empty]

theorem val_addFresh (st : Store) (ca : Nat) (g : String) (j : Nat) :
    val (addFresh st ca g) j = val st j := by
  rw [addFresh_eq, val_addField, val, get_snoc_empty]

theorem cont_addFresh {st : Store} {ca : Nat} (g : String) (hca : ca < st.length) (j : Nat) :
    cont (addFresh st ca g) j = if j = ca then cont st ca ++ [(g, st.length)] else cont st j := by
  rw [addFresh_eq, cont_addField (by rw [length_snoc]; omega)]
  simp only [cont, get_snoc_empty]

theorem lookupC_cont_addFresh {st : Store} {ca : Nat} (g : String) (hca : ca < st.length) {j : Nat}
    {g' : String} {x : Nat} (h : lookupC g' (cont st j) = some x) :
    lookupC g' (cont (addFresh st ca g) j) = some x := by
  rw [cont_addFresh g hca]
  by_cases e : j = ca
  · rw [if_pos e, ← e]; exact lookupC_append_some _ h
  · rw [if_neg e]; exact h

theorem mem_cont_addFresh {st : Store} {ca : Nat} {g : String} {i : Nat} {e : String × Nat}
    (h : e ∈ cont (addFresh st ca g) i) : e ∈ cont st i ∨ (i = ca ∧ e = (g, st.length)) := by
  rw [addFresh_eq] at h
  rcases mem_cont_addField h with h | h
  · rw [cont, get_snoc_empty] at h; exact Or.inl h
  · exact Or.inr h

theorem acyc_addFresh {st : Store} (ha : Acyc st) (ca : Nat) (g : String) : Acyc (addFresh st ca g) := by
  obtain ⟨h, hh⟩ := ha
  exact ⟨h, fun i j hp => hh i j (by rw [ptr_addFresh] at hp; exact hp)⟩

theorem deref_addFresh {st : Store} (ha : Acyc st) (ca : Nat) (g : String) (i : Nat) :
    deref (addFresh st ca g) i = deref st i :=
  deref_frame ha (by rw [length_addFresh]; omega) (fun _ => True)
    (fun j _ => ptr_addFresh st ca g j) (fun _ _ _ _ => trivial) i trivial

theorem rng_addFresh {st : Store} (hr : Rng st) (ca : Nat) (g : String) : Rng (addFresh st ca g) := by
  rw [addFresh_eq]
  exact Rng_addField (Rng_snoc hr rfl (by simp [emptyNode])) (by rw [length_snoc]; omega)

abbrev Interp := Nat → List String → String

/-- `res` is sound for the equation `a = b` on the models of `st`: a resulting store is in range and
every model of `st` that equates `a` and `b` extends to a model of it; after a conflict no model of
`st` equates them -/
def PostS (st : Store) (a b : Nat) (res : Res) : Prop :=
  (∀ st', res = .ok st' → Rng st' ∧ st.length ≤ st'.length ∧
      ∀ ρ : Interp, Model st ρ → ρ a = ρ b →
        ∃ ρ' : Interp, (∀ i, i < st.length → ρ' i = ρ i) ∧ Model st' ρ') ∧
  (res = .conflict → ∀ ρ : Interp, Model st ρ → ρ a ≠ ρ b)

/-- `st'` extends `st`: only objects of rank `≤ r` were touched, and among them only representatives
(`fz`: `unify` never writes an object that carries a pointer); classes only merged, their values and
features kept -/
structure Ext (st : Store) (rk : Nat → Nat) (st' : Store) (rk' : Nat → Nat) (r : Nat) : Prop where
  len : st.length ≤ st'.length
  rkold : ∀ i, i < st.length → rk' i = rk i
  frame : ∀ i, i < st.length → r < rk i → get st' i = get st i
  e1 : ∀ i j, i < st.length → j < st.length → deref st i = deref st j → deref st' i = deref st' j
  e2 : ∀ i v, i < st.length → val st (deref st i) = some v → val st' (deref st' i) = some v
  m : ∀ i g x, i < st.length → lookupC g (cont st i) = some x → lookupC g (cont st' i) = some x
  fz : ∀ i j, ptr st i = some j → get st' i = get st i

theorem Ext.refl (st : Store) (rk : Nat → Nat) (r : Nat) : Ext st rk st rk r :=
  ⟨Nat.le_refl _, fun _ _ => rfl, fun _ _ _ => rfl,
    fun _ _ _ _ h => h, fun _ _ _ h => h, fun _ _ _ _ h => h, fun _ _ _ => rfl⟩

theorem Ext.trans {st st1 st2 : Store} {rk rk1 rk2 : Nat → Nat} {r : Nat}
    (h1 : Ext st rk st1 rk1 r) (h2 : Ext st1 rk1 st2 rk2 r) : Ext st rk st2 rk2 r := by
  have hl : ∀ {i}, i < st.length → i < st1.length := fun hi => Nat.lt_of_lt_of_le hi h1.len
  constructor
  · exact Nat.le_trans h1.len h2.len
  · intro i hi; rw [h2.rkold i (hl hi), h1.rkold i hi]
  · intro i hi hr
    rw [h2.frame i (hl hi) (by rw [h1.rkold i hi]; exact hr), h1.frame i hi hr]
  · intro i j hi hj h
    exact h2.e1 i j (hl hi) (hl hj) (h1.e1 i j hi hj h)
  · intro i v hi h
    exact h2.e2 i v (hl hi) (h1.e2 i v hi h)
  · intro i g x hi h
    exact h2.m i g x (hl hi) (h1.m i g x hi h)
  · intro i j hp
    have e := h1.fz i j hp
    rw [h2.fz i j (by rw [ptr, e]; exact hp), e]

theorem Ext.mono {st st' : Store} {rk rk' : Nat → Nat} {r r' : Nat} (h : Ext st rk st' rk' r)
    (hr : r ≤ r') : Ext st rk st' rk' r' :=
  ⟨h.len, h.rkold, fun i hi hri => h.frame i hi (by omega), h.e1, h.e2, h.m, h.fz⟩

theorem Ext.deref_high {ch : Nat → String → Nat} {st st' : Store} {rk rk' : Nat → Nat} {r : Nat} (h : Ext st rk st' rk' r)
    (hr : Rng st) (hI : InvC ch st rk) {i : Nat} (hi : i < st.length) (hri : r < rk i) :
    deref st' i = deref st i := by
  refine deref_frame hI.acyc h.len (fun j => j < st.length ∧ r < rk j) ?_ ?_ i ⟨hi, hri⟩
  · intro j hj; rw [ptr, h.frame j hj.1 hj.2]
  · intro j j2 hj hp
    exact ⟨hr.p j j2 hp, by rw [← hI.rkp j j2 hp]; exact hj.2⟩

/-- the features of `i` are those it had; its old representative kept them (`m`) and passes them on to
the new one (`H`); classes only merged (`e1`) -/
theorem CCat_lift {st st' : Store} {rk rk' : Nat → Nat} {r : Nat} (he : Ext st rk st' rk' r)
    (hr : Rng st) (ha : Acyc st) {i : Nat} (hi : i < st.length) (hc : get st' i = get st i)
    (h : CCat st i) (H : CCat st' (deref st i)) : CCat st' i := by
  intro g x hx
  rw [cont, hc] at hx
  obtain ⟨x', hx', hd⟩ := h g x hx
  have hcl := deref_lt hr hi
  obtain ⟨x'', hx'', hd'⟩ := H g x' (he.m _ g x' hcl hx')
  rw [he.e1 _ _ hcl hi (deref_idem ha i)] at hx''
  exact ⟨x'', hx'', hd'.trans
    (he.e1 x' x (hr.c _ g x' (lookupC_mem hx')) (hr.c i g x (lookupC_mem hx)) hd)⟩

theorem Ext.ccat {st st' : Store} {rk rk' : Nat → Nat} {r : Nat} (he : Ext st rk st' rk' r)
    (hr : Rng st) (ha : Acyc st) (H : ∀ c, ptr st c = none → CCat st' c) (i : Nat)
    (h : CCat st i) : CCat st' i := by
  cases hp : ptr st i with
  | none => exact H i hp
  | some j =>
    exact CCat_lift he hr ha (ptr_lt hp) (he.fz i j hp) h (H _ (deref_ptr_none ha i))

theorem ext_setPointer {st : Store} {rk : Nat → Nat} (ha : Acyc st) {c d : Nat}
    (hc : ptr st c = none) (hd : ptr st d = none) (hcd : c ≠ d) (hclt : c < st.length) {k : Nat}
    (hk : rk c = k) (hv : ∀ v, val st c = some v → val st d = some v) :
    Ext st rk (setPointer st c d) rk k := by
  have hder := deref_setPointer ha hc hd hcd hclt
  constructor
  · rw [length_setPointer]; exact Nat.le_refl _
  · intro _ _; rfl
  · intro i _ hri
    exact get_setPointer_ne d (fun e => by subst e; omega)
  · intro i j _ _ h
    rw [hder, hder, h]
  · intro i v _ h
    rw [hder, val_setPointer]
    split
    · rename_i e; rw [e] at h; exact hv v h
    · exact h
  · intro i g x _ h
    rw [cont_setPointer]; exact h
  · intro i j hp
    exact get_setPointer_ne d (fun e => by rw [e, hp] at hc; cases hc)

theorem ext_addFresh {st : Store} {rk : Nat → Nat} (ha : Acyc st) {ca : Nat} (g : String)
    (hca : ca < st.length) (hp : ptr st ca = none) {r : Nat} (c : Nat) (hrk : rk ca ≤ r) :
    Ext st rk (addFresh st ca g) (Function.update rk st.length c) r := by
  have hder := deref_addFresh ha ca g
  constructor
  · rw [length_addFresh]; exact Nat.le_succ _
  · intro i hi; exact Function.update_of_ne (Nat.ne_of_lt hi) _ _
  · intro i _ hri
    rw [get_addFresh g hca, if_neg (fun e => by subst e; omega)]
  · intro i j _ _ he; rw [hder, hder]; exact he
  · intro i v _ he; rw [hder, val_addFresh]; exact he
  · intro i g' x _ hx; exact lookupC_cont_addFresh g hca hx
  · intro i j hi
    rw [get_addFresh g hca, if_neg (fun e => by rw [e, hp] at hi; cases hi)]

/-- A ranked feature algebra: what the objects of a store are interpreted by.  `child d g` interprets the
feature `g` of an object interpreted by `d`, `atom d v` says that `d` may carry the atom `v`; ranks go down
by `ch` along `child`, atoms sit at rank 0.  A rank function is an interpretation in the ranks themselves
(`rankAlg`), a rank function with a `Model` beside it one in ranks paired with path functions (`pathAlg`).
`unify` is walked once, for any algebra (`unify_U`): that it keeps a store ranked and that the models
equating its operands extend to the result are one fact in these two algebras. -/
structure FAlg (ch : Nat → String → Nat) where
  D : Type
  rank : D → Nat
  child : D → String → D
  atom : D → String → Prop
  rank_child : ∀ d g, rank (child d g) = ch (rank d) g
  rank_atom : ∀ d v, atom d v → rank d = 0

/-- `ι` interprets the objects of `st` in `A`: the same along a pointer, `child` along a feature (which only
an object of positive rank has), `atom` at a value; the pointer chains end -/
structure AModel {ch : Nat → String → Nat} (A : FAlg ch) (st : Store) (ι : Nat → A.D) : Prop where
  acyc : Acyc st
  p : ∀ i j, ptr st i = some j → ι i = ι j
  c : ∀ i g x, (g, x) ∈ cont st i → ι x = A.child (ι i) g ∧ 0 < A.rank (ι i)
  v : ∀ i v, val st i = some v → A.atom (ι i) v

def rankAlg (ch : Nat → String → Nat) : FAlg ch :=
  ⟨Nat, id, ch, fun r _ => r = 0, fun _ _ => rfl, fun _ _ h => h⟩

def pathAlg (ch : Nat → String → Nat) : FAlg ch :=
  ⟨Nat × (List String → String), Prod.fst, fun d g => (ch d.1 g, fun q => d.2 (g :: q)),
    fun d v => d.1 = 0 ∧ d.2 [] = v, fun _ _ => rfl, fun _ _ h => h.1⟩

section Walk
variable {ch : Nat → String → Nat}

theorem amodel_rank {st : Store} {rk : Nat → Nat} : AModel (rankAlg ch) st rk ↔ InvC ch st rk :=
  ⟨fun h => ⟨h.acyc, h.p, h.c, h.v⟩, fun h => ⟨h.acyc, h.rkp, h.rkc, h.rkv⟩⟩

theorem amodel_path {st : Store} {rk : Nat → Nat} {ρ : Interp} :
    AModel (pathAlg ch) st (fun i => (rk i, ρ i)) ↔ InvC ch st rk ∧ Model st ρ := by
  constructor
  · intro h
    refine ⟨⟨h.acyc, fun i j hp => congrArg Prod.fst (h.p i j hp), fun i g x hx => ?_,
      fun i v hv => (h.v i v hv).1⟩, fun i j hp => congrArg Prod.snd (h.p i j hp),
      fun i v hv => (h.v i v hv).2, fun i g x hx q => ?_⟩
    · exact ⟨congrArg Prod.fst (h.c i g x hx).1, (h.c i g x hx).2⟩
    · exact (congrFun (congrArg Prod.snd (h.c i g x hx).1) q).symm
  · intro ⟨hI, hm⟩
    refine ⟨hI.acyc, fun i j hp => Prod.ext (hI.rkp i j hp) (hm.p i j hp), fun i g x hx => ?_,
      fun i v hv => ⟨hI.rkv i v hv, hm.v i v hv⟩⟩
    exact ⟨Prod.ext (hI.rkc i g x hx).1 (funext fun q => (hm.c i g x hx q).symm), (hI.rkc i g x hx).2⟩

variable {A : FAlg ch} {st : Store} {ι : Nat → A.D}

abbrev FAlg.rk (A : FAlg ch) (ι : Nat → A.D) : Nat → Nat := fun i => A.rank (ι i)

theorem AModel.invC (h : AModel A st ι) : InvC ch st (A.rk ι) :=
  ⟨h.acyc, fun i j hp => congrArg A.rank (h.p i j hp),
    fun i g x hx => ⟨by show A.rank (ι x) = _; rw [(h.c i g x hx).1, A.rank_child], (h.c i g x hx).2⟩,
    fun i v hv => A.rank_atom _ v (h.v i v hv)⟩

theorem AModel.deref (h : AModel A st ι) (i : Nat) : ι (deref st i) = ι i :=
  deref_const h.p i

theorem rk_update (ι : Nat → A.D) (n : Nat) (d : A.D) :
    A.rk (Function.update ι n d) = Function.update (A.rk ι) n (A.rank d) := by
  funext i
  by_cases h : i = n
  · subst h; simp [FAlg.rk]
  · simp [FAlg.rk, Function.update_of_ne h]

/-- what an interpretation `ι` in a ranked feature algebra asks of the object `nd` at index `i` of a store of
length `L`: a feature is in range and interpreted by the child, at positive rank; a pointer leads to a smaller
index interpreted alike and excludes features; a value is an atom of the interpretation -/
structure ObjOKA (A : FAlg ch) (L : Nat) (ι : Nat → A.D) (i : Nat) (nd : Node) : Prop where
  c : ∀ g x, (g, x) ∈ nd.content → x < L ∧ ι x = A.child (ι i) g ∧ 0 < A.rank (ι i)
  p : ∀ j, nd.pointer = some j → j < i ∧ ι i = ι j ∧ nd.content = []
  v : ∀ v, nd.value = some v → A.atom (ι i) v

/-- the invariant of a store under construction (what `buildInto` and the Earley builder keep).  It is local,
one condition per object, so allocating an object or adding a field touches one condition; that `ι` interprets
the store (`ObjInvA.amodel`: at the ranks `InvC`, at ranks paired with path functions a `Model` beside) and the
global `Rng`, `CCat` follow from it.  `unify` does not keep it: a linked representative keeps its features and
may point to a larger index. -/
def ObjInvA (A : FAlg ch) (st : Store) (ι : Nat → A.D) : Prop :=
  ∀ i, i < st.length → ObjOKA A st.length ι i (get st i)

theorem ObjInvA.rng (h : ObjInvA A st ι) : Rng st :=
  ⟨fun i j hp => Nat.lt_trans ((h i (ptr_lt hp)).p j hp).1 (ptr_lt hp),
    fun i g x hx => ((h i (cont_lt hx)).c g x hx).1⟩

theorem ObjInvA.amodel (h : ObjInvA A st ι) : AModel A st ι :=
  ⟨⟨id, fun i j hp => ((h i (ptr_lt hp)).p j hp).1⟩, fun i j hp => ((h i (ptr_lt hp)).p j hp).2.1,
    fun i g x hx => ((h i (cont_lt hx)).c g x hx).2, fun i v hv => (h i (val_lt hv)).v v hv⟩

theorem ObjInvA.cc (h : ObjInvA A st ι) (i : Nat) : CCat st i := by
  cases hp : ptr st i with
  | none => exact CCat_of_rep hp
  | some j =>
    intro g x hx
    rw [cont, ((h i (ptr_lt hp)).p j hp).2.2] at hx
    cases hx

theorem ObjInvA.wf (h : ObjInvA A st ι) : WF ch st (A.rk ι) := ⟨h.rng, h.amodel.invC, h.cc⟩

theorem ObjInvA.model {ι : Nat → (pathAlg ch).D} (h : ObjInvA (pathAlg ch) st ι) :
    Model st (fun i => (ι i).2) :=
  ((amodel_path (rk := fun i => (ι i).1)).1 h.amodel).2

theorem ObjInvA_nil (ι : Nat → A.D) : ObjInvA A [] ι := fun _ hi => absurd hi (Nat.not_lt_zero _)

theorem ObjInvA.congr {ι' : Nat → A.D} (h : ObjInvA A st ι) (e : ∀ i, i < st.length → ι' i = ι i) :
    ObjInvA A st ι' := by
  intro i hi
  obtain ⟨hc, hp, hv⟩ := h i hi
  refine ⟨fun g x hx => ?_, fun j hj => ?_, fun v hv' => ?_⟩
  · rw [e x (hc g x hx).1, e i hi]; exact hc g x hx
  · rw [e j (Nat.lt_trans (hp j hj).1 hi), e i hi]; exact hp j hj
  · rw [e i hi]; exact hv v hv'

theorem ObjInvA_snoc {nd : Node} (h : ObjInvA A st ι) (hc : nd.content = [])
    (hp : ∀ j, nd.pointer = some j → j < st.length ∧ ι st.length = ι j)
    (hv : ∀ v, nd.value = some v → A.atom (ι st.length) v) : ObjInvA A (st ++ [nd]) ι := by
  intro i hi
  rw [get_snoc, length_snoc] at *
  by_cases hil : i = st.length
  · rw [if_pos hil, hil]
    exact ⟨fun g x hx => (nomatch hc ▸ hx), fun j hj => ⟨(hp j hj).1, (hp j hj).2, hc⟩, hv⟩
  · rw [if_neg hil]
    obtain ⟨hc', hp', hv'⟩ := h i (Nat.lt_of_le_of_ne (Nat.le_of_lt_succ hi) hil)
    exact ⟨fun g x hx => ⟨Nat.lt_succ_of_lt (hc' g x hx).1, (hc' g x hx).2⟩, hp', hv'⟩

theorem ObjInvA_addField {r x : Nat} {g : String} (h : ObjInvA A st ι) (hr : ptr st r = none)
    (hx : x < st.length) (hι : ι x = A.child (ι r) g) (hpos : 0 < A.rank (ι r)) :
    ObjInvA A (addField st r g x) ι := by
  intro i hi
  rw [length_addField] at *
  obtain ⟨hc', hp', hv'⟩ := h i hi
  refine ⟨fun g' y hy => ?_, fun j hj => ?_, fun v hv => hv' v (by rw [get_addField] at hv; exact hv)⟩
  · rcases mem_cont_addField hy with hy | ⟨rfl, e⟩
    · exact hc' g' y hy
    · cases e; exact ⟨hx, hι, hpos⟩
  · have hj' : ptr st i = some j := by rw [← ptr_addField st r g x]; exact hj
    refine ⟨(hp' j hj').1, (hp' j hj').2.1, ?_⟩
    -- an object with a pointer is not the record `r`
    rw [← cont, cont_addField_ne g x (fun e => by rw [e, hr] at hj'; cases hj')]
    exact (hp' j hj').2.2

theorem amodel_setPointer (h : AModel A st ι) {c d : Nat} (hc : ptr st c = none)
    (hd : ptr st d = none) (hcd : c ≠ d) (hι : ι c = ι d) : AModel A (setPointer st c d) ι := by
  constructor
  · exact acyc_setPointer h.acyc hc hd hcd
  · intro i j hp
    rcases ptr_setPointer_cases hp with hp | ⟨rfl, rfl⟩
    · exact h.p i j hp
    · exact hι
  · intro i g x hx; rw [cont_setPointer] at hx; exact h.c i g x hx
  · intro i v hv; rw [val_setPointer] at hv; exact h.v i v hv

theorem amodel_addFresh (hr : Rng st) (h : AModel A st ι) {ca : Nat} (g : String)
    (hca : ca < st.length) (hpos : 0 < A.rank (ι ca)) :
    AModel A (addFresh st ca g) (Function.update ι st.length (A.child (ι ca) g)) := by
  have hup : ∀ i, i < st.length → Function.update ι st.length (A.child (ι ca) g) i = ι i :=
    fun i hi => Function.update_of_ne (Nat.ne_of_lt hi) _ _
  constructor
  · exact acyc_addFresh h.acyc ca g
  · intro i j hp
    rw [ptr_addFresh] at hp
    rw [hup i (ptr_lt hp), hup j (hr.p i j hp)]; exact h.p i j hp
  · intro i g' x hx
    rcases mem_cont_addFresh hx with hx | ⟨rfl, he⟩
    · rw [hup i (cont_lt hx), hup x (hr.c i g' x hx)]; exact h.c i g' x hx
    · cases he
      rw [hup i hca, Function.update_self]; exact ⟨rfl, hpos⟩
  · intro i v hv
    rw [val_addFresh] at hv
    rw [hup i (val_lt hv)]; exact h.v i v hv

/-- some value of the algebra carries two atoms: what a conflict shows.  No path function does. -/
def Clash (A : FAlg ch) : Prop := ∃ d va vb, A.atom d va ∧ A.atom d vb ∧ va ≠ vb

/-- precondition of `unify.go` at the representative `ca`, interpreted by `d`; `rest` still to be merged -/
structure GoPreU (A : FAlg ch) (st : Store) (ι : Nat → A.D) (ca : Nat) (d : A.D)
    (rest : List (String × Nat)) : Prop where
  rng : Rng st
  mod : AModel A st ι
  hca : ca < st.length
  pca : ptr st ca = none
  dca : ι ca = d
  rpos : 0 < A.rank d
  hrest : ∀ e ∈ rest, e.2 < st.length ∧ ι e.2 = A.child d e.1

/-- result of `unify f st a b` on a store interpreted by `ι` with `ι a = ι b`: on success `ι` extends to an
interpretation of the result, which is in range and extends `st` touching the rank of `a` and below only; `a` and
`b` are in one class, and every object that was congruence closed (`CCat`) still is.  No closure is asked of `st`:
while a loop runs, the record it absorbs is not closed.  A conflict shows a `Clash`.  The clause `.fuel ⇒ f ≤ rank`
makes the same induction give termination. -/
def PostU (A : FAlg ch) (f : Nat) (st : Store) (ι : Nat → A.D) (a b : Nat) : Res → Prop
  | .ok st' => ∃ ι' : Nat → A.D, Rng st' ∧ (∀ i, i < st.length → ι' i = ι i) ∧ AModel A st' ι' ∧
      Ext st (A.rk ι) st' (A.rk ι') (A.rank (ι a)) ∧
      (∀ i, CCat st i → CCat st' i) ∧ deref st' a = deref st' b
  | .conflict => Clash A
  | .fuel => f ≤ A.rank (ι a)

/-- the same for the loop `unify.go` at a record `ca`, which it leaves a representative that has, up to
classes, every feature it was given; its sub-unifications run one rank down with the same fuel `f`, hence
`.fuel ⇒ f < rank` -/
def GoPostU (A : FAlg ch) (f : Nat) (st : Store) (ι : Nat → A.D) (ca : Nat) (d : A.D)
    (rest : List (String × Nat)) : Res → Prop
  | .ok st' => ∃ ι' : Nat → A.D, Rng st' ∧ (∀ i, i < st.length → ι' i = ι i) ∧ AModel A st' ι' ∧
      Ext st (A.rk ι) st' (A.rk ι') (A.rank d) ∧ (∀ i, CCat st i → CCat st' i) ∧
      ptr st' ca = none ∧
      ∀ e ∈ rest, ∃ x, lookupC e.1 (cont st' ca) = some x ∧ deref st' x = deref st' e.2
  | .conflict => Clash A
  | .fuel => f < A.rank d

/-- the field `g` of `ca`, fetched or created: a new object is interpreted by `child d g` -/
theorem goPre_field {ca : Nat} {d : A.D}
    {L : List (String × Nat)} (h : GoPreU A st ι ca d L) (g : String) :
    ∃ ι1 : Nat → A.D, GoPreU A (fieldOf st ca g).1 ι1 ca d L ∧ (∀ i, i < st.length → ι1 i = ι i) ∧
      Ext st (A.rk ι) (fieldOf st ca g).1 (A.rk ι1) (A.rank d) ∧
      (∀ i, CCat st i → CCat (fieldOf st ca g).1 i) ∧
      lookupC g (cont (fieldOf st ca g).1 ca) = some (fieldOf st ca g).2 := by
  unfold fieldOf
  cases hl : lookupC g (cont st ca) with
  | some x => exact ⟨ι, h, fun _ _ => rfl, Ext.refl _ _ _, fun _ hi => hi, hl⟩
  | none =>
    have hup : ∀ i, i < st.length → Function.update ι st.length (A.child d g) i = ι i :=
      fun i hi => Function.update_of_ne (Nat.ne_of_lt hi) _ _
    have he : Ext st (A.rk ι) (addFresh st ca g) (A.rk (Function.update ι st.length (A.child d g)))
        (A.rank d) := by
      rw [rk_update]
      exact ext_addFresh h.mod.acyc g h.hca h.pca _
        (by show A.rank (ι ca) ≤ _; rw [h.dca]; exact Nat.le_refl _)
    refine ⟨_, ⟨rng_addFresh h.rng ca g, ?_, by rw [length_addFresh]; exact Nat.lt_succ_of_lt h.hca,
      by rw [ptr_addFresh]; exact h.pca, by rw [hup ca h.hca]; exact h.dca, h.rpos,
      fun e he' => ?_⟩, hup, he,
      he.ccat h.rng h.mod.acyc fun c hc => CCat_of_rep (by rw [ptr_addFresh]; exact hc), ?_⟩
    · have := amodel_addFresh h.rng h.mod g h.hca (by rw [h.dca]; exact h.rpos)
      rw [h.dca] at this; exact this
    · obtain ⟨h1, h2⟩ := h.hrest e he'
      rw [length_addFresh, hup _ h1]; exact ⟨Nat.lt_succ_of_lt h1, h2⟩
    · rw [cont_addFresh g h.hca, if_pos rfl]; exact lookupC_append_single_self _ hl

/-- after the sub-unification one rank down: `ca` was out of its reach -/
theorem goPre_sub {ca : Nat} {d : A.D} {e : String × Nat} {rest : List (String × Nat)}
    (h : GoPreU A st ι ca d (e :: rest)) {st2 : Store} {ι2 : Nat → A.D} {k : Nat} (hk : k < A.rank d)
    (hr2 : Rng st2) (hag : ∀ i, i < st.length → ι2 i = ι i) (he : Ext st (A.rk ι) st2 (A.rk ι2) k)
    (hm2 : AModel A st2 ι2) : GoPreU A st2 ι2 ca d rest ∧ get st2 ca = get st ca := by
  have hcaf : get st2 ca = get st ca :=
    he.frame ca h.hca (by show k < A.rank (ι ca); rw [h.dca]; exact hk)
  refine ⟨⟨hr2, hm2, Nat.lt_of_lt_of_le h.hca he.len, by rw [ptr, hcaf]; exact h.pca,
    by rw [hag ca h.hca]; exact h.dca, h.rpos, fun e hem => ?_⟩, hcaf⟩
  obtain ⟨h1, h2⟩ := h.hrest e (List.mem_cons_of_mem _ hem)
  exact ⟨Nat.lt_of_lt_of_le h1 he.len, by rw [hag _ h1]; exact h2⟩

/-- given `PostU` for `unify` at the same fuel (`IH`): fetch or create the field `g` of `ca`, unify it
with the waiting child (both interpreted by `child d g`, one rank down), re-establish `GoPreU` for the tail -/
theorem go_U (hch : ∀ r g, 0 < r → ch r g < r) (f : Nat)
    (IH : ∀ (st : Store) (ι : Nat → A.D) a b, Rng st → AModel A st ι → a < st.length → b < st.length →
      ι a = ι b → PostU A f st ι a b (unify f st a b))
    (ca : Nat) (d : A.D) : ∀ (rest : List (String × Nat)) (st : Store) (ι : Nat → A.D),
      GoPreU A st ι ca d rest → GoPostU A f st ι ca d rest (unify.go f ca st rest) := by
  intro rest
  induction rest with
  | nil =>
    intro st ι h
    rw [go_nil]
    exact ⟨ι, h.rng, fun _ _ => rfl, h.mod, Ext.refl _ _ _, fun _ hi => hi, h.pca, nofun⟩
  | cons e rest ih =>
    obtain ⟨g, y⟩ := e
    intro st ι h
    rw [go_cons]
    obtain ⟨ι1, h1, hag1, he1, hT1, hl1⟩ := goPre_field h g
    have hxlt := h1.rng.c ca g _ (lookupC_mem hl1)
    have hxι : ι1 (fieldOf st ca g).2 = A.child d g := by
      have := (h1.mod.c ca g _ (lookupC_mem hl1)).1
      rw [h1.dca] at this; exact this
    obtain ⟨hylt, hyι⟩ := h1.hrest (g, y) (by simp)
    have hk : A.rank (A.child d g) < A.rank d := by rw [A.rank_child]; exact hch _ g h1.rpos
    have hsub := IH (fieldOf st ca g).1 ι1 (fieldOf st ca g).2 y h1.rng h1.mod hxlt hylt
      (hxι.trans hyι.symm)
    cases hres : unify f (fieldOf st ca g).1 (fieldOf st ca g).2 y with
    | fuel =>
      rw [hres] at hsub
      have : f ≤ A.rank (ι1 (fieldOf st ca g).2) := hsub
      rw [hxι] at this
      show f < A.rank d
      omega
    | conflict => rw [hres] at hsub; exact hsub
    | ok st2 =>
      rw [hres] at hsub
      obtain ⟨ι2, hr2, hag2, hm2, he2, hT2, hxy⟩ := hsub
      rw [hxι] at he2
      obtain ⟨h2, hcaf⟩ := goPre_sub h1 hk hr2 hag2 he2 hm2
      have hgo := ih st2 ι2 h2
      show GoPostU A f st ι ca d ((g, y) :: rest) (unify.go f ca st2 rest)
      cases hres2 : unify.go f ca st2 rest with
      | fuel => rw [hres2] at hgo; exact hgo
      | conflict => rw [hres2] at hgo; exact hgo
      | ok st' =>
        rw [hres2] at hgo
        obtain ⟨ι', hr', hag', hm', he', hT', hp', hd'⟩ := hgo
        refine ⟨ι', hr', fun i hi => ?_, hm', (he1.trans (he2.mono (Nat.le_of_lt hk))).trans he',
          fun i hi => hT' i (hT2 i (hT1 i hi)), hp', fun e he => ?_⟩
        · have hi1 := Nat.lt_of_lt_of_le hi he1.len
          rw [hag' i (Nat.lt_of_lt_of_le hi1 he2.len), hag2 i hi1, hag1 i hi]
        · rcases List.mem_cons.1 he with rfl | he
          · -- the field fetched for `g` is still there, and still in the class of `y`
            refine ⟨_, he'.m ca g _ h2.hca (by rw [cont, hcaf]; exact hl1), ?_⟩
            exact he'.e1 _ _ (Nat.lt_of_lt_of_le hxlt he2.len) (Nat.lt_of_lt_of_le hylt he2.len) hxy
          · exact hd' e he

/-- Induction on the fuel; three cases as in the code: same class, two classes without features (one
pointer is set, or two different atoms clash), records (`cb` is redirected to `ca`, then `go_U` merges its
features).  Closure is kept by `Ext.ccat`: of the old representatives only the one that was linked has to be
looked at. -/
theorem unify_U (hch : ∀ r g, 0 < r → ch r g < r) :
    ∀ (f : Nat) (st : Store) (ι : Nat → A.D) (a b : Nat), Rng st → AModel A st ι →
    a < st.length → b < st.length → ι a = ι b → PostU A f st ι a b (unify f st a b) := by
  intro f
  induction f with
  | zero => intro st ι a b _ _ _ _ _; rw [unify_zero]; exact Nat.zero_le _
  | succ f IH =>
    intro st ι a b hr hM ha hb hab
    have hI := hM.invC
    have hcalt := deref_lt hr ha
    have hcblt := deref_lt hr hb
    have hpa := deref_ptr_none hM.acyc a
    have hpb := deref_ptr_none hM.acyc b
    have hιab : ι (deref st a) = ι (deref st b) := by rw [hM.deref, hM.deref, hab]
    have leaf : ∀ c d, ptr st c = none → ptr st d = none → c ≠ d → c < st.length → d < st.length →
        ι c = ι d → ι c = ι a → cont st c = [] → (∀ v, val st c = some v → val st d = some v) →
        ((deref st a = c ∧ deref st b = d) ∨ (deref st a = d ∧ deref st b = c)) →
        PostU A f.succ st ι a b (.ok (setPointer st c d)) := by
      intro c d hc hd hcd hclt hdlt hcdι hca hcont hv hab
      have he := ext_setPointer (rk := A.rk ι) hM.acyc hc hd hcd hclt (k := A.rank (ι a))
        (by show A.rank (ι c) = _; rw [hca]) hv
      refine ⟨ι, rng_setPointer hr c hdlt, fun _ _ => rfl, amodel_setPointer hM hc hd hcd hcdι, he,
        he.ccat hr hM.acyc fun c' hc' => ?_, ?_⟩
      · -- `c` has no features; the other representatives remain representatives
        by_cases e : c' = c
        · intro g x hx; rw [e, cont_setPointer, hcont] at hx; cases hx
        · exact CCat_of_rep (by rw [ptr, get_setPointer_ne d (Ne.symm e)]; exact hc')
      · rw [deref_setPointer hM.acyc hc hd hcd hclt, deref_setPointer hM.acyc hc hd hcd hclt]
        rcases hab with ⟨e1, e2⟩ | ⟨e1, e2⟩
        · rw [e1, e2]; simp [Ne.symm hcd]
        · rw [e1, e2]; simp [Ne.symm hcd]
    by_cases hne : deref st a = deref st b
    · rw [unify_succ, if_pos hne]
      exact ⟨ι, hr, fun _ _ => rfl, hM, Ext.refl _ _ _, fun _ hi => hi, hne⟩
    by_cases hemp : cont st (deref st a) = [] ∧ cont st (deref st b) = []
    · rcases unify_leaf f hne hemp with ⟨c, d, hu, hcd, hv⟩ | ⟨hu, va, vb, hva, hvb, hvne⟩
      · rw [hu]
        rcases hcd with ⟨rfl, rfl⟩ | ⟨rfl, rfl⟩
        · exact leaf _ _ hpa hpb hne hcalt hcblt hιab (hM.deref a) hemp.1 hv (Or.inl ⟨rfl, rfl⟩)
        · exact leaf _ _ hpb hpa (Ne.symm hne) hcblt hcalt hιab.symm ((hM.deref b).trans hab.symm)
            hemp.2 hv (Or.inr ⟨rfl, rfl⟩)
      · rw [hu]
        exact ⟨_, va, vb, hM.v _ va hva, by rw [hιab]; exact hM.v _ vb hvb, hvne⟩
    · -- records: the class of `b` is redirected to that of `a`, which takes over its features
      rw [unify_succ, if_neg hne, if_neg hemp]
      have hpos : 0 < A.rank (ι (deref st a)) := Nat.pos_of_ne_zero fun h0 =>
        hemp ⟨cont_nil_of_rk_zero hI h0,
          cont_nil_of_rk_zero hI (by show A.rank (ι (deref st b)) = 0; rw [← hιab]; exact h0)⟩
      have hext : Ext st (A.rk ι) (setPointer st (deref st b) (deref st a)) (A.rk ι) (A.rank (ι a)) :=
        ext_setPointer hM.acyc hpb hpa (Ne.symm hne) hcblt
          (by show A.rank (ι (deref st b)) = _; rw [hM.deref, hab]) (fun v h => by
            have : A.rank (ι (deref st b)) = 0 := hI.rkv _ v h
            rw [← hιab] at this; omega)
      have hpre : GoPreU A (setPointer st (deref st b) (deref st a)) ι (deref st a) (ι (deref st a))
          (cont st (deref st b)) :=
        ⟨rng_setPointer hr _ hcalt, amodel_setPointer hM hpb hpa (Ne.symm hne) hιab.symm,
          by rw [length_setPointer]; exact hcalt,
          by rw [ptr_setPointer, if_neg (fun e => hne e.1.symm)]; exact hpa, rfl, hpos,
          fun e he => ⟨by rw [length_setPointer]; exact hr.c _ e.1 e.2 he,
            by rw [hιab]; exact (hM.c _ e.1 e.2 he).1⟩⟩
      have hgo := go_U hch f IH (deref st a) _ _ _ ι hpre
      cases hres : unify.go f (deref st a) (setPointer st (deref st b) (deref st a))
          (cont st (deref st b)) with
      | fuel =>
        rw [hres, hM.deref] at hgo
        have : f < A.rank (ι a) := hgo
        show f + 1 ≤ A.rank (ι a)
        omega
      | conflict => rw [hres] at hgo; exact hgo
      | ok st' =>
        rw [hres, hM.deref] at hgo
        obtain ⟨ι', hr', hag', hm', he', hT', hp', hd'⟩ := hgo
        have hcb : get st' (deref st b) = get (setPointer st (deref st b) (deref st a)) (deref st b) :=
          he'.fz _ _ (ptr_setPointer_self _ hcblt)
        refine ⟨ι', hr', fun i hi => hag' i (by rw [length_setPointer]; exact hi), hm', hext.trans he',
          (hext.trans he').ccat hr hM.acyc fun c hc => ?_, ?_⟩
        · by_cases e : c = deref st b
          · -- the absorbed representative: its features are those the loop has merged into `ca`
            intro g x hx
            rw [e, cont, hcb, ← cont, cont_setPointer] at hx
            obtain ⟨x', hx', hdx⟩ := hd' (g, x) (lookupC_mem hx)
            refine ⟨x', ?_, hdx⟩
            rw [e, deref_step hm'.acyc (by rw [ptr, hcb]; exact ptr_setPointer_self _ hcblt),
              deref_of_none hp']
            exact hx'
          · exact hT' c (CCat_of_rep (by rw [ptr, get_setPointer_ne _ (Ne.symm e)]; exact hc))
        · apply he'.e1 a b (by rw [length_setPointer]; exact ha) (by rw [length_setPointer]; exact hb)
          rw [deref_setPointer hM.acyc hpb hpa (Ne.symm hne) hcblt,
            deref_setPointer hM.acyc hpb hpa (Ne.symm hne) hcblt]
          simp [hne]

end Walk

/-- `unify` on a well-formed store, operands of one rank `k`: every model that equates them extends to
the result and a conflict means there is none (`PostS`); the result is a well-formed extension in
which they share a class; fuel above the rank suffices.  `unify_U` twice: at the ranks alone, and for each
model at the ranks paired with it. -/
theorem unify_wf {ch : Nat → String → Nat} (hch : ∀ r g, 0 < r → ch r g < r) {st : Store}
    {rk : Nat → Nat} (hw : WF ch st rk) {a b : Nat} (ha : a < st.length) (hb : b < st.length) {k : Nat}
    (hka : rk a = k) (hkb : rk b = k) (f : Nat) :
    PostS st a b (unify f st a b) ∧
    (∀ st', unify f st a b = .ok st' → ∃ rk', WF ch st' rk' ∧ Ext st rk st' rk' k ∧
      deref st' a = deref st' b) ∧
    (unify f st a b = .fuel → f ≤ k) := by
  subst hka
  have hk := hkb.symm
  have hR := unify_U (A := rankAlg ch) hch f st rk a b hw.rng (amodel_rank.2 hw.inv) ha hb hk
  have hP := fun (ρ : Interp) (hm : Model st ρ) (hab : ρ a = ρ b) =>
    unify_U (A := pathAlg ch) hch f st (fun i => (rk i, ρ i)) a b hw.rng (amodel_path.2 ⟨hw.inv, hm⟩)
      ha hb (Prod.ext hk hab)
  refine ⟨⟨fun st' hu => ?_, fun hu ρ hm hab => ?_⟩, fun st' hu => ?_, fun hu => by rw [hu] at hR; exact hR⟩
  · rw [hu] at hR hP
    obtain ⟨rk', hr', _, _, he, _⟩ := hR
    refine ⟨hr', he.len, fun ρ hm hab => ?_⟩
    obtain ⟨ι', _, hag, hm', _⟩ := hP ρ hm hab
    exact ⟨fun i => (ι' i).2, fun i hi => congrArg Prod.snd (hag i hi),
      (amodel_path (rk := fun i => (ι' i).1)).1 hm' |>.2⟩
  · have := hP ρ hm hab
    rw [hu] at this
    obtain ⟨d, va, vb, h1, h2, hne⟩ := this
    exact hne (h1.2.symm.trans h2.2)
  · rw [hu] at hR
    obtain ⟨rk', hr', _, hm', he, hT, hab⟩ := hR
    exact ⟨rk', ⟨hr', amodel_rank.1 hm', fun i => hT i (hw.cc i)⟩, he, hab⟩

theorem byPath_lt {st : Store} (hr : Rng st) (p : List String) (i n : Nat) (hi : i < st.length)
    (h : byPath st i p = some n) : n < st.length := by
  obtain ⟨_, _, _, hn⟩ := byPath_rel (st' := st) (R := fun j j' => j' = j ∧ j < st.length)
    (fun j j' g x hj hl => ⟨x, by rw [hj.1]; exact hl, rfl, hr.c _ g x (lookupC_mem hl)⟩) p ⟨rfl, hi⟩ h
  exact hn

theorem byPath_append (st : Store) : ∀ (p q : List String) (i : Nat),
    byPath st i (p ++ q) = (byPath st i p).bind fun n => byPath st n q := by
  intro p
  induction p with
  | nil => intro q i; simp [byPath_nil]
  | cons g p ih =>
    intro q i
    rw [List.cons_append, byPath_cons, byPath_cons]
    cases lookupC g (cont st (deref st i)) with
    | none => rfl
    | some x => exact ih q x

theorem byPath_link {st : Store} {a b a' b' : Nat} {p q : List String}
    (ha : byPath st a p = some a') (hb : byPath st b q = some b') (h : deref st a' = deref st b')
    (g : String) : byPath st a (p ++ [g]) = byPath st b (q ++ [g]) := by
  rw [byPath_append, byPath_append, ha, hb]
  exact byPath_congr h g []

theorem deref_old {st st' : Store} (ha : Acyc st) (hr : Rng st) (hlen : st.length ≤ st'.length)
    (hold : ∀ i, i < st.length → get st' i = get st i) {i : Nat} (hi : i < st.length) :
    deref st' i = deref st i :=
  deref_frame ha hlen (· < st.length) (fun j hj => by rw [ptr, hold j hj])
    (fun j j2 _ h => hr.p j j2 h) i hi

theorem byPath_frame {st st' : Store} (ha : Acyc st) (hr : Rng st) (hlen : st.length ≤ st'.length)
    (hold : ∀ i, i < st.length → get st' i = get st i) :
    ∀ (p : List String) (i : Nat), i < st.length → byPath st' i p = byPath st i p := by
  intro p
  induction p with
  | nil => intro i _; rfl
  | cons g p ih =>
    intro i hi
    rw [byPath_cons, byPath_cons, deref_old ha hr hlen hold hi, cont, hold _ (deref_lt hr hi)]
    cases hl : lookupC g (get st (deref st i)).content with
    | none => rfl
    | some x => exact ih x (hr.c _ g x (lookupC_mem hl))

/-- the paths of `st` are paths of its extension, and end in the same classes: start anywhere in the class of `i`,
a feature of the old representative is one of the new (`m`, closure of `st'`) -/
theorem path_pres {st st' : Store} {rk rk' : Nat → Nat} {r : Nat} (he : Ext st rk st' rk' r)
    (hr : Rng st) (ha : Acyc st) (hcc : ∀ i, CCat st' i) (p : List String) {i n : Nat}
    (hi : i < st.length) (h : byPath st i p = some n) :
    ∃ n', byPath st' i p = some n' ∧ deref st' n' = deref st' n := by
  refine (byPath_rel (R := fun j j' => j < st.length ∧ deref st' j' = deref st' j)
    (fun j j' g x hj hl => ?_) p ⟨hi, rfl⟩ h).imp fun n' hn' => ⟨hn'.1, hn'.2.2⟩
  have hc := deref_lt hr hj.1
  obtain ⟨x', hx', hdx⟩ := hcc (deref st j) g x (he.m _ g x hc hl)
  rw [he.e1 _ _ hc hj.1 (deref_idem ha j), ← hj.2] at hx'
  exact ⟨x', hx', hr.c _ g x (lookupC_mem hl), hdx⟩

theorem Build.lookupC_snoc_ne_none {g g' : String} {c : List (String × Nat)} {n : Nat}
    (h : lookupC g' (c ++ [(g, n)]) ≠ none) : g' = g ∨ lookupC g' c ≠ none := by
  by_cases hg : g = g'
  · exact Or.inl hg.symm
  · rw [lookupC_append_single_ne c n hg] at h; exact Or.inr h

theorem Build.lookupC_snoc_some {g g' : String} {c : List (String × Nat)} {n m : Nat}
    (h : lookupC g' (c ++ [(g, n)]) = some m) : lookupC g' c = some m ∨ (lookupC g' c = none ∧ g' = g ∧ m = n) := by
  rw [lookupC_append] at h
  cases hc : lookupC g' c with
  | some y => rw [hc] at h; exact Or.inl h
  | none =>
    rw [hc] at h
    simp only [lookupC] at h
    split at h
    · rename_i hg; simp at h; exact Or.inr ⟨rfl, hg.symm, h.symm⟩
    · simp at h

end Lem
end FsDag
end Pfl
