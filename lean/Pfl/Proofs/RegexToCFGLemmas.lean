/-
Helper lemmas for C05 (`Regex.to_cfg`): the manufactured node names are pairwise distinct, every
recursive call only defines heads in its own range of names, and the variable standing for a tree
node generates exactly the language denoted by the subtree.
-/
import Pfl.Model.RegexToCFG
import Pfl.Spec.Regex
import Pfl.Proofs.CFGBase
import Pfl.Proofs.CFGClean
import Pfl.Proofs.RegexLemmas
import Pfl.Proofs.FreshName
namespace Pfl
namespace Rx
namespace TC

open CFG

theorem nodeName_inj {j k : Nat} (h : nodeName j = nodeName k) : j = k := Fresh.suffix_inj "A" h

def Rng (lo hi : Nat) (h : String) : Prop := ∃ k, lo ≤ k ∧ k < hi ∧ h = nodeName k

/-- the heads a call `toCfgAux r cur c` (returning counter `c'`) is allowed to define -/
def Own (cur : String) (c c' : Nat) (h : String) : Prop := h = cur ∨ Rng c c' h

theorem counter_le (r : Rx) : ∀ (cur : String) (c : Nat), c ≤ (toCfgAux r cur c).2 := by
  induction r with
  | empty | eps | sym _ => intro cur c; exact Nat.le_refl c
  | cat a b iha ihb | alt a b iha ihb =>
    intro cur c
    exact Nat.le_trans (Nat.le_of_succ_le (iha _ _)) (Nat.le_of_succ_le (ihb _ _))
  | star a iha => intro cur c; exact Nat.le_of_succ_le (iha _ _)

theorem Rng.mono {a b a' b' : Nat} {h : String} (hr : Rng a b h) (ha : a' ≤ a) (hb : b ≤ b') :
    Rng a' b' h := by
  obtain ⟨k, k1, k2, e⟩ := hr
  exact ⟨k, by omega, by omega, e⟩

theorem own_node {a : Rx} {d : Nat} {h : String}
    (ho : Own (nodeName d) (d + 1) (toCfgAux a (nodeName d) (d + 1)).2 h) :
    Rng d (toCfgAux a (nodeName d) (d + 1)).2 h := by
  rcases ho with rfl | hr
  · exact ⟨d, Nat.le_refl d, counter_le a _ _, rfl⟩
  · exact hr.mono (Nat.le_succ d) (Nat.le_refl _)

theorem own_bin {cur : String} {c c1 c2 : Nat} {pa pb top : List Prod} (h1 : c ≤ c1) (h2 : c1 ≤ c2)
    (ha : ∀ p ∈ pa, Rng c c1 p.1) (hb : ∀ p ∈ pb, Rng c1 c2 p.1) (ht : ∀ p ∈ top, p.1 = cur) :
    ∀ p ∈ pa ++ pb ++ top, Own cur c c2 p.1 := by
  intro p hp
  rcases List.mem_append.1 hp with hp | hp
  · rcases List.mem_append.1 hp with hp | hp
    · exact .inr ((ha p hp).mono (Nat.le_refl _) h2)
    · exact .inr ((hb p hp).mono h1 (Nat.le_refl _))
  · exact .inl (ht p hp)

theorem heads_own (r : Rx) : ∀ (cur : String) (c : Nat), ∀ p ∈ (toCfgAux r cur c).1,
    Own cur c (toCfgAux r cur c).2 p.1 := by
  induction r with
  | empty => intro cur c p hp; cases hp
  | eps => intro cur c p hp; rw [List.mem_singleton.1 hp]; exact Or.inl rfl
  | sym s => intro cur c p hp; rw [List.mem_singleton.1 hp]; exact Or.inl rfl
  | cat a b iha ihb | alt a b iha ihb =>
    intro cur c
    simp only [toCfgAux]
    exact own_bin (Nat.le_of_succ_le (counter_le a _ _)) (Nat.le_of_succ_le (counter_le b _ _))
      (fun p hp => own_node (iha _ _ p hp))
      (fun p hp => own_node (ihb _ _ p hp)) (by simp)
  | star a iha =>
    intro cur c
    simp only [toCfgAux]
    rw [← List.append_nil (toCfgAux a (nodeName c) (c + 1)).1]
    exact own_bin (Nat.le_of_succ_le (counter_le a _ _)) (Nat.le_refl _)
      (fun p hp => own_node (iha _ _ p hp)) (fun p hp => nomatch hp) (by simp)

theorem Rng.disjoint {a b c d : Nat} {h : String} (h1 : Rng a b h) (h2 : Rng c d h) (hbc : b ≤ c) :
    False := by
  obtain ⟨k, a1, a2, rfl⟩ := h1
  obtain ⟨j, b1, b2, e⟩ := h2
  have := nodeName_inj e
  omega

theorem Rng.not_cur {cur : String} {c a b : Nat} (hcur : ∀ k, c ≤ k → cur ≠ nodeName k)
    (h : Rng a b cur) (hca : c ≤ a) : False := by
  obtain ⟨k, a1, a2, e⟩ := h
  exact hcur k (by omega) e

theorem heads_rng (a : Rx) (d : Nat) : ∀ p ∈ (toCfgAux a (nodeName d) (d + 1)).1,
    Rng d (toCfgAux a (nodeName d) (d + 1)).2 p.1 :=
  fun p hp => own_node (heads_own a _ _ p hp)

theorem node_ne {d : Nat} : ∀ k, d + 1 ≤ k → nodeName d ≠ nodeName k := by
  intro k hk e
  have := nodeName_inj e
  omega

/-- `G` has, under the heads in `S`, exactly the productions `ps` -/
def Frame (G : CFG) (S : String → Prop) (ps : List Prod) : Prop :=
  ∀ p, S p.1 → (p ∈ G.prods ↔ p ∈ ps)

theorem bin_hyps {G : CFG} {cur : String} {c c1 c2 : Nat} {pa pb top : List Prod}
    (hcur : ∀ k, c ≤ k → cur ≠ nodeName k) (ha : ∀ p ∈ pa, Rng c c1 p.1)
    (hb : ∀ p ∈ pb, Rng c1 c2 p.1) (htop : ∀ p ∈ top, p.1 = cur) (h1 : c ≤ c1) (h2 : c1 ≤ c2)
    (hG : Frame G (Own cur c c2) (pa ++ pb ++ top)) :
    Frame G (Rng c c1) pa ∧ Frame G (Rng c1 c2) pb ∧ Frame G (· = cur) top := by
  refine ⟨fun p hr => ?_, fun p hr => ?_, fun p hr => ?_⟩
  · rw [hG p (.inr (hr.mono (Nat.le_refl _) h2)), List.mem_append, List.mem_append,
      or_iff_left fun h => Rng.not_cur hcur (htop p h ▸ hr) (Nat.le_refl _),
      or_iff_left fun h => Rng.disjoint hr (hb p h) (Nat.le_refl _)]
  · rw [hG p (.inr (hr.mono h1 (Nat.le_refl _))), List.mem_append, List.mem_append,
      or_iff_left fun h => Rng.not_cur hcur (htop p h ▸ hr) h1,
      or_iff_right fun h => Rng.disjoint (ha p h) hr (Nat.le_refl _)]
  · rw [hG p (.inl hr), List.mem_append, List.mem_append, or_iff_right]
    rintro (h | h)
    · exact Rng.not_cur hcur (hr ▸ ha p h) (Nat.le_refl _)
    · exact Rng.not_cur hcur (hr ▸ hb p h) h1

theorem gen_iff (r : Rx) : ∀ (G : CFG) (cur : String) (c : Nat),
    (∀ k, c ≤ k → cur ≠ nodeName k) →
    Frame G (Own cur c (toCfgAux r cur c).2) (toCfgAux r cur c).1 →
    ∀ w, G.Gen (.var cur) w ↔ Denote r w := by
  induction r with
  | empty | eps | sym s =>
    intro G cur c _ hG w
    simp [gen_var_iff, hG (cur, _) (.inl rfl), toCfgAux, genList_nil_iff, genList_singleton, gen_ter_iff,
      Lem.empty_denote, Lem.eps_denote, Lem.sym_denote]
  | cat a b iha ihb =>
    intro G cur c hcur hG w
    simp only [toCfgAux] at hG
    obtain ⟨ga, gb, ht⟩ := bin_hyps hcur (heads_rng a c) (heads_rng b _) (by simp)
      (Nat.le_of_succ_le (counter_le a _ _)) (Nat.le_of_succ_le (counter_le b _ _)) hG
    rw [Lem.cat_denote]
    refine gen_cat_iff (iha G _ _ node_ne fun p ho => ga p (own_node ho))
      (ihb G _ _ node_ne fun p ho => gb p (own_node ho)) ?_ w
    intro body; rw [ht (cur, body) rfl]; simp
  | alt a b iha ihb =>
    intro G cur c hcur hG w
    simp only [toCfgAux] at hG
    obtain ⟨ga, gb, ht⟩ := bin_hyps hcur (heads_rng a c) (heads_rng b _) (by simp)
      (Nat.le_of_succ_le (counter_le a _ _)) (Nat.le_of_succ_le (counter_le b _ _)) hG
    rw [Lem.alt_denote]
    refine gen_alt_iff (iha G _ _ node_ne fun p ho => ga p (own_node ho))
      (ihb G _ _ node_ne fun p ho => gb p (own_node ho)) ?_ w
    intro body; rw [ht (cur, body) rfl]; simp
  | star a iha =>
    intro G cur c hcur hG w
    simp only [toCfgAux] at hG
    rw [← List.append_nil (toCfgAux a (nodeName c) (c + 1)).1] at hG
    obtain ⟨ga, -, ht⟩ := bin_hyps hcur (heads_rng a c)
      (fun _ hp => absurd hp List.not_mem_nil) (by simp)
      (Nat.le_of_succ_le (counter_le a _ _)) (Nat.le_refl _) hG
    rw [Lem.star_denote]
    refine gen_star_iff (iha G _ _ node_ne fun p ho => ga p (own_node ho))
      ?_ w
    intro body; rw [ht (cur, body) rfl]; simp [or_comm, or_assoc]

end TC
end Rx
end Pfl
