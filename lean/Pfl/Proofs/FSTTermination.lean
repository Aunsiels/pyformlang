/-
Termination of the exploration loop of `FST.translate`: the generic counting argument.

Every pop either meets a configuration already seen (the stack shrinks) or expands a new one (one
more element of a finite universe `U` is seen, at most `|delta|` successors are pushed), so
`|stack| + |delta| * #(unseen elements of U)` pops are enough.
-/
import Pfl.Proofs.FSTLemmas
import Pfl.Proofs.TerminationBase
import Mathlib.Data.List.ProdSigma
import Mathlib.Data.List.Infix

namespace Pfl
namespace FST
namespace Term
open Lem Pfl.Term
variable {σ : Type} [DecidableEq σ]

theorem filter_disjoint_length {α : Type} (p q : α → Bool) (hpq : ∀ x, ¬ (p x = true ∧ q x = true))
    (l : List α) : (l.filter p).length + (l.filter q).length ≤ l.length := by
  rw [← List.countP_eq_length_filter, ← List.countP_eq_length_filter,
    List.length_eq_countP_add_countP p (l := l)]
  exact Nat.add_le_add_left (List.countP_mono_left fun x _ hq => by
    simpa using fun hp => hpq x ⟨hp, hq⟩) _

theorem length_ite_map_le {α β : Type} (b : Bool) (l : List α) (f : α → β) :
    (if b = true then l.map f else []).length ≤ l.length := by
  cases b <;> simp

theorem length_next_le (T : FST σ) (ml : Option Nat) (c : Cfg σ) :
    (next T ml c).length ≤ T.delta.length := by
  obtain ⟨rem, gen, q⟩ := c
  simp only [next]
  rw [List.length_append]
  refine Nat.le_trans (Nat.add_le_add_left (length_ite_map_le _ _ _) _) ?_
  cases rem with
  | nil =>
    rw [List.length_nil, Nat.zero_add]
    exact List.length_filter_le _ _
  | cons a rest =>
    have := filter_disjoint_length
      (fun t : σ × Option String × σ × List String => decide (t.1 = q ∧ t.2.1 = some a))
      (fun t => decide (t.1 = q ∧ t.2.1 = none)) (by
        intro t h
        simp only [decide_eq_true_eq] at h
        have := h.1.2.symm.trans h.2.2
        cases this) T.delta
    rw [List.length_map]
    exact this

theorem loop_isSome (T : FST σ) (ml : Option Nat) (P : Cfg σ → Prop) (U : List (Cfg σ))
    (hPU : ∀ c, P c → c ∈ U) (hP : ∀ c c', P c → c' ∈ next T ml c → P c') :
    ∀ (fuel : Nat) (stack seen : List (Cfg σ)) (out : List (List String)),
      (∀ c ∈ stack, P c) →
      stack.length + T.delta.length * unseen U seen ≤ fuel →
      (translateLoop T ml fuel stack seen out).isSome := by
  intro fuel stack seen out
  fun_induction translateLoop T ml fuel stack seen out with
  | case1 => exact fun _ _ => rfl
  | case2 => exact fun _ hf => absurd hf (by simp)  -- no fuel and a configuration left
  | case3 fuel rem gen q stack seen out hcs ih =>
    intro hst hf
    rw [List.length_cons, Nat.add_right_comm] at hf
    exact ih (fun d hd => hst d (List.mem_cons_of_mem _ hd)) (Nat.le_of_succ_le_succ hf)
  | case4 fuel rem gen q stack seen out hcs out' reads eps ih =>
    -- `reads ++ eps` is `next T ml (rem, gen, q)`
    intro hst hf
    have hPc := hst _ List.mem_cons_self
    refine ih (fun d hd => (List.mem_append.mp hd).elim
      (fun hd => hP _ d hPc (List.mem_reverse.mp hd)) fun hd => hst d (List.mem_cons_of_mem _ hd)) ?_
    rw [List.length_append, List.length_reverse]
    exact fuel_expand (hPU _ hPc) hcs (length_next_le T ml (rem, gen, q)) hf

end Term
end FST
end Pfl
