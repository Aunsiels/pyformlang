/-
Helper lemmas for C14 (library model `Pfl/Model/LL1Lib.lean`): the FIRST worklist, an instance of
`Worklist` (`LL1Worklist.lean`).  What `get_first_set` returns is closed under the FIRST rules
(`firstSet_closed`) and each of its members has a justification of finite height (`FJ`,
`firstSet_jsound`), for every grammar.  For a well-formed grammar that is what the reference
computes (`firstSet_ref`: the justified pairs lie in `firstSets` / `nullable`, `FJ.ref`, and a
closed dictionary contains them, `closed_ref`), so that the justified pairs are exactly the members
(`FRef.mem` of `FJ.ref`); the reading in terms of generated words (`firstSet_sem`) is then the
reference's, when all body symbols generate.
-/
import Pfl.Model.LL1Lib
import Pfl.Proofs.LL1
import Pfl.Props.C14_LL1
import Pfl.Proofs.LL1Worklist
namespace Pfl
namespace LL1Lib
namespace Lem
open CFG

section SetMap
variable {κ α : Type} [DecidableEq κ] [DecidableEq α]

theorem union_nil (a : List α) : union a [] = a := rfl

end SetMap

/-- `a` is collected by the scan of the body: it lies in the set of a symbol all of whose
predecessors have ε -/
def Reach (f : Sym → List Look) : List Sym → Look → Prop
  | [], _ => False
  | x :: xs, a => a ∈ f x ∨ (Look.eps ∈ f x ∧ Reach f xs a)

/-- membership in `firstProd`, in terms of the sets only: collected by the scan, and `Epsilon` only
when the scan reaches the end of the body -/
def FP (f : Sym → List Look) (b : List Sym) (a : Look) : Prop :=
  Reach f b a ∧ (a = Look.eps → ∀ y ∈ b, Look.eps ∈ f y)

theorem reach_iff_split {f : Sym → List Look} {b : List Sym} {a : Look} :
    Reach f b a ↔ ∃ α Z β, b = α ++ Z :: β ∧ (∀ s ∈ α, Look.eps ∈ f s) ∧ a ∈ f Z := by
  constructor
  · intro h
    induction b with
    | nil => exact h.elim
    | cons x xs ih =>
      rcases h with h | ⟨h1, h⟩
      · exact ⟨[], x, xs, rfl, fun s hs => (by cases hs), h⟩
      · obtain ⟨α, Z, β, e, h2, h3⟩ := ih h
        refine ⟨x :: α, Z, β, by rw [e]; rfl, fun s hs => ?_, h3⟩
        rcases List.mem_cons.mp hs with rfl | hs
        · exact h1
        · exact h2 s hs
  · rintro ⟨α, Z, β, rfl, h1, h2⟩
    induction α with
    | nil => exact Or.inl h2
    | cons x xs ih =>
      exact Or.inr ⟨h1 x List.mem_cons_self, ih fun s hs => h1 s (List.mem_cons_of_mem _ hs)⟩

theorem reach_mem {f : Sym → List Look} {b : List Sym} {a : Look} (h : Reach f b a) :
    ∃ x ∈ b, a ∈ f x := by
  obtain ⟨α, Z, β, rfl, _, hZ⟩ := reach_iff_split.mp h
  exact ⟨Z, List.mem_append_right _ List.mem_cons_self, hZ⟩

theorem reach_mono {f f' : Sym → List Look} (hm : ∀ x a, a ∈ f x → a ∈ f' x) {b : List Sym} {a : Look}
    (h : Reach f b a) : Reach f' b a :=
  reach_iff_split.mpr ((reach_iff_split.mp h).imp fun _ => .imp fun _ => .imp fun _ h =>
    ⟨h.1, fun s hs => hm _ _ (h.2.1 s hs), hm _ _ h.2.2⟩)

theorem reach_congr {f f' : Sym → List Look} {b : List Sym} (hm : ∀ x ∈ b, f' x = f x) {a : Look} :
    Reach f' b a ↔ Reach f b a := by
  induction b with
  | nil => exact Iff.rfl
  | cons x xs ih =>
    show (_ ∨ _ ∧ _) ↔ (_ ∨ _ ∧ _)
    rw [hm x List.mem_cons_self, ih (fun y hy => hm y (List.mem_cons_of_mem _ hy))]

theorem fp_congr {f f' : Sym → List Look} {b : List Sym} (hm : ∀ x ∈ b, f' x = f x) {a : Look} :
    FP f' b a ↔ FP f b a := by
  unfold FP
  rw [reach_congr hm, imp_congr_right fun _ => forall₂_congr fun y hy => by rw [hm y hy]]

theorem reach_eps_of_all {f : Sym → List Look} {b : List Sym} (h : ∀ y ∈ b, Look.eps ∈ f y)
    (hb : b ≠ []) : Reach f b Look.eps := by
  cases b with
  | nil => exact absurd rfl hb
  | cons x xs => exact Or.inl (h x List.mem_cons_self)

theorem go_cons_eps (F : SetMap Sym Look) (acc : List Look) (x : Sym) (xs : List Sym)
    (h : Look.eps ∈ getD F x) :
    firstProd.go F acc (x :: xs) = firstProd.go F (union acc (getD F x)) xs := by
  rw [firstProd.go]; exact if_pos h

theorem go_cons_stop (F : SetMap Sym Look) (acc : List Look) (x : Sym) (xs : List Sym)
    (h : Look.eps ∉ getD F x) : firstProd.go F acc (x :: xs) = (union acc (getD F x), false) := by
  rw [firstProd.go]; exact if_neg h

theorem go_spec (F : SetMap Sym Look) : ∀ (b : List Sym) (acc : List Look),
    ((firstProd.go F acc b).2 = true ↔ ∀ y ∈ b, Look.eps ∈ getD F y) ∧
    (∀ a, a ∈ (firstProd.go F acc b).1 ↔ a ∈ acc ∨ Reach (getD F) b a) ∧
    (acc.Nodup → (firstProd.go F acc b).1.Nodup) := by
  intro b
  induction b with
  | nil =>
    intro acc
    exact ⟨⟨fun _ y hy => (by cases hy), fun _ => rfl⟩, fun a => (or_iff_left id).symm, id⟩
  | cons x xs ih =>
    intro acc
    by_cases he : Look.eps ∈ getD F x
    · rw [go_cons_eps F acc x xs he]
      obtain ⟨ih1, ih2, ih3⟩ := ih (union acc (getD F x))
      refine ⟨?_, fun a => ?_, fun h => ih3 (union_nodup _ _ h)⟩
      · rw [ih1, List.forall_mem_cons, and_iff_right he]
      · rw [ih2, mem_union, or_assoc]
        show _ ↔ (_ ∨ (_ ∨ _ ∧ _))
        rw [and_iff_right he]
    · rw [go_cons_stop F acc x xs he]
      refine ⟨⟨fun h => (by cases h), fun h => absurd (h x List.mem_cons_self) he⟩, fun a => ?_,
        union_nodup _ _⟩
      rw [mem_union]
      show _ ↔ (_ ∨ (_ ∨ _ ∧ _))
      rw [or_iff_left fun h : _ ∧ _ => he h.1]

theorem mem_firstProd (F : SetMap Sym Look) (b : List Sym) (a : Look) :
    a ∈ firstProd F b ↔ FP (getD F) b a := by
  obtain ⟨h1, h2, _⟩ := go_spec F b []
  unfold firstProd FP
  rcases hgo : firstProd.go F [] b with ⟨acc, allEps⟩
  rw [hgo] at h1 h2
  simp only [List.not_mem_nil, false_or] at h1 h2 ⊢
  rw [← h1, ← h2]
  cases allEps with
  | true => exact (and_iff_left fun _ => rfl).symm
  | false =>
    rw [if_neg Bool.false_ne_true, List.mem_filter, decide_eq_true_eq]
    exact and_congr_right fun _ => ⟨fun h e => absurd e h, fun h e => Bool.false_ne_true (h e)⟩

theorem firstProd_nodup (F : SetMap Sym Look) (b : List Sym) : (firstProd F b).Nodup := by
  have := (go_spec F b []).2.2 List.nodup_nil
  unfold firstProd
  generalize firstProd.go F [] b = r at this
  obtain ⟨acc, allEps⟩ := r
  cases allEps
  · exact this.filter _
  · exact this

/-- what membership of `a` in the FIRST set of `s` says in terms of the reference's sets -/
def Ref (G : CFG) (s : Sym) : Look → Prop
  | .ter t => (match s with | .ter t' => t' = t | .var v => (v, t) ∈ G.firstSets)
  | .eps => s ∈ G.nullable
  | .eof => False

theorem frule_of_split {G : CFG} {h t : String} {Z : Sym} {β : List Sym} (hZ : Ref G Z (.ter t)) :
    ∀ α : List Sym, (∀ s ∈ α, s ∈ G.nullable) →
      LL1.FRule G.nullable G.firstSets h (α ++ Z :: β) (h, t)
  | [], _ => by
    cases Z with
    | ter t' => cases (show t' = t from hZ); exact .ter _ β
    | var v => exact .var v t β hZ
  | x :: α, hα => by
    obtain ⟨v, rfl, _⟩ := (mem_nullable_iff G x).mp (hα x List.mem_cons_self)
    exact .skip v _ _ (hα _ List.mem_cons_self)
      (frule_of_split hZ α fun s hs => hα s (List.mem_cons_of_mem _ hs))

end Lem

namespace Term
open CFG Lem

/-- `FJ G n s a`: `a` belongs to FIRST of `s` by a justification of height at most `n`
(`a = Epsilon`: `s` is nullable) -/
inductive FJ (G : CFG) : Nat → Sym → Look → Prop
  | ter (n : Nat) (t : String) : FJ G n (.ter t) (.ter t)
  | eps (n : Nat) (h : String) (body : List Sym) : (h, body) ∈ G.prods →
      (∀ s ∈ body, FJ G n s .eps) → FJ G (n+1) (.var h) .eps
  | first (n : Nat) (h : String) (body : List Sym) (α : List Sym) (Z : Sym) (β : List Sym) (a : Look) :
      (h, body) ∈ G.prods → body = α ++ Z :: β → (∀ s ∈ α, FJ G n s .eps) → FJ G n Z a →
      a ≠ .eps → FJ G (n+1) (.var h) a

theorem FJ.mono {G : CFG} {n : Nat} {s : Sym} {a : Look} (h : FJ G n s a) :
    ∀ m, n ≤ m → FJ G m s a := by
  induction h with
  | ter n t => intro m _; exact .ter m t
  | eps n h body hp _ ih =>
    intro m hm
    cases m with
    | zero => exact absurd hm (Nat.not_succ_le_zero n)
    | succ m' => exact .eps m' h body hp (fun s hs => ih s hs m' (Nat.le_of_succ_le_succ hm))
  | first n h body α Z β a hp hb _ _ ha ih1 ih2 =>
    intro m hm
    cases m with
    | zero => exact absurd hm (Nat.not_succ_le_zero n)
    | succ m' =>
      have hm' := Nat.le_of_succ_le_succ hm
      exact .first m' h body α Z β a hp hb (fun s hs => ih1 s hs m' hm') (ih2 m' hm') ha

theorem FJ.ter_inv {G : CFG} {n : Nat} {t : String} {a : Look} (h : FJ G n (.ter t) a) :
    a = .ter t := by
  cases h; rfl

theorem FJ.eps_inv {G : CFG} {n : Nat} {v : String} (h : FJ G n (.var v) .eps) :
    ∃ m body, n = m + 1 ∧ (v, body) ∈ G.prods ∧ ∀ s ∈ body, FJ G m s .eps := by
  cases h with
  | eps m _ body hp hb => exact ⟨m, body, rfl, hp, hb⟩
  | first m _ body α Z β _ hp hb h1 h2 ha => exact absurd rfl ha

theorem FJ.first_inv {G : CFG} {n : Nat} {v : String} {a : Look} (h : FJ G n (.var v) a)
    (ha : a ≠ .eps) :
    ∃ m body α Z β, n = m + 1 ∧ (v, body) ∈ G.prods ∧ body = α ++ Z :: β ∧
      (∀ s ∈ α, FJ G m s .eps) ∧ FJ G m Z a := by
  cases h with
  | eps m _ body hp hb => exact absurd rfl ha
  | first m _ body α Z β _ hp hb h1 h2 _ => exact ⟨m, body, α, Z, β, rfl, hp, hb, h1, h2⟩

theorem FJ.eof_false {G : CFG} {n : Nat} {s : Sym} (h : FJ G n s .eof) : False := by
  generalize ha : Look.eof = a at h
  induction h with
  | ter n t => cases ha
  | eps => cases ha
  | first n h body α Z β a hp hb _ _ _ _ ih2 => exact ih2 ha

theorem FJ.all_common {G : CFG} {a : Look} : ∀ (l : List Sym), (∀ s ∈ l, ∃ n, FJ G n s a) →
    ∃ n, ∀ s ∈ l, FJ G n s a := by
  intro l
  induction l with
  | nil => intro _; exact ⟨0, fun s hs => by cases hs⟩
  | cons x xs ih =>
    intro h
    obtain ⟨n1, h1⟩ := h x List.mem_cons_self
    obtain ⟨n2, h2⟩ := ih (fun s hs => h s (List.mem_cons_of_mem _ hs))
    refine ⟨max n1 n2, fun s hs => ?_⟩
    rcases List.mem_cons.mp hs with rfl | hs
    · exact h1.mono _ (Nat.le_max_left _ _)
    · exact (h2 s hs).mono _ (Nat.le_max_right _ _)

def JSound (G : CFG) (f : Sym → List Look) : Prop := ∀ k a, a ∈ f k → ∃ n, FJ G n k a

theorem fp_just {G : CFG} {f : Sym → List Look} (hs : JSound G f) (p : Pfl.Prod) (hp : p ∈ G.prods)
    (a : Look) (h : FP f p.2 a) : ∃ n, FJ G n (.var p.1) a := by
  by_cases ha : a = .eps
  · subst ha
    obtain ⟨n, g⟩ := FJ.all_common p.2 (fun s hs' => hs s _ (h.2 rfl s hs'))
    exact ⟨n + 1, .eps n p.1 p.2 hp g⟩
  · obtain ⟨α, Z, β, e, h1, h2⟩ := reach_iff_split.mp h.1
    obtain ⟨n1, g1⟩ := FJ.all_common α (fun s hs' => hs s _ (h1 s hs'))
    obtain ⟨n2, g2⟩ := hs Z a h2
    refine ⟨max n1 n2 + 1, .first _ p.1 p.2 α Z β a hp e ?_ (g2.mono _ (Nat.le_max_right _ _)) ha⟩
    exact fun s hs' => (g1 s hs').mono _ (Nat.le_max_left _ _)

theorem FJ.ref {G : CFG} (hG : G.WF) {n : Nat} {s : Sym} {a : Look} (h : FJ G n s a) : Ref G s a := by
  induction h with
  | ter n t => exact rfl
  | eps n h body hp _ ih => exact CFG.iter_closed G [] (h, body) hp ih
  | first n h body α Z β a hp hb _ _ ha ih1 ih2 =>
    cases a with
    | ter t =>
      exact (LL1.firstSets_least G hG).closed _
        ⟨(h, body), hp, hb ▸ frule_of_split ih2 α ih1⟩
    | eps => exact absurd rfl ha
    | eof => exact ih2

end Term

namespace Lem
open CFG Term

theorem frule_reach {G : CFG} {f : Sym → List Look} {F : List LL1.FPair}
    (hters : ∀ t ∈ G.ters, Look.ter t ∈ f (.ter t)) (hn : ∀ s ∈ G.nullable, Look.eps ∈ f s)
    (hF : ∀ y ∈ F, Look.ter y.2 ∈ f (.var y.1)) {h : String} {b : List Sym} {x : LL1.FPair}
    (hr : LL1.FRule G.nullable F h b x) (hb : ∀ t, Sym.ter t ∈ b → t ∈ G.ters) :
    x.1 = h ∧ Reach f b (.ter x.2) := by
  induction hr with
  | ter t rest => exact ⟨rfl, Or.inl (hters t (hb t List.mem_cons_self))⟩
  | var v t rest hm => exact ⟨rfl, Or.inl (hF _ hm)⟩
  | skip v rest x hv _ ih =>
    obtain ⟨e, hr⟩ := ih fun t ht => hb t (List.mem_cons_of_mem _ ht)
    exact ⟨e, Or.inr ⟨hn _ hv, hr⟩⟩

/-- a dictionary closed under the FIRST rules holds the reference's sets: induction over the rounds
of `nullable`, then over the least set closed under `FRule` -/
theorem closed_ref (G : CFG) (hG : G.WF) (f : Sym → List Look)
    (hters : ∀ t ∈ G.ters, Look.ter t ∈ f (.ter t))
    (heps : ∀ p ∈ G.prods, p.2 = [] → Look.eps ∈ f (.var p.1))
    (hcl : ∀ p ∈ G.prods, ∀ a, FP f p.2 a → a ∈ f (.var p.1)) :
    (∀ s ∈ G.nullable, Look.eps ∈ f s) ∧ ∀ y ∈ G.firstSets, Look.ter y.2 ∈ f (.var y.1) := by
  have hn : ∀ s ∈ G.nullable, Look.eps ∈ f s := by
    refine stepF_horn.iter_forall (iter_iter _) (fun s => Look.eps ∈ f s) (fun p hp hbody => ?_) _ []
      (fun _ h => by cases h)
    by_cases hb : p.2 = []
    · exact heps p hp hb
    · exact hcl p hp _ ⟨reach_eps_of_all hbody hb, fun _ => hbody⟩
  refine ⟨hn, (LL1.firstSets_least G hG).ind _ ?_ (fun _ h => by cases h)⟩
  rintro F x hF ⟨p, hp, hr⟩
  obtain ⟨e, hr⟩ := frule_reach hters hn hF hr (hG.ter_mem p hp)
  rw [e]
  exact hcl p hp _ ⟨hr, nofun⟩

theorem mem_trig (G : CFG) (s : Sym) (h : String) :
    h ∈ trig (triggers G) s ↔ ∃ p ∈ G.prods, p.1 = h ∧ s ∈ p.2 := by
  unfold trig triggers
  simp only [List.mem_map, List.mem_filter, List.mem_flatMap, decide_eq_true_eq]
  constructor
  · rintro ⟨e, ⟨⟨p, hp, x, hx, rfl⟩, rfl⟩, rfl⟩
    exact ⟨p, hp, rfl, hx⟩
  · rintro ⟨p, hp, rfl, hs⟩
    exact ⟨(s, p.1), ⟨⟨p, hp, s, hs, rfl⟩, rfl⟩, rfl⟩

/-- the FIRST worklist: the queue holds heads, the items of a head are its productions with a
non-empty body -/
def firstW (G : CFG) (T : List (Sym × String)) : Worklist Sym Look String Pfl.Prod where
  items cur := (G.prods.filter (·.1 = cur)).filter (fun p => !p.2.isEmpty)
  key p := .var p.1
  val F p := firstProd F p.2
  readers := trig T

theorem mem_firstW_items {G : CFG} {T : List (Sym × String)} {cur : String} {p : Pfl.Prod} :
    p ∈ (firstW G T).items cur ↔ p ∈ G.prods ∧ p.1 = cur ∧ p.2 ≠ [] := by
  show p ∈ List.filter _ (List.filter _ _) ↔ _
  rw [List.mem_filter, List.mem_filter, decide_eq_true_eq, and_assoc, Bool.not_eq_true',
    ← Bool.not_eq_true, List.isEmpty_iff]

theorem foldl_skip {σ π : Type} (c : π → Bool) (g : σ → π → σ) (l : List π) (s : σ) :
    l.foldl (fun s x => if c x then s else g s x) s = (l.filter (fun x => !c x)).foldl g s := by
  rw [List.foldl_filter]
  congr; funext s x
  cases c x <;> rfl

theorem firstLoop_eq (G : CFG) (T : List (Sym × String)) :
    ∀ fuel F q, firstLoop G T fuel F q = (firstW G T).run fuel F q := by
  intro fuel
  induction fuel with
  | zero => intro F q; cases q <;> rfl
  | succ fuel ih =>
    intro F q
    cases q with
    | nil => rfl
    | cons x q' =>
      have hl := List.getLast?_eq_some_getLast (List.cons_ne_nil x q')
      rw [Worklist.run_succ _ _ _ _ _ hl, ← ih]
      show (match (x :: q').getLast? with
        | none => some F
        | some cur => _) = _
      rw [hl]
      exact congrArg (fun st : SetMap Sym Look × List String => firstLoop G T fuel st.1 st.2)
        (foldl_skip (fun p : Pfl.Prod => p.2.isEmpty) _ _ _)

/-- what `_initialize_first_set` writes under a key: a terminal for itself, `Epsilon` for a head -/
def seedOf : Sym → Look
  | .ter t => .ter t
  | .var _ => .eps

/-- the keys `_initialize_first_set` writes, in its order -/
def seedKeys (G : CFG) : List Sym :=
  G.ters.map Sym.ter ++ (G.prods.filter (·.2.isEmpty)).map (Sym.var ·.1)

def seed1 (T : List (Sym × String)) (st : SetMap Sym Look × List String) (k : Sym) :
    SetMap Sym Look × List String :=
  (setKey st.1 k [seedOf k], (trig T k).foldl qpush st.2)

theorem firstInit_seed (G : CFG) (T : List (Sym × String)) :
    firstInit G T = (seedKeys G).foldl (seed1 T) ([], []) := by
  unfold seedKeys firstInit
  rw [List.foldl_append, List.foldl_map, List.foldl_map, List.foldl_filter]
  rfl

theorem mem_seedKeys {G : CFG} {k : Sym} : k ∈ seedKeys G ↔
    (∃ t ∈ G.ters, .ter t = k) ∨ ∃ p ∈ G.prods, p.2 = [] ∧ .var p.1 = k := by
  unfold seedKeys
  simp only [List.mem_append, List.mem_map, List.mem_filter, List.isEmpty_iff, and_assoc]

/-- after the keys `l`: these hold their seed and nothing else is there (`setKey` overwrites a seed
with itself), their triggers are queued, the queue is a duplicate-free list of heads -/
structure SeedInv (G : CFG) (l : List Sym) (st : SetMap Sym Look × List String) : Prop where
  val : ∀ k, getD st.1 k = if k ∈ l then [seedOf k] else []
  entry : AtEntry (trig (triggers G)) (fun h => ∃ p ∈ G.prods, p.1 = h) st

theorem seed_step (G : CFG) (done : List Sym) (x : Sym) (st : SetMap Sym Look × List String)
    (h : SeedInv G done st) : SeedInv G (done ++ [x]) (seed1 (triggers G) st x) := by
  refine ⟨fun k => ?_, h.entry.write x _ _ (fun k hk a ha => by rwa [getD_setKey_ne _ _ _ _ hk] at ha)
    (Or.inl rfl) fun y hy => ?_⟩
  · show getD (setKey _ _ _) k = _
    rw [getD_setKey, h.val]
    by_cases hk : k = x
    · rw [if_pos hk, if_pos (hk ▸ List.mem_append_right _ List.mem_cons_self), hk]
    · rw [if_neg hk]
      simp only [List.mem_append, List.mem_singleton, hk, or_false]
  · obtain ⟨p, hp, e, _⟩ := (mem_trig G x y).mp hy
    exact ⟨p, hp, e⟩

theorem firstInit_inv (G : CFG) : SeedInv G (seedKeys G) (firstInit G (triggers G)) :=
  firstInit_seed G _ ▸ foldl_inv_prefix (fun st l => SeedInv G l st) _ _
    (fun st l x _ _ h => seed_step G l x st h) _ ⟨fun _ => rfl, fun _ h => absurd rfl h, List.nodup_nil, nofun⟩

theorem firstInit_mem (G : CFG) {k : Sym} {a : Look} (h : a ∈ getD (firstInit G (triggers G)).1 k) :
    k ∈ seedKeys G ∧ a = seedOf k := by
  rw [(firstInit_inv G).val] at h
  split at h
  · next hk => exact ⟨hk, List.mem_singleton.mp h⟩
  · cases h

theorem firstInit_ters (G : CFG) (t : String) (ht : t ∈ G.ters) :
    getD (firstInit G (triggers G)).1 (.ter t) = [Look.ter t] :=
  ((firstInit_inv G).val _).trans (if_pos (mem_seedKeys.mpr (Or.inl ⟨t, ht, rfl⟩)))

theorem firstInit_eps (G : CFG) (p : Pfl.Prod) (hp : p ∈ G.prods) (hb : p.2 = []) :
    Look.eps ∈ getD (firstInit G (triggers G)).1 (.var p.1) := by
  rw [(firstInit_inv G).val, if_pos (mem_seedKeys.mpr (Or.inr ⟨p, hp, hb, rfl⟩))]
  exact List.mem_singleton.mpr rfl

theorem firstSet_run (G : CFG) (fuel : Nat) (F : SetMap Sym Look) (h : firstSet G fuel = some F) :
    (firstW G (triggers G)).run fuel (firstInit G (triggers G)).1 (firstInit G (triggers G)).2 =
      some F :=
  (firstLoop_eq G _ fuel _ _).symm.trans h

theorem firstSet_closed (G : CFG) (fuel : Nat) (F : SetMap Sym Look) (h : firstSet G fuel = some F)
    (p : Pfl.Prod) (hp : p ∈ G.prods) (a : Look) (ha : FP (getD F) p.2 a) : a ∈ getD F (.var p.1) := by
  by_cases hb : p.2 = []
  · exact (hb ▸ ha.1 : Reach _ [] a).elim
  · -- the constraint of `p` reads the symbols of its body, and `p.1` is queued when one of them grows
    exact (firstW G (triggers G)).run_sat (fun f a => FP f p.2 a) (· ∈ p.2) (.var p.1) p.1
      (fun f f' hm a ha => (fp_congr hm).mp ha)
      (fun a ha => let ⟨_, _, hax⟩ := reach_mem ha.1; List.not_mem_nil hax)
      (fun k hk => (mem_trig G _ _).mpr ⟨p, hp, rfl, hk⟩)
      ⟨p, mem_firstW_items.mpr ⟨hp, rfl, hb⟩, rfl, fun F a ha => (mem_firstProd _ _ _).mpr ha⟩
      fuel _ _ F (firstInit_inv G).entry (firstSet_run G fuel F h) a ha

/-- the seeds of the initialisation stay: an item writes only the set of a variable, and only adds -/
theorem firstSet_ters (G : CFG) (fuel : Nat) (F : SetMap Sym Look) (h : firstSet G fuel = some F)
    (t : String) (ht : t ∈ G.ters) : getD F (.ter t) = [Look.ter t] :=
  (firstW G (triggers G)).run_dict (fun F => getD F (.ter t) = [Look.ter t])
    (fun _ _ _ _ h => (getD_upd _ _ _ _ _).trans ((if_neg (by intro e; cases e)).trans h))
    fuel _ _ F (firstInit_ters G t ht) (firstSet_run G fuel F h)

theorem firstSet_eps (G : CFG) (fuel : Nat) (F : SetMap Sym Look) (h : firstSet G fuel = some F)
    (p : Pfl.Prod) (hp : p ∈ G.prods) (hb : p.2 = []) : Look.eps ∈ getD F (.var p.1) :=
  (firstW G (triggers G)).run_dict (fun F => Look.eps ∈ getD F (.var p.1))
    (fun _ _ _ _ h => mem_upd_mono _ _ _ _ h)
    fuel _ _ F (firstInit_eps G p hp hb) (firstSet_run G fuel F h)

theorem firstSet_jsound (G : CFG) (fuel : Nat) (F : SetMap Sym Look) (h : firstSet G fuel = some F) :
    JSound G (getD F) := by
  refine (firstW G (triggers G)).run_dict (fun F => JSound G (getD F)) ?_
    fuel _ _ F ?_ (firstSet_run G fuel F h)
  · intro st cur p hp hst
    exact upd_forall _ _ _ _ (fun k a => ∃ n, FJ G n k a) hst
      (fun a ha => fp_just hst p (mem_firstW_items.mp hp).1 a ((mem_firstProd _ _ _).mp ha))
  · intro k a ha
    obtain ⟨hk, rfl⟩ := firstInit_mem G ha
    rcases mem_seedKeys.mp hk with ⟨t, _, rfl⟩ | ⟨p, hp, hb, rfl⟩
    · exact ⟨0, .ter 0 t⟩
    · exact ⟨1, .eps 0 p.1 p.2 hp (by rw [hb]; intro s hs; cases hs)⟩

/-- the FIRST dictionary `f` holds what the reference computes, and nothing else -/
structure FRef (G : CFG) (f : Sym → List Look) : Prop where
  sound : ∀ s a, a ∈ f s → Ref G s a
  ters : ∀ t ∈ G.ters, Look.ter t ∈ f (.ter t)
  nul : ∀ s ∈ G.nullable, Look.eps ∈ f s
  first : ∀ y ∈ G.firstSets, Look.ter y.2 ∈ f (.var y.1)

theorem FRef.mem {G : CFG} {f : Sym → List Look} (hf : FRef G f) {s : Sym} {a : Look}
    (h : Ref G s a) (hs : ∀ t, s = .ter t → t ∈ G.ters) : a ∈ f s := by
  cases a with
  | ter t =>
    cases s with
    | ter t' => cases (show t' = t from h); exact hf.ters _ (hs _ rfl)
    | var v => exact hf.first (v, t) h
  | eps => exact hf.nul s h
  | eof => exact h.elim

theorem FRef.nul_iff {G : CFG} {f : Sym → List Look} (hf : FRef G f) (s : Sym) :
    s ∈ G.nullable ↔ Look.eps ∈ f s :=
  ⟨hf.nul s, hf.sound s _⟩

theorem firstSet_ref (G : CFG) (hG : G.WF) (fuel : Nat) (F : SetMap Sym Look)
    (h : firstSet G fuel = some F) : FRef G (getD F) :=
  have hters := fun t ht => by rw [firstSet_ters G fuel F h t ht]; exact List.mem_singleton.mpr rfl
  have hc := closed_ref G hG (getD F) hters (firstSet_eps G fuel F h)
    (firstSet_closed G fuel F h)
  ⟨fun s a ha => let ⟨_, hj⟩ := firstSet_jsound G fuel F h s a ha; hj.ref hG, hters, hc.1, hc.2⟩

theorem firstSet_sem (G : CFG) (hg : LL1.BodiesGen G) (hG : G.WF)
    (fuel : Nat) (F : SetMap Sym Look) (h : firstSet G fuel = some F) (s : Sym)
    (hs : ∀ t, s = .ter t → t ∈ G.ters) :
    (∀ t, Look.ter t ∈ getD F s ↔ ∃ w, G.Gen s (t :: w)) ∧
    (Look.eps ∈ getD F s ↔ G.Gen s []) ∧ Look.eof ∉ getD F s := by
  have hf := firstSet_ref G hG fuel F h
  refine ⟨fun t => ?_, (hf.nul_iff s).symm.trans (mem_nullable G s),
    hf.sound s _⟩
  cases s with
  | ter t' =>
    exact ⟨fun ht => ⟨[], (show t' = t from hf.sound _ _ ht) ▸ Gen.ter t'⟩,
      fun ⟨w, hw⟩ => by cases hw; exact hf.ters _ (hs _ rfl)⟩
  | var v =>
    exact (Iff.intro (hf.sound (.var v) (.ter t)) (hf.first (v, t))).trans
      (LL1.mem_firstSets_iff' G hg hG v t)

end Lem

end LL1Lib
end Pfl
