/-
Helper lemmas for C17 — indexed grammars: the marking fixpoint (`markSaturate`) is sound and
complete for emptiness (completeness through `ClosedR`, which the library loop uses as well),
`removeUseless` keeps the verdict.
-/
import Pfl.Spec.Indexed
import Pfl.Proofs.FABase
import Pfl.Proofs.HornSat

namespace Pfl.IG.Lem

theorem mem_insertS {x y : String} {l : List String} : x ∈ insertS y l ↔ x = y ∨ x ∈ l := by
  fun_induction insertS y l with
  | case1 => simp
  | case2 zs => simp
  | case3 z zs _ _ => simp
  | case4 z zs _ _ ih =>
    -- `y` goes into the tail behind `z`: membership does not see the position (no sortedness is
    -- used), by `ih` both sides are `x = y`, `x = z`, `x ∈ zs` in two orders
    simp only [List.mem_cons, ih]; grind

theorem mem_normS {x : String} {l : List String} : x ∈ normS l ↔ x ∈ l := by
  induction l with
  | nil => simp [normS]
  | cons y ys ih =>
    show x ∈ insertS y (normS ys) ↔ _
    rw [mem_insertS, ih]; simp

theorem mem_unionS {x : String} {a b : List String} : x ∈ unionS a b ↔ x ∈ a ∨ x ∈ b := by
  unfold unionS; rw [mem_normS]; simp

theorem mem_addMarks {M new : List Mark} {m : Mark} : m ∈ addMarks M new ↔ m ∈ M ∨ m ∈ new :=
  mem_foldl_insert_end new M m

/-- the marks a duplication / production rule proposes from `M` -/
def dupCands (M : List Mark) (a b c : String) : List Mark :=
  (M.filter (·.1 = b)).flatMap fun e0 => (M.filter (·.1 = c)).map fun e1 => (a, unionS e0.2 e1.2)

def prodCands (G : IG) (M : List Mark) (a b f : String) : List Mark :=
  (M.filter (·.1 = b)).flatMap fun e =>
    if e.2.isEmpty then [(a, [])] else
    match combos G M f e.2 with
    | none => []
    | some cs => cs.map fun c => (a, c)

theorem mem_dupCands {M : List Mark} {a b c : String} {m : Mark} :
    m ∈ dupCands M a b c ↔ ∃ E0 E1, (b, E0) ∈ M ∧ (c, E1) ∈ M ∧ m = (a, unionS E0 E1) := by
  unfold dupCands
  simp only [List.mem_flatMap, List.mem_filter, List.mem_map, decide_eq_true_eq]
  constructor
  · rintro ⟨⟨b', E0⟩, ⟨h0, rfl⟩, ⟨c', E1⟩, ⟨h1, rfl⟩, rfl⟩
    exact ⟨E0, E1, h0, h1, rfl⟩
  · rintro ⟨E0, E1, h0, h1, rfl⟩
    exact ⟨(b, E0), ⟨h0, rfl⟩, (c, E1), ⟨h1, rfl⟩, rfl⟩

/-- the shortcut for `E = ∅` is the general case: `combos` of no non-terminal is the one empty
choice -/
theorem prodCand_eq (G : IG) (M : List Mark) (a f : String) (E : List String) :
    (if E.isEmpty then [((a, []) : Mark)] else
      match combos G M f E with
      | none => []
      | some cs => cs.map fun c => (a, c)) =
    ((combos G M f E).getD []).map fun c => (a, c) := by
  cases E with
  | nil => rfl
  | cons c E => cases combos G M f (c :: E) <;> rfl

theorem mem_prodCands {G : IG} {M : List Mark} {a b f : String} {m : Mark} :
    m ∈ prodCands G M a b f ↔ ∃ E, (b, E) ∈ M ∧ ∃ c ∈ (combos G M f E).getD [], m = (a, c) := by
  unfold prodCands
  simp only [prodCand_eq, List.mem_flatMap, List.mem_filter, List.mem_map, decide_eq_true_eq]
  constructor
  · rintro ⟨⟨b', E⟩, ⟨h0, rfl⟩, c, hc, rfl⟩
    exact ⟨E, h0, c, hc, rfl⟩
  · rintro ⟨E, h0, c, hc, rfl⟩
    exact ⟨(b, E), ⟨h0, rfl⟩, c, hc, rfl⟩

/-- the marks that rule `r` proposes from `M` -/
def cands (G : IG) (M : List Mark) : IRule → List Mark
  | .dup a b c => dupCands M a b c
  | .prod a b f => prodCands G M a b f
  | _ => []

theorem markStep_pass (G : IG) : Pass (fun M m => ∃ r ∈ G.rules, m ∈ cands G M r) G.markStep :=
  Pass.foldl (fun r M m => m ∈ cands G M r) _ G.rules fun r _ => by
    cases r with
    | dup a b c =>
      exact (Pass.add (fun m : Mark => m) fun M => dupCands M a b c).congr (by simp [cands])
    | prod a b f =>
      exact (Pass.add (fun m : Mark => m) fun M => prodCands G M a b f).congr (by simp [cands])
    | end_ a t => exact Pass.id.congr (by simp [cands])
    | cons f a b => exact Pass.id.congr (by simp [cands])

theorem markSaturate_least {G : IG} {fuel : Nat} {M M' : List Mark}
    (h : G.markSaturate fuel M = some M') :
    Least (fun M m => ∃ r ∈ G.rules, m ∈ cands G M r) M M' :=
  (markStep_pass G).untilFixed G.markSaturate (fun _ => rfl) (fun _ _ => rfl) h

/-- the sets offered for `c` on the index `f`: those marked for the right side of one of its
consumption rules -/
def popOpts (G : IG) (M : List Mark) (f c : String) : List (List String) :=
  (G.rules.flatMap fun r => match r with
    | .cons f' a d => if f' = f ∧ a = c then (M.filter (·.1 = d)).map (·.2) else []
    | _ => []).eraseDups

def hasPop (G : IG) (f c : String) : Bool :=
  G.rules.any fun r => match r with
    | .cons f' a _ => f' = f ∧ a = c
    | _ => false

theorem combos_cons (G : IG) (M : List Mark) (f c : String) (rest : List String) :
    combos G M f (c :: rest) =
      if !hasPop G f c then none else
      match combos G M f rest with
      | none => none
      | some cs => some ((popOpts G M f c).flatMap fun o => cs.map fun c' => unionS o c') := rfl

theorem hasPop_of_rule {G : IG} {f c d : String} (hr : IRule.cons f c d ∈ G.rules) :
    hasPop G f c = true :=
  List.any_eq_true.mpr ⟨_, hr, decide_eq_true ⟨rfl, rfl⟩⟩

theorem mem_popOpts {G : IG} {M : List Mark} {f c : String} {o : List String} :
    o ∈ popOpts G M f c ↔ ∃ d, IRule.cons f c d ∈ G.rules ∧ (d, o) ∈ M := by
  unfold popOpts
  rw [List.mem_eraseDups, List.mem_flatMap]
  constructor
  · rintro ⟨r, hr, ho⟩
    cases r with
    | cons f' a d =>
      replace ho : o ∈ if f' = f ∧ a = c then (M.filter (·.1 = d)).map (·.2) else [] := ho
      by_cases hfa : f' = f ∧ a = c
      · rw [if_pos hfa] at ho
        obtain ⟨rfl, rfl⟩ := hfa
        obtain ⟨⟨d', o'⟩, hf, rfl⟩ := List.mem_map.mp ho
        obtain ⟨hm, hd⟩ := List.mem_filter.mp hf
        cases of_decide_eq_true hd
        exact ⟨d', hr, hm⟩
      · rw [if_neg hfa] at ho; cases ho
    | end_ _ _ => cases ho
    | prod _ _ _ => cases ho
    | dup _ _ _ => cases ho
  · rintro ⟨d, hr, hm⟩
    refine ⟨_, hr, ?_⟩
    show o ∈ if f = f ∧ c = c then (M.filter (·.1 = d)).map (·.2) else []
    rw [if_pos ⟨rfl, rfl⟩]
    exact List.mem_map.mpr ⟨(d, o), List.mem_filter.mpr ⟨hm, decide_eq_true rfl⟩, rfl⟩

theorem mem_combos_cons {G : IG} {M : List Mark} {f c : String} {E t : List String} :
    t ∈ (combos G M f (c :: E)).getD [] ↔ hasPop G f c = true ∧
      ∃ o ∈ popOpts G M f c, ∃ c' ∈ (combos G M f E).getD [], unionS o c' = t := by
  rw [combos_cons]
  cases hasPop G f c with
  | false => simp
  | true =>
    cases combos G M f E with
    | none => simp
    | some cs => simp only [Bool.not_true, Bool.false_eq_true, if_false, Option.getD_some,
        List.mem_flatMap, List.mem_map, true_and]

/-- `combos` up to inclusion, which is all that soundness (`Q := (· ∈ t)`) and closure read: some
choice lies inside `Q` exactly when every member of `E` pops `f` into a marked set inside `Q`.
Only the list of choices counts: there is none, whether `combos` says `none` (a member without
consumption rule) or `some []` (one without marked option). -/
theorem exists_combos {G : IG} {M : List Mark} {f : String} (Q : String → Prop) (E : List String) :
    (∃ t ∈ (combos G M f E).getD [], ∀ x ∈ t, Q x) ↔
      ∀ C ∈ E, ∃ D ED, IRule.cons f C D ∈ G.rules ∧ (D, ED) ∈ M ∧ ∀ x ∈ ED, Q x := by
  induction E with
  | nil => exact ⟨fun _ _ => nofun, fun _ => ⟨[], List.mem_cons_self, fun _ => nofun⟩⟩
  | cons c E ih =>
    rw [List.forall_mem_cons, ← ih]
    constructor
    · rintro ⟨t, ht, hQ⟩
      obtain ⟨-, o, ho, c', hc', rfl⟩ := mem_combos_cons.mp ht
      obtain ⟨d, hr, hm⟩ := mem_popOpts.mp ho
      exact ⟨⟨d, o, hr, hm, fun x hx => hQ x (mem_unionS.mpr (Or.inl hx))⟩,
        c', hc', fun x hx => hQ x (mem_unionS.mpr (Or.inr hx))⟩
    · rintro ⟨⟨D, ED, hr, hm, hQ⟩, c', hc', hQ'⟩
      exact ⟨_, mem_combos_cons.mpr ⟨hasPop_of_rule hr, ED, mem_popOpts.mpr ⟨D, hr, hm⟩, c', hc', rfl⟩,
        fun x hx => (mem_unionS.mp hx).elim (hQ x) (hQ' x)⟩

/-- the mark `(a, E)` is true: an index stack from which every member of `E` derives a word is one
from which `a` derives a word.  (Soundness: with `E = []` the premise is void.) -/
def Good (G : IG) (m : Mark) : Prop :=
  ∀ σ, (∀ b ∈ m.2, G.Derivable b σ) → G.Derivable m.1 σ

theorem Good.nil {G : IG} {a : String} (h : Good G (a, [])) : G.Derivable a [] :=
  h [] fun _ hb => absurd hb List.not_mem_nil

theorem Good.dup {G : IG} {a b c : String} {E0 E1 E : List String}
    (hr : IRule.dup a b c ∈ G.rules) (h0 : Good G (b, E0)) (h1 : Good G (c, E1))
    (hE : ∀ x, x ∈ E0 ∨ x ∈ E1 → x ∈ E) : Good G (a, E) :=
  fun σ hσ => .dup hr (h0 σ fun x hx => hσ x (hE x (Or.inl hx)))
    (h1 σ fun x hx => hσ x (hE x (Or.inr hx)))

/-- the premise on `E` and `t` is that of `RuleClosed` for a family `R` of true marks, with
`Q := (· ∈ t)` -/
theorem Good.prod {G : IG} {a b f : String} {E t : List String} {R : String → List String → Prop}
    (hr : IRule.prod a b f ∈ G.rules) (hE : Good G (b, E)) (hR : ∀ D ED, R D ED → Good G (D, ED))
    (h : ∀ C ∈ E, ∃ D ED, IRule.cons f C D ∈ G.rules ∧ R D ED ∧ ∀ x ∈ ED, x ∈ t) :
    Good G (a, t) := by
  intro σ hσ
  refine .prod hr (hE (f :: σ) fun C hC => ?_)
  obtain ⟨D, ED, hc, hm, hsub⟩ := h C hC
  exact .cons hc (hR D ED hm σ fun x hx => hσ x (hsub x hx))

theorem mem_initMarks {G : IG} {a : String} {E : List String} :
    (a, E) ∈ G.initMarks ↔ (a ∈ G.nonTerminals ∧ E = [a]) ∨
      (a ∈ G.nonTerminals ∧ E = [] ∧ ∃ t, IRule.end_ a t ∈ G.rules) := by
  unfold initMarks
  simp only [List.mem_append, List.mem_map, List.mem_filter, List.any_eq_true, Prod.mk.injEq]
  constructor
  · rintro (⟨a', h, rfl, rfl⟩ | ⟨a', ⟨h, r, hr, hm⟩, rfl, rfl⟩)
    · exact Or.inl ⟨h, rfl⟩
    · refine Or.inr ⟨h, rfl, ?_⟩
      cases r with
      | end_ a'' t => simp at hm; subst hm; exact ⟨t, hr⟩
      | prod _ _ _ => simp at hm
      | cons _ _ _ => simp at hm
      | dup _ _ _ => simp at hm
  · rintro (⟨h, rfl⟩ | ⟨h, rfl, t, ht⟩)
    · exact Or.inl ⟨a, h, rfl, rfl⟩
    · exact Or.inr ⟨a, ⟨h, _, ht, by simp⟩, rfl, rfl⟩

theorem initMarks_good (G : IG) : ∀ m ∈ G.initMarks, Good G m := by
  rintro ⟨a, E⟩ hm σ hσ
  rcases mem_initMarks.mp hm with ⟨_, rfl⟩ | ⟨_, _, t, ht⟩
  · exact hσ _ List.mem_cons_self
  · exact .end_ ht

theorem cands_good (G : IG) (M : List Mark) (m : Mark) (hM : ∀ y ∈ M, Good G y) :
    (∃ r ∈ G.rules, m ∈ cands G M r) → Good G m := by
  rintro ⟨r, hr, hm⟩
  cases r with
  | end_ a t => cases hm
  | cons f a b => cases hm
  | dup a b c =>
    obtain ⟨E0, E1, h0, h1, rfl⟩ := mem_dupCands.mp hm
    exact Good.dup hr (hM _ h0) (hM _ h1) fun _ => mem_unionS.mpr
  | prod a b f =>
    obtain ⟨E, h0, c, hc, rfl⟩ := mem_prodCands.mp hm
    exact Good.prod hr (hM _ h0) (R := fun D ED => (D, ED) ∈ M) (fun _ _ => hM _)
      ((exists_combos (· ∈ c) E).mp ⟨c, hc, fun _ h => h⟩)

theorem marks_good (G : IG) (fuel : Nat) (M : List Mark)
    (h : G.markSaturate fuel G.initMarks = some M) : ∀ m ∈ M, Good G m :=
  (markSaturate_least h).ind (Good G) (cands_good G) (initMarks_good G)

def headOf (r : IRule) : String :=
  match r with
  | .end_ a _ => a
  | .prod a _ _ => a
  | .cons _ a _ => a
  | .dup a _ _ => a

def bodyOf (r : IRule) : List String :=
  match r with
  | .end_ _ _ => []
  | .prod _ b _ => [b]
  | .cons _ _ b => [b]
  | .dup _ b c => [b, c]

/-- the non-terminals of a rule, as `nonTerminals` collects them -/
def ntsOf (r : IRule) : List String :=
  match r with
  | .end_ a _ => [a]
  | .prod a b _ => [a, b]
  | .cons _ a b => [a, b]
  | .dup a b c => [a, b, c]

theorem mem_nonTerminals_of_rule {G : IG} {r : IRule} (hr : r ∈ G.rules) {x : String}
    (hx : x ∈ ntsOf r) : x ∈ G.nonTerminals := by
  unfold nonTerminals
  rw [List.mem_eraseDups]
  exact List.mem_cons_of_mem _ (List.mem_flatMap.mpr ⟨r, hr, hx⟩)

theorem ntsOf_eq (r : IRule) : ntsOf r = headOf r :: bodyOf r := by cases r <;> rfl

theorem headOf_mem_nonTerminals {G : IG} {r : IRule} (hr : r ∈ G.rules) :
    headOf r ∈ G.nonTerminals :=
  mem_nonTerminals_of_rule hr (ntsOf_eq r ▸ List.mem_cons_self)

theorem start_mem_nonTerminals (G : IG) : G.start ∈ G.nonTerminals := by
  unfold nonTerminals
  rw [List.mem_eraseDups]; exact List.mem_cons_self

/-- the family of marks `R` (`R a E`: the set `E` is marked for `a`) is closed under the inferences
of one duplication or production rule, where the conclusion may be any marked subset of the exact
one (the library adds `E1` instead of `E0 ∪ E1` when `E0 ⊆ E1`) -/
def RuleClosed (G : IG) (R : String → List String → Prop) : IRule → Prop
  | .dup a b c => ∀ E0, R b E0 → ∀ E1, R c E1 → ∃ E, R a E ∧ ∀ x ∈ E, x ∈ E0 ∨ x ∈ E1
  | .prod a b f => ∀ E, R b E → ∀ Q : String → Prop,
      (∀ C ∈ E, ∃ D ED, IRule.cons f C D ∈ G.rules ∧ R D ED ∧ ∀ x ∈ ED, Q x) →
      ∃ E', R a E' ∧ ∀ x ∈ E', Q x
  | _ => True

/-- a family of marks that holds the initial marks and is closed under the rules.  The saturation
model and the table of the library at a regular end are both of this kind. -/
structure ClosedR (G : IG) (R : String → List String → Prop) : Prop where
  init : ∀ a E, (a, E) ∈ G.initMarks → R a E
  rule : ∀ r ∈ G.rules, RuleClosed G R r

theorem marks_closed (G : IG) (fuel : Nat) (M : List Mark)
    (h : G.markSaturate fuel G.initMarks = some M) : ClosedR G fun a E => (a, E) ∈ M := by
  have hl := markSaturate_least h
  refine ⟨fun _ _ => hl.seed _, fun r hr => ?_⟩
  cases r with
  | dup a b c =>
    intro E0 h0 E1 h1
    exact ⟨_, hl.closed _ ⟨_, hr, mem_dupCands.mpr ⟨E0, E1, h0, h1, rfl⟩⟩,
      fun _ => mem_unionS.mp⟩
  | prod a b f =>
    intro E h0 Q hQ
    obtain ⟨c, hc, hex⟩ := (exists_combos Q E).mpr hQ
    exact ⟨c, hl.closed _ ⟨_, hr, mem_prodCands.mpr ⟨E, h0, c, hc, rfl⟩⟩, hex⟩
  | end_ a t => trivial
  | cons f a b => trivial

/-- Aho's invariant, by recursion on the stack: `c` pops the top of the stack into a non-terminal
that has a marked set all of whose members pop the rest.  At `f :: σ` this is, word for word, what
`RuleClosed` asks of a member of `E` for a production rule on `f` with `Q := Pops G R σ`; that is
why a plain induction on the derivation proves `ClosedR.exits`. -/
def Pops (G : IG) (R : String → List String → Prop) : List String → String → Prop
  | [], _ => False
  | f :: σ, c => ∃ D ED, IRule.cons f c D ∈ G.rules ∧ R D ED ∧ ∀ x ∈ ED, Pops G R σ x

theorem ClosedR.exits {G : IG} {R : String → List String → Prop} (hR : ClosedR G R) {a : String}
    {σ : List String} (h : G.Derivable a σ) : ∃ E, R a E ∧ ∀ c ∈ E, Pops G R σ c := by
  induction h with
  | end_ hr =>
    exact ⟨[], hR.init _ _ (mem_initMarks.mpr (Or.inr
      ⟨headOf_mem_nonTerminals hr, rfl, _, hr⟩)), fun _ hc => absurd hc List.not_mem_nil⟩
  | @cons f a b σ hr _ ih =>
    obtain ⟨ED, hd, ed⟩ := ih
    refine ⟨[a], hR.init _ _ (mem_initMarks.mpr (Or.inl
      ⟨headOf_mem_nonTerminals hr, rfl⟩)), fun c hc => ?_⟩
    cases List.mem_singleton.mp hc
    exact ⟨b, ED, hr, hd, ed⟩
  | dup hr _ _ ih1 ih2 =>
    obtain ⟨E0, h0, e0⟩ := ih1
    obtain ⟨E1, h1, e1⟩ := ih2
    obtain ⟨E, hE, hsub⟩ := hR.rule _ hr E0 h0 E1 h1
    exact ⟨E, hE, fun x hx => (hsub x hx).elim (e0 x) (e1 x)⟩
  | prod hr _ ih =>
    obtain ⟨E, h0, e0⟩ := ih
    exact hR.rule _ hr E h0 _ e0

/-- with the empty stack nothing can pop: the set found is `∅` -/
theorem ClosedR.complete {G : IG} {R : String → List String → Prop} (hR : ClosedR G R)
    {a : String} (hd : G.Derivable a []) : R a [] := by
  obtain ⟨E, hE, hex⟩ := hR.exits hd
  cases E with
  | nil => exact hE
  | cons c E => exact (hex c List.mem_cons_self).elim

theorem ClosedR.iff {G : IG} {R : String → List String → Prop} (hR : ClosedR G R)
    (hg : ∀ a E, R a E → Good G (a, E)) {a : String} : R a [] ↔ G.Derivable a [] :=
  ⟨fun h => (hg a [] h).nil, hR.complete⟩

/-- the interpretation `I` of "`a` with stack `σ`" is a model of the clause `r` -/
def Holds (I : String → List String → Prop) : IRule → Prop
  | .end_ a _ => ∀ σ, I a σ
  | .prod a b f => ∀ σ, I b (f :: σ) → I a σ
  | .cons f a b => ∀ σ, I b σ → I a (f :: σ)
  | .dup a b c => ∀ σ, I b σ → I c σ → I a σ

theorem derivable_least {G : IG} {I : String → List String → Prop}
    (h : ∀ r ∈ G.rules, Holds I r) {a : String} {σ : List String} (hd : G.Derivable a σ) :
    I a σ := by
  induction hd with
  | end_ hr => exact h _ hr _
  | prod hr _ ih => exact h _ hr _ ih
  | cons hr _ ih => exact h _ hr _ ih
  | dup hr _ _ ih1 ih2 => exact h _ hr _ ih1 ih2

theorem holds_derivable {G : IG} {r : IRule} (hr : r ∈ G.rules) : Holds G.Derivable r := by
  cases r with
  | end_ a t => exact fun _ => .end_ hr
  | prod a b f => exact fun _ => .prod hr
  | cons f a b => exact fun _ => .cons hr
  | dup a b c => exact fun _ => .dup hr

theorem derivable_mono {G G' : IG} (hsub : ∀ r ∈ G.rules, r ∈ G'.rules) {a : String}
    {σ : List String} : G.Derivable a σ → G'.Derivable a σ :=
  derivable_least fun r hr => holds_derivable (hsub r hr)

theorem holds_const {P : String → Prop} {r : IRule}
    (h : (∀ x ∈ bodyOf r, P x) → P (headOf r)) : Holds (fun a _ => P a) r := by
  cases r with
  | end_ a t => exact fun _ => h (List.forall_mem_nil _)
  | prod a b f => exact fun _ hb => h (List.forall_mem_singleton.mpr hb)
  | cons f a b => exact fun _ hb => h (List.forall_mem_singleton.mpr hb)
  | dup a b c =>
    exact fun _ hb hc => h (List.forall_mem_cons.mpr ⟨hb, List.forall_mem_singleton.mpr hc⟩)

def nextNT (G : IG) (x : String) : List String :=
  G.rules.flatMap fun r => match r with
    | .dup a b c => if a = x then [b, c] else []
    | .prod a b _ => if a = x then [b] else []
    | .cons _ a b => if a = x then [b] else []
    | .end_ _ _ => []

theorem mem_nextNT {G : IG} {x y : String} :
    y ∈ nextNT G x ↔ ∃ r ∈ G.rules, headOf r = x ∧ y ∈ bodyOf r := by
  unfold nextNT
  rw [List.mem_flatMap]
  refine exists_congr fun r => and_congr_right fun _ => ?_
  cases r <;> simp [headOf, bodyOf]

theorem body_next {G : IG} {r : IRule} (hr : r ∈ G.rules) {x : String} (hx : x ∈ bodyOf r) :
    x ∈ nextNT G (headOf r) := mem_nextNT.mpr ⟨r, hr, rfl, hx⟩

theorem flatMap_ntsOf_length (l : List IRule) : (l.flatMap ntsOf).length ≤ 3 * l.length :=
  Nat.mul_comm _ _ ▸ length_flatMap_le l ntsOf 3 fun r _ => by cases r <;> simp [ntsOf]

theorem nextNT_sub (G : IG) (x y : String) (h : y ∈ nextNT G x) : y ∈ G.rules.flatMap ntsOf := by
  obtain ⟨r, hr, _, hy⟩ := mem_nextNT.mp h
  refine List.mem_flatMap.mpr ⟨r, hr, ?_⟩
  rw [ntsOf_eq]
  exact List.mem_cons_of_mem _ hy

/-- `reachableNT` runs its search with the fixed fuel `3 * |rules| + 2`, which covers the start symbol
and the at most three non-terminals of every rule, so the search always completes -/
theorem mem_reachableNT (G : IG) (x : String) :
    x ∈ G.reachableNT ↔ Reach (nextNT G) G.start x := by
  have hf : [G.start].length + (G.rules.flatMap ntsOf).length ≤ 3 * G.rules.length + 2 := by
    have := flatMap_ntsOf_length G.rules
    rw [List.length_singleton]
    omega
  show x ∈ (bfs (nextNT G) (3 * G.rules.length + 2) [G.start]).getD [] ↔ _
  rw [mem_bfs_getD_iff (nextNT G) _ (nextNT_sub G) [G.start] _ hf]
  simp only [List.mem_singleton, exists_eq_left]

/-- what a rule does in `genStep`, in head/body form: the head is appended once the whole body is
in `S` -/
theorem genStep_eq (G : IG) : G.genStep = fun S => G.rules.foldl (fun S r =>
    if (∀ x ∈ bodyOf r, x ∈ S) ∧ headOf r ∉ S then S ++ [headOf r] else S) S := by
  unfold genStep
  funext S
  congr
  funext S r
  cases r <;> simp [headOf, bodyOf, and_assoc]

theorem generatingNT_closed (G : IG) :
    ∀ r ∈ G.rules, (∀ x ∈ bodyOf r, x ∈ G.generatingNT) → headOf r ∈ G.generatingNT :=
  (HornStep.of_ite (fun _ _ => rfl) fun _ _ => Iff.rfl).iter_closed (it := iterN G.genStep)
    (genStep_eq G ▸ ⟨fun _ => rfl, fun _ _ => rfl⟩) (Nat.lt_succ_self _) []

theorem generating_of_derivable {G : IG} {a : String} {σ : List String} :
    G.Derivable a σ → a ∈ G.generatingNT :=
  derivable_least (I := fun a _ => a ∈ G.generatingNT) fun r hr =>
    holds_const (generatingNT_closed G r hr)

theorem removeUseless_rules_sub (G : IG) : ∀ r ∈ G.removeUseless.rules, r ∈ G.rules :=
  fun _ hr => (List.mem_filter.mp hr).1

theorem rule_kept {G : IG} {r : IRule} (hr : r ∈ G.rules)
    (hreach : Reach (nextNT G) G.start (headOf r)) (hgen : ∀ x ∈ bodyOf r, x ∈ G.generatingNT) :
    r ∈ G.removeUseless.rules := by
  have hok : ∀ x ∈ ntsOf r, x ∈ G.generatingNT ∧ x ∈ G.reachableNT := by
    intro x hx
    rw [ntsOf_eq] at hx
    rcases List.mem_cons.mp hx with rfl | hx
    · exact ⟨generatingNT_closed G r hr hgen, (mem_reachableNT G _).mpr hreach⟩
    · exact ⟨hgen x hx, (mem_reachableNT G _).mpr (hreach.tail (body_next hr hx))⟩
  refine List.mem_filter.mpr ⟨hr, ?_⟩
  cases r with
  | end_ a t => exact decide_eq_true (hok a List.mem_cons_self)
  | prod a b f =>
    exact decide_eq_true ⟨hok a List.mem_cons_self, hok b (List.mem_cons_of_mem _ List.mem_cons_self)⟩
  | cons f a b =>
    exact decide_eq_true ⟨hok a List.mem_cons_self, hok b (List.mem_cons_of_mem _ List.mem_cons_self)⟩
  | dup a b c =>
    exact decide_eq_true ⟨hok a List.mem_cons_self,
      hok b (List.mem_cons_of_mem _ List.mem_cons_self),
      hok c (List.mem_cons_of_mem _ (List.mem_cons_of_mem _ List.mem_cons_self))⟩

theorem removeUseless_derivable {G : IG} {a : String} {σ : List String} (h : G.Derivable a σ) :
    Reach (nextNT G) G.start a → G.removeUseless.Derivable a σ := by
  induction h with
  | end_ hr =>
    intro hreach
    exact .end_ (rule_kept hr hreach (fun _ hx => absurd hx List.not_mem_nil))
  | prod hr hb ih =>
    intro hreach
    exact .prod (rule_kept hr hreach (by simpa [bodyOf] using generating_of_derivable hb))
      (ih (hreach.tail (body_next hr List.mem_cons_self)))
  | cons hr hb ih =>
    intro hreach
    exact .cons (rule_kept hr hreach (by simpa [bodyOf] using generating_of_derivable hb))
      (ih (hreach.tail (body_next hr List.mem_cons_self)))
  | dup hr hb hc ih1 ih2 =>
    intro hreach
    exact .dup
      (rule_kept hr hreach
        (by simpa [bodyOf] using ⟨generating_of_derivable hb, generating_of_derivable hc⟩))
      (ih1 (hreach.tail (body_next hr List.mem_cons_self)))
      (ih2 (hreach.tail (body_next hr (List.mem_cons_of_mem _ List.mem_cons_self))))

end Pfl.IG.Lem
