/-
The two saturation loops of the PDA acceptance oracle (`Oracle/PdaAcc.lean`) compute what they should.
A round of either is a saturation pass of `HornSat` (`popStep_pass`, `finStep_pass`: the folds of the
definition around `Pass.add` / `Pass.addIf`), so each loop answers with the least set closed under its
rule (`Pass.untilFixed`).  `PopsL` mirrors the rule of `popStep`: `popSaturate` returns exactly the pops
(`popSaturate_exact`), and a run that empties `[z]` is a pop (`steps_iff_popsL`).  `FinFrom` / `FinChain`
mirror the rule of `finStep`: `finSaturate` returns exactly `FinFrom` (`mem_finSaturate_iff`), and the runs
into a final state with the input consumed are `FinChain` (`finChain_of_steps`, `finChain_steps`).  The
exactness of the two oracles (property C13) is read off these in `Props/C13_Oracle.lean`.
-/
import Pfl.Proofs.PDARuns
import Pfl.Proofs.HornSat
import Pfl.Oracle.PdaAcc

namespace Pfl.PDA.Acc
open Pfl Pfl.PDA
variable {σ γ : Type}

theorem mem_afterRead {w : List String} {a : Option String} {i i' : Nat} :
    i' ∈ afterRead w a i ↔
      (a = none ∧ i' = i) ∨ ∃ c, a = some c ∧ w[i]? = some c ∧ i' = i + 1 := by
  unfold afterRead
  cases a with
  | none => simp
  | some c =>
    by_cases h : w[i]? = some c
    · simp [h]
    · simp only [h, if_false, List.not_mem_nil, false_iff]
      rintro (⟨h1, _⟩ | ⟨c', h1, h2, _⟩)
      · cases h1
      · cases h1; exact h h2

theorem afterRead_le {w : List String} {a : Option String} {i i' : Nat}
    (h : i' ∈ afterRead w a i) (hi : i ≤ w.length) : i' ≤ w.length := by
  rcases mem_afterRead.mp h with ⟨_, rfl⟩ | ⟨c, _, hc, rfl⟩
  · exact hi
  · have := (List.getElem?_eq_some_iff.mp hc).1; omega

theorem step_of_afterRead {P : PDA σ γ} {w : List String} {q q1 : σ} {a : Option String} {X : γ}
    {push : List γ} {i i' : Nat} (β : List γ)
    (ht : (q, a, X, q1, push) ∈ P.delta) (hi : i' ∈ afterRead w a i) :
    Step P (q, w.drop i, X :: β) (q1, w.drop i', push ++ β) := by
  rcases mem_afterRead.mp hi with ⟨rfl, rfl⟩ | ⟨c, rfl, hc, rfl⟩
  · exact Step.eps ht
  · obtain ⟨hlt, rfl⟩ := List.getElem?_eq_some_iff.mp hc
    rw [List.drop_eq_getElem_cons hlt]
    exact Step.read ht

theorem step_inv {P : PDA σ γ} {w : List String} {q : σ} {i : Nat} {stack : List γ}
    {c' : Config σ γ} (hi : i ≤ w.length) (h : Step P (q, w.drop i, stack) c') :
    ∃ a X q1 push i' rest, stack = X :: rest ∧ (q, a, X, q1, push) ∈ P.delta ∧
      i' ∈ afterRead w a i ∧ i' ≤ w.length ∧ c' = (q1, w.drop i', push ++ rest) := by
  generalize hc : (q, w.drop i, stack) = c at h
  cases h with
  | @read q0 q' a x push β u ht =>
    simp only [Prod.mk.injEq] at hc
    obtain ⟨rfl, hw, rfl⟩ := hc
    have hlt : i < w.length := by
      rcases Nat.lt_or_ge i w.length with h | h
      · exact h
      · rw [List.drop_eq_nil_of_le h] at hw; cases hw
    rw [List.drop_eq_getElem_cons hlt] at hw
    injection hw with h1 h2
    subst h1 h2
    refine ⟨some _, x, q', push, i + 1, β, rfl, ht, ?_, hlt, rfl⟩
    exact mem_afterRead.mpr (Or.inr ⟨_, rfl, by simp [hlt], rfl⟩)
  | @eps q0 q' x push β u ht =>
    simp only [Prod.mk.injEq] at hc
    obtain ⟨rfl, rfl, rfl⟩ := hc
    exact ⟨none, x, q', push, i, β, rfl, ht, mem_afterRead.mpr (Or.inl ⟨rfl, rfl⟩), hi, rfl⟩

/-- `PopsL P w q l i q' j`: from `(q, position i)` with `l` on top, reach `(q', position j)` with
exactly `l` removed.  One constructor mirrors one application of the oracle's rule. -/
inductive PopsL (P : PDA σ γ) (w : List String) : σ → List γ → Nat → σ → Nat → Prop
  | nil (q : σ) (i : Nat) : PopsL P w q [] i q i
  | cons {q : σ} {a : Option String} {X : γ} {q1 : σ} {push : List γ} {i i' : Nat} {q2 : σ}
      {j : Nat} {rest : List γ} {q3 : σ} {k : Nat} :
      (q, a, X, q1, push) ∈ P.delta → i ≤ w.length → i' ∈ afterRead w a i →
      PopsL P w q1 push i' q2 j → PopsL P w q2 rest j q3 k → PopsL P w q (X :: rest) i q3 k

theorem popsL_nil_inv {P : PDA σ γ} {w : List String} {q q' : σ} {i j : Nat}
    (h : PopsL P w q [] i q' j) : q' = q ∧ j = i := by
  cases h; exact ⟨rfl, rfl⟩

theorem popsL_append {P : PDA σ γ} {w : List String} {l1 l2 : List γ} {q q2 q3 : σ}
    {i j k : Nat} (h1 : PopsL P w q l1 i q2 j) (h2 : PopsL P w q2 l2 j q3 k) :
    PopsL P w q (l1 ++ l2) i q3 k := by
  induction l1 generalizing q i with
  | nil => obtain ⟨rfl, rfl⟩ := popsL_nil_inv h1; exact h2
  | cons X l1 ih =>
    cases h1 with
    | cons ht hi hi' h3 h4 => exact .cons ht hi hi' h3 (ih h4)

theorem popsL_append_inv {P : PDA σ γ} {w : List String} {l1 l2 : List γ} {q q3 : σ}
    {i k : Nat} (h : PopsL P w q (l1 ++ l2) i q3 k) :
    ∃ q2 j, PopsL P w q l1 i q2 j ∧ PopsL P w q2 l2 j q3 k := by
  induction l1 generalizing q i with
  | nil => exact ⟨q, i, .nil _ _, h⟩
  | cons X l1 ih =>
    cases h with
    | cons ht hi hi' h3 h4 =>
      obtain ⟨q2, j, h5, h6⟩ := ih h4
      exact ⟨q2, j, .cons ht hi hi' h3 h5, h6⟩

theorem popsL_steps {P : PDA σ γ} {w : List String} {q q' : σ} {l : List γ} {i j : Nat}
    (h : PopsL P w q l i q' j) :
    ∀ β, Steps P (q, w.drop i, l ++ β) (q', w.drop j, β) := by
  induction h with
  | nil q i => intro β; exact .refl _
  | @cons q a X q1 push i i' q2 j rest q3 k ht _ hi' _ _ ih1 ih2 =>
    intro β
    refine .head (step_of_afterRead (rest ++ β) ht hi') ?_
    exact Steps.trans (by simpa using ih1 (rest ++ β)) (ih2 β)

theorem popsL_of_steps {P : PDA σ γ} {w : List String} {c c' : Config σ γ}
    (h : Steps P c c') : ∀ (q : σ) (i : Nat) (stack : List γ) (q' : σ), i ≤ w.length →
      c = (q, w.drop i, stack) → c' = (q', [], []) → PopsL P w q stack i q' w.length := by
  induction h with
  | refl c =>
    intro q i stack q' hi h1 h2
    subst h1
    simp only [Prod.mk.injEq] at h2
    obtain ⟨rfl, hd, rfl⟩ := h2
    have : i = w.length := by
      have := List.drop_eq_nil_iff.mp hd; omega
    subst this
    exact .nil _ _
  | head hs _ ih =>
    intro q i stack q' hi h1 h2
    subst h1
    obtain ⟨a, X, q1, push, i', rest, rfl, ht, hi', hle, rfl⟩ := step_inv hi hs
    obtain ⟨q2, j, h3, h4⟩ := popsL_append_inv (ih q1 i' _ q' hle rfl h2)
    exact .cons ht hi hi' h3 h4

theorem steps_iff_popsL {P : PDA σ γ} {w : List String} {s q : σ} {z : γ} :
    Steps P (s, w, [z]) (q, [], []) ↔ PopsL P w s [z] 0 q w.length :=
  ⟨fun h => popsL_of_steps h s 0 [z] q (Nat.zero_le _) rfl rfl,
    fun h => by simpa using popsL_steps h []⟩

/-- `FinFrom P w q X i`: from `(q, position i)` with `X` on top a final state is reachable with
the input consumed (at least one move is made).  Mirrors the rule of `finStep`. -/
inductive FinFrom (P : PDA σ γ) (w : List String) : σ → γ → Nat → Prop
  | fin {q : σ} {a : Option String} {X : γ} {q1 : σ} {push : List γ} {i i' : Nat}
      {pre post : List γ} {q' : σ} {j : Nat} :
      (q, a, X, q1, push) ∈ P.delta → i ≤ w.length → i' ∈ afterRead w a i →
      push = pre ++ post → PopsL P w q1 pre i' q' j → q' ∈ P.finals → j = w.length →
      FinFrom P w q X i
  | more {q : σ} {a : Option String} {X : γ} {q1 : σ} {push : List γ} {i i' : Nat}
      {pre : List γ} {x : γ} {post : List γ} {q' : σ} {j : Nat} :
      (q, a, X, q1, push) ∈ P.delta → i ≤ w.length → i' ∈ afterRead w a i →
      push = pre ++ x :: post → PopsL P w q1 pre i' q' j → FinFrom P w q' x j →
      FinFrom P w q X i

/-- pop a prefix of `l`, then be final at the end of the input or continue with `FinFrom` -/
def FinChain (P : PDA σ γ) (w : List String) (q : σ) (l : List γ) (i : Nat) : Prop :=
  ∃ pre post q' j, l = pre ++ post ∧ PopsL P w q pre i q' j ∧
    ((q' ∈ P.finals ∧ j = w.length) ∨ ∃ x post', post = x :: post' ∧ FinFrom P w q' x j)

theorem finFrom_of_chain {P : PDA σ γ} {w : List String} {q q1 : σ} {a : Option String} {X : γ}
    {push : List γ} {i i' : Nat} (ht : (q, a, X, q1, push) ∈ P.delta) (hi : i ≤ w.length)
    (hi' : i' ∈ afterRead w a i) (h : FinChain P w q1 push i') : FinFrom P w q X i := by
  obtain ⟨pre, post, q', j, hl, hp, ⟨hf, hj⟩ | ⟨x, post', rfl, hx⟩⟩ := h
  · exact .fin ht hi hi' hl hp hf hj
  · exact .more ht hi hi' hl hp hx

theorem finChain_append {P : PDA σ γ} {w : List String} {l1 l2 : List γ} {q : σ} {i : Nat}
    (h : FinChain P w q (l1 ++ l2) i) :
    FinChain P w q l1 i ∨ ∃ q' j, PopsL P w q l1 i q' j ∧ FinChain P w q' l2 j := by
  obtain ⟨pre, post, q', j, hl, hp, hfin⟩ := h
  rcases List.append_eq_append_iff.mp hl with ⟨a', rfl, rfl⟩ | ⟨c', rfl, rfl⟩
  · -- pre = l1 ++ a', l2 = a' ++ post
    obtain ⟨q2, k, h1, h2⟩ := popsL_append_inv hp
    exact Or.inr ⟨q2, k, h1, a', post, q', j, rfl, h2, hfin⟩
  · -- l1 = pre ++ c', post = c' ++ l2
    rcases hfin with hf | ⟨x, post', hpost, hx⟩
    · exact Or.inl ⟨pre, c', q', j, rfl, hp, Or.inl hf⟩
    · cases c' with
      | nil =>
        simp only [List.nil_append] at hpost
        subst hpost
        refine Or.inr ⟨q', j, by simpa using hp, [], _, q', j, rfl, .nil _ _, Or.inr ⟨x, post', rfl, hx⟩⟩
      | cons y c'' =>
        simp only [List.cons_append, List.cons.injEq] at hpost
        obtain ⟨rfl, _⟩ := hpost
        exact Or.inl ⟨pre, y :: c'', q', j, rfl, hp, Or.inr ⟨y, c'', rfl, hx⟩⟩

theorem finChain_of_steps {P : PDA σ γ} {w : List String} {c c' : Config σ γ}
    (h : Steps P c c') : ∀ (q : σ) (i : Nat) (stack : List γ) (f : σ) (β : List γ),
      i ≤ w.length → c = (q, w.drop i, stack) → c' = (f, [], β) → f ∈ P.finals →
      FinChain P w q stack i := by
  induction h with
  | refl c =>
    intro q i stack f β hi h1 h2 hf
    subst h1
    simp only [Prod.mk.injEq] at h2
    obtain ⟨rfl, hd, rfl⟩ := h2
    have : i = w.length := by
      have := List.drop_eq_nil_iff.mp hd; omega
    exact ⟨[], stack, q, i, rfl, .nil _ _, Or.inl ⟨hf, this⟩⟩
  | head hs _ ih =>
    intro q i stack f β hi h1 h2 hf
    subst h1
    obtain ⟨a, X, q1, push, i', rest, rfl, ht, hi', hle, rfl⟩ := step_inv hi hs
    rcases finChain_append (ih q1 i' _ f β hle rfl h2 hf) with h3 | ⟨q2, j, h3, h4⟩
    · exact ⟨[], X :: rest, q, i, rfl, .nil _ _,
        Or.inr ⟨X, rest, rfl, finFrom_of_chain ht hi hi' h3⟩⟩
    · obtain ⟨pre, post, q', k, rfl, hp, hfin⟩ := h4
      exact ⟨X :: pre, post, q', k, rfl, .cons ht hi hi' h3 hp, hfin⟩

theorem finFrom_steps {P : PDA σ γ} {w : List String} {q : σ} {X : γ} {i : Nat}
    (h : FinFrom P w q X i) :
    ∀ β, ∃ f ∈ P.finals, ∃ β', Steps P (q, w.drop i, X :: β) (f, [], β') := by
  induction h with
  | @fin q a X q1 push i i' pre post q' j ht _ hi' hpush hp hf hj =>
    intro β
    subst hpush hj
    refine ⟨q', hf, post ++ β, .head (step_of_afterRead β ht hi') ?_⟩
    simpa using popsL_steps hp (post ++ β)
  | @more q a X q1 push i i' pre x post q' j ht _ hi' hpush hp _ ih =>
    intro β
    subst hpush
    obtain ⟨f, hf, β', hrun⟩ := ih (post ++ β)
    refine ⟨f, hf, β', .head (step_of_afterRead β ht hi') ?_⟩
    exact Steps.trans (by simpa using popsL_steps hp (x :: post ++ β)) (by simpa using hrun)

theorem finChain_steps {P : PDA σ γ} {w : List String} {q : σ} {l : List γ} {i : Nat}
    (h : FinChain P w q l i) :
    ∀ β, ∃ f ∈ P.finals, ∃ β', Steps P (q, w.drop i, l ++ β) (f, [], β') := by
  intro β
  obtain ⟨pre, post, q', j, rfl, hp, ⟨hf, rfl⟩ | ⟨x, post', rfl, hx⟩⟩ := h
  · exact ⟨q', hf, post ++ β, by simpa using popsL_steps hp (post ++ β)⟩
  · obtain ⟨f, hf, β', hrun⟩ := finFrom_steps hx (post' ++ β)
    exact ⟨f, hf, β', Steps.trans (by simpa using popsL_steps hp (x :: post' ++ β))
      (by simpa using hrun)⟩

theorem finChain_single {P : PDA σ γ} {w : List String} {q : σ} {X : γ} {i : Nat} :
    FinChain P w q [X] i ↔ (q ∈ P.finals ∧ i = w.length) ∨ FinFrom P w q X i ∨
      ∃ q', PopsL P w q [X] i q' w.length ∧ q' ∈ P.finals := by
  constructor
  · rintro ⟨pre, post, q', j, hl, hp, hfin⟩
    cases pre with
    | nil =>
      obtain ⟨rfl, rfl⟩ := popsL_nil_inv hp
      rcases hfin with hf | ⟨x, post', rfl, hx⟩
      · exact .inl hf
      · cases hl
        exact .inr (.inl hx)
    | cons y pre' =>
      obtain ⟨rfl, hl'⟩ := List.cons.inj hl
      obtain ⟨rfl, rfl⟩ := List.append_eq_nil_iff.mp hl'.symm
      rcases hfin with ⟨hf, rfl⟩ | ⟨x, post', hpost, _⟩
      · exact .inr (.inr ⟨q', hp, hf⟩)
      · cases hpost
  · rintro (hf | hx | ⟨q', hp, hf⟩)
    · exact ⟨[], [X], q, i, rfl, .nil _ _, .inl hf⟩
    · exact ⟨[], [X], q, i, rfl, .nil _ _, .inr ⟨X, [], rfl, hx⟩⟩
    · exact ⟨[X], [], q', _, rfl, hp, .inl ⟨hf, rfl⟩⟩

section oracle
variable [DecidableEq σ] [DecidableEq γ]

theorem mem_popChain_cons {R : List (Pop σ γ)} {x : γ} {rest : List γ} {q : σ} {i : Nat}
    {p : σ × Nat} :
    p ∈ popChain R (x :: rest) q i ↔ ∃ q2 k, (q, x, i, q2, k) ∈ R ∧ p ∈ popChain R rest q2 k := by
  simp only [popChain, List.mem_flatMap, List.mem_filterMap]
  constructor
  · rintro ⟨qi, ⟨⟨q0, x0, i0, q2, k⟩, hr, hc⟩, hp⟩
    split at hc
    · rename_i h
      obtain ⟨h1, h2, h3⟩ := h
      simp only at h1 h2 h3
      subst h1 h2 h3
      cases hc
      exact ⟨q2, k, hr, hp⟩
    · cases hc
  · rintro ⟨q2, k, hr, hp⟩
    exact ⟨(q2, k), ⟨_, hr, by simp⟩, hp⟩

/-- what a round of `popStep` adds: taking `t` from `i` to `i'` and popping what it pushed, by the
pops `R`, pops the symbol `t` read -/
def PRule (P : PDA σ γ) (w : List String) (R : List (Pop σ γ)) (r : Pop σ γ) : Prop :=
  ∃ t ∈ P.delta, ∃ i ∈ List.range (w.length + 1), ∃ i' ∈ afterRead w t.2.1 i,
    ∃ qj ∈ popChain R t.2.2.2.2 t.2.2.2.1 i', r = (t.1, t.2.2.1, i, qj.1, qj.2)

theorem popStep_pass (P : PDA σ γ) (w : List String) : Pass (PRule P w) (popStep P w) :=
  Pass.foldl _ _ P.delta fun t _ => Pass.foldl _ _ (List.range (w.length + 1)) fun i _ =>
    Pass.foldl _ _ (afterRead w t.2.1 i) fun i' _ =>
      Pass.add (fun qj : σ × Nat => ((t.1, t.2.2.1, i, qj.1, qj.2) : Pop σ γ))
        fun R => popChain R t.2.2.2.2 t.2.2.2.1 i'

def PClosed (P : PDA σ γ) (w : List String) (R : List (Pop σ γ)) : Prop :=
  ∀ t ∈ P.delta, ∀ i ≤ w.length, ∀ i' ∈ afterRead w t.2.1 i,
    ∀ qj ∈ popChain R t.2.2.2.2 t.2.2.2.1 i', (t.1, t.2.2.1, i, qj.1, qj.2) ∈ R

def PSound (P : PDA σ γ) (w : List String) (R : List (Pop σ γ)) : Prop :=
  ∀ r ∈ R, PopsL P w r.1 [r.2.1] r.2.2.1 r.2.2.2.1 r.2.2.2.2

theorem popChain_sound {P : PDA σ γ} {w : List String} {R : List (Pop σ γ)}
    (hR : PSound P w R) (l : List γ) (q : σ) (i : Nat) (p : σ × Nat)
    (hp : p ∈ popChain R l q i) : PopsL P w q l i p.1 p.2 := by
  induction l generalizing q i with
  | nil =>
    simp only [popChain, List.mem_singleton] at hp
    subst hp
    exact .nil _ _
  | cons x rest ih =>
    obtain ⟨q2, k, hr, hp⟩ := mem_popChain_cons.mp hp
    exact popsL_append (l1 := [x]) (hR _ hr) (ih q2 k hp)

theorem popChain_complete {P : PDA σ γ} {w : List String} {R : List (Pop σ γ)}
    (hC : PClosed P w R) {q q' : σ} {l : List γ} {i j : Nat} (h : PopsL P w q l i q' j) :
    (q', j) ∈ popChain R l q i := by
  induction h with
  | nil q i => simp [popChain]
  | @cons q a X q1 push i i' q2 j rest q3 k ht hi hi' _ _ ih1 ih2 =>
    exact mem_popChain_cons.mpr ⟨q2, j, hC _ ht i hi i' hi' _ ih1, ih2⟩

theorem mem_popChain_iff {P : PDA σ γ} {w : List String} {R : List (Pop σ γ)}
    (hS : PSound P w R) (hC : PClosed P w R) (l : List γ) (q : σ) (i : Nat) (p : σ × Nat) :
    p ∈ popChain R l q i ↔ PopsL P w q l i p.1 p.2 :=
  ⟨popChain_sound hS l q i p, fun h => popChain_complete hC h⟩

theorem popSaturate_exact {P : PDA σ γ} {w : List String} {fuel : Nat} {R : List (Pop σ γ)}
    (h : popSaturate P w fuel [] = some R) (l : List γ) (q : σ) (i : Nat) (p : σ × Nat) :
    p ∈ popChain R l q i ↔ PopsL P w q l i p.1 p.2 := by
  have hl := (popStep_pass P w).untilFixed (popSaturate P w) (fun _ => rfl) (fun _ _ => rfl) h
  refine mem_popChain_iff (hl.ind _ ?_ nofun) (fun t ht i hi i' hi' qj hqj => hl.closed _
    ⟨t, ht, i, List.mem_range.mpr (Nat.lt_succ_of_le hi), i', hi', qj, hqj, rfl⟩) l q i p
  rintro F _ hF ⟨t, ht, i, hi, i', hi', qj, hqj, rfl⟩
  exact .cons (a := t.2.1) (q1 := t.2.2.2.1) (push := t.2.2.2.2) ht
    (Nat.le_of_lt_succ (List.mem_range.mp hi)) hi' (popChain_sound hF _ _ _ _ hqj) (.nil _ _)

theorem mem_sat_iff {P : PDA σ γ} {w : List String} {R : List (Pop σ γ)}
    (hR : ∀ l q i p, p ∈ popChain R l q i ↔ PopsL P w q l i p.1 p.2) (q : σ) (X : γ) (i : Nat)
    (q' : σ) (j : Nat) : (q, X, i, q', j) ∈ R ↔ PopsL P w q [X] i q' j := by
  rw [← hR [X] q i (q', j), mem_popChain_cons]
  simp only [popChain, List.mem_singleton, Prod.mk.injEq]
  exact ⟨fun h => ⟨q', j, h, rfl, rfl⟩, fun ⟨_, _, h, e1, e2⟩ => e1 ▸ e2 ▸ h⟩

def finHit (P : PDA σ γ) (w : List String) (R : List (Pop σ γ)) (F : List (PDA.Fin σ γ))
    (t : σ × Option String × γ × σ × List γ) (i' : Nat) : Bool :=
  let push := t.2.2.2.2
  let hit : Bool :=
    (t.2.2.2.1 ∈ P.finals ∧ i' = w.length) ||
    (List.range push.length).any fun m =>
      (popChain R (push.take m) t.2.2.2.1 i').any fun qj =>
        match push[m]? with
        | some x => (qj.1, x, qj.2) ∈ F || (qj.1 ∈ P.finals ∧ qj.2 = w.length)
        | none => false
  hit || (popChain R push t.2.2.2.1 i').any fun qj => qj.1 ∈ P.finals ∧ qj.2 = w.length

theorem finHit_iff {P : PDA σ γ} {w : List String} {R : List (Pop σ γ)} {F : List (PDA.Fin σ γ)}
    {t : σ × Option String × γ × σ × List γ} {i' : Nat} :
    finHit P w R F t i' = true ↔
      ∃ pre post p, t.2.2.2.2 = pre ++ post ∧ p ∈ popChain R pre t.2.2.2.1 i' ∧
        ((p.1 ∈ P.finals ∧ p.2 = w.length) ∨ ∃ x post', post = x :: post' ∧ (p.1, x, p.2) ∈ F) := by
  unfold finHit
  simp only [Bool.or_eq_true, List.any_eq_true, decide_eq_true_eq, List.mem_range]
  constructor
  · rintro ((⟨hf, hi⟩ | ⟨m, hm, p, hp, hmatch⟩) | ⟨p, hp, hf, hj⟩)
    · exact ⟨[], _, (_, _), rfl, List.mem_singleton.2 rfl, .inl ⟨hf, hi⟩⟩
    · have hsplit : t.2.2.2.2 = t.2.2.2.2.take m ++ t.2.2.2.2[m] :: t.2.2.2.2.drop (m + 1) := by
        rw [← List.drop_eq_getElem_cons hm, List.take_append_drop]
      rw [List.getElem?_eq_getElem hm] at hmatch
      simp only [Bool.or_eq_true, decide_eq_true_eq] at hmatch
      exact ⟨_, _, p, hsplit, hp, hmatch.symm.imp id fun h => ⟨_, _, rfl, h⟩⟩
    · exact ⟨t.2.2.2.2, [], p, (List.append_nil _).symm, hp, .inl ⟨hf, hj⟩⟩
  · rintro ⟨pre, post, p, hpush, hp, hfin⟩
    cases post with
    | nil =>
      rw [List.append_nil] at hpush
      rcases hfin with hfin | ⟨x, post', h, _⟩
      · exact .inr ⟨p, hpush ▸ hp, hfin⟩
      · cases h
    | cons x post' =>
      refine .inl (.inr ⟨pre.length, by simp [hpush], p, ?_, ?_⟩)
      · rwa [hpush, List.take_left' rfl]
      · have : t.2.2.2.2[pre.length]? = some x := by simp [hpush]
        rw [this]
        rcases hfin with hfin | ⟨x', post'', h, hx⟩
        · simp [hfin]
        · cases h
          simp [hx]

/-- what a round of `finStep` adds, given the pops `R` -/
def FRule (P : PDA σ γ) (w : List String) (R : List (Pop σ γ)) (F : List (PDA.Fin σ γ))
    (f : PDA.Fin σ γ) : Prop :=
  ∃ t ∈ P.delta, ∃ i ∈ List.range (w.length + 1), ∃ i' ∈ afterRead w t.2.1 i,
    finHit P w R F t i' = true ∧ f = (t.1, t.2.2.1, i)

theorem finStep_pass (P : PDA σ γ) (w : List String) (R : List (Pop σ γ)) :
    Pass (FRule P w R) (finStep P w R) :=
  Pass.foldl _ _ P.delta fun t _ => Pass.foldl _ _ (List.range (w.length + 1)) fun i _ =>
    Pass.foldl _ _ (afterRead w t.2.1 i) fun i' _ =>
      Pass.addIf (fun F => finHit P w R F t i' = true) ((t.1, t.2.2.1, i) : PDA.Fin σ γ)

theorem mem_finSaturate_iff {P : PDA σ γ} {w : List String} {R : List (Pop σ γ)}
    (hR : ∀ l q i p, p ∈ popChain R l q i ↔ PopsL P w q l i p.1 p.2) {fuel : Nat}
    {F : List (PDA.Fin σ γ)} (h : finSaturate P w R fuel [] = some F) (q : σ) (X : γ) (i : Nat) :
    (q, X, i) ∈ F ↔ FinFrom P w q X i := by
  have hl := (finStep_pass P w R).untilFixed (finSaturate P w R) (fun _ => rfl) (fun _ _ => rfl) h
  constructor
  · refine hl.ind (fun f => FinFrom P w f.1 f.2.1 f.2.2) ?_ nofun _
    rintro F' _ hF ⟨t, ht, i, hi, i', hi', hh, rfl⟩
    obtain ⟨pre, post, p, hpush, hp, hfin⟩ := finHit_iff.1 hh
    exact finFrom_of_chain (a := t.2.1) (q1 := t.2.2.2.1) ht (Nat.le_of_lt_succ (List.mem_range.mp hi)) hi'
      ⟨pre, post, p.1, p.2, hpush, (hR _ _ _ _).1 hp, hfin.imp id fun ⟨x, post', e, hx⟩ => ⟨x, post', e, hF _ hx⟩⟩
  · have hC : ∀ t ∈ P.delta, ∀ i ≤ w.length, ∀ i' ∈ afterRead w t.2.1 i,
        finHit P w R F t i' = true → (t.1, t.2.2.1, i) ∈ F :=
      fun t ht i hi i' hi' hh => hl.closed _
        ⟨t, ht, i, List.mem_range.mpr (Nat.lt_succ_of_le hi), i', hi', hh, rfl⟩
    intro hx
    induction hx with
    | @fin q a X q1 push i i' pre post q' j ht hi hi' hpush hp hf hj =>
      exact hC _ ht i hi i' hi'
        (finHit_iff.2 ⟨pre, post, (q', j), hpush, (hR _ _ _ _).mpr hp, .inl ⟨hf, hj⟩⟩)
    | @more q a X q1 push i i' pre x post q' j ht hi hi' hpush hp _ ih =>
      exact hC _ ht i hi i' hi'
        (finHit_iff.2 ⟨pre, x :: post, (q', j), hpush, (hR _ _ _ _).mpr hp, .inr ⟨x, post, rfl, ih⟩⟩)

end oracle

end Pfl.PDA.Acc
