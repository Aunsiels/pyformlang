/-
Helper lemmas for the reference constructions (`unionA`, `concatA`, `starA`, and `complementRef`
of Oracle/RegOps):
the edges of the three automata by class, well-formedness of `complementRaw`, and the shape of the
determinised automaton with canonical subsets as state names.
-/
import Pfl.Oracle.RegOps
import Pfl.Proofs.FABase
import Pfl.Proofs.FADet
import Pfl.Proofs.FAOracle
namespace Pfl
namespace ENFA
set_option linter.unusedSectionVars false
variable {σ τ ρ : Type} [DecidableEq σ] [DecidableEq τ]

omit [DecidableEq σ] [DecidableEq τ] in
theorem mem_map_edge (f g : σ → ρ) (D : List (σ × Option Nat × σ)) (x y : ρ) (a : Option Nat) :
    (x, a, y) ∈ D.map (fun t => (f t.1, t.2.1, g t.2.2)) ↔
      ∃ q r, x = f q ∧ y = g r ∧ (q, a, r) ∈ D := by
  simp only [List.mem_map, Prod.mk.injEq]
  constructor
  · rintro ⟨⟨q, a', r⟩, ht, rfl, rfl, rfl⟩; exact ⟨q, r, rfl, rfl, ht⟩
  · rintro ⟨q, r, rfl, rfl, ht⟩; exact ⟨(q, a, r), ht, rfl, rfl, rfl⟩

omit [DecidableEq σ] [DecidableEq τ] in
theorem mem_unionA_delta (A : ENFA σ) (B : ENFA τ) (x y : σ ⊕ τ) (a : Option Nat) :
    (x, a, y) ∈ (A.unionA B).delta ↔
      (∃ q r, x = .inl q ∧ y = .inl r ∧ (q, a, r) ∈ A.delta) ∨
      (∃ q r, x = .inr q ∧ y = .inr r ∧ (q, a, r) ∈ B.delta) :=
  List.mem_append.trans (or_congr (mem_map_edge _ _ _ _ _ _) (mem_map_edge _ _ _ _ _ _))

omit [DecidableEq σ] [DecidableEq τ] in
theorem mem_concatA_delta (A : ENFA σ) (B : ENFA τ) (x y : σ ⊕ τ) (a : Option Nat) :
    (x, a, y) ∈ (A.concatA B).delta ↔
      (∃ q r, x = .inl q ∧ y = .inl r ∧ (q, a, r) ∈ A.delta) ∨
      (∃ q r, x = .inr q ∧ y = .inr r ∧ (q, a, r) ∈ B.delta) ∨
      (∃ f s, x = .inl f ∧ a = none ∧ y = .inr s ∧ f ∈ A.finals ∧ s ∈ B.starts) := by
  refine List.mem_append.trans ((or_congr (mem_unionA_delta A B x y a) ?_).trans or_assoc)
  simp only [List.mem_flatMap, List.mem_map, Prod.mk.injEq]
  constructor
  · rintro ⟨f, hf, s, hs, rfl, rfl, rfl⟩; exact ⟨f, s, rfl, rfl, rfl, hf, hs⟩
  · rintro ⟨f, s, rfl, rfl, rfl, hf, hs⟩; exact ⟨f, hf, s, hs, rfl, rfl, rfl⟩

omit [DecidableEq σ] in
theorem mem_starA_delta (A : ENFA σ) (x y : Option σ) (a : Option Nat) :
    (x, a, y) ∈ A.starA.delta ↔
      (∃ q r, x = some q ∧ y = some r ∧ (q, a, r) ∈ A.delta) ∨
      (∃ s, x = none ∧ a = none ∧ y = some s ∧ s ∈ A.starts) ∨
      (∃ f, x = some f ∧ a = none ∧ y = none ∧ f ∈ A.finals) := by
  refine List.mem_append.trans ((or_congr (List.mem_append.trans
    (or_congr (mem_map_edge _ _ _ _ _ _) ?_)) ?_).trans or_assoc) <;>
  simp only [List.mem_map, Prod.mk.injEq]
  · constructor
    · rintro ⟨s, hs, rfl, rfl, rfl⟩; exact ⟨s, rfl, rfl, rfl, hs⟩
    · rintro ⟨s, rfl, rfl, rfl, hs⟩; exact ⟨s, hs, rfl, rfl, rfl⟩
  · constructor
    · rintro ⟨f, hf, rfl, rfl, rfl⟩; exact ⟨f, rfl, rfl, rfl, hf⟩
    · rintro ⟨f, rfl, rfl, rfl, hf⟩; exact ⟨f, hf, rfl, rfl, rfl⟩

theorem starA_run_of_words (A : ENFA σ) (ws : List (List Nat)) (h : ∀ v ∈ ws, A.Lang v) :
    A.starA.Run none ws.flatten none := by
  induction ws with
  | nil => exact Run.nil none
  | cons v ws ih =>
    obtain ⟨s, hs, f, hf, hr⟩ := h v List.mem_cons_self
    have hrest := ih (fun x hx => h x (List.mem_cons_of_mem _ hx))
    have h1 : A.starA.Run (some s) v (some f) :=
      Run.embed (K := A.starA) some
        (fun q a r he => (mem_starA_delta A _ _ _).mpr (Or.inl ⟨q, r, rfl, rfl, he⟩)) hr
    have h2 : A.starA.Run (some f) ws.flatten none :=
      Run.eps ((mem_starA_delta A _ _ _).mpr (Or.inr (Or.inr ⟨f, rfl, rfl, rfl, hf⟩))) hrest
    rw [List.flatten_cons]
    exact Run.eps ((mem_starA_delta A _ _ _).mpr (Or.inr (Or.inl ⟨s, rfl, rfl, rfl, hs⟩)))
      (Run.append h1 h2)

theorem wf_of_edges {ρ : Type} {K : ENFA ρ} (hs : ∀ q ∈ K.starts, q ∈ K.states)
    (hf : ∀ q ∈ K.finals, q ∈ K.states)
    (hd : ∀ t ∈ K.delta, t.1 ∈ K.states ∧ t.2.2 ∈ K.states ∧ ∀ a, t.2.1 = some a → a ∈ K.syms) :
    K.WF :=
  ⟨hs, hf, fun t ht => (hd t ht).1, fun t ht => (hd t ht).2.1, fun t ht => (hd t ht).2.2⟩

theorem complementRaw_wf (A C : ENFA σ) (hC : C.WF) (trash : σ) :
    (A.complementRaw C trash).WF := by
  refine wf_of_edges ?_ ?_ ?_
  · intro q hq
    simp only [complementRaw, List.mem_eraseDups, List.mem_append]
    exact Or.inl (Or.inl (hC.starts_sub q hq))
  · intro q hq
    simp only [complementRaw, List.mem_eraseDups, List.mem_append, List.mem_filter,
      List.mem_cons, List.not_mem_nil, or_false] at hq ⊢
    rcases hq with ⟨h | h, _⟩ | ⟨h, _⟩
    · exact Or.inl (Or.inr h)
    · exact Or.inl (Or.inl (hC.finals_sub q h))
    · exact Or.inr h
  · -- an edge of `C`, a completion edge `q ─a→ trash`, or a loop at `trash`
    intro t ht
    simp only [complementRaw, List.mem_eraseDups, List.mem_append, List.mem_flatMap,
      List.mem_filterMap, List.mem_map, List.mem_cons, List.not_mem_nil, or_false] at ht ⊢
    rcases ht with (h | ⟨q, hq, a, ha, heq⟩) | ⟨a, ha, rfl⟩
    · exact ⟨Or.inl (Or.inl (hC.delta_src t h)), Or.inl (Or.inl (hC.delta_dst t h)),
        fun b hb => Or.inl (hC.delta_sym t h b hb)⟩
    · split at heq
      · cases heq
        exact ⟨Or.inr hq, Or.inl (Or.inr rfl), fun b hb => by cases hb; exact Or.inr ha⟩
      · cases heq
    · exact ⟨Or.inl (Or.inr rfl), Or.inl (Or.inr rfl), fun b hb => by cases hb; exact Or.inr ha⟩

theorem detOf_states_canon (A : ENFA σ) (useE : Bool) (seen : List (List σ)) (k : List σ)
    (hk : k ∈ (A.detOf A.canonS useE seen).states) : ∃ S, k = A.canonS S := by
  unfold detOf at hk
  rcases (mem_ofParts_states _ _ _ k).mp hk with h | h | ⟨t, ht, h⟩
  · exact ⟨_, List.mem_singleton.mp h⟩
  · obtain ⟨S, _, rfl⟩ := List.mem_map.mp h
    exact ⟨S, rfl⟩
  · have ht' : t ∈ (A.detOf A.canonS useE seen).delta := (mem_ofParts_delta _ _ _ t).mpr ht
    obtain ⟨S, _, a, _, _, rfl⟩ := (mem_detOf_delta A A.canonS useE seen t).mp ht'
    rcases h with h | h
    · exact ⟨S, h⟩
    · exact ⟨_, h⟩

theorem detOf_syms_sub (A : ENFA σ) (key : List σ → τ) (useE : Bool) (seen : List (List σ))
    (a : Nat) (ha : a ∈ (A.detOf key useE seen).syms) : a ∈ A.syms := by
  unfold detOf at ha
  obtain ⟨t, ht, hta⟩ := (mem_ofParts_syms _ _ _ a).mp ha
  have ht' : t ∈ (A.detOf key useE seen).delta := (mem_ofParts_delta _ _ _ t).mpr ht
  obtain ⟨S, _, a', ha', _, rfl⟩ := (mem_detOf_delta A key useE seen t).mp ht'
  cases hta
  exact ha'

end ENFA
end Pfl
