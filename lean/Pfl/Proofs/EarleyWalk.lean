/-
The one walk through the body of the Earley loop (`predictor`, `completer`, `procOne`, `columnLoop`,
`contains.cols`) for an abstract invariant.  The body is a sequence of three kinds of primitive steps:
the push of a predicted state, the scanner's push, and `advance`.  A `Walk` says that each of them, done for
column `i`, keeps an invariant `WI S R E T rk L` of the tables (facts `S`, and `R` of every state of the tables),
where `L` logs the steps done, and that `advance`, the one step that changes the store, carries `R` of any state over;
the theorems below say that the body keeps the invariant, carries `R` over, and which steps it has logged.
Soundness, completeness and termination are instances: an invariant that has no use for the log ignores it,
one that relates the tables to those the walk started from is stated for fixed start tables.
-/
import Pfl.Proofs.EarleyColumns
namespace Pfl
namespace Earley
namespace Lem

/-- the primitive steps of the body of the loop of a column -/
inductive Act
  | pred (k : Nat)
  | scan (s : EState)
  | adv (nx c : EState)

/-- the invariant of a walk: a level `Lay S R` of the tables, and a further fact `E` that may relate them
to the tables the walk started from and may read the log `L` of the steps done; `rk` ranks the store -/
abbrev WI (S : FsDag.Store → (Nat → Nat) → List Dict → Nat → Prop)
    (R : FsDag.Store → (Nat → Nat) → Nat → EState → Prop)
    (E : Tables → List Act → Prop) (T : Tables) (rk : Nat → Nat) (L : List Act) : Prop :=
  Lay S R T rk ∧ E T L

/-- the invariant on tables reached from `T0`, whose store was ranked by `rk0`: a state good there is good now -/
abbrev WIC (S : FsDag.Store → (Nat → Nat) → List Dict → Nat → Prop)
    (R : FsDag.Store → (Nat → Nat) → Nat → EState → Prop)
    (E : Tables → List Act → Prop) (T0 : Tables) (rk0 : Nat → Nat) (T : Tables)
    (rk : Nat → Nat) (L : List Act) : Prop :=
  WI S R E T rk L ∧ Carry R T0.store rk0 T.store rk

/-- each primitive step of the work in column `i` keeps the invariant and logs itself -/
structure Walk (G : Grammar) (word : List String) (i : Nat)
    (S : FsDag.Store → (Nat → Nat) → List Dict → Nat → Prop)
    (R : FsDag.Store → (Nat → Nat) → Nat → EState → Prop)
    (E : Tables → List Act → Prop) : Prop where
  adv : ∀ {T : Tables} {rk : Nat → Nat} {L : List Act} {c nx : EState},
    WI S R E T rk L → R T.store rk i c → R T.store rk c.b nx → incomplete G c = false →
    nextSym G nx = some (.var (prodOf G c.prod).head) →
    ∃ rk', WIC S R E T rk (advance G T nx c) rk' (.adv nx c :: L)
  scan : ∀ {T : Tables} {rk : Nat → Nat} {L : List Act} {s : EState} {t : String},
    WI S R E T rk L → R T.store rk i s → nextSym G s = some (.ter t) → word[i]? = some t →
    WI S R E (pushIfNew G T (i + 1) { s with e := i + 1, dot := s.dot + 1 }) rk (.scan s :: L)
  pred : ∀ {T : Tables} {rk : Nat → Nat} {L : List Act} {k : Nat} {p : FProd},
    WI S R E T rk L → G.prods[k]? = some p →
    WI S R E (pushIfNew G T i { prod := k, b := i, e := i, dot := 0, fs := p.feats }) rk
      (.pred k :: L)

section
variable {G : Grammar} {word : List String} {i : Nat}
  {I : Tables → (Nat → Nat) → List Act → Prop}
  {S : FsDag.Store → (Nat → Nat) → List Dict → Nat → Prop}
  {R : FsDag.Store → (Nat → Nat) → Nat → EState → Prop}
  {E : Tables → List Act → Prop}

/-- the folds of the body of the loop take a step for the elements that satisfy a condition; when each step
taken keeps `I` and logs itself, the fold keeps `I`, only adds to the log, and has logged every step due -/
theorem walk_fold {α : Type} (f : Tables → α → Tables) (cond : α → Prop) [DecidablePred cond]
    (act : α → Act) (l : List α)
    (hstep : ∀ T rk L a, a ∈ l → cond a → I T rk L → ∃ rk', I (f T a) rk' (act a :: L))
    (T : Tables) (rk : Nat → Nat) (L : List Act) (h : I T rk L) :
    ∃ rk' L', I (l.foldl (fun T a => if cond a then f T a else T) T) rk' L' ∧ (∀ b ∈ L, b ∈ L') ∧
      ∀ a ∈ l, cond a → act a ∈ L' := by
  induction l generalizing T rk L with
  | nil => exact ⟨rk, L, h, fun _ hb => hb, fun _ ha => nomatch ha⟩
  | cons a l ih =>
    have ih := fun T rk L => ih (fun T rk L b hb => hstep T rk L b (List.mem_cons_of_mem _ hb)) T rk L
    rw [List.foldl_cons]
    by_cases hc : cond a
    · obtain ⟨rk1, h1⟩ := hstep T rk L a (List.mem_cons_self ..) hc h
      obtain ⟨rk2, L2, h2, hs2, ha2⟩ := ih _ rk1 _ h1
      rw [if_pos hc]
      exact ⟨rk2, L2, h2, fun b hb => hs2 b (List.mem_cons_of_mem _ hb), fun b hb hcb =>
        (List.mem_cons.1 hb).elim (fun e => e ▸ hs2 _ (List.mem_cons_self ..)) (ha2 b · hcb)⟩
    · obtain ⟨rk2, L2, h2, hs2, ha2⟩ := ih T rk L h
      rw [if_neg hc]
      exact ⟨rk2, L2, h2, hs2, fun b hb hcb =>
        (List.mem_cons.1 hb).elim (fun e => absurd (e ▸ hcb) hc) (ha2 b · hcb)⟩

/-- a fold of `advance` over states that are good at the start: `pair a` is the waiting and the completed
state of the step for `a`, which is taken when `cond a` holds (the completer folds over the waiting states,
the predictor over the completed ones).  They stay good because `advance` carries `R` over. -/
theorem walk_advances (hw : Walk G word i S R E) {T : Tables} {rk : Nat → Nat} {L : List Act}
    (hT : WI S R E T rk L) (l : List EState)
    (pair : EState → EState × EState) (cond : EState → Prop) [DecidablePred cond]
    (hl : ∀ a ∈ l, cond a →
      R T.store rk i (pair a).2 ∧ R T.store rk (pair a).2.b (pair a).1 ∧
      incomplete G (pair a).2 = false ∧
      nextSym G (pair a).1 = some (.var (prodOf G (pair a).2.prod).head)) :
    ∃ rk' L', WIC S R E T rk (l.foldl (fun T a =>
        if cond a then advance G T (pair a).1 (pair a).2 else T) T) rk' L' ∧
      (∀ b ∈ L, b ∈ L') ∧ ∀ a ∈ l, cond a → .adv (pair a).1 (pair a).2 ∈ L' :=
  walk_fold (I := WIC S R E T rk) (fun T a => advance G T (pair a).1 (pair a).2) cond
    (fun a => .adv (pair a).1 (pair a).2) l (fun T' rk' L' a ha hc hT' => by
      obtain ⟨m1, m2, c1, c3⟩ := hl a ha hc
      obtain ⟨rk'', h'', hcar⟩ := hw.adv hT'.1 (hT'.2 _ _ m1) (hT'.2 _ _ m2) c1 c3
      exact ⟨rk'', h'', hT'.2.trans hcar⟩) T rk L ⟨hT, .refl⟩

theorem incomplete_of_nextSym {s : EState} {X : Sym} (h : nextSym G s = some X) :
    incomplete G s = true :=
  decide_eq_true (List.getElem?_eq_some_iff.1 h).1

theorem walk_completer (hw : Walk G word i S R E) {T : Tables} {rk : Nat → Nat}
    {L : List Act} (hT : WI S R E T rk L) {c : EState}
    (hs : R T.store rk i c) (hcomp : incomplete G c = false) :
    ∃ rk' L', WIC S R E T rk (completer G T c) rk' L' ∧
      ∀ nx ∈ procStates T c.b, nextSym G nx = some (.var (prodOf G c.prod).head) →
        .adv nx c ∈ L' := by
  obtain ⟨rk', L', h, _, h2⟩ := walk_advances hw hT (procStates T c.b) (fun nx => (nx, c))
    (fun nx => incomplete G nx ∧ nextSym G nx = some (.var (prodOf G c.prod).head))
    (fun nx hnx hcond => ⟨hs, hT.1.p _ nx hnx, hcomp, hcond.2⟩)
  exact ⟨rk', L', h, fun nx hnx b => h2 nx hnx ⟨incomplete_of_nextSym b, b⟩⟩

theorem walk_predictor {s : EState} (hw : Walk G word s.e S R E) {T : Tables} {rk : Nat → Nat}
    {L : List Act} (hT : WI S R E T rk L) (hs : R T.store rk s.e s) {v : String}
    (hnext : nextSym G s = some (.var v)) :
    ∃ rk' L', WIC S R E T rk (predictor G T s) rk' L' ∧
      (∀ k p, G.prods[k]? = some p → p.head = v → .pred k ∈ L') ∧
      ∀ c ∈ procStates T s.e, incomplete G c = false → c.b = s.e → (prodOf G c.prod).head = v →
        .adv s c ∈ L' := by
  unfold Pfl.Earley.predictor
  rw [hnext]
  simp only
  -- the predicted pushes, which keep the store and the processed states, then `advance` over the items
  -- completed on the empty word
  obtain ⟨rk1, L1, ⟨h1, hmono⟩, _, hp1⟩ := walk_fold
    (I := fun T' rk' L' => WIC S R E T rk T' rk' L' ∧ ∀ c ∈ procStates T s.e, c ∈ procStates T' s.e)
    (fun T (pk : FProd × Nat) => pushIfNew G T s.e
      { prod := pk.2, b := s.e, e := s.e, dot := 0, fs := pk.1.feats })
    (fun pk => pk.1.head = v) (fun pk => .pred pk.2)
    (G.prods.zip (List.range G.prods.length)) (fun T' rk' L' pk hpk _ hT' =>
      ⟨rk', ⟨hw.pred hT'.1.1 (mem_zip_range hpk), hT'.1.2.push _ _ _⟩, fun c hc =>
        mem_proc_pushIfNew.2 (Or.inl (hT'.2 c hc))⟩)
    T rk L ⟨⟨hT, .refl⟩, fun _ hc => hc⟩
  generalize List.foldl _ T (G.prods.zip _) = T1 at h1 hmono ⊢
  obtain ⟨rk2, L2, h2, hs2, ha2⟩ := walk_advances hw h1.1 (procStates T1 s.e) (fun c => (s, c))
    (fun c => !(incomplete G c) ∧ c.b = s.e ∧ (prodOf G c.prod).head = v)
    (fun c hc hcond => ⟨h1.1.1.p _ c hc, by rw [hcond.2.1]; exact h1.2 _ _ hs, by simpa using hcond.1,
      by rw [hcond.2.2]; exact hnext⟩)
  exact ⟨rk2, L2, ⟨h2.1, h1.2.trans h2.2⟩,
    fun k p hp hh => hs2 _ (hp1 (p, k) (mem_zip_range_iff.2 hp) hh),
    fun c hc h1 h2 h3 => ha2 c (hmono c hc) ⟨by simp [h1], h2, h3⟩⟩

/-- the steps that processing the popped state `s` of column `i` on the tables `T0` comprises -/
structure Did (G : Grammar) (word : List String) (i : Nat) (s : EState) (T0 : Tables)
    (L : List Act) : Prop where
  pred : ∀ v, nextSym G s = some (.var v) →
    ∀ k p, G.prods[k]? = some p → p.head = v → .pred k ∈ L
  asNx : ∀ v, nextSym G s = some (.var v) → ∀ c ∈ procStates T0 i, incomplete G c = false → c.b = i → (prodOf G c.prod).head = v →
      .adv s c ∈ L
  scan : ∀ t, nextSym G s = some (.ter t) → word[i]? = some t → .scan s ∈ L
  asC : incomplete G s = false → ∀ nx ∈ procStates T0 s.b,
    nextSym G nx = some (.var (prodOf G s.prod).head) → .adv nx s ∈ L

theorem walk_procOne (hw : Walk G word i S R E) {T0 : Tables} {rk : Nat → Nat}
    {s : EState} (hT : WI S R E T0 rk []) (hs : R T0.store rk i s) (hse : s.e = i) :
    ∃ rk1 L1, WI S R E (procOne G word i T0 s) rk1 L1 ∧ Did G word i s T0 L1 := by
  subst hse
  unfold procOne
  cases hinc : incomplete G s with
  | true =>
    rw [if_pos rfl]
    cases hnext : nextSym G s with
    | none =>
      exact ⟨rk, [], hT, ⟨fun v h => (nomatch hnext.symm.trans h),
        fun v h => (nomatch hnext.symm.trans h), fun t h => (nomatch hnext.symm.trans h),
        fun h => (nomatch hinc.symm.trans h)⟩⟩
    | some sym =>
      cases sym with
      | var v =>
        obtain ⟨rk1, L1, h1, hp, ha⟩ := walk_predictor hw hT hs hnext
        exact ⟨rk1, L1, h1.1, ⟨fun v' hv' => by cases hnext.symm.trans hv'; exact hp,
          fun v' hv' => by cases hnext.symm.trans hv'; exact ha,
          fun t h => (nomatch hnext.symm.trans h), fun h => (nomatch hinc.symm.trans h)⟩⟩
      | ter t =>
        simp only
        by_cases hwd : word[s.e]? = some t
        · rw [if_pos hwd]
          exact ⟨rk, _, hw.scan hT hs hnext hwd,
            ⟨fun v h => (nomatch hnext.symm.trans h), fun v h => (nomatch hnext.symm.trans h),
            fun t' _ _ => List.mem_cons_self .., fun h => (nomatch hinc.symm.trans h)⟩⟩
        · rw [if_neg hwd]
          exact ⟨rk, [], hT,
            ⟨fun v h => (nomatch hnext.symm.trans h), fun v h => (nomatch hnext.symm.trans h),
            fun t' ht' hw' => by cases hnext.symm.trans ht'; exact absurd hw' hwd,
            fun h => (nomatch hinc.symm.trans h)⟩⟩
  | false =>
    rw [if_neg Bool.false_ne_true]
    obtain ⟨rk1, L1, h1, ha⟩ := walk_completer hw hT hs hinc
    exact ⟨rk1, L1, h1.1, ⟨fun v h => (nomatch hinc.symm.trans (incomplete_of_nextSym h)),
      fun v h => (nomatch hinc.symm.trans (incomplete_of_nextSym h)),
      fun t ht => (nomatch hinc.symm.trans (incomplete_of_nextSym ht)), fun _ => ha⟩⟩

end

theorem columnLoop_ind {G : Grammar} {word : List String} {i : Nat} (K : Tables → Prop)
    (hstep : ∀ T s, K T → (colGet T.chart i).getLast? = some s →
      K (procOne G word i (popT T i) s)) :
    ∀ (f : Nat) (T T' : Tables), K T → columnLoop G word i f T = some T' →
      K T' ∧ colGet T'.chart i = []
  | 0, _, _, _, hr => nomatch hr
  | f + 1, T, T', h, hr => by
    rw [columnLoop_succ] at hr
    cases hl : (colGet T.chart i).getLast? with
    | none => rw [hl] at hr; cases hr; exact ⟨h, List.getLast?_eq_none_iff.1 hl⟩
    | some s => rw [hl] at hr; exact columnLoop_ind K hstep f _ T' (hstep T s h hl) hr

theorem cols_ind {G : Grammar} {word : List String} {fuel : Nat} (K : Nat → Tables → Prop)
    (hstep : ∀ i T s, K i T → (colGet T.chart i).getLast? = some s →
      K i (procOne G word i (popT T i) s))
    (hnext : ∀ i T, K i T → colGet T.chart i = [] → K (i + 1) T) :
    ∀ (k i : Nat) (T T' : Tables), K i T →
      contains.cols G word fuel (List.range' i k) T = some T' → K (i + k) T'
  | 0, i, T, T', h, hr => by cases hr; exact h
  | k + 1, i, T, T', h, hr => by
    rw [List.range'_succ, contains.cols] at hr
    cases hcl : columnLoop G word i fuel T with
    | none => rw [hcl] at hr; cases hr
    | some T1 =>
      rw [hcl] at hr
      obtain ⟨h1, hc1⟩ := columnLoop_ind (K i) (hstep i) fuel T T1 h hcl
      rw [Nat.add_comm k, ← Nat.add_assoc]
      exact cols_ind K hstep hnext k (i + 1) T1 T' (hnext i T1 h1 hc1) hr

end Lem
end Earley
end Pfl
