/-
Helper lemmas for C02_Iso: the lock-step walk, the isomorphism oracle.
-/
import Pfl.Props.C02_Min
import Pfl.Proofs.Assoc
import Mathlib.Data.List.Sort
set_option linter.unusedSectionVars false
namespace Pfl

namespace FAIso
variable {α β : Type} [DecidableEq α] [DecidableEq β]

theorem eraseDups_length_eq_one_iff {γ : Type} [BEq γ] [LawfulBEq γ] (l : List γ) :
    l.eraseDups.length = 1 ↔ ∃ x ∈ l, ∀ y ∈ l, y = x := by
  constructor
  · intro h
    obtain ⟨x, hx⟩ := List.length_eq_one_iff.1 h
    have hm : ∀ y, y ∈ l ↔ y = x := fun y => by rw [← List.mem_eraseDups, hx, List.mem_singleton]
    exact ⟨x, (hm x).2 rfl, fun y => (hm y).1⟩
  · rintro ⟨x, hx, hall⟩
    have h1 := length_le_one_of_nodup (nodup_eraseDups l) fun a ha b hb => by
      rw [hall a (List.mem_eraseDups.1 ha), hall b (List.mem_eraseDups.1 hb)]
    have h0 := List.length_pos_of_mem (List.mem_eraseDups.2 hx)
    omega

theorem filter_unique {γ : Type} [BEq γ] [LawfulBEq γ] (m : List γ) (p : γ → Prop) [DecidablePred p] :
    (m.filter fun x => decide (p x)).eraseDups.length = 1 ↔ ∃ x ∈ m, p x ∧ ∀ y ∈ m, p y → y = x := by
  rw [eraseDups_length_eq_one_iff]
  simp only [List.mem_filter, decide_eq_true_eq]
  constructor
  · rintro ⟨x, ⟨hx, hp⟩, hall⟩
    exact ⟨x, hx, hp, fun y hy hpy => hall y ⟨hy, hpy⟩⟩
  · rintro ⟨x, hx, hp, hall⟩
    exact ⟨x, ⟨hx, hp⟩, fun y hy => hall y hy.1 hy.2⟩

theorem filter_fst_unique (m : List (α × β)) (p : α) :
    (m.filter (·.1 = p)).eraseDups.length = 1 ↔
      ∃ q, (p, q) ∈ m ∧ ∀ q', (p, q') ∈ m → q' = q := by
  rw [filter_unique m (·.1 = p)]
  constructor
  · rintro ⟨⟨p', q⟩, hx, rfl, hall⟩
    exact ⟨q, hx, fun q' hq' => (Prod.mk.inj (hall (p', q') hq' rfl)).2⟩
  · rintro ⟨q, hq, hall⟩
    refine ⟨(p, q), hq, rfl, ?_⟩
    rintro ⟨p', q'⟩ hy rfl
    rw [hall q' hy]

theorem filter_snd_unique (m : List (α × β)) (q : β) :
    (m.filter (·.2 = q)).eraseDups.length = 1 ↔
      ∃ p, (p, q) ∈ m ∧ ∀ p', (p', q) ∈ m → p' = p := by
  rw [filter_unique m (·.2 = q)]
  constructor
  · rintro ⟨⟨p, q'⟩, hx, rfl, hall⟩
    exact ⟨p, hx, fun p' hp' => (Prod.mk.inj (hall (p', q') hp' rfl)).1⟩
  · rintro ⟨p, hp, hall⟩
    refine ⟨(p, q), hp, rfl, ?_⟩
    rintro ⟨p', q'⟩ hy rfl
    rw [hall p' hy]

end FAIso

namespace ENFA
variable {σ τ : Type} [DecidableEq σ] [DecidableEq τ]

theorem insertEdge_perm (e : Nat × σ) (l : List (Nat × σ)) : (insertEdge e l).Perm (e :: l) := by
  fun_induction insertEdge e l with
  | case1 | case2 => exact List.Perm.refl _
  | case3 f fs _ ih => exact (List.Perm.cons f ih).trans (List.Perm.swap e f fs)

theorem sortEdges_perm (l : List (Nat × σ)) : (sortEdges l).Perm l := by
  induction l with
  | nil => simp [sortEdges]
  | cons e l ih =>
    show (insertEdge e (sortEdges l)).Perm _
    exact (insertEdge_perm e _).trans (List.Perm.cons e ih)

theorem insertEdge_sorted (e : Nat × σ) (l : List (Nat × σ))
    (h : l.Pairwise (fun x y => x.1 ≤ y.1)) : (insertEdge e l).Pairwise (fun x y => x.1 ≤ y.1) := by
  fun_induction insertEdge e l with
  | case1 => exact List.pairwise_singleton _ _
  | case2 f fs hlt =>
    refine List.pairwise_cons.mpr ⟨fun y hy => ?_, h⟩
    rcases List.mem_cons.mp hy with rfl | hy
    · exact Nat.le_of_lt hlt
    · exact Nat.le_trans (Nat.le_of_lt hlt) ((List.pairwise_cons.mp h).1 y hy)
  | case3 f fs hlt ih =>
    rw [List.pairwise_cons] at h
    refine List.pairwise_cons.mpr ⟨fun y hy => ?_, ih h.2⟩
    rcases List.mem_cons.mp ((insertEdge_perm e fs).mem_iff.mp hy) with rfl | hy
    · exact Nat.le_of_not_lt hlt
    · exact h.1 y hy

theorem sortEdges_sorted (l : List (Nat × σ)) : (sortEdges l).Pairwise (fun x y => x.1 ≤ y.1) := by
  induction l with
  | nil => simp [sortEdges]
  | cons e l ih => exact insertEdge_sorted e _ ih

theorem mem_outEdges (M : ENFA σ) (q r : σ) (a : Nat) :
    (a, r) ∈ M.outEdges q ↔ (q, some a, r) ∈ M.delta := by
  unfold outEdges
  rw [(sortEdges_perm _).mem_iff, List.mem_eraseDups, List.mem_filterMap]
  constructor
  · rintro ⟨⟨x, b, y⟩, ht, h⟩
    split at h
    · rename_i hc
      simp only at hc; subst hc
      cases b with
      | none => simp at h
      | some b =>
        simp only [Option.map_some, Option.some.injEq, Prod.mk.injEq] at h
        obtain ⟨rfl, rfl⟩ := h
        exact ht
    · cases h
  · intro h
    exact ⟨(q, some a, r), h, by simp⟩

theorem outEdges_strict (M : ENFA σ) (hd : M.Deterministic) (q : σ) :
    (M.outEdges q).Pairwise (fun x y => x.1 < y.1) := by
  have hnd : (M.outEdges q).Nodup := by
    unfold outEdges
    exact (sortEdges_perm _).nodup_iff.mpr (nodup_eraseDups _)
  have hs : (M.outEdges q).Pairwise (fun x y => x.1 ≤ y.1) := sortEdges_sorted _
  refine (hs.and hnd).imp_of_mem ?_
  rintro ⟨a, r⟩ ⟨b, r'⟩ hx hy ⟨hle, hne⟩
  simp only at hle ⊢
  rcases Nat.lt_or_ge a b with h | h
  · exact h
  · exfalso
    have hab : a = b := by omega
    subst hab
    have := hd.2.1 q (some a) r r' ((mem_outEdges M q r a).mp hx) ((mem_outEdges M q r' a).mp hy)
    subst this
    exact hne rfl

theorem outEdges_syms_eq (M1 : ENFA σ) (M2 : ENFA τ) (h1 : M1.Deterministic) (h2 : M2.Deterministic)
    (p : σ) (q : τ)
    (h : ∀ a, (∃ r, (p, some a, r) ∈ M1.delta) ↔ (∃ r, (q, some a, r) ∈ M2.delta)) :
    (M1.outEdges p).map (·.1) = (M2.outEdges q).map (·.1) := by
  have s1 : ((M1.outEdges p).map (·.1)).Pairwise (· < ·) :=
    List.pairwise_map.mpr (outEdges_strict M1 h1 p)
  have s2 : ((M2.outEdges q).map (·.1)).Pairwise (· < ·) :=
    List.pairwise_map.mpr (outEdges_strict M2 h2 q)
  refine s1.eq_of_mem_iff s2 ?_
  intro a
  simp only [List.mem_map]
  constructor
  · rintro ⟨⟨a', r⟩, hm, rfl⟩
    obtain ⟨r', hr'⟩ := (h a').mp ⟨r, (mem_outEdges M1 p r a').mp hm⟩
    exact ⟨(a', r'), (mem_outEdges M2 q r' a').mpr hr', rfl⟩
  · rintro ⟨⟨a', r⟩, hm, rfl⟩
    obtain ⟨r', hr'⟩ := (h a').mpr ⟨r, (mem_outEdges M2 q r a').mp hm⟩
    exact ⟨(a', r'), (mem_outEdges M1 p r' a').mpr hr', rfl⟩

/-- the walk's test of the lengths and its tests of the symbols together -/
theorem zip_fst_eq {α β : Type} (l1 : List (Nat × α)) (l2 : List (Nat × β))
    (h : l1.map (·.1) = l2.map (·.1)) : l1.length = l2.length ∧ ∀ e ∈ l1.zip l2, e.1.1 = e.2.1 := by
  rw [← List.forall₂_eq_eq_eq, List.forall₂_map_left_iff, List.forall₂_map_right_iff,
    List.forall₂_iff_zip] at h
  exact ⟨h.1, fun e he => h.2 he⟩

theorem mem_zip_left {α β : Type} (l1 : List α) (l2 : List β) (h : l1.length = l2.length)
    (x : α) (hx : x ∈ l1) : ∃ y, (x, y) ∈ l1.zip l2 := by
  rw [← List.map_fst_zip (Nat.le_of_eq h)] at hx
  obtain ⟨⟨_, y⟩, he, rfl⟩ := List.mem_map.1 hx
  exact ⟨y, he⟩

theorem mem_zip_right {α β : Type} (l1 : List α) (l2 : List β) (h : l1.length = l2.length)
    (y : β) (hy : y ∈ l2) : ∃ x, (x, y) ∈ l1.zip l2 := by
  rw [← List.map_snd_zip (Nat.le_of_eq h.symm)] at hy
  obtain ⟨⟨x, _⟩, he, rfl⟩ := List.mem_map.1 hy
  exact ⟨x, he⟩

theorem find_fst_some {m : List (σ × τ)} {p : σ} {x : σ × τ}
    (h : m.find? (fun x => x.1 = p) = some x) : (p, x.2) ∈ m := by
  have hx : x.1 = p := by simpa using List.find?_some h
  exact hx ▸ List.mem_of_find?_eq_some h

theorem walkZip_some (l : List ((Nat × σ) × (Nat × τ))) :
    ∀ (todo m todo' m' : List (σ × τ)), walkZip l todo m = some (todo', m') →
      ∃ N, todo' = N ++ todo ∧ m' = N ++ m ∧ (∀ x ∈ N, ∃ e ∈ l, x = (e.1.2, e.2.2)) ∧
        (∀ e ∈ l, e.1.1 = e.2.1 ∧ (e.1.2, e.2.2) ∈ N ++ m) ∧
        ((m.map (·.1)).Nodup → ((N ++ m).map (·.1)).Nodup) := by
  intro todo m
  fun_induction walkZip l todo m with
  | case1 =>
    rintro _ _ ⟨⟩
    exact ⟨[], rfl, rfl, fun x hx => absurd hx List.not_mem_nil, fun e he => absurd he List.not_mem_nil, id⟩
  | case2 | case4 => exact fun _ _ h => nomatch h
  | case3 a p b rest todo m hab x hf ih =>
    intro todo' m' h
    obtain ⟨N, h1, h2, h3, h4, h5⟩ := ih _ _ h
    refine ⟨N, h1, h2, fun x hx => ?_, fun e he => ?_, h5⟩
    · obtain ⟨e, he, hx⟩ := h3 x hx
      exact ⟨e, List.mem_cons_of_mem _ he, hx⟩
    · rcases List.mem_cons.mp he with rfl | he
      · exact ⟨not_not.mp hab, List.mem_append_right _ (find_fst_some hf)⟩
      · exact h4 e he
  | case5 a p b q rest todo m hab hf ih =>
    intro todo' m' h
    obtain ⟨N, h1, h2, h3, h4, h5⟩ := ih _ _ h
    have happ : ∀ k : List (σ × τ), N ++ (p, q) :: k = (N ++ [(p, q)]) ++ k := fun k => by simp
    rw [happ] at h1 h2
    refine ⟨N ++ [(p, q)], h1, h2, fun x hx => ?_, fun e he => ?_, fun hnd => ?_⟩
    · rcases List.mem_append.mp hx with hx | hx
      · obtain ⟨e, he, hx⟩ := h3 x hx
        exact ⟨e, List.mem_cons_of_mem _ he, hx⟩
      · exact ⟨_, List.mem_cons_self, List.mem_singleton.mp hx⟩
    · rw [← happ]
      rcases List.mem_cons.mp he with rfl | he
      · exact ⟨not_not.mp hab, List.mem_append_right _ List.mem_cons_self⟩
      · exact h4 e he
    · rw [← happ]
      exact h5 (List.nodup_cons.mpr ⟨Assoc.find_eq_none_iff.1 hf, hnd⟩)

/-- when the symbols agree, the inner loop can only fail by finding a second partner for a state -/
theorem walkZip_none (P : σ × τ → Prop) (l : List ((Nat × σ) × (Nat × τ))) :
    ∀ (todo m : List (σ × τ)), walkZip l todo m = none → (∀ x ∈ m, P x) →
      (∀ e ∈ l, e.1.1 = e.2.1 ∧ P (e.1.2, e.2.2)) → ∃ p q q', P (p, q) ∧ P (p, q') ∧ q ≠ q' := by
  intro todo m
  fun_induction walkZip l todo m with
  | case1 => exact fun h => nomatch h
  | case2 a p b q rest todo m hab => exact fun _ _ hl => absurd (hl _ List.mem_cons_self).1 hab
  | case3 a p b rest todo m hab x hf ih =>
    exact fun h hm hl => ih h hm fun e he => hl e (List.mem_cons_of_mem _ he)
  | case4 a p b q rest todo m hab x hf hne =>
    exact fun _ hm hl => ⟨p, x.2, q, hm _ (find_fst_some hf), (hl _ List.mem_cons_self).2, hne⟩
  | case5 a p b q rest todo m hab hf ih =>
    refine fun h hm hl => ih h (fun x hx => ?_) fun e he => hl e (List.mem_cons_of_mem _ he)
    rcases List.mem_cons.mp hx with rfl | hx
    · exact (hl _ List.mem_cons_self).2
    · exact hm x hx

/-- the local check the walk performs at a pair, relative to a set `S` of matched pairs -/
def Checked (M1 : ENFA σ) (M2 : ENFA τ) (S : List (σ × τ)) (x : σ × τ) : Prop :=
  (x.1 ∈ M1.finals ↔ x.2 ∈ M2.finals) ∧
  (∀ a p', (x.1, some a, p') ∈ M1.delta → ∃ q', (x.2, some a, q') ∈ M2.delta ∧ (p', q') ∈ S) ∧
  (∀ a q', (x.2, some a, q') ∈ M2.delta → ∃ p', (x.1, some a, p') ∈ M1.delta ∧ (p', q') ∈ S)

theorem checked_of_zip (M1 : ENFA σ) (M2 : ENFA τ) (S : List (σ × τ)) (p : σ) (q : τ)
    (hfin : p ∈ M1.finals ↔ q ∈ M2.finals) (hlen : (M1.outEdges p).length = (M2.outEdges q).length)
    (hz : ∀ e ∈ (M1.outEdges p).zip (M2.outEdges q), e.1.1 = e.2.1 ∧ (e.1.2, e.2.2) ∈ S) :
    Checked M1 M2 S (p, q) := by
  refine ⟨hfin, fun a p' he => ?_, fun a q' he => ?_⟩
  · obtain ⟨⟨b, q'⟩, hy⟩ := mem_zip_left _ _ hlen _ ((mem_outEdges M1 p p' a).mpr he)
    obtain ⟨hab, hin⟩ := hz _ hy
    simp only at hab hin; subst hab
    exact ⟨q', (mem_outEdges M2 q q' a).mp (List.of_mem_zip hy).2, hin⟩
  · obtain ⟨⟨b, p'⟩, hy⟩ := mem_zip_right _ _ hlen _ ((mem_outEdges M2 q q' a).mpr he)
    obtain ⟨hab, hin⟩ := hz _ hy
    simp only at hab hin; subst hab
    exact ⟨p', (mem_outEdges M1 p p' b).mp (List.of_mem_zip hy).1, hin⟩

/-- the matched pairs at the end, `S`, contain those matched now; every queued pair and every pair
matched later passes the check against `S` -/
theorem isoWalkLoop_true (M1 : ENFA σ) (M2 : ENFA τ) :
    ∀ (fuel : Nat) (todo m : List (σ × τ)), isoWalkLoop M1 M2 fuel todo m = some true →
      ∃ S : List (σ × τ), (∀ x ∈ m, x ∈ S) ∧ (∀ x ∈ todo, Checked M1 M2 S x) ∧
        ∀ x ∈ S, x ∈ m ∨ Checked M1 M2 S x := by
  intro fuel todo m
  fun_induction isoWalkLoop M1 M2 fuel todo m with
  | case1 _ m => exact fun _ => ⟨m, fun _ hx => hx, fun _ hx => (nomatch hx), fun _ => Or.inl⟩
  | case2 | case3 | case4 | case5 => exact fun h => nomatch h
  | case6 fuel p q todo m hfin _ _ hlen todo' m' hz ih =>
    intro h
    obtain ⟨S, hS1, hS2, hS3⟩ := ih h
    obtain ⟨N, rfl, rfl, -, i5, -⟩ := walkZip_some _ _ _ _ _ hz
    refine ⟨S, fun x hx => hS1 x (List.mem_append_right _ hx), List.forall_mem_cons.mpr
      ⟨checked_of_zip M1 M2 S p q (by simpa using hfin) (not_not.mp hlen)
        fun e he => ⟨(i5 e he).1, hS1 _ (i5 e he).2⟩, fun x hx => hS2 x (List.mem_append_right _ hx)⟩,
      fun x hx => (hS3 x hx).elim (fun hxm => ?_) Or.inr⟩
    exact (List.mem_append.mp hxm).elim (fun hN => Or.inr (hS2 x (List.mem_append_left _ hN))) Or.inl

def RightEq (M1 : ENFA σ) (M2 : ENFA τ) (x : σ × τ) : Prop :=
  ∀ w, M1.RightLang (some x.1) w ↔ M2.RightLang (some x.2) w

theorem checked_bisim (M1 : ENFA σ) (M2 : ENFA τ) (e1 : M1.EpsFree) (e2 : M2.EpsFree)
    (S : List (σ × τ)) (hS : ∀ x ∈ S, Checked M1 M2 S x) : ∀ x ∈ S, RightEq M1 M2 x := by
  intro x hx w
  induction w generalizing x with
  | nil =>
    rw [rightLang_nil e1, rightLang_nil e2]
    exact (hS _ hx).1
  | cons a w ih =>
    obtain ⟨_, c2, c3⟩ := hS _ hx
    constructor
    · rintro ⟨f, hf, hr⟩
      obtain ⟨p', he, hr'⟩ := (e1.run_cons_iff _ _ _ _).mp hr
      obtain ⟨q', he', hin⟩ := c2 a p' he
      obtain ⟨f', hf', hr''⟩ := (ih _ hin).mp ⟨f, hf, hr'⟩
      exact ⟨f', hf', Run.step he' hr''⟩
    · rintro ⟨f, hf, hr⟩
      obtain ⟨q', he, hr'⟩ := (e2.run_cons_iff _ _ _ _).mp hr
      obtain ⟨p', he', hin⟩ := c3 a q' he
      obtain ⟨f', hf', hr''⟩ := (ih _ hin).mpr ⟨f, hf, hr'⟩
      exact ⟨f', hf', Run.step he' hr''⟩

theorem Deterministic.lang_iff_head {M : ENFA σ} (hd : M.Deterministic) {s : σ}
    (hs : M.starts.head? = some s) (w : List Nat) : M.Lang w ↔ M.RightLang (some s) w := by
  have hsm : s ∈ M.starts := List.mem_of_head? hs
  constructor
  · rintro ⟨s', hs', hacc⟩
    rwa [hd.1 s hsm s' hs']
  · exact fun hacc => ⟨s, hsm, hacc⟩

theorem lang_iff_rightEq {M1 : ENFA σ} {M2 : ENFA τ} (h1 : M1.Deterministic) (h2 : M2.Deterministic)
    {s1 : σ} {s2 : τ} (hs1 : M1.starts.head? = some s1) (hs2 : M2.starts.head? = some s2) :
    (∀ w, M1.Lang w ↔ M2.Lang w) ↔ RightEq M1 M2 (s1, s2) :=
  forall_congr' fun w => by rw [h1.lang_iff_head hs1, h2.lang_iff_head hs2]

section
variable {M1 : ENFA σ} {M2 : ENFA τ} {p p' : σ} {q q' : τ} {a : Nat}

theorem RightEq.final (e1 : M1.EpsFree) (e2 : M2.EpsFree) (h : RightEq M1 M2 (p, q)) :
    p ∈ M1.finals ↔ q ∈ M2.finals := by
  rw [← rightLang_nil e1, ← rightLang_nil e2]
  exact h []

/-- an edge into a state that leads to a final state starts an accepted word, which the other state
accepts too -/
theorem RightEq.enabled (e2 : M2.EpsFree) (h : RightEq M1 M2 (p, q))
    (hedge : (p, some a, p') ∈ M1.delta) (hp' : ∃ w, ∃ f ∈ M1.finals, M1.Run p' w f) :
    ∃ r, (q, some a, r) ∈ M2.delta := by
  obtain ⟨z, f, hf, hrun⟩ := hp'
  obtain ⟨_, _, hrun'⟩ := (h (a :: z)).mp ⟨f, hf, Run.step hedge hrun⟩
  obtain ⟨r, hr, _⟩ := (e2.run_cons_iff _ _ _ _).mp hrun'
  exact ⟨r, hr⟩

theorem RightEq.step (h1 : M1.Deterministic) (e1 : M1.EpsFree) (h2 : M2.Deterministic)
    (e2 : M2.EpsFree) (h : RightEq M1 M2 (p, q)) (hp : (p, some a, p') ∈ M1.delta)
    (hq : (q, some a, q') ∈ M2.delta) : RightEq M1 M2 (p', q') := fun w => by
  rw [← rightLang_cons h1 e1 hp, ← rightLang_cons h2 e2 hq]
  exact h _

end

/-- The walk never answers `False` while the queued and matched pairs have equal right languages.
Such a pair passes the walk's tests of finality (`RightEq.final`) and of the number and the symbols
of the out-edges (`RightEq.enabled`, both automata trim), its successors are such pairs again
(`RightEq.step`), and a state of `M1` is never matched with two states of `M2`, `M2` being reduced. -/
theorem isoWalkLoop_false (M1 : ENFA σ) (M2 : ENFA τ) (w2 : M2.WF)
    (h1 : M1.Deterministic) (e1 : M1.EpsFree) (h2 : M2.Deterministic) (e2 : M2.EpsFree)
    (t1 : ∀ t ∈ M1.delta, ∃ w, ∃ f ∈ M1.finals, M1.Run t.2.2 w f)
    (t2 : ∀ t ∈ M2.delta, ∃ w, ∃ f ∈ M2.finals, M2.Run t.2.2 w f) (r2 : M2.Reduced) :
    ∀ (fuel : Nat) (todo m : List (σ × τ)), isoWalkLoop M1 M2 fuel todo m = some false →
      (∀ x ∈ todo, x.2 ∈ M2.states ∧ RightEq M1 M2 x) →
      (∀ x ∈ m, x.2 ∈ M2.states ∧ RightEq M1 M2 x) → False := by
  intro fuel todo m
  -- what holds of the pair `(p, q)` at the head of the queue
  have hhead : ∀ {p q todo}, (∀ x ∈ (p, q) :: todo, x.2 ∈ M2.states ∧ RightEq M1 M2 x) →
      (p ∈ M1.finals ↔ q ∈ M2.finals) ∧ (M1.outEdges p).length = (M2.outEdges q).length ∧
      ∀ e ∈ (M1.outEdges p).zip (M2.outEdges q), e.1.1 = e.2.1 ∧
        e.2.2 ∈ M2.states ∧ RightEq M1 M2 (e.1.2, e.2.2) := by
    intro p q todo ht
    have hpq : RightEq M1 M2 (p, q) := (ht _ List.mem_cons_self).2
    obtain ⟨hlen, hsym⟩ := zip_fst_eq _ _ (outEdges_syms_eq M1 M2 h1 h2 p q fun a =>
      ⟨fun ⟨_, hr⟩ => hpq.enabled e2 hr (t1 _ hr),
        fun ⟨_, hr⟩ => RightEq.enabled (M1 := M2) (M2 := M1) e1 (fun w => (hpq w).symm) hr (t2 _ hr)⟩)
    refine ⟨hpq.final e1 e2, hlen, ?_⟩
    rintro ⟨⟨a, p'⟩, ⟨b, q'⟩⟩ he
    have hab := hsym _ he
    simp only at hab; subst hab
    have hq := (mem_outEdges M2 q q' a).mp (List.of_mem_zip he).2
    exact ⟨rfl, w2.delta_dst _ hq,
      hpq.step h1 e1 h2 e2 ((mem_outEdges M1 p p' a).mp (List.of_mem_zip he).1) hq⟩
  fun_induction isoWalkLoop M1 M2 fuel todo m with
  | case1 | case2 => exact fun h => nomatch h
  | case3 fuel p q todo m hfin => exact fun _ ht _ => by simp [(hhead ht).1] at hfin
  | case4 fuel p q todo m _ _ _ hlen => exact fun _ ht _ => hlen (hhead ht).2.1
  | case5 fuel p q todo m _ _ _ _ hz =>
    intro _ ht hm
    obtain ⟨p', q1, q2, hc1, hc2, hne⟩ :=
      walkZip_none (fun x => x.2 ∈ M2.states ∧ RightEq M1 M2 x) _ _ _ hz hm (hhead ht).2.2
    exact hne (r2.2 q1 hc1.1 q2 hc2.1 fun z => (hc1.2 z).symm.trans (hc2.2 z))
  | case6 fuel p q todo m _ _ _ _ todo' m' hz ih =>
    intro h ht hm
    obtain ⟨N, rfl, rfl, hN, -, -⟩ := walkZip_some _ _ _ _ _ hz
    have hNew : ∀ x ∈ N, x.2 ∈ M2.states ∧ RightEq M1 M2 x := by
      intro x hx
      obtain ⟨e, he, rfl⟩ := hN x hx
      exact ((hhead ht).2.2 e he).2
    refine ih h (fun x hx => ?_) (fun x hx => ?_)
    · exact (List.mem_append.mp hx).elim (hNew x) fun h' => ht x (List.mem_cons_of_mem _ h')
    · exact (List.mem_append.mp hx).elim (hNew x) (hm x)

end ENFA

end Pfl
