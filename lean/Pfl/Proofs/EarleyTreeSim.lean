/-
The tree-carrying Earley run (`Pfl/Model/EarleyTree.lean`) is the plain recogniser's run
(`Pfl/Model/Earley.lean`) with a tree attached to every state: no operation reads a tree, so forgetting
the trees commutes with every operation, and whatever predicate of states with trees the four ways of
making a state keep holds of every state of the tables.  Both are shown by one walk through the run
(`Dec`, `run_dec`).
-/
import Pfl.Model.EarleyTree
import Pfl.Proofs.EarleyColumns
import Mathlib.Data.List.Basic
namespace Pfl.Earley.Tr
open FsDag Lem

/-- erasing the trees of one dictionary entry -/
def eg (e : Key × List TState) : Key × List EState := (e.1, e.2.map Prod.fst)

theorem erase_store (T : TablesT) : T.erase.store = T.store := rfl
theorem erase_chart (T : TablesT) : T.erase.chart = T.chart.map (List.map Prod.fst) := rfl
theorem erase_processed (T : TablesT) : T.erase.processed = T.processed.map (List.map eg) := rfl

theorem erase_mk (st : Store) (c : List (List TState)) (p : List DictT) :
    (TablesT.mk st c p).erase = ⟨st, c.map (List.map Prod.fst), p.map (List.map eg)⟩ := rfl

theorem colGet_map {α β : Type} (f : α → β) (l : List (List α)) (i : Nat) :
    colGet (l.map (List.map f)) i = (colGet l i).map f := by
  unfold colGet
  rw [List.getD_eq_getElem?_getD, List.getD_eq_getElem?_getD, List.getElem?_map]
  cases l[i]? <;> simp

theorem find_eg (d : DictT) (k : Key) :
    (d.map eg).find? (fun e => decide (e.1 = k)) = (d.find? (fun e => decide (e.1 = k))).map eg := by
  induction d with
  | nil => rfl
  | cons a d ih =>
    simp only [List.map_cons, List.find?_cons]
    have : (eg a).1 = a.1 := rfl
    rw [this]
    split
    · rfl
    · exact ih

theorem any_eg (d : DictT) (k : Key) :
    (d.map eg).any (fun e => decide (e.1 = k)) = d.any (fun e => decide (e.1 = k)) := by
  rw [List.any_map]; rfl

theorem bucket_eg (d : DictT) (k : Key) : bucket (d.map eg) k = (bucket d k).map Prod.fst := by
  unfold bucket
  rw [find_eg]
  cases d.find? (fun e => decide (e.1 = k)) <;> rfl

theorem touch_eg (d : DictT) (k : Key) : touch (d.map eg) k = (touch d k).map eg := by
  unfold touch
  rw [any_eg]
  by_cases h : d.any (fun e => decide (e.1 = k)) = true
  · rw [if_pos h, if_pos h]
  · rw [if_neg h, if_neg h, List.map_append]; rfl

theorem ins_eg (d : DictT) (k : Key) (s : TState) : ins (d.map eg) k s.1 = (ins d k s).map eg := by
  unfold ins
  rw [any_eg]
  by_cases h : d.any (fun e => decide (e.1 = k)) = true
  · rw [if_pos h, if_pos h, List.map_map, List.map_map]
    refine List.map_congr_left fun e _ => ?_
    show (if e.1 = k then _ else _) = eg (if e.1 = k then _ else _)
    by_cases hk : e.1 = k
    · rw [if_pos hk, if_pos hk, eg, eg, List.map_append]; rfl
    · rw [if_neg hk, if_neg hk]
  · rw [if_neg h, if_neg h, List.map_append]; rfl

theorem procAddT_def (G : Grammar) (T : TablesT) (i : Nat) (s : TState) : procAddT G T i s =
    if (bucket (colGet T.processed i) (keyOf G s.1)).any fun o => subsumes T.store o.1.fs s.1.fs then
      ({ T with processed := T.processed.set i (touch (colGet T.processed i) (keyOf G s.1)) }, false)
    else
      ({ T with processed := T.processed.set i (ins (colGet T.processed i) (keyOf G s.1) s) }, true) := by
  unfold procAddT bucket
  dsimp only
  cases (colGet T.processed i).find? (·.1 = keyOf G s.1) <;> rfl

theorem erase_setProc (T : TablesT) (i : Nat) (d : DictT) :
    ({ T with processed := T.processed.set i d } : TablesT).erase =
      { T.erase with processed := (T.processed.map (List.map eg)).set i (d.map eg) } := by
  rw [erase_mk, List.map_set]; rfl

theorem procAddT_erase (G : Grammar) (T : TablesT) (i : Nat) (s : TState) :
    (procAddT G T i s).1.erase = (procAdd G T.erase i s.1).1 ∧
      (procAddT G T i s).2 = (procAdd G T.erase i s.1).2 := by
  have hany : ∀ l : List TState, (l.map Prod.fst).any (fun o => subsumes T.store o.fs s.1.fs) =
      l.any fun o => subsumes T.store o.1.fs s.1.fs := fun l => by rw [List.any_map]; rfl
  rw [procAddT_def, procAdd_def, erase_store, erase_processed, colGet_map, bucket_eg, hany, touch_eg,
    ins_eg]
  cases (bucket (colGet T.processed i) (keyOf G s.1)).any fun o => subsumes T.store o.1.fs s.1.fs
  · exact ⟨erase_setProc .., rfl⟩
  · exact ⟨erase_setProc .., rfl⟩

theorem pushIfNewT_erase (G : Grammar) (T : TablesT) (i : Nat) (s : TState) :
    (pushIfNewT G T i s).erase = pushIfNew G T.erase i s.1 := by
  unfold pushIfNewT pushIfNew
  obtain ⟨h1, h2⟩ := procAddT_erase G T i s
  simp only
  rw [← h2, ← h1]
  split
  · generalize (procAddT G T i s).1 = T'
    simp only [erase_mk, erase_store, erase_chart, erase_processed, colGet_map, List.map_set,
      List.map_append, List.map_cons, List.map_nil]
  · rfl

theorem erase_withStore (T : TablesT) (st : Store) :
    ({ T with store := st } : TablesT).erase = { T.erase with store := st } := rfl

/-- the table side of `_advance`: the new store, and the advanced state when the unification succeeded -/
def advPushT (G : Grammar) (T : TablesT) (nx s : TState) : Store ⊕ (Store × Nat) → TablesT
  | .inl st => { T with store := st }
  | .inr (st3, cr) => pushIfNewT G { T with store := st3 } s.1.e
      ({ prod := nx.1.prod, b := nx.1.b, e := s.1.e, dot := nx.1.dot + 1, fs := cr }, addSon nx.2 s.2)

theorem advanceT_eq (G : Grammar) (T : TablesT) (nx s : TState) :
    advanceT G T nx s = advPushT G T nx s (advStore T.store s.1.fs nx.1.fs nx.1.dot) := by
  unfold advanceT advStore
  simp only
  cases byPath (copy T.store s.1.fs).1 (copy T.store s.1.fs).2 ["head"] with
  | none => rfl
  | some left =>
    simp only
    cases byPath (copy (copy T.store s.1.fs).1 nx.1.fs).1 (copy (copy T.store s.1.fs).1 nx.1.fs).2
        [toString nx.1.dot] with
    | none => rfl
    | some considered =>
      simp only
      cases unify ((copy (copy T.store s.1.fs).1 nx.1.fs).1.length + 2)
          (copy (copy T.store s.1.fs).1 nx.1.fs).1 considered left <;> rfl

/-- the tables before the first column is worked on: empty but for the dummy item with its one-node tree -/
def initTT (G : Grammar) (st0 : Store) (n : Nat) : TablesT :=
  pushIfNewT G ⟨st0, List.replicate (n + 1) [], List.replicate (n + 1) []⟩ 0
    ({ prod := G.prods.length, b := 0, e := 0, dot := 0, fs := G.gammaFeats }, .node (.var "BEGIN") [])

theorem parseTree_eq (G : Grammar) (st0 : Store) (word : List String) (fuel : Nat) :
    parseTree G st0 word fuel =
      (parseTree.cols G word fuel (List.range' 0 (word.length + 1)) (initTT G st0 word.length)).map
        fun T3 => (((colGet T3.processed word.length).flatMap (·.2)).find? fun s =>
          s.1.b = 0 ∧ !(incomplete G s.1) ∧ (prodOf G s.1.prod).head = G.start).map (·.2) := by
  unfold parseTree initTT
  simp only
  rw [List.range_eq_range']
  cases parseTree.cols G word fuel _ _ <;> rfl

/-- what the ways of making a state (the dummy item, prediction, scanning, moving over a completed
variable) ask of a predicate `P` of states with trees, for the run to keep it -/
structure Rules (G : Grammar) (w : List String) (P : TState → Prop) : Prop where
  init : P ({ prod := G.prods.length, b := 0, e := 0, dot := 0, fs := G.gammaFeats }, .node (.var "BEGIN") [])
  pred : ∀ {s : TState} {k : Nat} {p : FProd}, P s → G.prods[k]? = some p →
    P ({ prod := k, b := s.1.e, e := s.1.e, dot := 0, fs := p.feats }, .node (.var p.head) [])
  scan : ∀ {s : TState} {t : String}, P s → nextSym G s.1 = some (.ter t) → w[s.1.e]? = some t →
    P ({ s.1 with e := s.1.e + 1, dot := s.1.dot + 1 }, addSon s.2 (.node (.ter t) []))
  adv : ∀ {nx c : TState} (fs : Nat), P nx → P c → nx.1.e = c.1.b → incomplete G c.1 = false →
    nextSym G nx.1 = some (.var (prodOf G c.1.prod).head) →
    P ({ prod := nx.1.prod, b := nx.1.b, e := c.1.e, dot := nx.1.dot + 1, fs := fs }, addSon nx.2 c.2)

/-- every state of column `i` ends at `i` and has `P` -/
def All (P : TState → Prop) (T : TablesT) : Prop :=
  (∀ i, ∀ p ∈ colGet T.chart i, P p ∧ p.1.e = i) ∧
  (∀ i, ∀ p ∈ (colGet T.processed i).flatMap (·.2), P p ∧ p.1.e = i)

/-- `T` is the recogniser's tables `U` with a tree attached to every state, and the states have `P` -/
structure Dec (P : TState → Prop) (T : TablesT) (U : Tables) : Prop where
  er : T.erase = U
  all : All P T

variable {G : Grammar} {w : List String} {P : TState → Prop} {T : TablesT} {U : Tables}

theorem All.setProc (h : All P T) {i : Nat} {d : DictT}
    (hd : ∀ p ∈ d.flatMap (·.2), P p ∧ p.1.e = i) :
    All P { T with processed := T.processed.set i d } := by
  refine ⟨h.1, fun j p hp => ?_⟩
  obtain ⟨e, he, hpe⟩ := List.mem_flatMap.1 hp
  rcases mem_colGet_set he with ⟨rfl, he'⟩ | he'
  · exact hd p (List.mem_flatMap.2 ⟨e, he', hpe⟩)
  · exact h.2 j p (List.mem_flatMap.2 ⟨e, he', hpe⟩)

theorem All.procAdd (h : All P T) {i : Nat} {s : TState} (hs : P s ∧ s.1.e = i) :
    All P (procAddT G T i s).1 := by
  rw [procAddT_def]
  cases (bucket (colGet T.processed i) (keyOf G s.1)).any fun o => subsumes T.store o.1.fs s.1.fs
  · refine h.setProc fun p hp => ?_
    rcases mem_flatMap_ins.1 hp with hp | rfl
    · exact h.2 i p hp
    · exact hs
  · exact h.setProc fun p hp => h.2 i p (flatMap_touch _ _ ▸ hp)

theorem All.push (h : All P T) {i : Nat} {s : TState} (hs : P s ∧ s.1.e = i) :
    All P (pushIfNewT G T i s) := by
  unfold pushIfNewT
  have h' := h.procAdd (G := G) hs
  simp only
  split
  · refine ⟨fun j p hp => ?_, h'.2⟩
    rcases mem_colGet_set hp with ⟨rfl, hp'⟩ | hp'
    · rcases List.mem_append.1 hp' with hp' | hp'
      · exact h'.1 _ p hp'
      · exact List.mem_singleton.1 hp' ▸ hs
    · exact h'.1 j p hp'
  · exact h'

theorem Dec.push (h : Dec P T U) {i : Nat} {s : TState} (hs : P s) (hi : s.1.e = i) :
    Dec P (pushIfNewT G T i s) (pushIfNew G U i s.1) :=
  ⟨by rw [pushIfNewT_erase, h.er], h.all.push ⟨hs, hi⟩⟩

theorem Dec.adv (h : Dec P T U) {nx c : TState}
    (hP : ∀ fs, P ({ prod := nx.1.prod, b := nx.1.b, e := c.1.e, dot := nx.1.dot + 1, fs := fs },
      addSon nx.2 c.2)) :
    Dec P (advanceT G T nx c) (advance G U nx.1 c.1) := by
  rw [advanceT_eq, advance_eq, ← h.er, erase_store]
  cases advStore T.store c.1.fs nx.1.fs nx.1.dot with
  | inl st => exact ⟨rfl, h.all⟩
  | inr p => exact Dec.push (T := { T with store := p.1 }) ⟨rfl, h.all⟩ (hP p.2) rfl

theorem Dec.snapshot (h : Dec P T U) (i : Nat) :
    (colGet U.processed i).flatMap (·.2) = ((colGet T.processed i).flatMap (·.2)).map Prod.fst := by
  rw [← h.er, erase_processed, colGet_map, List.flatMap_map, List.map_flatMap]
  rfl

theorem Dec.pred (hR : Rules G w P) (h : Dec P T U) {s : TState} (hs : P s) :
    Dec P (predictorT G T s) (predictor G U s.1) := by
  unfold predictorT predictor
  cases hn : nextSym G s.1 with
  | none => exact h
  | some sym =>
    cases sym with
    | ter t => exact h
    | var v =>
      simp only
      generalize hT1 : List.foldl _ T _ = T1
      generalize hU1 : List.foldl _ U _ = U1
      have h1 : Dec P T1 U1 := by
        rw [← hT1, ← hU1]
        refine List.foldl_rel h fun pk hpk T U hTU => ?_
        split
        · exact hTU.push (hR.pred hs (mem_zip_range hpk)) rfl
        · exact hTU
      rw [h1.snapshot, List.foldl_map]
      refine List.foldl_rel h1 fun c hc T U hTU => ?_
      split
      · rename_i hcond
        exact hTU.adv fun fs => hR.adv fs hs (h1.all.2 _ c hc).1 hcond.2.1.symm (by simpa using hcond.1)
          (by rw [hn, hcond.2.2])
      · exact hTU

theorem Dec.compl (hR : Rules G w P) (h : Dec P T U) {c : TState} (hc : P c)
    (hcomp : incomplete G c.1 = false) : Dec P (completerT G T c) (completer G U c.1) := by
  unfold completerT completer
  simp only
  rw [h.snapshot, List.foldl_map]
  refine List.foldl_rel h fun nx hnx T' U' hTU => ?_
  split
  · rename_i hcond
    have hg := h.all.2 _ nx hnx
    exact hTU.adv fun fs => hR.adv fs hg.1 hc hg.2 hcomp hcond.2
  · exact hTU

theorem Dec.loop (hR : Rules G w P) (i : Nat) :
    ∀ (f : Nat) {T : TablesT} {U : Tables}, Dec P T U →
      Option.Rel (Dec P) (columnLoopT G w i f T) (columnLoop G w i f U)
  | 0, _, _, _ => .none
  | f + 1, T, U, h => by
    unfold columnLoopT columnLoop
    have hl : (colGet U.chart i).getLast? = ((colGet T.chart i).getLast?).map Prod.fst := by
      rw [← h.er, erase_chart, colGet_map, List.getLast?_map]
    rw [hl]
    cases hs : (colGet T.chart i).getLast? with
    | none => exact .some h
    | some s =>
      obtain ⟨hps, hse⟩ := h.all.1 i s (List.mem_of_getLast? hs)
      have h0 : Dec P { T with chart := T.chart.set i (colGet T.chart i).dropLast }
          { U with chart := U.chart.set i (colGet U.chart i).dropLast } :=
        ⟨by rw [← h.er]; simp only [TablesT.erase, List.map_set, List.map_dropLast, colGet_map],
          fun j p hp => h.all.1 j p (mem_colGet_pop hp), h.all.2⟩
      refine Dec.loop hR i f ?_
      split
      · cases hn : nextSym G s.1 with
        | none => exact h0
        | some sym =>
          cases sym with
          | var v => exact h0.pred hR hps
          | ter t =>
            dsimp only
            split
            · rename_i hw
              unfold scannerT scanner
              rw [hn]
              exact h0.push (hR.scan hps hn (hse ▸ hw)) rfl
            · exact h0
      · rename_i hinc
        exact h0.compl hR hps (by simpa using hinc)

theorem Dec.cols (hR : Rules G w P) (fuel : Nat) :
    ∀ (l : List Nat) {T : TablesT} {U : Tables}, Dec P T U →
      Option.Rel (Dec P) (parseTree.cols G w fuel l T) (contains.cols G w fuel l U)
  | [], _, _, h => .some h
  | i :: l, T, U, h => by
    unfold parseTree.cols contains.cols
    have h1 := h.loop hR i fuel
    generalize columnLoopT G w i fuel T = a, columnLoop G w i fuel U = b at h1 ⊢
    cases h1 with
    | none => exact .none
    | some h1 => exact Dec.cols hR fuel l h1

theorem Dec.init (hR : Rules G w P) (st0 : Store) (n : Nat) : Dec P (initTT G st0 n) (initT G st0 n) :=
  Dec.push ⟨by simp [TablesT.erase], fun _ _ hp => absurd hp (not_mem_colGet_replicate _ _ _), fun _ _ hp => by
    rw [colGet_replicate] at hp; exact nomatch hp⟩ hR.init rfl

theorem run_dec (hR : Rules G w P) (st0 : Store) (fuel : Nat) :
    Option.Rel (Dec P) (parseTree.cols G w fuel (List.range' 0 (w.length + 1)) (initTT G st0 w.length))
      (contains.cols G w fuel (List.range' 0 (w.length + 1)) (initT G st0 w.length)) :=
  Dec.cols hR fuel _ (Dec.init hR st0 _)

theorem Rules.trivial {G : Grammar} {w : List String} : Rules G w fun _ => True :=
  ⟨True.intro, fun _ _ => True.intro, fun _ _ _ => True.intro, fun _ _ _ _ _ _ => True.intro⟩

end Pfl.Earley.Tr
