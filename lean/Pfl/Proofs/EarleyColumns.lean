/-
Lists of columns (`colGet`, as used for the chart and for `processed`), the dictionary of a column of
`processed`, segments of the input word and the enumeration of the productions: the list facts shared
by the proofs about the Earley model and its tree-carrying variant.  Then what the table operations of
the recogniser (`procAdd`, `pushIfNew`, `advance`, the pop and the body of the loop, `contains`) are in
these terms: the facts about the model that hold without any invariant.  Last the form all invariants
of the tables have (`Lay`: facts about store and `processed` table, and a predicate of every state of the
tables) with what the table operations ask of such an invariant to keep it.
-/
import Pfl.Model.Earley
namespace Pfl
namespace Earley
namespace Lem

theorem colGet_set_self {α : Type} {l : List (List α)} {i : Nat} (x : List α) (hi : i < l.length) :
    colGet (l.set i x) i = x := by
  unfold colGet
  rw [List.getD_eq_getElem?_getD, List.getElem?_set, if_pos rfl, if_pos hi]; rfl

theorem colGet_set_ne {α : Type} {l : List (List α)} {i j : Nat} (x : List α) (h : i ≠ j) :
    colGet (l.set i x) j = colGet l j := by
  unfold colGet
  rw [List.getD_eq_getElem?_getD, List.getD_eq_getElem?_getD, List.getElem?_set, if_neg h]

theorem colGet_set_ge {α : Type} {l : List (List α)} {i : Nat} (x : List α) (hi : l.length ≤ i)
    (j : Nat) : colGet (l.set i x) j = colGet l j := by
  rw [List.set_eq_of_length_le hi]

theorem colGet_set {α : Type} (l : List (List α)) (i : Nat) (x : List α) (j : Nat) :
    colGet (l.set i x) j = if j = i ∧ i < l.length then x else colGet l j := by
  by_cases hi : i < l.length
  · by_cases hj : j = i
    · rw [hj, colGet_set_self _ hi, if_pos ⟨rfl, hi⟩]
    · rw [colGet_set_ne _ (Ne.symm hj), if_neg (fun h => hj h.1)]
  · rw [colGet_set_ge _ (Nat.le_of_not_lt hi), if_neg (fun h => hi h.2)]

theorem mem_colGet_set {α : Type} {l : List (List α)} {i j : Nat} {x : List α} {a : α}
    (h : a ∈ colGet (l.set i x) j) : (j = i ∧ a ∈ x) ∨ a ∈ colGet l j := by
  by_cases hij : i = j
  · subst hij
    by_cases hl : i < l.length
    · rw [colGet_set_self _ hl] at h; exact Or.inl ⟨rfl, h⟩
    · rw [colGet_set_ge _ (Nat.le_of_not_lt hl)] at h; exact Or.inr h
  · rw [colGet_set_ne _ hij] at h; exact Or.inr h

theorem mem_colGet_pop {α : Type} {l : List (List α)} {i j : Nat} {a : α}
    (h : a ∈ colGet (l.set i (colGet l i).dropLast) j) : a ∈ colGet l j := by
  rcases mem_colGet_set h with ⟨rfl, h2⟩ | h2
  · exact List.dropLast_subset _ h2
  · exact h2

theorem colGet_ge {α : Type} {l : List (List α)} {j : Nat} (h : l.length ≤ j) : colGet l j = [] := by
  unfold colGet
  rw [List.getD_eq_getElem?_getD, List.getElem?_eq_none h]; rfl

theorem colGet_replicate {α : Type} (n i : Nat) : colGet (List.replicate n ([] : List α)) i = [] := by
  unfold colGet
  rw [List.getD_eq_getElem?_getD]
  by_cases h : i < n
  · rw [List.getElem?_replicate, if_pos h]; rfl
  · rw [List.getElem?_eq_none (by simp; omega)]; rfl

theorem not_mem_colGet_replicate {α : Type} (n j : Nat) (a : α) :
    a ∉ colGet (List.replicate n ([] : List α)) j := fun h => by
  rw [colGet_replicate] at h; exact nomatch h

/-! ### the dictionary of a column

`procAdd` looks up the states stored under the key of the candidate (`bucket`), and stores the
dictionary with the key created (`touch`) or with the candidate appended under its key (`ins`).
None of the three looks at the states, so they serve the tables with trees as well. -/

def bucket {α : Type} (d : List (Key × List α)) (k : Key) : List α :=
  match d.find? (·.1 = k) with
  | some e => e.2
  | none => []

def touch {α : Type} (d : List (Key × List α)) (k : Key) : List (Key × List α) :=
  if d.any (·.1 = k) then d else d ++ [(k, [])]

def ins {α : Type} (d : List (Key × List α)) (k : Key) (s : α) : List (Key × List α) :=
  if d.any (·.1 = k) then d.map fun e => if e.1 = k then (e.1, e.2 ++ [s]) else e
  else d ++ [(k, [s])]

theorem mem_bucket {α : Type} {d : List (Key × List α)} {k : Key} {o : α} (h : o ∈ bucket d k) :
    ∃ e ∈ d, e.1 = k ∧ o ∈ e.2 := by
  unfold bucket at h
  cases hf : d.find? (·.1 = k) with
  | none => rw [hf] at h; exact absurd h List.not_mem_nil
  | some e =>
    rw [hf] at h
    exact ⟨e, List.mem_of_find?_eq_some hf, by simpa using List.find?_some hf, h⟩

theorem mem_touch {α : Type} {d : List (Key × List α)} {k : Key} {e' : Key × List α}
    (h : e' ∈ touch d k) : e' ∈ d ∨ e' = (k, []) := by
  unfold touch at h
  split at h
  · exact Or.inl h
  · exact (List.mem_append.1 h).imp id List.mem_singleton.1

theorem mem_ins {α : Type} {d : List (Key × List α)} {k : Key} {s : α} {e' : Key × List α}
    (h : e' ∈ ins d k s) :
    e' ∈ d ∨ e' = (k, [s]) ∨ ∃ e ∈ d, e.1 = k ∧ e' = (e.1, e.2 ++ [s]) := by
  unfold ins at h
  split at h
  · obtain ⟨e, he, rfl⟩ := List.mem_map.1 h
    by_cases hk : e.1 = k
    · rw [if_pos hk]; exact Or.inr (Or.inr ⟨e, he, hk, rfl⟩)
    · rw [if_neg hk]; exact Or.inl he
  · exact (List.mem_append.1 h).imp id fun h => Or.inl (List.mem_singleton.1 h)

theorem keys_ins {α : Type} (d : List (Key × List α)) (k : Key) (s : α) :
    (ins d k s).map (·.1) = (touch d k).map (·.1) := by
  unfold ins touch
  split
  · rw [List.map_map]
    exact List.map_congr_left fun e _ => by simp only [Function.comp]; split <;> rfl
  · rw [List.map_append, List.map_append]; rfl

theorem keys_touch {α : Type} (d : List (Key × List α)) (k : Key) :
    (touch d k).map (·.1) = if d.any (·.1 = k) then d.map (·.1) else d.map (·.1) ++ [k] := by
  unfold touch
  split
  · rfl
  · rw [List.map_append]; rfl

theorem flatMap_touch {α : Type} (d : List (Key × List α)) (k : Key) :
    (touch d k).flatMap (·.2) = d.flatMap (·.2) := by
  unfold touch
  split
  · rfl
  · rw [List.flatMap_append, List.flatMap_singleton, List.append_nil]

theorem mem_flatMap_ins {α : Type} {d : List (Key × List α)} {k : Key} {s s' : α} :
    s' ∈ (ins d k s).flatMap (·.2) ↔ s' ∈ d.flatMap (·.2) ∨ s' = s := by
  unfold ins
  split
  · rename_i hk
    obtain ⟨e0, he0, hk0⟩ := List.any_eq_true.1 hk
    simp only [List.mem_flatMap, List.mem_map]
    constructor
    · rintro ⟨_, ⟨e, he, rfl⟩, hs⟩
      split at hs
      · rcases List.mem_append.1 hs with h | h
        · exact Or.inl ⟨e, he, h⟩
        · exact Or.inr (List.mem_singleton.1 h)
      · exact Or.inl ⟨e, he, hs⟩
    · rintro (⟨e, he, hs⟩ | rfl)
      · refine ⟨_, ⟨e, he, rfl⟩, ?_⟩
        split
        · exact List.mem_append_left _ hs
        · exact hs
      · refine ⟨_, ⟨e0, he0, rfl⟩, ?_⟩
        rw [if_pos (of_decide_eq_true hk0)]
        exact List.mem_append_right _ (List.mem_singleton.2 rfl)
  · rw [List.flatMap_append, List.mem_append, List.flatMap_singleton, List.mem_singleton]

theorem procAdd_def (G : Grammar) (T : Tables) (i : Nat) (s : EState) : procAdd G T i s =
    if (bucket (colGet T.processed i) (keyOf G s)).any fun o => subsumes T.store o.fs s.fs then
      ({ T with processed := T.processed.set i (touch (colGet T.processed i) (keyOf G s)) }, false)
    else
      ({ T with processed := T.processed.set i (ins (colGet T.processed i) (keyOf G s) s) }, true) := by
  unfold procAdd bucket
  dsimp only
  cases (colGet T.processed i).find? (·.1 = keyOf G s) <;> rfl

def procStates (T : Tables) (i : Nat) : List EState := (colGet T.processed i).flatMap (·.2)

theorem procStates_empty (st0 : FsDag.Store) (ch : List (List EState)) (n j : Nat) :
    procStates (Tables.mk st0 ch (List.replicate n [])) j = [] := by
  unfold procStates; rw [colGet_replicate]; rfl

theorem not_mem_procStates_empty {st0 : FsDag.Store} {ch : List (List EState)} {n j : Nat}
    {s : EState} : s ∉ procStates (Tables.mk st0 ch (List.replicate n [])) j := fun h => by
  rw [procStates_empty] at h; exact nomatch h

theorem procStates_set (T : Tables) (i : Nat) (d' : Dict) (j : Nat) :
    procStates { T with processed := T.processed.set i d' } j =
      if j = i ∧ i < T.processed.length then d'.flatMap (·.2) else procStates T j := by
  show (colGet (T.processed.set i d') j).flatMap _ = _
  rw [colGet_set]; split <;> rfl

theorem procAdd_snd (G : Grammar) (T : Tables) (i : Nat) (s : EState) :
    (procAdd G T i s).2 =
      !(bucket (colGet T.processed i) (keyOf G s)).any fun o => subsumes T.store o.fs s.fs := by
  rw [procAdd_def]
  cases (bucket (colGet T.processed i) (keyOf G s)).any fun o => subsumes T.store o.fs s.fs <;> rfl

theorem procAdd_fst (G : Grammar) (T : Tables) (i : Nat) (s : EState) :
    (procAdd G T i s).1 =
      { T with processed := T.processed.set i (if (procAdd G T i s).2
          then ins (colGet T.processed i) (keyOf G s) s
          else touch (colGet T.processed i) (keyOf G s)) } := by
  rw [procAdd_snd, procAdd_def]
  cases (bucket (colGet T.processed i) (keyOf G s)).any fun o => subsumes T.store o.fs s.fs <;> rfl

theorem procAdd_len (G : Grammar) (T : Tables) (i : Nat) (s : EState) :
    (procAdd G T i s).1.processed.length = T.processed.length := by
  rw [procAdd_fst]; exact List.length_set

theorem mem_procStates_procAdd {G : Grammar} {T : Tables} {i : Nat} {s : EState} {j : Nat}
    {s' : EState} : s' ∈ procStates (procAdd G T i s).1 j ↔ s' ∈ procStates T j ∨
      ((procAdd G T i s).2 = true ∧ i = j ∧ i < T.processed.length ∧ s' = s) := by
  rw [procAdd_fst, procStates_set]
  by_cases hij : j = i ∧ i < T.processed.length
  · obtain ⟨rfl, hi⟩ := hij
    rw [if_pos ⟨rfl, hi⟩]
    cases (procAdd G T j s).2 with
    | true =>
      rw [if_pos rfl, mem_flatMap_ins]
      exact or_congr Iff.rfl ⟨fun h => ⟨rfl, rfl, hi, h⟩, fun h => h.2.2.2⟩
    | false =>
      rw [if_neg Bool.false_ne_true, flatMap_touch]
      exact ⟨Or.inl, fun h => h.elim id fun h => absurd h.1 Bool.false_ne_true⟩
  · rw [if_neg hij]
    exact ⟨Or.inl, fun h => h.elim id fun h => absurd ⟨h.2.1.symm, h.2.2.1⟩ hij⟩

theorem procAdd_store (G : Grammar) (T : Tables) (i : Nat) (s : EState) :
    (procAdd G T i s).1.store = T.store ∧ (procAdd G T i s).1.chart = T.chart := by
  rw [procAdd_fst]; exact ⟨rfl, rfl⟩

theorem pushIfNew_eq (G : Grammar) (T : Tables) (i : Nat) (s : EState) : pushIfNew G T i s =
    ⟨T.store, if (procAdd G T i s).2 then T.chart.set i (colGet T.chart i ++ [s]) else T.chart,
      (procAdd G T i s).1.processed⟩ := by
  rw [← (procAdd_store G T i s).1, ← (procAdd_store G T i s).2]
  unfold pushIfNew
  cases procAdd G T i s with
  | mk T' b => cases b <;> rfl

theorem pushIfNew_store (G : Grammar) (T : Tables) (i : Nat) (s : EState) :
    (pushIfNew G T i s).store = T.store := by
  rw [pushIfNew_eq]

theorem pushIfNew_chart (G : Grammar) (T : Tables) (i : Nat) (s : EState) :
    (pushIfNew G T i s).chart =
      if (procAdd G T i s).2 then T.chart.set i (colGet T.chart i ++ [s]) else T.chart := by
  rw [pushIfNew_eq]

theorem pushIfNew_processed (G : Grammar) (T : Tables) (i : Nat) (s : EState) :
    (pushIfNew G T i s).processed = (procAdd G T i s).1.processed := by
  rw [pushIfNew_eq]

theorem pushIfNew_proc (G : Grammar) (T : Tables) (i : Nat) (s : EState) (j : Nat) :
    procStates (pushIfNew G T i s) j = procStates (procAdd G T i s).1 j := by
  unfold procStates; rw [pushIfNew_processed]

theorem mem_chart_pushIfNew {G : Grammar} {T : Tables} {i : Nat} {s : EState} {j : Nat}
    {s' : EState} : s' ∈ colGet (pushIfNew G T i s).chart j ↔ s' ∈ colGet T.chart j ∨
      ((procAdd G T i s).2 = true ∧ i = j ∧ i < T.chart.length ∧ s' = s) := by
  rw [pushIfNew_chart]
  cases (procAdd G T i s).2 with
  | false => exact ⟨Or.inl, fun h => h.elim id fun h => absurd h.1 Bool.false_ne_true⟩
  | true =>
    rw [if_pos rfl, colGet_set]
    split
    · next h =>
      obtain ⟨rfl, hi⟩ := h
      rw [List.mem_append, List.mem_singleton]
      exact or_congr Iff.rfl ⟨fun h => ⟨rfl, rfl, hi, h⟩, fun h => h.2.2.2⟩
    · next h => exact ⟨Or.inl, fun h' => h'.elim id fun h' => absurd ⟨h'.2.1.symm, h'.2.2.1⟩ h⟩

theorem mem_proc_pushIfNew {G : Grammar} {T : Tables} {i : Nat} {s : EState} {j : Nat}
    {s' : EState} : s' ∈ procStates (pushIfNew G T i s) j ↔ s' ∈ procStates T j ∨
      ((procAdd G T i s).2 = true ∧ i = j ∧ i < T.processed.length ∧ s' = s) := by
  rw [pushIfNew_proc]; exact mem_procStates_procAdd

section
open FsDag

/-- the store side of `_advance`: both feature structures are copied and the slot of
the waiting state is unified with the head of the completed one; `inr (st3, cr)` when that succeeds (`cr`
is the copy of the waiting state's structure), otherwise `inl` of the store reached -/
def advStore (st : FsDag.Store) (sfs nxfs dot : Nat) :
    FsDag.Store ⊕ (FsDag.Store × Nat) :=
  match byPath (copy st sfs).1 (copy st sfs).2 ["head"] with
  | none => .inl (copy st sfs).1
  | some left =>
    match byPath (copy (copy st sfs).1 nxfs).1 (copy (copy st sfs).1 nxfs).2 [toString dot] with
    | none => .inl (copy (copy st sfs).1 nxfs).1
    | some considered =>
      match unify ((copy (copy st sfs).1 nxfs).1.length + 2) (copy (copy st sfs).1 nxfs).1 considered left with
      | .ok st3 => .inr (st3, (copy (copy st sfs).1 nxfs).2)
      | _ => .inl (copy (copy st sfs).1 nxfs).1

theorem advance_eq (G : Grammar) (T : Tables) (nx s : EState) :
    advance G T nx s = match advStore T.store s.fs nx.fs nx.dot with
      | .inl st => { T with store := st }
      | .inr (st3, cr) => pushIfNew G { T with store := st3 } s.e
          { prod := nx.prod, b := nx.b, e := s.e, dot := nx.dot + 1, fs := cr } := by
  unfold advance advStore
  simp only
  cases byPath (copy T.store s.fs).1 (copy T.store s.fs).2 ["head"] with
  | none => rfl
  | some left =>
    simp only
    cases byPath (copy (copy T.store s.fs).1 nx.fs).1 (copy (copy T.store s.fs).1 nx.fs).2
        [toString nx.dot] with
    | none => rfl
    | some considered =>
      simp only
      cases FsDag.unify ((copy (copy T.store s.fs).1 nx.fs).1.length + 2)
          (copy (copy T.store s.fs).1 nx.fs).1 considered left <;> rfl

end

/-- the table after popping the top of column `i` -/
def popT (T : Tables) (i : Nat) : Tables :=
  { T with chart := T.chart.set i (colGet T.chart i).dropLast }

/-- one step of the loop on the popped state -/
def procOne (G : Grammar) (word : List String) (i : Nat) (T0 : Tables) (s : EState) : Tables :=
  if incomplete G s then
    match nextSym G s with
    | some (.var _) => predictor G T0 s
    | some (.ter t) => if word[i]? = some t then scanner G T0 s else T0
    | none => T0
  else completer G T0 s

/-- `R` of any state whatever survives the change of store -/
def Carry (R : FsDag.Store → (Nat → Nat) → Nat → EState → Prop) (st : FsDag.Store) (rk : Nat → Nat)
    (st' : FsDag.Store) (rk' : Nat → Nat) : Prop :=
  ∀ j s, R st rk j s → R st' rk' j s

/-- an invariant of the tables: facts `S` about the store, its ranks, the `processed` table and the number
of chart columns, and `R` (which may read the ranks of the store and the column) of every state on the
chart and among the processed.  A state that is in no table, or is iterated over from a snapshot, stays
good while the store changes because `R` is carried over (`Carry`). -/
structure Lay (S : FsDag.Store → (Nat → Nat) → List Dict → Nat → Prop)
    (R : FsDag.Store → (Nat → Nat) → Nat → EState → Prop) (T : Tables) (rk : Nat → Nat) : Prop where
  tab : S T.store rk T.processed T.chart.length
  c : ∀ j s, s ∈ colGet T.chart j → R T.store rk j s
  p : ∀ j s, s ∈ procStates T j → R T.store rk j s

section
variable {S S' : FsDag.Store → (Nat → Nat) → List Dict → Nat → Prop}
  {R R' : FsDag.Store → (Nat → Nat) → Nat → EState → Prop} {T : Tables} {rk : Nat → Nat}

theorem Carry.refl {st : FsDag.Store} : Carry R st rk st rk := fun _ _ r => r

theorem Carry.trans {st st1 st2 : FsDag.Store} {rk1 rk2 : Nat → Nat} (h1 : Carry R st rk st1 rk1)
    (h2 : Carry R st1 rk1 st2 rk2) : Carry R st rk st2 rk2 := fun j s r => h2 j s (h1 j s r)

theorem Carry.push {st : FsDag.Store} {rk' : Nat → Nat} (h : Carry R st rk T.store rk') (G : Grammar)
    (i : Nat) (s : EState) : Carry R st rk (pushIfNew G T i s).store rk' := by
  rw [pushIfNew_store]; exact h

theorem Lay.store (h : Lay S R T rk) {st' : FsDag.Store} {rk' : Nat → Nat}
    (hS : S' st' rk' T.processed T.chart.length)
    (hR : ∀ j s, R T.store rk j s → R' st' rk' j s) : Lay S' R' { T with store := st' } rk' :=
  ⟨hS, fun j s hs => hR j s (h.c j s hs), fun j s hs => hR j s (h.p j s hs)⟩

theorem Lay.mono (h : Lay S R T rk) (hS : ∀ {st rk pr n}, S st rk pr n → S' st rk pr n)
    (hR : ∀ {st rk j s}, R st rk j s → R' st rk j s) : Lay S' R' T rk :=
  h.store (hS h.tab) fun _ _ => hR

theorem Lay.and_iff {P : FsDag.Store → Prop} :
    Lay (fun st rk pr n => S st rk pr n ∧ P st) R T rk ↔ Lay S R T rk ∧ P T.store :=
  ⟨fun h => ⟨h.store h.tab.1 fun _ _ r => r, h.tab.2⟩, fun h => h.1.store ⟨h.1.tab, h.2⟩ fun _ _ r => r⟩

theorem Lay.pop (h : Lay S R T rk) (i : Nat) : Lay S R (popT T i) rk :=
  ⟨by show S _ _ _ (T.chart.set i _).length; rw [List.length_set]; exact h.tab,
    fun j s' hm => h.c j s' (mem_colGet_pop hm), h.p⟩

theorem Lay.push (h : Lay S R T rk) (G : Grammar) {i : Nat} {s : EState}
    (hS : S T.store rk (procAdd G T i s).1.processed T.chart.length) (hs : R T.store rk i s) :
    Lay S R (pushIfNew G T i s) rk := by
  have hst := pushIfNew_store G T i s
  refine ⟨?_,
    fun j s' hm => hst ▸ (mem_chart_pushIfNew.1 hm).elim (h.c j s') fun e => e.2.1 ▸ e.2.2.2 ▸ hs,
    fun j s' hm => hst ▸ (mem_proc_pushIfNew.1 hm).elim (h.p j s') fun e => e.2.1 ▸ e.2.2.2 ▸ hs⟩
  rw [hst, pushIfNew_processed, pushIfNew_chart]
  split
  · rw [List.length_set]; exact hS
  · exact hS

theorem Lay.empty {st0 : FsDag.Store} {rk0 : Nat → Nat} {n : Nat}
    (hS : S st0 rk0 (List.replicate n []) n) :
    Lay S R (Tables.mk st0 (List.replicate n []) (List.replicate n [])) rk0 :=
  ⟨by rw [List.length_replicate]; exact hS,
    fun _ _ hm => absurd hm (not_mem_colGet_replicate _ _ _),
    fun _ _ hm => absurd hm not_mem_procStates_empty⟩

end

theorem columnLoop_succ (G : Grammar) (word : List String) (i f : Nat) (T : Tables) :
    columnLoop G word i (f + 1) T =
      match (colGet T.chart i).getLast? with
      | none => some T
      | some s => columnLoop G word i f (procOne G word i (popT T i) s) := by
  rw [columnLoop]
  rfl

/-- the tables before the first column is worked on: empty but for the dummy item -/
def initT (G : Grammar) (st0 : FsDag.Store) (n : Nat) : Tables :=
  pushIfNew G ⟨st0, List.replicate (n + 1) [], List.replicate (n + 1) []⟩ 0
    { prod := G.prods.length, b := 0, e := 0, dot := 0, fs := G.gammaFeats }

theorem initT_store (G : Grammar) (st0 : FsDag.Store) (n : Nat) : (initT G st0 n).store = st0 :=
  pushIfNew_store ..

theorem contains_eq (G : Grammar) (st0 : FsDag.Store) (word : List String) (fuel : Nat) :
    contains G st0 word fuel =
      (contains.cols G word fuel (List.range' 0 (word.length + 1)) (initT G st0 word.length)).map
        fun T3 => (procStates T3 word.length).any fun s =>
          s.b = 0 ∧ !(incomplete G s) ∧ (prodOf G s.prod).head = G.start := by
  unfold contains initT
  simp only
  rw [List.range_eq_range']
  cases contains.cols G word fuel _ _ <;> rfl

theorem mem_zip_range_iff {α : Type} {l : List α} {a : α} {k : Nat} :
    (a, k) ∈ l.zip (List.range l.length) ↔ l[k]? = some a := by
  rw [List.range_eq_range', ← List.zipIdx_eq_zip_range']; exact List.mem_zipIdx_iff_getElem?

theorem mem_zip_range {α : Type} {l : List α} {a : α} {k : Nat}
    (h : (a, k) ∈ l.zip (List.range l.length)) : l[k]? = some a :=
  mem_zip_range_iff.1 h

theorem prodOf_some {G : Grammar} {k : Nat} {p : FProd} (h : G.prods[k]? = some p) :
    prodOf G k = p := by
  unfold prodOf; rw [List.getD_eq_getElem?_getD, h]; rfl

theorem prodOf_none {G : Grammar} {k : Nat} (h : G.prods[k]? = none) :
    prodOf G k = { head := G.gammaName, body := [.var G.start], feats := G.gammaFeats } := by
  unfold prodOf; rw [List.getD_eq_getElem?_getD, h]; rfl

theorem start_mem_grammarVars (prods : List FProd) (start : String) :
    start ∈ grammarVars prods start := by
  unfold grammarVars
  rw [List.mem_eraseDups]
  exact List.mem_cons_self ..

theorem body_mem_grammarVars {prods : List FProd} (start : String) {p : FProd} (hp : p ∈ prods)
    {A : String} (hA : Sym.var A ∈ p.body) : A ∈ grammarVars prods start := by
  unfold grammarVars
  rw [List.mem_eraseDups]
  refine List.mem_cons_of_mem _ (List.mem_flatMap.2 ⟨p, hp, List.mem_cons_of_mem _ ?_⟩)
  rw [List.mem_filterMap]
  exact ⟨.var A, hA, rfl⟩

/-- the segment `w[b..e)` -/
def seg (w : List String) (b e : Nat) : List String := (w.drop b).take (e - b)

theorem seg_self (w : List String) (b : Nat) : seg w b b = [] := by simp [seg]

theorem seg_append (w : List String) {b e e' : Nat} (h1 : b ≤ e) (h2 : e ≤ e') :
    seg w b e ++ seg w e e' = seg w b e' := by
  obtain ⟨k, rfl⟩ := Nat.exists_eq_add_of_le h1
  obtain ⟨m, rfl⟩ := Nat.exists_eq_add_of_le h2
  unfold seg
  rw [Nat.add_sub_cancel_left, Nat.add_sub_cancel_left, Nat.add_assoc, Nat.add_sub_cancel_left,
    List.take_add, List.drop_drop]

theorem seg_succ (w : List String) {b e : Nat} {t : String} (h1 : b ≤ e) (h : w[e]? = some t) :
    seg w b e ++ [t] = seg w b (e + 1) := by
  rw [← seg_append w h1 (Nat.le_add_right e 1)]
  congr 1
  obtain ⟨he, rfl⟩ := List.getElem?_eq_some_iff.1 h
  unfold seg
  rw [Nat.add_sub_cancel_left, List.drop_eq_getElem_cons he]; rfl

theorem seg_full (w : List String) : seg w 0 w.length = w := by simp [seg]

end Lem
end Earley
end Pfl
