/-
C17 (library loop): what a call of `_duplication_processing` / `_production_process` does to the
table, whatever the property.  Every change of the table is an `add`, made only for a set that is
not in the table yet, and it raises `was_modified` (`CallInv.mark`; a set that waits in a delayed
list of `_duplication_processing` counts as written: `flush`).  So every step of a call, at every
level of its loops, does one of two things (`Did`): it returns its state, and then every set it tried was in the
table already; or it raises the flag, and then, if every set of the table had a property `P`
(`AllT P`; `P a E`: the set `E` may be marked for `a`), this is still so, as soon as `P` passes
along the inferences of the rule (`RuleP`).  One walk through the levels (`dupInner_did` …
`ruleProcess_did`) gives both: the invariant for any `P`, with the instances soundness (`GoodT`:
every marked set is a valid implication `Lem.Good`; this file) and well-formedness (`Term.WFT`:
every marked set is canonical, for termination; `Pfl/Proofs/TerminationIndexed.lean`), and, for a
call that reports no modification, closure of the table under the rule
(`Pfl/Proofs/IndexedMarkClosed.lean`).
-/
import Pfl.Proofs.IndexedMark

namespace Pfl.IG.LibP
open Pfl.IG.Lib Pfl.IG.Lem

/-- an iteration order keeps the members of the set -/
def OrdOK (ord : List SetS → List SetS) : Prop := ∀ l x, x ∈ ord l ↔ x ∈ l

theorem ordOK_id : OrdOK id := fun _ _ => Iff.rfl

/-- the condition `frozenset(s_temp) == marked and len(marked) > 0` -/
def bisCond (lsets : List (String × String)) (E : SetS) : Bool :=
  E.all (fun c => (lsets.filter fun x => x.1 ∈ E).any fun x => x.1 = c) && !E.isEmpty

theorem bisCond_iff {lsets : List (String × String)} {E : SetS} :
    bisCond lsets E = true ↔ (∀ c ∈ E, ∃ d, (c, d) ∈ lsets) ∧ E ≠ [] := by
  unfold bisCond
  simp only [Bool.and_eq_true, List.all_eq_true, List.any_eq_true, List.mem_filter,
    decide_eq_true_eq, Bool.not_eq_true', List.isEmpty_eq_false_iff]
  refine and_congr_left fun _ => forall₂_congr fun c hc => ?_
  constructor
  · rintro ⟨⟨c', d⟩, ⟨h, _⟩, rfl⟩
    exact ⟨d, h⟩
  · rintro ⟨d, h⟩
    exact ⟨(c, d), ⟨h, hc⟩, rfl⟩

/-- the 'is it useful' branch as a function of the result of `addrec_bis` -/
def usefulPart (ord : List SetS → List SetS) (G : IG) (a b f : String) (r1 : Table × Bool) :
    Table × Bool × Bool :=
  if (consRules G f).any (fun x => x.1 = b) then
    ((consRules G f).filter fun x => b = x.1).foldl (usefulOuter ord G.start a) (r1.1, r1.2, false)
  else (r1.1, r1.2, false)

/-- the end of `_production_process` as a function of the state after the 'is it useful' branch -/
def edgePart (a b : String) (r2 : Table × Bool × Bool) : Table × Bool × Bool :=
  if r2.2.2 then r2 else
  if [] ∈ get r2.1 b ∧ ¬ [] ∈ get r2.1 a then (add r2.1 a [], true, false)
  else (r2.1, r2.2.1, false)

theorem prodProcess_eq (ord : List SetS → List SetS) (G : IG) (a b f : String) (T : Table) :
    prodProcess ord G a b f T =
      if [] ∈ get (addrecBis ord T (consRules G f) a b).1 G.start then
        ((addrecBis ord T (consRules G f) a b).1, (addrecBis ord T (consRules G f) a b).2, true)
      else edgePart a b (usefulPart ord G a b f (addrecBis ord T (consRules G f) a b)) := rfl

theorem dupInner_old {start a b c : String} {E0 E1 : SetS} {st : DupSt}
    (h : dupTemp E0 E1 ∈ get st.T a) : dupInner start a b c E0 st E1 = st := if_pos h

theorem dupInner_new {start a b c : String} {E0 E1 : SetS} {st : DupSt}
    (h : dupTemp E0 E1 ∉ get st.T a) : dupInner start a b c E0 st E1 =
      if a = b then
        { st with d0 := st.d0 ++ [dupTemp E0 E1], mod := true,
                  stop := st.stop || (a == start && (dupTemp E0 E1).isEmpty) }
      else if a = c then
        { st with d1 := st.d1 ++ [dupTemp E0 E1], mod := true,
                  stop := st.stop || (a == start && (dupTemp E0 E1).isEmpty) }
      else
        { st with T := add st.T a (dupTemp E0 E1), mod := true,
                  stop := st.stop || (a == start && (dupTemp E0 E1).isEmpty) } := if_neg h

theorem edgePart_stop {a b : String} {r2 : Table × Bool × Bool} (h : r2.2.2 = true) :
    edgePart a b r2 = r2 := if_pos h

theorem edgePart_add {a b : String} {r2 : Table × Bool × Bool} (h : ¬ r2.2.2 = true)
    (he : [] ∈ get r2.1 b ∧ ¬ [] ∈ get r2.1 a) : edgePart a b r2 = (add r2.1 a [], true, false) :=
  (if_neg h).trans (if_pos he)

theorem edgePart_keep {a b : String} {r2 : Table × Bool × Bool} (h : ¬ r2.2.2 = true)
    (he : ¬ ([] ∈ get r2.1 b ∧ ¬ [] ∈ get r2.1 a)) : edgePart a b r2 = (r2.1, r2.2.1, false) :=
  (if_neg h).trans (if_neg he)

/-- one round of the loop of `addrec_ter` over the leaves -/
def terStep (a : String) (st : Table × Bool) (t : SetS) : Table × Bool :=
  if t ∈ get st.1 a then st else (add st.1 a t, true)

theorem addrecTer_eq (T : Table) (lsets : List (String × String)) (a : String) :
    addrecTer T lsets a = (leavesOf (choicesOf T lsets)).foldl (terStep a) (T, false) := rfl

theorem addrecBisStep_eq (lsets : List (String × String)) (a : String) (st : Table × Bool)
    (E : SetS) : addrecBisStep lsets a st E =
      if bisCond lsets E = true then
        ((addrecTer st.1 (lsets.filter fun x => x.1 ∈ E) a).1,
          st.2 || (addrecTer st.1 (lsets.filter fun x => x.1 ∈ E) a).2)
      else st := rfl

theorem pass_cons (ord : List SetS → List SetS) (G : IG) (r : IRule) (rs : List IRule) (T : Table)
    (mod : Bool) : pass ord G (r :: rs) T mod =
      if (ruleProcess ord G r T).2.2 = true then
        ((ruleProcess ord G r T).1, mod || (ruleProcess ord G r T).2.1, true)
      else pass ord G rs (ruleProcess ord G r T).1 (mod || (ruleProcess ord G r T).2.1) := rfl

theorem loop_succ (ord : List SetS → List SetS) (G : IG) (fuel : Nat) (T : Table) :
    loop ord G (fuel + 1) T =
      if (pass ord G (libRules G) T false).2.2 = true then some false
      else if (pass ord G (libRules G) T false).2.1 = true then
        loop ord G fuel (pass ord G (libRules G) T false).1
      else some (!decide ([] ∈ get (pass ord G (libRules G) T false).1 G.start)) := rfl

/-- the entry of `a` holds a set that it did not hold in `T0` -/
def W (T0 : Table) (a : String) (T : Table) : Prop := ∃ E, E ∈ get T a ∧ E ∉ get T0 a

theorem W.mono {T0 T T' : Table} {a : String} (h : W T0 a T) (hs : Sub T T') : W T0 a T' := by
  obtain ⟨E, h1, h2⟩ := h
  exact ⟨E, hs a E h1, h2⟩

def AllT (P : String → SetS → Prop) (T : Table) : Prop := ∀ a E, E ∈ get T a → P a E

/-- the family of marks a table holds, for `Lem.RuleClosed` and `Lem.ClosedR` -/
abbrev Marked (T : Table) (a : String) (E : SetS) : Prop := E ∈ get T a

section
variable {P : String → SetS → Prop}

/-- a call for a rule with left term `a`, started on `T0`, has got to
`res = (table, was_modified, need_stop)` -/
structure CallInv (P : String → SetS → Prop) (start a : String) (T0 : Table)
    (res : Table × Bool × Bool) : Prop where
  sub : Sub T0 res.1
  inv : AllT P res.1
  stopP : res.2.2 = true → P start []
  grew : res.2.1 = true → W T0 a res.1

theorem CallInv.init {start a : String} {T : Table} (hT : AllT P T) :
    CallInv P start a T (T, false, false) :=
  ⟨Sub.refl T, hT, fun h => absurd h Bool.false_ne_true, fun h => absurd h Bool.false_ne_true⟩

/-- The one way a call changes its table: a set `E` that may be marked for `a` and is new for `a`
is marked (`hT`: read up to the members of the entries, so that a set waiting in a delayed list
counts), the flag goes up, and a stop is asked for only if `E = ∅` is marked for the start symbol. -/
theorem CallInv.mark {start a : String} {T0 T T' : Table} {m m' s s' : Bool} {E : SetS}
    (h : CallInv P start a T0 (T, m, s)) (hE : P a E) (hn : E ∉ get T0 a)
    (hT : ∀ x E', E' ∈ get T' x ↔ E' ∈ get T x ∨ (x = a ∧ E' = E))
    (hs : s' = true → s = true ∨ (a == start && E.isEmpty) = true) :
    CallInv P start a T0 (T', m', s') where
  sub x E' h' := (hT x E').mpr (Or.inl (h.sub x E' h'))
  inv x E' h' := ((hT x E').mp h').elim (h.inv x E') fun ⟨hx, hE'⟩ => hx ▸ hE' ▸ hE
  stopP h' := (hs h').elim h.stopP fun h' => by
    simp only [Bool.and_eq_true, beq_iff_eq, List.isEmpty_iff] at h'
    exact h'.1 ▸ h'.2 ▸ hE
  grew _ := ⟨E, (hT a E).mpr (Or.inr ⟨rfl, rfl⟩), hn⟩

/-- the table of the loop state of `_duplication_processing` for `a → b c` once what waits in the
delayed lists `d0` (for `marked[b]`) and `d1` (for `marked[c]`) is written -/
def flush (b c : String) (st : DupSt) : Table := addAll (addAll st.T c st.d1) b st.d0

theorem mem_flush {b c x : String} {st : DupSt} {E : SetS} : E ∈ get (flush b c st) x ↔
    E ∈ get st.T x ∨ (x = c ∧ E ∈ st.d1) ∨ (x = b ∧ E ∈ st.d0) := by
  rw [flush, mem_get_addAll, mem_get_addAll, or_assoc]

/-- the loop state `st` of `_duplication_processing` for the rule `a → b c`, started on `T0`: the
library does not write to `marked[b]` / `marked[c]` while it iterates over them, and the invariant
of a call holds of the table with what waits written -/
structure DupInv (P : String → SetS → Prop) (T0 : Table) (start a b c : String)
    (st : DupSt) : Prop where
  sub : Sub T0 st.T
  call : CallInv P start a T0 (flush b c st, st.mod, st.stop)

theorem dupInner_did {T0 : Table} {start a b c : String} {E0 E1 : SetS}
    {st : DupSt} (hg : P a (dupTemp E0 E1)) (hst : DupInv P T0 start a b c st) :
    Did DupSt.mod (DupInv P T0 start a b c) (dupTemp E0 E1 ∈ get st.T a) st
      (dupInner start a b c E0 st E1) := by
  by_cases hm : dupTemp E0 E1 ∈ get st.T a
  · exact Or.inl ⟨dupInner_old hm, hm⟩
  · -- the new set goes to `d0`, to `d1` or to the table: to `flush` in each case
    have key := fun T' hT' => hst.call.mark (T' := T') (m' := true) hg
      (fun h => hm (hst.sub _ _ h)) hT' (Bool.or_eq_true _ _).mp
    rw [dupInner_new hm]
    refine Or.inr ?_
    by_cases hab : a = b
    · rw [if_pos hab]
      refine ⟨rfl, hst.sub, key _ fun x E' => ?_⟩
      simp only [mem_flush, List.mem_append, List.mem_singleton, hab, and_or_left, or_assoc]
    · rw [if_neg hab]
      by_cases hac : a = c
      · rw [if_pos hac]
        refine ⟨rfl, hst.sub, key _ fun x E' => ?_⟩
        simp only [mem_flush, List.mem_append, List.mem_singleton, hac, and_or_left, or_assoc]
        exact or_congr_right (or_congr_right or_comm)
      · rw [if_neg hac]
        refine ⟨rfl, hst.sub.trans (sub_add _ _ _), key _ fun x E' => ?_⟩
        simp only [mem_flush, mem_get_add, or_assoc]
        exact or_congr_right (or_comm.trans or_assoc)

/-- between two rounds of the outer loop `right_term_marked1` is empty: every round resets it, so a
round returns its argument only when it was empty already -/
theorem dupOuter_did {ord : List SetS → List SetS} (hord : OrdOK ord)
    {T0 : Table} {start a b c : String} {E0 : SetS} {st : DupSt}
    (hP : ∀ E1, P c E1 → P a (dupTemp E0 E1))
    (hst : DupInv P T0 start a b c st ∧ st.d1 = []) :
    Did DupSt.mod (fun st => DupInv P T0 start a b c st ∧ st.d1 = [])
      (∀ E1 ∈ get st.T c, dupTemp E0 E1 ∈ get st.T a) st (dupOuter ord start a b c st E0) := by
  obtain ⟨hst, hd1⟩ := hst
  unfold dupOuter
  simp only []
  have e : ({ st with d1 := [] } : DupSt) = st := by
    cases st; simp only at hd1; rw [hd1]
  rw [e]
  rcases foldl_did (ord (get st.T c)) (fun S E1 hE1 hS =>
    dupInner_did (hP E1 (hst.call.inv _ _ (mem_flush.mpr (Or.inl ((hord _ _).mp hE1))))) hS) st hst
    with ⟨h1, h2⟩ | ⟨hm, h1⟩
  · rw [h1, hd1]
    exact Or.inl ⟨e, fun E1 hE1 => h2 E1 ((hord _ _).mpr hE1)⟩
  · exact Or.inr ⟨hm, ⟨h1.sub.trans (sub_addAll _ _ _), h1.call⟩, rfl⟩

theorem dupProcess_did {ord : List SetS → List SetS} (hord : OrdOK ord) (G : IG)
    {start a b c : String} {T : Table}
    (hP : ∀ E0 E1, P b E0 → P c E1 → P a (dupTemp E0 E1)) (hT : AllT P T) :
    Did (fun res => res.2.1 || res.2.2) (CallInv P start a T)
      (RuleClosed G (Marked T) (.dup a b c)) (T, false, false) (dupProcess ord start a b c T) := by
  unfold dupProcess
  simp only []
  rcases foldl_did (ord (get T b)) (fun S E0 hE0 hS =>
      dupOuter_did hord (fun E1 => hP E0 E1 (hT _ _ ((hord _ _).mp hE0))) hS)
    ⟨T, [], [], false, false⟩ ⟨⟨Sub.refl T, CallInv.init hT⟩, rfl⟩ with ⟨h1, h2⟩ | ⟨hm, h1, hd1⟩
  · rw [h1]
    exact Or.inl ⟨rfl, fun E0 hE0 E1 hE1 =>
      ⟨_, h2 E0 ((hord _ _).mpr hE0) E1 hE1, fun _ => mem_dupTemp.mp⟩⟩
  · have h := h1.call
    rw [flush, hd1] at h
    exact Or.inr ⟨(Bool.or_eq_true _ _).mpr (Or.inl hm), h⟩

/-- `addrec_ter` raises a flag of its own, which `addrec_bis` joins to `m`, what it had before -/
theorem terFold_did {T0 : Table} {start a : String} (leaves : List SetS)
    (hl : ∀ t ∈ leaves, P a t) {T : Table} {m : Bool} (h : CallInv P start a T0 (T, m, false)) :
    Did (fun st => st.2) (fun st => CallInv P start a T0 (st.1, m || st.2, false))
      (∀ t ∈ leaves, t ∈ get T a) (T, false) (leaves.foldl (terStep a) (T, false)) := by
  refine foldl_did (I := fun st => CallInv P start a T0 (st.1, m || st.2, false))
    (R := fun st t => t ∈ get st.1 a) leaves (fun S t ht hS => ?_) (T, false)
    ((Bool.or_false m).symm ▸ h)
  by_cases hm : t ∈ get S.1 a
  · exact Or.inl ⟨if_pos hm, hm⟩
  · rw [terStep, if_neg hm]
    exact Or.inr ⟨rfl, hS.mark (hl t ht) (fun h => hm (hS.sub _ _ h)) (fun _ _ => mem_get_add)
      fun h => nomatch h⟩

theorem addrecBisStep_did {T0 : Table} {start a : String}
    (lsets : List (String × String)) (E : SetS) {st : Table × Bool}
    (hl : bisCond lsets E = true → ∀ T, AllT P T →
      ∀ t ∈ leavesOf (choicesOf T (lsets.filter fun x => x.1 ∈ E)), P a t)
    (h : CallInv P start a T0 (st.1, st.2, false)) :
    Did (fun st => st.2) (fun st => CallInv P start a T0 (st.1, st.2, false))
      (bisCond lsets E = true →
        ∀ t ∈ leavesOf (choicesOf st.1 (lsets.filter fun x => x.1 ∈ E)), t ∈ get st.1 a)
      st (addrecBisStep lsets a st E) := by
  rw [addrecBisStep_eq]
  by_cases hc : bisCond lsets E = true
  · rw [if_pos hc, addrecTer_eq]
    rcases terFold_did _ (hl hc st.1 h.inv) h with ⟨h1, h2⟩ | ⟨hm, h1⟩
    · rw [h1]
      exact Or.inl ⟨Prod.ext rfl (Bool.or_false _), fun _ => h2⟩
    · exact Or.inr ⟨(Bool.or_eq_true _ _).mpr (Or.inr hm), h1⟩
  · rw [if_neg hc]
    exact Or.inl ⟨rfl, fun hc' => absurd hc' hc⟩

theorem addrecBis_did {ord : List SetS → List SetS} (hord : OrdOK ord)
    {start a b : String} (lsets : List (String × String)) {T : Table} (hT : AllT P T)
    (hl : ∀ E, P b E → bisCond lsets E = true → ∀ T', AllT P T' →
      ∀ t ∈ leavesOf (choicesOf T' (lsets.filter fun x => x.1 ∈ E)), P a t) :
    Did (fun st => st.2) (fun st => CallInv P start a T (st.1, st.2, false))
      (∀ E ∈ get T b, bisCond lsets E = true →
        ∀ t ∈ leavesOf (choicesOf T (lsets.filter fun x => x.1 ∈ E)), t ∈ get T a)
      (T, false) (addrecBis ord T lsets a b) := by
  unfold addrecBis
  exact (foldl_did _ (fun S E hE hS =>
    addrecBisStep_did lsets E (hl E (hT _ _ ((hord _ _).mp hE))) hS) (T, false)
    (CallInv.init hT)).imp fun h E hE => h E ((hord _ _).mpr hE)

theorem usefulInner_did {T0 : Table} {start a : String} {sub : SetS}
    {st : Table × Bool × Bool} (hg : P a sub) (hn : sub ∉ get T0 a)
    (hst : CallInv P start a T0 st) :
    Did (fun st => st.2.1) (CallInv P start a T0) True st (usefulInner start a st sub) := by
  by_cases hs : st.2.2 = true
  · exact Or.inl ⟨if_pos hs, trivial⟩
  · rw [usefulInner, if_neg hs]
    exact Or.inr ⟨rfl, hst.mark hg hn (fun _ _ => mem_get_add) Or.inr⟩

theorem usefulOuter_did {ord : List SetS → List SetS} (hord : OrdOK ord)
    {T0 : Table} {start a : String} {x : String × String} {st : Table × Bool × Bool}
    (hP : ∀ sub, P x.2 sub → P a sub) (hst : CallInv P start a T0 st) :
    Did (fun st => st.2.1) (CallInv P start a T0) True st (usefulOuter ord start a st x) := by
  by_cases hs : st.2.2 = true
  · exact Or.inl ⟨if_pos hs, trivial⟩
  · rw [usefulOuter, if_neg hs]
    refine (foldl_did (R := fun _ _ => True) _ (fun S sub hsub hS => ?_) st hst).imp
      fun _ => trivial
    obtain ⟨h1, h2⟩ := List.mem_filter.mp hsub
    have hn : sub ∉ get st.1 a := by simpa using h2
    exact usefulInner_did (hP sub (hst.inv _ _ ((hord _ _).mp h1)))
      (fun h => hn (hst.sub _ _ h)) hS

theorem usefulPart_did {ord : List SetS → List SetS} (hord : OrdOK ord) (G : IG)
    {T0 : Table} {a b f : String} {r1 : Table × Bool}
    (hP : ∀ x ∈ consRules G f, b = x.1 → ∀ sub, P x.2 sub → P a sub)
    (h1 : CallInv P G.start a T0 (r1.1, r1.2, false)) :
    Did (fun st => st.2.1) (CallInv P G.start a T0) True (r1.1, r1.2, false)
      (usefulPart ord G a b f r1) := by
  unfold usefulPart
  split
  · refine (foldl_did (R := fun _ _ => True) _ (fun S x hx hS => ?_) _ h1).imp fun _ => trivial
    obtain ⟨hx1, hx2⟩ := List.mem_filter.mp hx
    exact usefulOuter_did hord (hP x hx1 (of_decide_eq_true hx2)) hS
  · exact Or.inl ⟨rfl, trivial⟩

theorem edgePart_did {T0 : Table} {start a b : String}
    {r2 : Table × Bool × Bool} (hP : P b [] → P a []) (h2 : CallInv P start a T0 r2) :
    Did (fun st => st.2.1) (CallInv P start a T0)
      (r2.2.2 = false → [] ∈ get r2.1 b → [] ∈ get r2.1 a) r2 (edgePart a b r2) := by
  by_cases hs : r2.2.2 = true
  · exact Or.inl ⟨edgePart_stop hs, fun h' => absurd hs (Bool.eq_false_iff.mp h')⟩
  · by_cases hedge : [] ∈ get r2.1 b ∧ ¬ [] ∈ get r2.1 a
    · rw [edgePart_add hs hedge]
      exact Or.inr ⟨rfl, h2.mark (hP (h2.inv _ _ hedge.1)) (fun h => hedge.2 (h2.sub _ _ h))
        (fun _ _ => mem_get_add) fun h => nomatch h⟩
    · rw [edgePart_keep hs hedge]
      exact Or.inl ⟨Prod.ext rfl (Prod.ext rfl (Bool.eq_false_iff.mpr hs).symm),
        fun _ hb => Classical.byContradiction fun ha => hedge ⟨hb, ha⟩⟩

/-- `P` passes along the three inferences of `_production_process` for the rule `a → b[f·]` -/
structure ProdP (P : String → SetS → Prop) (G : IG) (a b f : String) : Prop where
  leaf : ∀ {T : Table} {E : SetS}, AllT P T → P b E → bisCond (consRules G f) E = true →
    ∀ t ∈ leavesOf (choicesOf T ((consRules G f).filter fun x => x.1 ∈ E)), P a t
  useful : ∀ x ∈ consRules G f, b = x.1 → ∀ sub, P x.2 sub → P a sub
  edge : P b [] → P a []

def RuleP (P : String → SetS → Prop) (G : IG) : IRule → Prop
  | .dup a b c => ∀ E0 E1, P b E0 → P c E1 → P a (dupTemp E0 E1)
  | .prod a b f => ProdP P G a b f
  | _ => True

/-- what `addrec_bis` and the edge case try is what closure under `a → b[f·]` asks for: a marked
set `E ≠ ∅` all of whose members pop `f` passes the test of `addrec_bis`, and a leaf can be chosen
inside any `Q` that holds of one marked continuation per member; for `E = ∅` there is the edge case -/
theorem prodClosed {G : IG} {a b f : String} {T : Table}
    (hleaf : ∀ E ∈ get T b, bisCond (consRules G f) E = true →
      ∀ t ∈ leavesOf (choicesOf T ((consRules G f).filter fun x => x.1 ∈ E)), t ∈ get T a)
    (hedge : [] ∈ get T b → [] ∈ get T a) : RuleClosed G (Marked T) (.prod a b f) := by
  intro E hE Q hQ
  by_cases hE0 : E = []
  · subst hE0
    exact ⟨[], hedge hE, fun _ hx => absurd hx List.not_mem_nil⟩
  · obtain ⟨hc, t, ht, hQt⟩ := (exists_leavesOf Q).mpr hQ
    exact ⟨t, hleaf E hE (bisCond_iff.mpr ⟨hc, hE0⟩) t ht, hQt⟩

theorem prodProcess_did {ord : List SetS → List SetS} (hord : OrdOK ord) (G : IG)
    {a b f : String} {T : Table} (hP : ProdP P G a b f) (hT : AllT P T) :
    Did (fun res => res.2.1 || res.2.2) (CallInv P G.start a T)
      (RuleClosed G (Marked T) (.prod a b f)) (T, false, false) (prodProcess ord G a b f T) := by
  have h1 := addrecBis_did hord (start := G.start) (a := a) (b := b) (consRules G f) hT
    (fun E hE hc T' hT' => hP.leaf hT' hE hc)
  have i1 := h1.inv (CallInv.init hT)
  rw [prodProcess_eq]
  split
  · rename_i hstop
    exact Or.inr ⟨Bool.or_true _, i1.sub, i1.inv, fun _ => i1.inv _ _ hstop, i1.grew⟩
  · rcases (usefulPart_did hord G hP.useful i1).trans
      (R' := fun r2 => r2.2.2 = false → [] ∈ get r2.1 b → [] ∈ get r2.1 a)
      (edgePart_did hP.edge) i1 with ⟨e3, _, hedge⟩ | ⟨hm, h3⟩
    · rw [e3]
      rcases h1 with ⟨e1, hleaf⟩ | ⟨hm, _⟩
      · -- each of the three parts returned its argument
        rw [e1] at hedge ⊢
        exact Or.inl ⟨rfl, prodClosed hleaf (hedge rfl)⟩
      · exact Or.inr ⟨(Bool.or_eq_true _ _).mpr (Or.inl hm), i1⟩
    · exact Or.inr ⟨(Bool.or_eq_true _ _).mpr (Or.inl hm), h3⟩

theorem ruleProcess_did {ord : List SetS → List SetS} (hord : OrdOK ord) (G : IG)
    {r : IRule} {T : Table} (hP : RuleP P G r) (hT : AllT P T) :
    Did (fun res => res.2.1 || res.2.2) (CallInv P G.start (headOf r) T)
      (RuleClosed G (Marked T) r) (T, false, false) (ruleProcess ord G r T) := by
  cases r with
  | dup a b c => exact dupProcess_did hord G hP hT
  | prod a b f => exact prodProcess_did hord G hP hT
  | end_ a t => exact Or.inl ⟨rfl, trivial⟩
  | cons f a b => exact Or.inl ⟨rfl, trivial⟩

theorem pass_inv {ord : List SetS → List SetS} (hord : OrdOK ord) (G : IG)
    (rs : List IRule) (hrs : ∀ r ∈ rs, RuleP P G r) : ∀ (T : Table) (mod : Bool), AllT P T →
    Sub T (pass ord G rs T mod).1 ∧ AllT P (pass ord G rs T mod).1 ∧
      ((pass ord G rs T mod).2.2 = true → P G.start []) ∧
      ((pass ord G rs T mod).2.1 = true →
        mod = true ∨ ∃ r ∈ rs, W T (headOf r) (pass ord G rs T mod).1) := by
  intro T mod
  fun_induction pass ord G rs T mod with
  | case1 T mod => exact fun hT => ⟨Sub.refl T, hT, fun h => absurd h Bool.false_ne_true, Or.inl⟩
  | case2 r rs T mod res hstop =>
    intro hT
    have h := (ruleProcess_did hord G (hrs r List.mem_cons_self) hT).inv (CallInv.init hT)
    refine ⟨h.sub, h.inv, fun _ => h.stopP hstop, fun hm => ?_⟩
    rcases (Bool.or_eq_true _ _).mp hm with hm | hm
    · exact Or.inl hm
    · exact Or.inr ⟨r, List.mem_cons_self, h.grew hm⟩
  | case3 r rs T mod res hstop ih =>
    intro hT
    have h := (ruleProcess_did hord G (hrs r List.mem_cons_self) hT).inv (CallInv.init hT)
    obtain ⟨h4, h5, h6, h7⟩ := ih (fun r hr => hrs r (List.mem_cons_of_mem _ hr)) h.inv
    refine ⟨h.sub.trans h4, h5, h6, fun hm => ?_⟩
    rcases h7 hm with hm' | ⟨r', hr', w⟩
    · rcases (Bool.or_eq_true _ _).mp hm' with hm' | hm'
      · exact Or.inl hm'
      · exact Or.inr ⟨r, List.mem_cons_self, (h.grew hm').mono h4⟩
    · obtain ⟨E, h1, h2⟩ := w
      exact Or.inr ⟨r', List.mem_cons_of_mem _ hr', E, h1, fun h' => h2 (h.sub _ E h')⟩

end

def GoodT (G : IG) (T : Table) : Prop := ∀ a E, E ∈ get T a → Good G (a, E)

theorem ruleP_good {G : IG} {r : IRule} (hr : r ∈ G.rules) :
    RuleP (fun a E => Good G (a, E)) G r := by
  cases r with
  | dup a b c =>
    exact fun E0 E1 h0 h1 => Good.dup hr h0 h1 fun _ => mem_dupTemp.mpr
  | prod a b f =>
    refine ⟨fun {T E} hT hE hc t ht => ?_, ?_, ?_⟩
    · -- every member of `E` pops `f` into some `D`, and the leaf contains a set marked for `D`
      exact Good.prod hr hE hT
        ((exists_leavesOf (· ∈ t)).mp ⟨(bisCond_iff.mp hc).1, t, ht, fun _ h => h⟩)
    · -- `a → b[f·]` then `b[f·] → d`
      intro x hx hb sub hg σ hσ
      have hc : IRule.cons f b x.2 ∈ G.rules := mem_consRules.mp (hb ▸ hx)
      exact .prod hr (.cons hc (hg σ hσ))
    · intro hg σ _
      exact .prod hr (hg (f :: σ) (fun _ h => by cases h))
  | end_ a t => trivial
  | cons f a b => trivial

theorem pass_sound {G : IG} {ord : List SetS → List SetS} (hord : OrdOK ord) (T : Table)
    (hT : GoodT G T) :
    Sub T (pass ord G (libRules G) T false).1 ∧ GoodT G (pass ord G (libRules G) T false).1 ∧
      ((pass ord G (libRules G) T false).2.2 = true → G.NonEmpty) := by
  obtain ⟨h1, h2, h3, _⟩ := pass_inv hord G (libRules G)
    (fun r hr => ruleP_good (mem_libRules.mp hr).1) T false hT
  exact ⟨h1, h2, fun h => (h3 h).nil⟩

theorem hasEnd_iff {G : IG} {a : String} : hasEnd G a = true ↔ ∃ t, IRule.end_ a t ∈ G.rules := by
  unfold hasEnd
  rw [List.any_eq_true]
  constructor
  · rintro ⟨r, hr, h⟩
    cases r with
    | end_ a' t => simp only [decide_eq_true_eq] at h; subst h; exact ⟨t, hr⟩
    | prod _ _ _ => cases h
    | cons _ _ _ => cases h
    | dup _ _ _ => cases h
  · rintro ⟨t, ht⟩
    exact ⟨_, ht, by simp⟩

theorem mem_get_initTable {G : IG} {a : String} {E : SetS} :
    E ∈ get (initTable G) a ↔ (a, E) ∈ G.initMarks := by
  rw [initTable, ← List.foldl_filter, mem_get_foldl_add, mem_get_single, mem_initMarks,
    List.mem_filter, hasEnd_iff, and_assoc, and_comm (b := E = [])]

theorem initTable_good (G : IG) : GoodT G (initTable G) :=
  fun _ _ h => initMarks_good G _ (mem_get_initTable.mp h)

end Pfl.IG.LibP
