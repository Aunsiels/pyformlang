/-
C02 (minimisation).  The notions its statements use are defined here: right languages (`RightLang`),
`Nerode`, `IsNerodePartition`, `Reduced`, and `MinimalOf` (the minimal automaton of the language of
another).  Then the Nerode oracle, the greedy grouping, and the quotient automaton built by `minimizeOf`.
-/
import Pfl.Model.Minimize
import Pfl.Props.C04_Oracle
import Pfl.Props.C04_Words
namespace Pfl
namespace ENFA
set_option linter.unusedSectionVars false
variable {σ κ : Type} [DecidableEq σ] [DecidableEq κ]

/-- right language of a state; `none` is the implicit trash state -/
def RightLang (A : ENFA σ) : Option σ → List Nat → Prop
  | none, _ => False
  | some p, w => ∃ f ∈ A.finals, A.Run p w f

def Nerode (A : ENFA σ) (p q : Option σ) : Prop := ∀ w, A.RightLang p w ↔ A.RightLang q w

/-- `gs` lists the Nerode classes of `none :: states` -/
structure IsNerodePartition (A : ENFA σ) (gs : List (List (Option σ))) : Prop where
  cover : ∀ x, (∃ g ∈ gs, x ∈ g) ↔ (x = none ∨ ∃ q ∈ A.states, x = some q)
  same : ∀ g ∈ gs, ∀ x ∈ g, ∀ y ∈ g, A.Nerode x y
  sep : ∀ g ∈ gs, ∀ g' ∈ gs, ∀ x ∈ g, ∀ y ∈ g', A.Nerode x y → g = g'

def Reduced (M : ENFA κ) : Prop :=
  (∀ k ∈ M.states, ∃ s ∈ M.starts, ∃ w, M.Run s w k) ∧
  (∀ k ∈ M.states, ∀ k' ∈ M.states, M.Nerode (some k) (some k') → k = k')

/-- `M` is the minimal automaton of the language of `A`: a trim, reduced, ε-free deterministic automaton
that accepts the same words -/
structure MinimalOf (M : ENFA κ) (A : ENFA σ) : Prop where
  det : M.Deterministic
  epsFree : M.EpsFree
  wf : M.WF
  reduced : M.Reduced
  trim : ∀ t ∈ M.delta, ∃ w, ∃ f ∈ M.finals, M.Run t.2.2 w f
  lang : ∀ w, M.Lang w ↔ A.Lang w

theorem Nerode.refl (A : ENFA σ) (p : Option σ) : A.Nerode p p := fun _ => Iff.rfl

theorem Nerode.symm {A : ENFA σ} {p q : Option σ} (h : A.Nerode p q) : A.Nerode q p :=
  fun w => (h w).symm

theorem Nerode.trans {A : ENFA σ} {p q r : Option σ} (h₁ : A.Nerode p q) (h₂ : A.Nerode q r) :
    A.Nerode p r := fun w => (h₁ w).trans (h₂ w)

theorem withStart_lang (A : ENFA σ) (p : Option σ) (w : List Nat) :
    (A.withStart p).Lang w ↔ A.RightLang p w := by
  have hrun : ∀ q r, (A.withStart p).Run q w r ↔ A.Run q w r :=
    fun q r => run_congr (A := A.withStart p) (B := A) (fun _ => Iff.rfl) q r w
  cases p with
  | none => simp [Lang, withStart, RightLang]
  | some x =>
    simp only [Lang, RightLang]
    constructor
    · rintro ⟨s, hs, f, hf, hr⟩
      have : s = x := by simpa [withStart] using hs
      subst this
      exact ⟨f, hf, (hrun _ _).mp hr⟩
    · rintro ⟨f, hf, hr⟩
      exact ⟨x, by simp [withStart], f, hf, (hrun _ _).mpr hr⟩

theorem withStart_wf (A : ENFA σ) (hA : A.WF) (p : Option σ)
    (hp : ∀ x, p = some x → x ∈ A.states) : (A.withStart p).WF := by
  refine ⟨?_, hA.finals_sub, hA.delta_src, hA.delta_dst, hA.delta_sym⟩
  intro q hq
  cases p with
  | none => simp [withStart] at hq
  | some x =>
    have : q = x := by simpa [withStart] using hq
    subst this
    exact hp _ rfl

theorem sameRight_iff' (A : ENFA σ) (hA : A.WF) (fuel : Nat) (p q : Option σ)
    (hp : ∀ x, p = some x → x ∈ A.states) (hq : ∀ x, q = some x → x ∈ A.states) (b : Bool)
    (h : A.sameRight fuel p q = some b) : b = true ↔ A.Nerode p q := by
  unfold sameRight at h
  obtain ⟨r, hr, hb⟩ := Option.map_eq_some_iff.mp h
  have := langDiff_none_iff _ _ (withStart_wf A hA p hp) (withStart_wf A hA q hq) fuel r hr
  subst hb
  rw [Option.isNone_iff_eq_none, this]
  unfold Nerode
  simp only [withStart_lang]

/-- non-empty groups of Nerode-equivalent elements, pairwise inequivalent -/
structure Groups (A : ENFA σ) (gs : List (List (Option σ))) : Prop where
  ne : ∀ g ∈ gs, g ≠ []
  same : ∀ g ∈ gs, ∀ x ∈ g, ∀ y ∈ g, A.Nerode x y
  sep : gs.Pairwise fun g g' => ∀ x ∈ g, ∀ y ∈ g', ¬ A.Nerode x y

theorem groups_cons {A : ENFA σ} {g : List (Option σ)} {gs : List (List (Option σ))} :
    A.Groups (g :: gs) ↔ g ≠ [] ∧ (∀ x ∈ g, ∀ y ∈ g, A.Nerode x y) ∧
      (∀ g' ∈ gs, ∀ x ∈ g, ∀ y ∈ g', ¬ A.Nerode x y) ∧ A.Groups gs := by
  constructor
  · rintro ⟨h1, h2, h3⟩
    rw [List.forall_mem_cons] at h1 h2
    rw [List.pairwise_cons] at h3
    exact ⟨h1.1, h2.1, h3.1, h1.2, h2.2, h3.2⟩
  · rintro ⟨h1, h2, h3, h4, h5, h6⟩
    exact ⟨List.forall_mem_cons.mpr ⟨h1, h4⟩, List.forall_mem_cons.mpr ⟨h2, h5⟩,
      List.pairwise_cons.mpr ⟨h3, h6⟩⟩

theorem insertGroup_spec (A : ENFA σ) (hA : A.WF) (fuel : Nat) (x : Option σ)
    (hx : ∀ q, x = some q → q ∈ A.states) :
    ∀ (gs gs' : List (List (Option σ))),
      (∀ g ∈ gs, ∀ y ∈ g, ∀ q, y = some q → q ∈ A.states) → A.Groups gs →
      A.insertGroup fuel x gs = some gs' →
      A.Groups gs' ∧ ∀ y, (∃ g ∈ gs', y ∈ g) ↔ ((∃ g ∈ gs, y ∈ g) ∨ y = x) := by
  intro gs
  fun_induction insertGroup A fuel x gs with
  | case1 =>
    rintro _ _ _ ⟨⟩
    refine ⟨groups_cons.mpr ⟨List.cons_ne_nil _ _, fun a ha b hb => ?_,
      fun g' hg' => absurd hg' List.not_mem_nil, ⟨by simp, by simp, List.Pairwise.nil⟩⟩, by simp⟩
    rw [List.mem_singleton.mp ha, List.mem_singleton.mp hb]
    exact Nerode.refl A _
  | case2 => exact fun _ _ hgs => absurd rfl (groups_cons.mp hgs).1
  | case3 r g gs hsr => exact fun _ _ _ h => nomatch h
  | case4 r g gs hsr =>
    rintro _ hst hgs ⟨⟩
    obtain ⟨-, hsame0, hsep0, hG⟩ := groups_cons.mp hgs
    have hb := sameRight_iff' A hA fuel r x (hst _ List.mem_cons_self r List.mem_cons_self) hx _ hsr
    have hnew : ∀ y ∈ r :: g ++ [x], A.Nerode r y := by
      intro y hy
      rcases List.mem_append.mp hy with hy | hy
      · exact hsame0 r List.mem_cons_self y hy
      · rw [List.mem_singleton.mp hy]; exact hb.mp rfl
    refine ⟨groups_cons.mpr ⟨List.cons_ne_nil _ _,
      fun a ha b hb' => (hnew a ha).symm.trans (hnew b hb'),
      fun g' hg' a ha b hb' hab => hsep0 g' hg' r List.mem_cons_self b hb' ((hnew a ha).trans hab),
      hG⟩, fun y => ?_⟩
    simp only [List.mem_cons, exists_eq_or_imp, List.cons_append, List.mem_append,
      List.not_mem_nil, false_or, or_assoc, or_comm (a := y = x)]
  | case5 r g gs hsr ih =>
    intro gs' hst hgs h
    obtain ⟨hne0, hsame0, hsep0, hG⟩ := groups_cons.mp hgs
    have hb := sameRight_iff' A hA fuel r x (hst _ List.mem_cons_self r List.mem_cons_self) hx _ hsr
    have hrx : ¬ A.Nerode r x := fun hn => by simpa using hb.mpr hn
    obtain ⟨gs'', hins, rfl⟩ := Option.map_eq_some_iff.mp h
    obtain ⟨hG', hc⟩ := ih gs'' (fun g' hg' => hst g' (List.mem_cons_of_mem _ hg')) hG hins
    refine ⟨groups_cons.mpr ⟨hne0, hsame0, fun g' hg' a ha b hb' hab => ?_, hG'⟩, fun y => ?_⟩
    · rcases (hc b).mp ⟨g', hg', hb'⟩ with ⟨g'', hg'', hb''⟩ | rfl
      · exact hsep0 g'' hg'' a ha b hb'' hab
      · exact hrx ((hsame0 r List.mem_cons_self a ha).trans hab)
    · simp only [List.mem_cons, exists_eq_or_imp, hc y, or_assoc]

theorem foldlM_insertGroup_spec (A : ENFA σ) (hA : A.WF) (fuel : Nat) :
    ∀ (l : List (Option σ)) (gs gs' : List (List (Option σ))),
      (∀ x ∈ l, ∀ q, x = some q → q ∈ A.states) →
      (∀ g ∈ gs, ∀ y ∈ g, ∀ q, y = some q → q ∈ A.states) → A.Groups gs →
      l.foldlM (fun gs x => A.insertGroup fuel x gs) gs = some gs' →
      A.Groups gs' ∧ ∀ y, (∃ g ∈ gs', y ∈ g) ↔ ((∃ g ∈ gs, y ∈ g) ∨ y ∈ l) := by
  intro l
  induction l with
  | nil =>
    rintro gs _ _ _ hG ⟨⟩
    exact ⟨hG, by simp⟩
  | cons x l ih =>
    intro gs gs' hl hst hG h
    rw [List.foldlM_cons] at h
    obtain ⟨gs1, h1, h2⟩ := Option.bind_eq_some_iff.mp h
    obtain ⟨j1, j2⟩ := insertGroup_spec A hA fuel x (hl x List.mem_cons_self) gs gs1 hst hG h1
    have hst1 : ∀ g ∈ gs1, ∀ y ∈ g, ∀ q, y = some q → q ∈ A.states := fun g hg y hy =>
      ((j2 y).mp ⟨g, hg, hy⟩).elim (fun ⟨g0, hg0, hy0⟩ => hst g0 hg0 y hy0)
        fun hyx => hyx ▸ hl x List.mem_cons_self
    obtain ⟨k1, k2⟩ := ih gs1 gs' (fun y hy => hl y (List.mem_cons_of_mem _ hy)) hst1 j1 h2
    exact ⟨k1, fun y => by rw [k2, j2, List.mem_cons, or_assoc]⟩

theorem pairwise_eq_or {α : Type} {R : α → α → Prop} (hsymm : ∀ a b, R a b → R b a)
    (l : List α) (h : l.Pairwise R) : ∀ a ∈ l, ∀ b ∈ l, a = b ∨ R a b := fun _ ha _ hb =>
  List.Pairwise.forall_of_forall_of_flip (R := fun a b => a = b ∨ R a b) (fun _ _ => Or.inl rfl)
    (h.imp Or.inr) (h.imp fun hab => Or.inr (hsymm _ _ hab)) ha hb

/-- the states `minimize` keeps after trimming: reachable from a start state and leading to a final
one.  `liveList` is the list the model computes for it; `minimizeOf` builds the quotient on
`liveList` only (`minimizeOf_eq`, by `rfl`) -/
def Live (A : ENFA σ) (q : σ) : Prop :=
  q ∈ A.states ∧ (∃ s ∈ A.starts, ∃ w, A.Run s w q) ∧ ∃ w, ∃ f ∈ A.finals, A.Run q w f

def liveList (A : ENFA σ) : List σ :=
  A.states.filter fun q => q ∈ A.reachable ∧ q ∈ A.leadingToFinal

theorem mem_liveList (A : ENFA σ) (hA : A.WF) (q : σ) : q ∈ A.liveList ↔ A.Live q := by
  unfold liveList Live
  simp only [List.mem_filter, decide_eq_true_eq, mem_reachable_iff A hA, mem_leadingToFinal_iff]

/-- the main branch of `minimizeOf`, for an arbitrary naming `nm` of the states -/
def quotOf (A : ENFA σ) (nm : σ → Option κ) : ENFA κ :=
  ofParts (A.starts.filterMap nm) ((A.liveList.filter (· ∈ A.finals)).filterMap nm)
    (A.liveList.flatMap fun q => A.syms.flatMap fun a => (A.succs q (some a)).filterMap fun r =>
      if r ∈ A.liveList then
        match nm q, nm r with
        | some kq, some kr => some (kq, some a, kr)
        | _, _ => none
      else none)

theorem minimizeOf_eq (A : ENFA σ) (gs : List (List (Option σ))) (key : List (Option σ) → κ)
    (e : κ) : A.minimizeOf gs key e =
      if A.starts.isEmpty || A.finals.isEmpty then ofParts [e] [] [] else
      if !(A.starts.any (· ∈ A.liveList)) then ofParts [e] [] [] else
      A.quotOf (groupKey gs key) := rfl

/-- `nm` is `to_new_states`, a lookup that succeeds on every state; `blk` is the function it computes
there, and two states get the same name exactly when they have the same right language -/
structure NameOK (A : ENFA σ) (nm : σ → Option κ) (blk : σ → κ) : Prop where
  eq : ∀ q ∈ A.states, nm q = some (blk q)
  inj : ∀ {q q'}, q ∈ A.states → q' ∈ A.states → (blk q = blk q' ↔ A.Nerode (some q) (some q'))

theorem groupKey_mem (gs : List (List (Option σ))) (key : List (Option σ) → κ) (q : σ)
    (h : ∃ g ∈ gs, some q ∈ g) : ∃ g ∈ gs, some q ∈ g ∧ groupKey gs key q = some (key g) := by
  unfold groupKey
  cases hf : gs.find? fun g => decide (some q ∈ g) with
  | none =>
    obtain ⟨g, hg, hqg⟩ := h
    have := List.find?_eq_none.mp hf g hg
    simp [hqg] at this
  | some g0 =>
    have h1 := List.mem_of_find?_eq_some hf
    have h2 := List.find?_some hf
    exact ⟨g0, h1, by simpa using h2, rfl⟩

theorem IsNerodePartition.mem_cover {A : ENFA σ} {gs : List (List (Option σ))}
    (hgs : A.IsNerodePartition gs) {q : σ} (hq : q ∈ A.states) : ∃ g ∈ gs, some q ∈ g :=
  (hgs.cover (some q)).mpr (Or.inr ⟨q, hq, rfl⟩)

theorem groupKey_nameOK (A : ENFA σ) (gs : List (List (Option σ))) (hgs : A.IsNerodePartition gs)
    (key : List (Option σ) → κ) (hkey : ∀ g ∈ gs, ∀ g' ∈ gs, key g = key g' → g = g') (e : κ) :
    A.NameOK (groupKey gs key) fun q => (groupKey gs key q).getD e := by
  refine ⟨fun q hq => ?_, fun {q q'} hq hq' => ?_⟩
  · obtain ⟨g, _, _, h⟩ := groupKey_mem gs key q (hgs.mem_cover hq)
    rw [h, Option.getD_some]
  · obtain ⟨g, hg, hqg, h⟩ := groupKey_mem gs key q (hgs.mem_cover hq)
    obtain ⟨g', hg', hqg', h'⟩ := groupKey_mem gs key q' (hgs.mem_cover hq')
    simp only [h, h', Option.getD_some]
    constructor
    · intro hkk
      have := hkey g hg g' hg' hkk
      subst this
      exact hgs.same g hg _ hqg _ hqg'
    · intro hn
      rw [hgs.sep g hg g' hg' _ hqg _ hqg' hn]

theorem mem_quotOf_starts (A : ENFA σ) (hA : A.WF) {nm : σ → Option κ} {blk : σ → κ}
    (hnm : A.NameOK nm blk) (k : κ) : k ∈ (A.quotOf nm).starts ↔ ∃ s ∈ A.starts, blk s = k := by
  unfold quotOf
  rw [mem_ofParts_starts, List.mem_filterMap]
  refine exists_congr fun s => and_congr_right fun hs => ?_
  rw [hnm.eq s (hA.starts_sub s hs), Option.some.injEq]

theorem mem_quotOf_finals (A : ENFA σ) (hA : A.WF) {nm : σ → Option κ} {blk : σ → κ}
    (hnm : A.NameOK nm blk) (k : κ) :
    k ∈ (A.quotOf nm).finals ↔ ∃ q, A.Live q ∧ q ∈ A.finals ∧ blk q = k := by
  unfold quotOf
  rw [mem_ofParts_finals, List.mem_filterMap]
  simp only [List.mem_filter, decide_eq_true_eq, mem_liveList A hA, and_assoc]
  refine exists_congr fun q => and_congr_right fun hq => and_congr_right fun _ => ?_
  rw [hnm.eq q hq.1, Option.some.injEq]

theorem mem_quotOf_delta (A : ENFA σ) (hA : A.WF) {nm : σ → Option κ} {blk : σ → κ}
    (hnm : A.NameOK nm blk) (k k' : κ) (x : Option Nat) :
    (k, x, k') ∈ (A.quotOf nm).delta ↔ ∃ q r a, x = some a ∧ A.Live q ∧ A.Live r ∧
      (q, some a, r) ∈ A.delta ∧ blk q = k ∧ blk r = k' := by
  unfold quotOf
  rw [mem_ofParts_delta]
  simp only [List.mem_flatMap, List.mem_filterMap, mem_succs, mem_liveList A hA]
  constructor
  · rintro ⟨q, hq, a, _, r, hr, hh⟩
    split at hh
    · rename_i hrl
      have hrl := (mem_liveList A hA r).mp hrl
      simp only [hnm.eq q hq.1, hnm.eq r hrl.1, Option.some.injEq, Prod.mk.injEq] at hh
      exact ⟨q, r, a, hh.2.1.symm, hq, hrl, hr, hh.1, hh.2.2⟩
    · cases hh
  · rintro ⟨q, r, a, rfl, hq, hrl, hr, rfl, rfl⟩
    refine ⟨q, hq, a, hA.delta_sym _ hr a rfl, r, hr, ?_⟩
    rw [if_pos ((mem_liveList A hA r).mpr hrl), hnm.eq q hq.1, hnm.eq r hrl.1]

theorem quotOf_epsFree (A : ENFA σ) (hA : A.WF) {nm : σ → Option κ} {blk : σ → κ}
    (hnm : A.NameOK nm blk) : (A.quotOf nm).EpsFree := by
  rintro ⟨k, x, k'⟩ ht
  obtain ⟨_, _, a, rfl, _⟩ := (mem_quotOf_delta A hA hnm k k' x).mp ht
  simp

theorem rightLang_nil {A : ENFA σ} (he : A.EpsFree) (q : σ) :
    A.RightLang (some q) [] ↔ q ∈ A.finals := by
  simp only [RightLang, he.run_nil_iff]
  constructor
  · rintro ⟨f, hf, rfl⟩; exact hf
  · intro h; exact ⟨q, h, rfl⟩

theorem rightLang_cons {A : ENFA σ} (hd : A.Deterministic) (he : A.EpsFree) {q r : σ} {a : Nat}
    (h : (q, some a, r) ∈ A.delta) (v : List Nat) :
    A.RightLang (some q) (a :: v) ↔ A.RightLang (some r) v := by
  simp only [RightLang, he.run_cons_iff]
  constructor
  · rintro ⟨f, hf, r', hr', hrun⟩
    have := hd.2.1 _ _ _ _ h hr'
    subst this
    exact ⟨f, hf, hrun⟩
  · rintro ⟨f, hf, hrun⟩
    exact ⟨f, hf, r, h, hrun⟩

theorem Live.step {A : ENFA σ} (hA : A.WF) {q r f : σ} {a : Nat} {w : List Nat} (hq : A.Live q)
    (h : (q, some a, r) ∈ A.delta) (hf : f ∈ A.finals) (hr : A.Run r w f) : A.Live r := by
  obtain ⟨_, ⟨s, hs, u, hu⟩, _⟩ := hq
  exact ⟨hA.delta_dst _ h, ⟨s, hs, u ++ [a], Run.snoc hu h⟩, w, f, hf, hr⟩

theorem quotOf_run (A : ENFA σ) (hA : A.WF) (he : A.EpsFree) {nm : σ → Option κ} {blk : σ → κ}
    (hnm : A.NameOK nm blk) {q r : σ} {w : List Nat} (hrun : A.Run q w r) :
    A.Live q → (∃ v, A.RightLang (some r) v) → A.Live r ∧ (A.quotOf nm).Run (blk q) w (blk r) := by
  induction hrun with
  | nil q => exact fun hq _ => ⟨hq, Run.nil _⟩
  | eps h _ _ => exact absurd rfl (he _ h)
  | @step q r' r a w h hrun ih =>
    intro hq hco
    obtain ⟨v, f, hf, hv⟩ := hco
    have hr' : A.Live r' := hq.step hA h hf (Run.append hrun hv)
    exact (ih hr' ⟨v, f, hf, hv⟩).imp_right
      (Run.step ((mem_quotOf_delta A hA hnm _ _ _).mpr ⟨q, r', a, rfl, hq, hr', h, rfl, rfl⟩))

theorem quotOf_rightLang (A : ENFA σ) (hA : A.WF) (hd : A.Deterministic) (he : A.EpsFree)
    {nm : σ → Option κ} {blk : σ → κ} (hnm : A.NameOK nm blk) (w : List Nat) (q : σ)
    (hq : A.Live q) :
    (A.quotOf nm).RightLang (some (blk q)) w ↔ A.RightLang (some q) w := by
  have hMe := quotOf_epsFree A hA hnm
  constructor
  · -- an edge of the quotient comes from an edge between live states whose source is equivalent to `q`
    induction w generalizing q with
    | nil =>
      rw [rightLang_nil hMe, rightLang_nil he, mem_quotOf_finals A hA hnm]
      rintro ⟨q', hq', hf', hk'⟩
      exact (rightLang_nil he q).mp
        (((hnm.inj hq.1 hq'.1).mp hk'.symm []).mpr ((rightLang_nil he q').mpr hf'))
    | cons a v ih =>
      rintro ⟨f, hf, hrun⟩
      obtain ⟨k', hkk', hrun'⟩ := (hMe.run_cons_iff _ _ _ _).mp hrun
      obtain ⟨q1, r1, a', ha', hq1, hr1, he1, hk1, rfl⟩ := (mem_quotOf_delta A hA hnm _ _ _).mp hkk'
      cases ha'
      exact ((hnm.inj hq.1 hq1.1).mp hk1.symm _).mpr
        ((rightLang_cons hd he he1 v).mpr (ih r1 hr1 ⟨f, hf, hrun'⟩))
  · rintro ⟨f, hf, hrun⟩
    obtain ⟨hlf, hrun'⟩ := quotOf_run A hA he hnm hrun hq ⟨[], f, hf, Run.nil f⟩
    exact ⟨_, (mem_quotOf_finals A hA hnm _).mpr ⟨f, hlf, hf, rfl⟩, hrun'⟩

theorem mem_quotOf_states (A : ENFA σ) (hA : A.WF) {nm : σ → Option κ} {blk : σ → κ}
    (hnm : A.NameOK nm blk) (hst : ∀ s ∈ A.starts, A.Live s) (k : κ)
    (hk : k ∈ (A.quotOf nm).states) : ∃ q, A.Live q ∧ blk q = k := by
  rcases (mem_ofParts_states _ _ _ k).mp hk with h | h | ⟨⟨k1, x, k2⟩, ht, h⟩
  · obtain ⟨s, hs, hsk⟩ := (mem_quotOf_starts A hA hnm k).mp ((mem_ofParts_starts _ _ _ k).mpr h)
    exact ⟨s, hst s hs, hsk⟩
  · obtain ⟨q, hq, _, hqk⟩ := (mem_quotOf_finals A hA hnm k).mp ((mem_ofParts_finals _ _ _ k).mpr h)
    exact ⟨q, hq, hqk⟩
  · obtain ⟨q, r, a, _, hq, hr, _, hk1, hk2⟩ :=
      (mem_quotOf_delta A hA hnm _ _ _).mp ((mem_ofParts_delta _ _ _ _).mpr ht)
    rcases h with rfl | rfl
    · exact ⟨q, hq, hk1⟩
    · exact ⟨r, hr, hk2⟩

theorem quotOf_minimal (A : ENFA σ) (hA : A.WF) (hd : A.Deterministic) (he : A.EpsFree)
    {nm : σ → Option κ} {blk : σ → κ} (hnm : A.NameOK nm blk)
    (hst : ∀ s ∈ A.starts, A.Live s) : (A.quotOf nm).MinimalOf A where
  det := by
    refine ⟨?_, ?_, ?_⟩
    · intro k hk k' hk'
      obtain ⟨s, hs, rfl⟩ := (mem_quotOf_starts A hA hnm k).mp hk
      obtain ⟨s', hs', rfl⟩ := (mem_quotOf_starts A hA hnm k').mp hk'
      rw [hd.1 s hs s' hs']
    · intro k x k1 k2 h1 h2
      obtain ⟨q1, r1, a, rfl, hq1, hr1, he1, hk1, rfl⟩ := (mem_quotOf_delta A hA hnm _ _ _).mp h1
      obtain ⟨q2, r2, a', ha', hq2, hr2, he2, hk2, rfl⟩ := (mem_quotOf_delta A hA hnm _ _ _).mp h2
      cases ha'
      refine (hnm.inj hr1.1 hr2.1).mpr fun v => ?_
      rw [← rightLang_cons hd he he1 v, ← rightLang_cons hd he he2 v]
      exact (hnm.inj hq1.1 hq2.1).mp (hk1.trans hk2.symm) _
    · intro k k' h
      obtain ⟨_, _, a, ha, _⟩ := (mem_quotOf_delta A hA hnm _ _ _).mp h
      cases ha
  epsFree := quotOf_epsFree A hA hnm
  wf := ofParts_wf _ _ _
  reduced := by
    refine ⟨?_, ?_⟩
    · intro k hk
      obtain ⟨q, hq, rfl⟩ := mem_quotOf_states A hA hnm hst k hk
      obtain ⟨s, hs, w, hrun⟩ := hq.2.1
      exact ⟨_, (mem_quotOf_starts A hA hnm _).mpr ⟨s, hs, rfl⟩, w,
        (quotOf_run A hA he hnm hrun (hst s hs) hq.2.2).2⟩
    · intro k hk k' hk' hn
      obtain ⟨q, hq, rfl⟩ := mem_quotOf_states A hA hnm hst k hk
      obtain ⟨q', hq', rfl⟩ := mem_quotOf_states A hA hnm hst k' hk'
      refine (hnm.inj hq.1 hq'.1).mpr fun w => ?_
      rw [← quotOf_rightLang A hA hd he hnm w q hq, ← quotOf_rightLang A hA hd he hnm w q' hq']
      exact hn w
  trim := by
    -- the target of an edge of the quotient is the block of a live state `r`, and has its right language
    rintro ⟨k, x, k'⟩ ht
    obtain ⟨q, r, a, -, -, hr, -, -, rfl⟩ := (mem_quotOf_delta A hA hnm _ _ _).mp ht
    exact hr.2.2.imp fun w hw => (quotOf_rightLang A hA hd he hnm w r hr).mpr hw
  lang := fun w => by
    unfold Lang
    simp only [mem_quotOf_starts A hA hnm, exists_exists_and_eq_and]
    exact exists_congr fun s => and_congr_right fun hs =>
      quotOf_rightLang A hA hd he hnm w s (hst s hs)

theorem minimizeOf_cases (A : ENFA σ) (hA : A.WF) (hd : A.Deterministic)
    (gs : List (List (Option σ))) (key : List (Option σ) → κ) (e : κ) :
    (A.minimizeOf gs key e = ofParts [e] [] [] ∧ ∀ w, ¬ A.Lang w) ∨
    (A.minimizeOf gs key e = A.quotOf (groupKey gs key) ∧ ∀ s ∈ A.starts, A.Live s) := by
  rw [minimizeOf_eq]
  by_cases h1 : (A.starts.isEmpty || A.finals.isEmpty) = true
  · left
    rw [if_pos h1]
    refine ⟨rfl, ?_⟩
    rintro w ⟨s, hs, f, hf, _⟩
    simp only [Bool.or_eq_true, List.isEmpty_iff] at h1
    rcases h1 with h | h
    · rw [h] at hs; cases hs
    · rw [h] at hf; cases hf
  · rw [if_neg h1]
    by_cases h2 : (!(A.starts.any (· ∈ A.liveList))) = true
    · left
      rw [if_pos h2]
      refine ⟨rfl, ?_⟩
      rintro w ⟨s, hs, f, hf, hr⟩
      have hl : A.Live s := ⟨hA.starts_sub s hs, ⟨s, hs, [], Run.nil s⟩, w, f, hf, hr⟩
      simp only [Bool.not_eq_eq_eq_not, Bool.not_true, List.any_eq_false, decide_eq_true_eq] at h2
      exact h2 s hs ((mem_liveList A hA s).mpr hl)
    · right
      rw [if_neg h2]
      refine ⟨rfl, ?_⟩
      simp only [Bool.not_eq_eq_eq_not, Bool.not_true, Bool.not_eq_false, List.any_eq_true,
        decide_eq_true_eq] at h2
      obtain ⟨s0, hs0, hl0⟩ := h2
      intro s hs
      rw [hd.1 s hs s0 hs0]
      exact (mem_liveList A hA s0).mp hl0

/-- what `minimize` returns for the empty language: one start state and nothing else -/
theorem emptyAut_minimal (e : κ) {A : ENFA σ} (hemp : ∀ w, ¬ A.Lang w) :
    (ofParts [e] [] []).MinimalOf A := by
  have hδ : ∀ t, t ∉ (ofParts [e] [] []).delta := fun t h => by
    rw [mem_ofParts_delta] at h
    cases h
  have hs : ∀ k, k ∈ (ofParts [e] [] []).starts ↔ k = e := fun k => by
    rw [mem_ofParts_starts, List.mem_singleton]
  have hst : ∀ k ∈ (ofParts [e] [] []).states, k = e := by
    intro k hk
    rw [mem_ofParts_states] at hk
    rcases hk with h | h | ⟨t, ht, _⟩
    · simpa using h
    · cases h
    · cases ht
  exact {
    det := ⟨fun p hp q hq => ((hs p).mp hp).trans ((hs q).mp hq).symm,
      fun _ _ _ _ h => absurd h (hδ _), fun _ _ h => absurd h (hδ _)⟩
    epsFree := fun _ h => absurd h (hδ _)
    wf := ofParts_wf _ _ _
    reduced := ⟨fun k hk => by rw [hst k hk]; exact ⟨e, (hs e).mpr rfl, [], Run.nil e⟩,
      fun k hk k' hk' _ => by rw [hst k hk, hst k' hk']⟩
    trim := fun _ h => absurd h (hδ _)
    lang := fun w => ⟨fun ⟨_, _, f, hf, _⟩ => (nomatch (mem_ofParts_finals _ _ _ f).mp hf),
      fun hl => absurd hl (hemp w)⟩ }

theorem minimizeOf_minimal (A : ENFA σ) (hA : A.WF) (hd : A.Deterministic) (he : A.EpsFree)
    (gs : List (List (Option σ))) (hgs : A.IsNerodePartition gs) (key : List (Option σ) → κ)
    (hkey : ∀ g ∈ gs, ∀ g' ∈ gs, key g = key g' → g = g') (e : κ) :
    (A.minimizeOf gs key e).MinimalOf A := by
  rcases minimizeOf_cases A hA hd gs key e with ⟨h, hemp⟩ | ⟨h, hst⟩ <;> rw [h]
  · exact emptyAut_minimal e hemp
  · exact quotOf_minimal A hA hd he (groupKey_nameOK A gs hgs key hkey e) hst

theorem foldlM_sameRight (M : ENFA σ) (hM : M.WF) (fuel : Nat) :
    ∀ (l : List (σ × σ)) (acc b : Bool),
      (∀ pq ∈ l, pq.1 ∈ M.states ∧ pq.2 ∈ M.states) →
      l.foldlM (fun acc pq => (M.sameRight fuel (some pq.1) (some pq.2)).map
        fun same => acc && !same) acc = some b →
      (b = true ↔ acc = true ∧ ∀ pq ∈ l, ¬ M.Nerode (some pq.1) (some pq.2)) := by
  intro l
  induction l with
  | nil =>
    intro acc b _ h
    simp only [List.foldlM_nil, pure, Option.some.injEq] at h
    subst h
    simp
  | cons pq l ih =>
    intro acc b hl h
    rw [List.foldlM_cons] at h
    obtain ⟨acc1, h1, h2⟩ := Option.bind_eq_some_iff.mp h
    obtain ⟨same, hs, hacc⟩ := Option.map_eq_some_iff.mp h1
    have hpq := hl pq List.mem_cons_self
    have hsame := sameRight_iff' M hM fuel (some pq.1) (some pq.2)
      (fun x hx => by cases hx; exact hpq.1) (fun x hx => by cases hx; exact hpq.2) same hs
    rw [ih acc1 b (fun x hx => hl x (List.mem_cons_of_mem _ hx)) h2, ← hacc]
    simp only [Bool.and_eq_true, Bool.not_eq_eq_eq_not, Bool.not_true, List.mem_cons,
      forall_eq_or_imp, ← hsame, Bool.not_eq_true, and_assoc]

end ENFA
end Pfl
