/-
Termination of the LL(1) worklists (`firstLoop` / `followLoop` of `Pfl/Model/LL1Lib.lean`).

A key is pushed on the `SetQueue` only when the set of some key grew, the queue never holds a key
twice, the sets are duplicate-free lists over a finite universe.  With `V` keys that can be queued
and sets of total size at most `B`, the measure `(B - size) * (V + 1) + |queue|` decreases in every
round (`worklist_fuel`); `run_isSome` says this of any `Worklist`, and the two loops are instances.
-/
import Pfl.Proofs.TerminationBase
import Pfl.Proofs.LL1LibFollow
import Pfl.Proofs.FAOracle

namespace Pfl.Term
open Pfl Pfl.LL1Lib Pfl.LL1Lib.Lem

section Generic
set_option linter.unusedSectionVars false
variable {κ α : Type} [DecidableEq κ] [DecidableEq α]

def Bounded (U : List α) (m : SetMap κ α) : Prop :=
  ∀ k, (getD m k).Nodup ∧ ∀ a ∈ getD m k, a ∈ U

theorem Bounded.length_le {U : List α} {m : SetMap κ α} (h : Bounded U m) (k : κ) :
    (getD m k).length ≤ U.length :=
  (h k).1.length_le_of_subset (fun a ha => (h k).2 a ha)

theorem bounded_upd {ρ : Type} {U : List α} (k : κ) (v : List α) (push : List ρ → List ρ)
    (st : SetMap κ α × List ρ) (h : Bounded U st.1) (hv : ∀ a ∈ v, a ∈ U) :
    Bounded U (upd k v push st).1 := fun k' =>
  ⟨upd_nodup k v push st (fun k => (h k).1) k',
    fun a ha => upd_forall k v push st (fun _ a => a ∈ U) (fun k a ha => (h k).2 a ha) hv k' a ha⟩

theorem upd_queue {ρ : Type} (k : κ) (v : List α) (push : List ρ → List ρ) (st : SetMap κ α × List ρ)
    (P : List ρ → Prop) (h : P st.2) (hp : P (push st.2)) : P (upd k v push st).2 := by
  rcases upd_cases k v push st with ⟨_, hq⟩ | ⟨_, hq⟩ <;> rw [hq] <;> assumption

def sizeOn (keys : List κ) (F : SetMap κ α) : Nat := sumOver keys fun k => (getD F k).length

/-- from `st` to `st'` size and queue are as they were, or the size grew -/
def Prog {ρ : Type} (keys : List κ) (st st' : SetMap κ α × List ρ) : Prop :=
  (sizeOn keys st'.1 = sizeOn keys st.1 ∧ st'.2 = st.2) ∨ sizeOn keys st.1 < sizeOn keys st'.1

theorem Prog.refl {ρ : Type} (keys : List κ) (st : SetMap κ α × List ρ) : Prog keys st st :=
  Or.inl ⟨rfl, rfl⟩

theorem Prog.trans {ρ : Type} {keys : List κ} {a b c : SetMap κ α × List ρ} (h1 : Prog keys a b)
    (h2 : Prog keys b c) : Prog keys a c := by
  rcases h1 with ⟨e1, q1⟩ | l1 <;> rcases h2 with ⟨e2, q2⟩ | l2
  · exact Or.inl ⟨e2.trans e1, q2.trans q1⟩
  · exact Or.inr (e1 ▸ l2)
  · exact Or.inr (e2 ▸ l1)
  · exact Or.inr (Nat.lt_trans l1 l2)

theorem upd_prog {ρ : Type} {keys : List κ} (k : κ) (hk : k ∈ keys) (v : List α)
    (push : List ρ → List ρ) (st : SetMap κ α × List ρ) : Prog keys st (upd k v push st) := by
  rcases upd_cases k v push st with ⟨hsame, hq⟩ | ⟨hlt, _⟩
  · exact Or.inl ⟨sumOver_congr _ _ _ fun k' _ => by rw [hsame k'], hq⟩
  · exact Or.inr (sumOver_lt _ _ _ (fun k' _ => upd_length_le k v push st k') k hk hlt)

theorem fold_prog {ρ π : Type} (Inv : SetMap κ α × List ρ → Prop) (keys : List κ)
    (g : SetMap κ α × List ρ → π → SetMap κ α × List ρ) (l : List π)
    (hg : ∀ x ∈ l, ∀ st, Inv st → Inv (g st x) ∧ Prog keys st (g st x))
    (st : SetMap κ α × List ρ) (h : Inv st) : Inv (l.foldl g st) ∧ Prog keys st (l.foldl g st) :=
  foldl_inv (fun st' => Inv st' ∧ Prog keys st st') g l
    (fun st' x hx h' => ⟨(hg x hx st' h'.1).1, h'.2.trans (hg x hx st' h'.1).2⟩) st ⟨h, Prog.refl keys st⟩

theorem round_measure {ρ : Type} {keys : List κ} {F : SetMap κ α} {q : List ρ}
    {st' : SetMap κ α × List ρ} (hne : q ≠ []) (h : Prog keys (F, q.dropLast) st') :
    (sizeOn keys st'.1 = sizeOn keys F ∧ st'.2.length + 1 = q.length) ∨ sizeOn keys F < sizeOn keys st'.1 :=
  h.imp_left fun ⟨e, hq⟩ => ⟨e, by
    rw [hq, List.length_dropLast]
    exact Nat.sub_add_cancel (List.length_pos_iff.mpr hne)⟩

/-- what bounds a worklist: the sets stay duplicate-free inside the finite universe `U`, the queue
is a duplicate-free list of keys from `qkeys` -/
structure WInvT {ρ : Type} (U : List α) (qkeys : List ρ) (st : SetMap κ α × List ρ) : Prop where
  bnd : Bounded U st.1
  qnd : st.2.Nodup
  qmem : ∀ x ∈ st.2, x ∈ qkeys

/-- the items write keys of `keys` and add members of `U`; the readers of `keys` are in `qkeys` -/
structure WFin {ρ ι : Type} (W : Worklist κ α ρ ι) (U : List α) (keys : List κ) (qkeys : List ρ) :
    Prop where
  key : ∀ cur, ∀ i ∈ W.items cur, W.key i ∈ keys
  val : ∀ F i, Bounded U F → ∀ a ∈ W.val F i, a ∈ U
  push : ∀ k ∈ keys, ∀ x ∈ W.readers k, x ∈ qkeys

section Run
variable {ρ ι : Type} [DecidableEq ρ] {W : Worklist κ α ρ ι} {U : List α} {keys : List κ} {qkeys : List ρ}

theorem round_term (hW : WFin W U keys qkeys) {F : SetMap κ α} {q : List ρ} {cur : ρ}
    (h : WInvT U qkeys (F, q)) :
    WInvT U qkeys (W.round F q cur) ∧ Prog keys (F, q.dropLast) (W.round F q cur) := by
  refine fold_prog (WInvT U qkeys) keys W.step (W.items cur) (fun i hi st hst => ?_) _
    ⟨h.bnd, h.qnd.sublist (List.dropLast_sublist _),
      fun x hx => h.qmem x ((List.dropLast_sublist _).subset hx)⟩
  exact ⟨⟨bounded_upd _ _ _ _ hst.bnd (hW.val _ i hst.bnd),
      upd_queue _ _ _ _ List.Nodup hst.qnd (union_nodup _ _ hst.qnd),
      upd_queue _ _ _ _ (fun q => ∀ x ∈ q, x ∈ qkeys) hst.qmem fun x hx =>
        ((mem_foldl_qpush _ _ x).mp hx).elim (hst.qmem x) (hW.push _ (hW.key cur i hi) x)⟩,
    upd_prog _ (hW.key cur i hi) _ _ _⟩

theorem run_bounded (hW : WFin W U keys qkeys) (fuel : Nat) (F : SetMap κ α) (q : List ρ)
    (F' : SetMap κ α) (h0 : WInvT U qkeys (F, q)) (h : W.run fuel F q = some F') : Bounded U F' :=
  (W.run_inv (fun F q => WInvT U qkeys (F, q)) (fun _ _ _ _ hI => (round_term hW hI).1)
    fuel F q F' h0 h).bnd

theorem run_isSome (hW : WFin W U keys qkeys) (fuel : Nat) (F : SetMap κ α) (q : List ρ)
    (h0 : WInvT U qkeys (F, q))
    (hf : keys.length * U.length * (qkeys.length + 1) + qkeys.length ≤ fuel) :
    (W.run fuel F q).isSome := by
  -- the measure of `worklist_fuel` at any state; the closed bound of the statement is its value at the start
  have key : ∀ fuel (F : SetMap κ α) (q : List ρ), WInvT U qkeys (F, q) →
      (keys.length * U.length - sizeOn keys F) * (qkeys.length + 1) + q.length ≤ fuel →
      (W.run fuel F q).isSome := by
    intro fuel
    induction fuel with
    | zero =>
      intro F q _ hf
      rw [List.eq_nil_of_length_eq_zero (Nat.eq_zero_of_le_zero (Nat.le_of_add_left_le hf))]; rfl
    | succ fuel ih =>
      intro F q h0 hf
      by_cases hne : q = []
      · rw [hne, Worklist.run_nil]; rfl
      · rw [W.run_succ fuel F q _ (List.getLast?_eq_some_getLast hne)]
        have ⟨hI, hP⟩ := round_term hW (cur := q.getLast hne) h0
        exact ih _ _ hI (worklist_fuel (sumOver_le_mul keys _ U.length fun k _ => hI.bnd.length_le k)
          (hI.qnd.length_le_of_subset hI.qmem) (round_measure hne hP) hf)
  exact key fuel F q h0 (Nat.le_trans (Nat.add_le_add
    (Nat.mul_le_mul_right _ (Nat.sub_le _ _)) (h0.qnd.length_le_of_subset h0.qmem)) hf)

end Run

end Generic

/-- members of FIRST sets: the terminals and `Epsilon` -/
def firstU (G : CFG) : List Look := G.ters.map Look.ter ++ [Look.eps]

/-- the heads of the productions (the keys that `get_first_set` ever queues or enlarges) -/
def heads (G : CFG) : List String := (G.prods.map (·.1)).eraseDups

def varKeys (G : CFG) : List Sym := (heads G).map Sym.var

theorem mem_heads {G : CFG} {p : Pfl.Prod} (hp : p ∈ G.prods) : p.1 ∈ heads G :=
  List.mem_eraseDups.mpr (List.mem_map.mpr ⟨p, hp, rfl⟩)

theorem mem_varKeys {G : CFG} {p : Pfl.Prod} (hp : p ∈ G.prods) : Sym.var p.1 ∈ varKeys G :=
  List.mem_map.mpr ⟨p.1, mem_heads hp, rfl⟩

theorem firstProd_mem_firstU {G : CFG} {F : SetMap Sym Look} (h : Bounded (firstU G) F)
    (b : List Sym) (a : Look) (ha : a ∈ firstProd F b) : a ∈ firstU G := by
  obtain ⟨x, _, hx⟩ := reach_mem ((mem_firstProd F b a).mp ha).1
  exact (h x).2 a hx

theorem firstW_fin (G : CFG) : WFin (firstW G (triggers G)) (firstU G) (varKeys G) (heads G) where
  key _ _ hp := mem_varKeys (mem_firstW_items.mp hp).1
  val _ p h := firstProd_mem_firstU h p.2
  push _ _ x hx := let ⟨_, hp, e, _⟩ := (mem_trig G _ x).mp hx; e ▸ mem_heads hp

def firstB (G : CFG) : Nat := (heads G).length * (G.ters.length + 1)

theorem firstInit_finvT (G : CFG) : WInvT (firstU G) (heads G) (firstInit G (triggers G)) := by
  have h := firstInit_inv G
  refine ⟨fun k => ⟨?_, fun a ha => ?_⟩, h.entry.qnd, fun x hx => ?_⟩
  · rw [h.val]
    split
    · exact List.pairwise_singleton _ _
    · exact List.nodup_nil
  · obtain ⟨hk, rfl⟩ := firstInit_mem G ha
    rcases mem_seedKeys.mp hk with ⟨t, ht, rfl⟩ | ⟨_, _, _, rfl⟩
    · exact List.mem_append_left _ (List.mem_map.mpr ⟨t, ht, rfl⟩)
    · exact List.mem_append_right _ (List.mem_singleton.mpr rfl)
  · obtain ⟨p, hp, rfl⟩ := h.entry.qmem x hx
    exact mem_heads hp

/-- fuel that is always enough for `get_first_set`: with `V` the number of different heads and
`t` the number of terminals, `V * (t + 1) * (V + 1) + V` -/
def firstFuel (G : CFG) : Nat := firstB G * ((heads G).length + 1) + (heads G).length

theorem firstSet_isSome (G : CFG) (fuel : Nat) (hf : firstFuel G ≤ fuel) :
    (firstSet G fuel).isSome := by
  have h := firstInit_finvT G
  show (firstLoop G (triggers G) fuel _ _).isSome
  rw [firstLoop_eq]
  refine run_isSome (firstW_fin G) fuel _ _ h (Nat.le_trans (Nat.le_of_eq ?_) hf)
  simp [firstFuel, firstB, varKeys, firstU]

theorem firstSet_bounded (G : CFG) (fuel : Nat) (F : SetMap Sym Look)
    (h : firstSet G fuel = some F) : Bounded (firstU G) F :=
  run_bounded (firstW_fin G) fuel _ _ F (firstInit_finvT G) (firstSet_run G fuel F h)

def followU (G : CFG) : List Look := G.ters.map Look.ter ++ [Look.eps, Look.eof]

/-- the symbols occurring in bodies (the keys `get_follow_set` ever enlarges) -/
def bodySyms (G : CFG) : List Sym := (G.prods.flatMap (·.2)).eraseDups

def symKeys (G : CFG) : List (Option Sym) := (bodySyms G).map some

theorem mem_bodySyms {G : CFG} {p : Pfl.Prod} (hp : p ∈ G.prods) {x : Sym} (hx : x ∈ p.2) :
    x ∈ bodySyms G :=
  List.mem_eraseDups.mpr (List.mem_flatMap.mpr ⟨p, hp, hx⟩)

/-- every key that can be queued: the start key and the body symbols -/
def qKeys (G : CFG) : List (Option Sym) := G.start.map Sym.var :: symKeys G

theorem followW_key (G : CFG) (F : SetMap Sym Look) {cur : Option Sym} {i : Option Sym × Sym}
    (hi : i ∈ (followW (followTriggers G F)).items cur) : some i.2 ∈ symKeys G := by
  obtain ⟨_, ht⟩ := mem_followW_items.mp hi
  cases cur with
  | none => cases ht
  | some c =>
    obtain ⟨p, hp, _, pre, rest, hb, _⟩ := (mem_followTriggers G F c _).mp ht
    exact List.mem_map.mpr ⟨_, mem_bodySyms hp (by rw [hb]; simp), rfl⟩

theorem followW_fin (G : CFG) (F : SetMap Sym Look) :
    WFin (followW (followTriggers G F)) (followU G) (symKeys G) (qKeys G) where
  key _ _ hi := followW_key G F hi
  val _ i h := (h i.1).2
  push _ hk _ hx := List.mem_singleton.mp hx ▸ List.mem_cons_of_mem _ hk

def followB (G : CFG) : Nat := (bodySyms G).length * (G.ters.length + 2)

theorem firstU_sub_followU (G : CFG) (a : Look) (h : a ∈ firstU G) : a ∈ followU G := by
  simp only [firstU, followU, List.mem_append, List.mem_map, List.mem_cons,
    List.not_mem_nil, or_false] at h ⊢
  rcases h with h | h
  · exact Or.inl h
  · exact Or.inr (Or.inl h)

theorem followInit_winvT (G : CFG) (F : SetMap Sym Look) (hF : Bounded (firstU G) F) :
    WInvT (followU G) (qKeys G) (followInit G F G.start) := by
  have hI := followInit_inv G F G.start
  refine ⟨fun k => ⟨hI.nodup k, fun a ha => ?_⟩, hI.entry.qnd, fun k hk => ?_⟩
  · rcases (hI.rep k a).mp ha with ⟨_, rfl⟩ | ⟨p, _, pre, x, rest, _, _, _, hr⟩
    · simp [followU]
    · obtain ⟨y, _, hy⟩ := reach_mem hr
      exact firstU_sub_followU G a ((hF y).2 a hy)
  · rcases hI.entry.qmem k hk with rfl | ⟨p, hp, x, hx, rfl⟩
    · exact List.mem_cons_self
    · exact List.mem_cons_of_mem _ (List.mem_map.mpr ⟨x, mem_bodySyms hp hx, rfl⟩)

/-- fuel that is always enough for the FOLLOW worklist: with `K` the number of different symbols
in bodies and `t` the number of terminals, `K * (t + 2) * (K + 2) + K + 1` -/
def followFuel (G : CFG) : Nat :=
  followB G * ((bodySyms G).length + 2) + (bodySyms G).length + 1

theorem followSet_isSome (G : CFG) (fuel : Nat) (hf1 : firstFuel G ≤ fuel)
    (hf2 : followFuel G ≤ fuel) : (followSet G fuel).isSome := by
  unfold followSet
  obtain ⟨F, hF⟩ := Option.isSome_iff_exists.mp (firstSet_isSome G fuel hf1)
  rw [hF]
  show (followLoop _ fuel _ _).isSome
  rw [followLoop_eq]
  refine run_isSome (followW_fin G F) fuel _ _ (followInit_winvT G F (firstSet_bounded G fuel F hF))
    (Nat.le_trans (Nat.le_of_eq ?_) hf2)
  simp [followFuel, followB, symKeys, followU, qKeys, Nat.add_assoc]

end Pfl.Term
