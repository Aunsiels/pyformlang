/-
Numbered names `pre ++ "0", pre ++ "1", …` differ with their numbers (`suffix_inj`: the variables of the
normal forms, the sharing classes of a feature structure).  `get_next_free` (PDA) and
`FSTStateRemaining.add_state` (FST) look for one that is not in use; they try one candidate more than
there are names in use, so one of them is free (`find_fresh`).
-/
import Pfl.Proofs.ListBasics
import Std.Data.String.ToNat
namespace Pfl
namespace Fresh

theorem suffix_inj (pre : String) {a b : Nat} (h : pre ++ toString a = pre ++ toString b) : a = b :=
  Nat.repr_injective ((String.append_right_inj pre).1 h)

/-- decimal numerals consist of digits, hence contain none of the separators the names are built with -/
theorem toString_isDigit (p : Nat) : ∀ c ∈ (toString p).toList, c.isDigit = true := by
  rw [Nat.toString_eq_repr, Nat.toList_repr]
  exact fun c h => Nat.isDigit_of_mem_toDigits (by decide) (by decide) h

end Fresh
end Pfl
