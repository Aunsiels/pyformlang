/-
Generic counting lemmas for the termination (fuel sufficiency) theorems: sums of sizes over a
finite list of keys, the count of a loop that marks at pop (`fuel_expand`), and the measure argument
for a worklist whose elements are re-queued only when some bounded size grew (`worklist_fuel`).
-/
import Mathlib.Data.List.Basic
import Pfl.Proofs.ListBasics

namespace Pfl.Term

def sumOver {κ : Type} (l : List κ) (f : κ → Nat) : Nat := (l.map f).sum

theorem sumOver_nil {κ : Type} (f : κ → Nat) : sumOver [] f = 0 := rfl

theorem sumOver_cons {κ : Type} (k : κ) (l : List κ) (f : κ → Nat) :
    sumOver (k :: l) f = f k + sumOver l f := by
  simp [sumOver]

theorem sumOver_le {κ : Type} (l : List κ) (f g : κ → Nat) (h : ∀ k ∈ l, f k ≤ g k) :
    sumOver l f ≤ sumOver l g := by
  induction l with
  | nil => simp [sumOver]
  | cons k l ih =>
    rw [sumOver_cons, sumOver_cons]
    have h1 := h k List.mem_cons_self
    have h2 := ih (fun k' hk' => h k' (List.mem_cons_of_mem _ hk'))
    omega

theorem sumOver_lt {κ : Type} (l : List κ) (f g : κ → Nat) (h : ∀ k ∈ l, f k ≤ g k)
    (k0 : κ) (hk0 : k0 ∈ l) (hlt : f k0 < g k0) : sumOver l f < sumOver l g := by
  induction l with
  | nil => cases hk0
  | cons k l ih =>
    rw [sumOver_cons, sumOver_cons]
    have h1 := h k List.mem_cons_self
    have h2 := sumOver_le l f g (fun k' hk' => h k' (List.mem_cons_of_mem _ hk'))
    rcases List.mem_cons.mp hk0 with rfl | hk0
    · omega
    · have h3 := ih (fun k' hk' => h k' (List.mem_cons_of_mem _ hk')) hk0
      omega

theorem sumOver_const {κ : Type} (l : List κ) (b : Nat) : sumOver l (fun _ => b) = l.length * b := by
  induction l with
  | nil => simp [sumOver]
  | cons k l ih => rw [sumOver_cons, ih, List.length_cons, Nat.succ_mul, Nat.add_comm]

theorem sumOver_le_mul {κ : Type} (l : List κ) (f : κ → Nat) (b : Nat) (h : ∀ k ∈ l, f k ≤ b) :
    sumOver l f ≤ l.length * b := by
  rw [← sumOver_const l b]
  exact sumOver_le l f _ h

theorem mul_le_sumOver {κ : Type} (l : List κ) (f : κ → Nat) (b : Nat) (h : ∀ k ∈ l, b ≤ f k) :
    l.length * b ≤ sumOver l f := by
  rw [← sumOver_const l b]
  exact sumOver_le l _ f h

theorem sumOver_congr {κ : Type} (l : List κ) (f g : κ → Nat) (h : ∀ k ∈ l, f k = g k) :
    sumOver l f = sumOver l g := by
  apply Nat.le_antisymm
  · exact sumOver_le l f g (fun k hk => Nat.le_of_eq (h k hk))
  · exact sumOver_le l g f (fun k hk => Nat.le_of_eq (h k hk).symm)

/-! A loop that marks an entry when it is popped (the queue of `get_accepted_words`, the stack of
`FST.translate`): a pop either meets a marked entry or marks a new element of a finite list `U` and
pushes at most `d` entries, so `|stack| + d * unseen U seen` rounds are enough. -/

/-- expanding an entry `c` that was not seen before pays for its at most `d` successors with one unseen
element of `U` -/
theorem fuel_expand {α : Type} [DecidableEq α] {U seen : List α} {c : α} (hc : c ∈ U) (hn : c ∉ seen)
    {k s d n : Nat} (hk : k ≤ d) (hf : s + 1 + d * unseen U seen ≤ n + 1) :
    k + s + d * unseen U (c :: seen) ≤ n := by
  have := Nat.mul_le_mul_left d (unseen_lt (fun _ => List.mem_cons_of_mem c) hc hn List.mem_cons_self)
  rw [Nat.mul_succ] at this
  omega

/-- A round of a worklist over a dictionary of total size `sz ≤ B` and a queue of length `q ≤ V`
either pops one element and leaves the size alone, or makes the size grow: `(B - sz) * (V + 1) + q`
rounds of fuel are enough, and a round uses one. -/
theorem worklist_fuel {B V sz sz' q q' n : Nat} (hB : sz' ≤ B) (hV : q' ≤ V)
    (h : (sz' = sz ∧ q' + 1 = q) ∨ sz < sz') (hf : (B - sz) * (V + 1) + q ≤ n + 1) :
    (B - sz') * (V + 1) + q' ≤ n := by
  rcases h with ⟨h1, h2⟩ | h1
  · rw [h1]; omega
  · have hm := Nat.mul_le_mul_right (V + 1) (show B - sz' + 1 ≤ B - sz by omega)
    rw [Nat.add_mul, Nat.one_mul] at hm
    omega

end Pfl.Term
