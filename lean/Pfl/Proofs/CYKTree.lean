/-
Helper lemmas for C15 (tree side of the CYK table): every cell of `cykTableT` is the recogniser's cell
decorated (`Decor`: well-formed trees of the right span whose heads are the variables of the
recogniser's cell), by the induction over both tables at once (`rows_rel`); no normal form is assumed.
-/
import Pfl.Model.CYKTree
import Pfl.Proofs.CFGCYK
namespace Pfl
namespace CFG
namespace CYKT

theorem mem_addNode {acc : List PTree} {a t : PTree} (h : t ∈ addNode acc a) : t ∈ acc ∨ t = a := by
  unfold addNode at h
  split at h
  · exact Or.inl h
  · exact (List.mem_append.1 h).imp_right List.mem_singleton.1

theorem heads_addNode (acc : List PTree) (a : PTree) (v : String) :
    (∃ t ∈ addNode acc a, rootVar t = v) ↔ (∃ t ∈ acc, rootVar t = v) ∨ rootVar a = v := by
  unfold addNode
  split
  · rename_i h
    simp only [List.any_eq_true, decide_eq_true_eq] at h
    constructor
    · intro h'; exact Or.inl h'
    · rintro (h' | h')
      · exact h'
      · obtain ⟨u, hu, e⟩ := h
        exact ⟨u, hu, e.trans h'⟩
  · constructor
    · rintro ⟨t, ht, e⟩
      rcases List.mem_append.1 ht with ht | ht
      · exact Or.inl ⟨t, ht, e⟩
      · simp only [List.mem_singleton] at ht
        subst ht
        exact Or.inr e
    · rintro (⟨t, ht, e⟩ | e)
      · exact ⟨t, List.mem_append_left _ ht, e⟩
      · exact ⟨a, List.mem_append_right _ (List.mem_singleton.2 rfl), e⟩

theorem heads_dedup (l : List PTree) (v : String) :
    (∃ t ∈ l.foldl addNode [], rootVar t = v) ↔ (∃ t ∈ l, rootVar t = v) :=
  foldl_inv_prefix (fun S l => (∃ t ∈ S, rootVar t = v) ↔ ∃ t ∈ l, rootVar t = v) addNode l
    (fun S l a _ _ h => by
      rw [heads_addNode, h]
      simp only [List.mem_append, List.mem_singleton, or_and_right, exists_or, exists_eq_left])
    [] (by simp)

theorem mem_dedup (l : List PTree) (t : PTree) (h : t ∈ l.foldl addNode []) : t ∈ l :=
  foldl_inv (fun S => ∀ t ∈ S, t ∈ l) addNode l
    (fun _ _ hb hS t ht => (mem_addNode ht).elim (hS t) fun e => e ▸ hb) [] (fun _ h => nomatch h) t h

/-- `t` is a parse tree (in `N`) of the window `w[i, i+len)` headed by a variable -/
def GoodT (N : CFG) (w : List String) (i len : Nat) (t : PTree) : Prop :=
  t.sym = .var (rootVar t) ∧ N.wellFormedT t = true ∧ yieldT t = (w.drop i).take len

theorem mem_leafNodes (N : CFG) (a : String) (t : PTree) :
    t ∈ N.prods.filterMap (fun p =>
      if p.2 = [.ter a] then some (PTree.node (.var p.1) [PTree.node (.ter a) []]) else none) ↔
    ∃ x, (x, [Sym.ter a]) ∈ N.prods ∧ t = PTree.node (.var x) [PTree.node (.ter a) []] := by
  simp only [List.mem_filterMap]
  constructor
  · rintro ⟨p, hp, hx⟩
    split at hx
    · rename_i h2
      refine ⟨p.1, ?_, (Option.some.inj hx).symm⟩
      rw [← h2]; exact hp
    · cases hx
  · rintro ⟨x, hp, rfl⟩
    exact ⟨_, hp, if_pos rfl⟩

/-- the nodes `CYKNode(head, tb, tc)` over the productions `head → root(tb) root(tc)` -/
def pairNodes (N : CFG) (tb tc : PTree) : List PTree :=
  N.prods.filterMap fun p => match p.2 with
    | [.var b, .var c] =>
      if b = rootVar tb ∧ c = rootVar tc then some (PTree.node (.var p.1) [tb, tc]) else none
    | _ => none

theorem cykCellT_eq (N : CFG) (tbl : Nat → Nat → List PTree) (i len : Nat) :
    cykCellT N tbl i len = ((List.range (len - 1)).flatMap fun k =>
      (tbl i (k + 1)).flatMap fun tb => (tbl (i + (k + 1)) (len - (k + 1))).flatMap fun tc =>
        pairNodes N tb tc).foldl addNode [] := rfl

theorem mem_pairNodes (N : CFG) (tb tc t : PTree) :
    t ∈ pairNodes N tb tc ↔
      ∃ x, (x, [Sym.var (rootVar tb), Sym.var (rootVar tc)]) ∈ N.prods ∧
        t = PTree.node (.var x) [tb, tc] := by
  unfold pairNodes
  simp only [List.mem_filterMap]
  constructor
  · rintro ⟨p, hp, hx⟩
    split at hx
    · rename_i b c h2
      split at hx
      · rename_i h3
        refine ⟨p.1, ?_, (Option.some.inj hx).symm⟩
        rw [← h3.1, ← h3.2, ← h2]; exact hp
      · cases hx
    · cases hx
  · rintro ⟨x, hp, rfl⟩
    exact ⟨_, hp, if_pos ⟨rfl, rfl⟩⟩

theorem take_split (w : List String) (i len l : Nat) (hl : l ≤ len) :
    (w.drop i).take len = (w.drop i).take l ++ (w.drop (i + l)).take (len - l) := by
  have : len = l + (len - l) := (Nat.add_sub_of_le hl).symm
  conv => lhs; rw [this]
  rw [List.take_add, List.drop_drop]

theorem good_node (N : CFG) (w : List String) (i len l : Nat) (hl : l ≤ len) (tb tc : PTree)
    (x : String) (hp : (x, [Sym.var (rootVar tb), Sym.var (rootVar tc)]) ∈ N.prods)
    (hb : GoodT N w i l tb) (hc : GoodT N w (i + l) (len - l) tc) :
    GoodT N w i len (PTree.node (.var x) [tb, tc]) := by
  refine ⟨rfl, ?_, ?_⟩
  · simp only [wellFormedT, wellFormedL, List.map, hb.1, hc.1, hp, hb.2.1, hc.2.1, decide_true,
      Bool.and_self]
  · rw [take_split w i len l hl, ← hb.2.2, ← hc.2.2]
    simp only [yieldT, yieldL, List.append_nil]

/-- the cell `a` of trees is the recogniser's cell `b` decorated: parse trees of the window, one or more
for each variable of `b` and for no other -/
def Decor (N : CFG) (w : List String) (len i : Nat) (a : List PTree) (b : List String) : Prop :=
  (∀ t ∈ a, GoodT N w i len t) ∧ ∀ v, (∃ t ∈ a, rootVar t = v) ↔ v ∈ b

theorem decor_row1 (N : CFG) (w : List String) (i : Nat) (hi : i + 1 ≤ w.length) :
    Decor N w 1 i (cykRow1T N w i) (cykRow1 N w i) := by
  have ht : w[i]? = some w[i] := List.getElem?_eq_getElem hi
  unfold cykRow1T
  rw [ht]
  refine ⟨fun t h => ?_, fun v => ?_⟩
  · obtain ⟨x, hp, rfl⟩ := (mem_leafNodes N _ t).1 (mem_dedup _ _ h)
    refine ⟨rfl, ?_, ?_⟩
    · simp only [wellFormedT, wellFormedL, List.map, PTree.sym, hp, decide_true, List.isEmpty_nil,
        Bool.and_self]
    · rw [List.drop_eq_getElem_cons hi]; rfl
  · rw [heads_dedup, mem_cykRow1, ht]
    simp only [mem_leafNodes, Option.some.injEq, exists_eq_left']
    constructor
    · rintro ⟨_, ⟨x, hp, rfl⟩, rfl⟩
      exact hp
    · exact fun hp => ⟨_, ⟨v, hp, rfl⟩, rfl⟩

theorem decor_cell (N : CFG) (w : List String) (f : Nat → Nat → List PTree)
    (g : Nat → Nat → List String) (i len : Nat)
    (ih : ∀ k, k < len - 1 → Decor N w (k + 1) i (f i (k + 1)) (g i (k + 1)) ∧
      Decor N w (len - (k + 1)) (i + (k + 1)) (f (i + (k + 1)) (len - (k + 1)))
        (g (i + (k + 1)) (len - (k + 1)))) :
    Decor N w len i (cykCellT N f i len) (cykCell N g i len) := by
  refine ⟨fun t h => ?_, fun v => ?_⟩
  · rw [cykCellT_eq] at h
    have h := mem_dedup _ _ h
    simp only [List.mem_flatMap, List.mem_range, mem_pairNodes] at h
    obtain ⟨k, hk, tb, htb, tc, htc, x, hp, rfl⟩ := h
    exact good_node N w i len (k + 1) (Nat.le_of_lt (Nat.add_lt_of_lt_sub hk)) tb tc x hp
      ((ih k hk).1.1 tb htb) ((ih k hk).2.1 tc htc)
  · rw [cykCellT_eq, heads_dedup, mem_cykCell]
    simp only [List.mem_flatMap, List.mem_range, mem_pairNodes]
    constructor
    · rintro ⟨_, ⟨k, hk, tb, htb, tc, htc, x, hp, rfl⟩, rfl⟩
      exact ⟨k, hk, _, _, hp, ((ih k hk).1.2 _).1 ⟨tb, htb, rfl⟩, ((ih k hk).2.2 _).1 ⟨tc, htc, rfl⟩⟩
    · rintro ⟨k, hk, b, c, hp, hb, hc⟩
      obtain ⟨tb, htb, rfl⟩ := ((ih k hk).1.2 b).2 hb
      obtain ⟨tc, htc, rfl⟩ := ((ih k hk).2.2 c).2 hc
      exact ⟨_, ⟨k, hk, tb, htb, tc, htc, v, hp, rfl⟩, rfl⟩

theorem cykTableT_eq (N : CFG) (w : List String) :
    cykTableT N w = rows w.length (cykRow1T N w) (cykCellT N) w.length := rfl

theorem table_inv (N : CFG) (w : List String) :
    ∀ l i, 1 ≤ l → l ≤ w.length → i + l ≤ w.length →
      Decor N w l i (look (cykTableT N w) i l) (look (cykTable N w) i l) :=
  rows_rel w.length (cykRow1T N w) (cykCellT N) (cykRow1 N w) (cykCell N) (Decor N w)
    (decor_row1 N w)
    (fun f g i len _ _ => decor_cell N w f g i len) w.length

theorem top_decor (N : CFG) (w : List String) (hw : w ≠ []) :
    Decor N w w.length 0 (look (cykTableT N w) 0 w.length) (look (cykTable N w) 0 w.length) :=
  table_inv N w w.length 0 (List.length_pos_iff.2 hw) (Nat.le_refl _) (Nat.le_of_eq (Nat.zero_add _))

end CYKT
end CFG
end Pfl
