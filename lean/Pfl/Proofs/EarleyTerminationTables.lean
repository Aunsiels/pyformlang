/-
Termination of the Earley model (C18): accounting of the pushes on the chart columns against the
processed states (`Owe`), the counting bound for a column whose keys are distinct and whose states have
pairwise distinct patterns (`ColOK`), and the strengthened invariant `TB`.  The invariants of the Earley
proofs form a tower of levels `Lem.Lay S R` (facts `S` of store and `processed` table, `R` of every
state), the facts and the predicate of a level extending those below: `Lem.Inv` (soundness, read as a
level by `inv_lay`) ⊂ `Cmp.Base` (completeness) ⊂ `TB` ⊂ `TF`; `TB`, `TF` and `TF` over a store without
leaves each give a `Chain` with its own column bound (`colBound`, `colBoundT`, `(S+1)(W+1)(L+1)`).
-/
import Pfl.Proofs.EarleyTerminationSubs
import Mathlib.Data.List.Nodup
namespace Pfl
namespace Earley
namespace Term
open FsDag Lem Cmp

def flen (d : Dict) : Nat := (d.flatMap (·.2)).length

def acc (T : Tables) (j : Nat) : Nat := (procStates T j).length

theorem acc_eq (T : Tables) (j : Nat) : acc T j = flen (colGet T.processed j) := rfl

theorem flen_append (d d' : Dict) : flen (d ++ d') = flen d + flen d' := by
  simp [flen, List.flatMap_append]

theorem flen_cons (x : Key × List EState) (d : Dict) : flen (x :: d) = x.2.length + flen d := by
  rw [flen, List.flatMap_cons, List.length_append]; rfl

theorem flen_map_ge (k : Key) (s : EState) : ∀ d : Dict,
    flen d ≤ flen (d.map fun e => if e.1 = k then (e.1, e.2 ++ [s]) else e) ∧
    (d.any (·.1 = k) = true →
      flen d + 1 ≤ flen (d.map fun e => if e.1 = k then (e.1, e.2 ++ [s]) else e))
  | [] => ⟨Nat.le_refl _, fun h => by cases h⟩
  | e :: d => by
    obtain ⟨h1, h2⟩ := flen_map_ge k s d
    rw [List.map_cons, flen_cons, flen_cons]
    by_cases hk : e.1 = k
    · rw [if_pos hk, List.length_append, List.length_singleton, Nat.add_right_comm]
      exact ⟨Nat.le_succ_of_le (Nat.add_le_add_left h1 _),
        fun _ => Nat.succ_le_succ (Nat.add_le_add_left h1 _)⟩
    · rw [if_neg hk]
      refine ⟨Nat.add_le_add_left h1 _, fun h => ?_⟩
      rw [List.any_cons, decide_eq_false hk, Bool.false_or] at h
      exact Nat.add_le_add_left (h2 h) _

theorem flen_touch (d : Dict) (k : Key) : flen (touch d k) = flen d :=
  congrArg List.length (flatMap_touch d k)

theorem flen_ins (d : Dict) (k : Key) (s : EState) : flen d + 1 ≤ flen (ins d k s) := by
  unfold ins
  by_cases hk : d.any (·.1 = k) = true
  · rw [if_pos hk]; exact (flen_map_ge k s d).2 hk
  · rw [if_neg hk, flen_append]; exact Nat.le_refl _

theorem acc_set (T : Tables) (i : Nat) (d' : Dict) (j : Nat) :
    acc { T with processed := T.processed.set i d' } j =
      if j = i ∧ i < T.processed.length then flen d' else acc T j := by
  unfold acc
  rw [procStates_set, apply_ite List.length]; rfl

/-- column `j` of the chart holds at least `d j` states fewer than `processed` does: `d` counts pops,
and a push adds to both or to neither -/
def Owe (d : Nat → Nat) (T : Tables) : Prop := ∀ j, (colGet T.chart j).length + d j ≤ acc T j

theorem Owe.zero {d : Nat → Nat} {T : Tables} (h : Owe d T) : Owe (fun _ => 0) T :=
  fun j => Nat.le_trans (Nat.le_add_right _ _) (h j)

theorem owe_push {d : Nat → Nat} {T : Tables} (h : Owe d T) (G : Grammar) (i : Nat) (s : EState)
    (hks : T.chart.length = T.processed.length) : Owe d (pushIfNew G T i s) := by
  intro j
  have hacc : acc (pushIfNew G T i s) j = acc (procAdd G T i s).1 j := by
    unfold acc; rw [pushIfNew_proc]
  have h0 := h j
  have h1 := flen_ins (colGet T.processed i) (keyOf G s) s
  have h2 := flen_touch (colGet T.processed i) (keyOf G s)
  rw [← acc_eq] at h1 h2
  rw [hacc, pushIfNew_chart, procAdd_fst, acc_set]
  cases (procAdd G T i s).2
  · simp only [Bool.false_eq_true, if_false]
    split
    · rename_i hc; obtain ⟨rfl, _⟩ := hc; omega
    · exact h0
  · simp only [if_true]
    rw [colGet_set, apply_ite List.length, ← hks]
    split
    · rename_i hc; obtain ⟨rfl, _⟩ := hc
      rw [List.length_append, List.length_singleton]; omega
    · exact h0

theorem owe_advance {d : Nat → Nat} {T : Tables} (h : Owe d T) (G : Grammar) (nx c : EState)
    (hks : T.chart.length = T.processed.length) : Owe d (advance G T nx c) := by
  rw [advance_eq]
  cases advStore T.store c.fs nx.fs nx.dot with
  | inl st => exact h
  | inr p => exact owe_push (T := { T with store := p.1 }) h G c.e _ hks

/-- the keys of column `j`: production index, begin, end `j`, dot -/
def KeyIn (S W L j : Nat) (k : Key) : Prop := k.1 ≤ S ∧ k.2.1 ≤ W ∧ k.2.2.1 = j ∧ k.2.2.2 ≤ L

theorem finOfNat_inj {n a b : Nat} (ha : a ≤ n) (hb : b ≤ n)
    (h : Fin.ofNat (n + 1) a = Fin.ofNat (n + 1) b) : a = b := by
  have := congrArg Fin.val h
  rwa [Fin.val_ofNat, Fin.val_ofNat, Nat.mod_eq_of_lt (Nat.lt_succ_of_le ha),
    Nat.mod_eq_of_lt (Nat.lt_succ_of_le hb)] at this

theorem keys_le {S W L j : Nat} (ks : List Key) (hnd : ks.Nodup)
    (hin : ∀ k ∈ ks, KeyIn S W L j k) : ks.length ≤ (S + 1) * (W + 1) * (L + 1) := by
  let f : Key → Fin (S + 1) × Fin (W + 1) × Fin (L + 1) := fun k =>
    (Fin.ofNat _ k.1, Fin.ofNat _ k.2.1, Fin.ofNat _ k.2.2.2)
  have hmap : (ks.map f).Nodup := by
    refine List.Nodup.map_on ?_ hnd
    intro x hx y hy hxy
    obtain ⟨a1, a2, a3, a4⟩ := hin x hx
    obtain ⟨b1, b2, b3, b4⟩ := hin y hy
    obtain ⟨e1, e23⟩ := Prod.mk.inj hxy
    obtain ⟨e2, e3⟩ := Prod.mk.inj e23
    exact Prod.ext (finOfNat_inj a1 b1 e1) (Prod.ext (finOfNat_inj a2 b2 e2)
      (Prod.ext (a3.trans b3.symm) (finOfNat_inj a4 b4 e3)))
  have := hmap.length_le_card
  simpa [Fintype.card_prod, Nat.mul_assoc] using this

/-- column `j` of `processed`: distinct keys of the column, under each key states with pairwise
distinct patterns -/
structure ColOK (vals : List String) (L S W j : Nat) (st : Store) (d : Dict) : Prop where
  kn : (d.map (·.1)).Nodup
  kr : ∀ e ∈ d, KeyIn S W L j e.1
  pn : ∀ e ∈ d, (e.2.map fun o => pat vals L st o.fs).Nodup

section
variable {vals : List String} {L S W j : Nat} {st : Store} {d : Dict}

theorem ColOK.nil : ColOK vals L S W j st [] :=
  ⟨List.nodup_nil, fun _ h => absurd h List.not_mem_nil, fun _ h => absurd h List.not_mem_nil⟩

/-- the states of the column are counted by any finite image `g` through which the pattern factors on
the states of one key: the pattern itself, or something coarser when more is known of the records -/
theorem ColOK.flen_le_card {β : Type} [Fintype β] (h : ColOK vals L S W j st d) (g : EState → β)
    (hg : ∀ e ∈ d, ∀ o1 ∈ e.2, ∀ o2 ∈ e.2, g o1 = g o2 →
      pat vals L st o1.fs = pat vals L st o2.fs) :
    flen d ≤ (S + 1) * (W + 1) * (L + 1) * Fintype.card β := by
  have h1 := keys_le _ h.kn (fun k hk => by
    obtain ⟨e, he, rfl⟩ := List.mem_map.1 hk
    exact h.kr e he)
  rw [List.length_map] at h1
  refine Nat.le_trans (length_flatMap_le d (·.2) _ fun e he => ?_) (Nat.mul_le_mul_right _ h1)
  have := (List.Nodup.map_on (f := g) (fun o1 m1 o2 m2 heq =>
    List.inj_on_of_nodup_map (h.pn e he) m1 m2 (hg e he o1 m1 o2 m2 heq))
    (List.Nodup.of_map _ (h.pn e he))).length_le_card
  rwa [List.length_map] at this

theorem ColOK.congr (h : ColOK vals L S W j st d) {st' : Store}
    (hp : ∀ e ∈ d, ∀ o ∈ e.2, pat vals L st' o.fs = pat vals L st o.fs) :
    ColOK vals L S W j st' d := by
  refine ⟨h.kn, h.kr, fun e he => ?_⟩
  rw [List.map_congr_left (hp e he)]
  exact h.pn e he

theorem keys_nodup_touch (h : (d.map (·.1)).Nodup) (k : Key) : ((touch d k).map (·.1)).Nodup := by
  rw [keys_touch]
  split
  · exact h
  · rename_i hno
    refine nodup_append_singleton h fun hk => ?_
    obtain ⟨e, he, heq⟩ := List.mem_map.1 hk
    exact hno (List.any_eq_true.2 ⟨e, he, by simpa using heq⟩)

theorem ColOK.touch (h : ColOK vals L S W j st d) {k : Key} (hk : KeyIn S W L j k) :
    ColOK vals L S W j st (touch d k) :=
  ⟨keys_nodup_touch h.kn k,
    fun e' he' => (mem_touch he').elim (h.kr e') fun e => e ▸ hk,
    fun e' he' => (mem_touch he').elim (h.pn e') fun e => e ▸ List.nodup_nil⟩

theorem ColOK.ins (h : ColOK vals L S W j st d) {k : Key} (hk : KeyIn S W L j k) {s : EState}
    (hnew : ∀ e ∈ d, e.1 = k → ∀ o ∈ e.2, pat vals L st o.fs ≠ pat vals L st s.fs) :
    ColOK vals L S W j st (ins d k s) := by
  refine ⟨keys_ins d k s ▸ keys_nodup_touch h.kn k, fun e' he' => ?_, fun e' he' => ?_⟩
  · rcases mem_ins he' with he | rfl | ⟨e, he, _, rfl⟩
    · exact h.kr e' he
    · exact hk
    · exact h.kr e he
  · rcases mem_ins he' with he | rfl | ⟨e, he, hek, rfl⟩
    · exact h.pn e' he
    · exact List.nodup_singleton _
    · rw [List.map_append]
      refine nodup_append_singleton (h.pn e he) fun hs => ?_
      obtain ⟨o, ho, heq⟩ := List.mem_map.1 hs
      exact hnew e he hek o ho heq

end

/-- side conditions on the parameters `vals` (the value domain) and `L` (the longest body) -/
structure TC (C : Ctx) (vals : List String) (L : Nat) : Prop where
  pvals : ∀ v, C.P v → v ∈ vals
  body : ∀ k, (prodOf C.G k).body.length ≤ L

/-- the facts of `Cmp.Base` and what bounds a column: the records of the production objects carry only the
labels `head`, `0`, …, `L - 1`, and every processed column has distinct keys with pairwise distinct
patterns under each key -/
structure TBS (C : Ctx) (vals : List String) (L : Nat) (st : Store) (rk : Nat → Nat)
    (pr : List Dict) (n : Nat) : Prop extends BaseS C st rk pr n where
  rlo : ∀ (k : Nat) (p : FProd), C.G.prods[k]? = some p → RootLab st p.feats L
  col : ∀ j, ColOK vals L C.spec.length C.word.length j st (colGet pr j)

/-- of every state: the record carries only the labels `head`, `0`, …, `L - 1` -/
structure TBR (C : Ctx) (L : Nat) (st : Store) (rk : Nat → Nat) (i : Nat) (s : EState) : Prop
    extends BaseR C st rk i s where
  rl : RootLab st s.fs L

abbrev TB (C : Ctx) (vals : List String) (L : Nat) (T : Tables) (rk : Nat → Nat) : Prop :=
  Lay (TBS C vals L) (TBR C L) T rk

theorem TBR.step {C : Ctx} {L : Nat} {st st' : Store} {rk rk' : Nat → Nat} {j : Nat} {s : EState}
    (r : TBR C L st rk j s) (hs : Lem.Step C.P st rk st' rk') (hf : Fr st st') (hw : WFS st rk) :
    TBR C L st' rk' j s :=
  ⟨r.toBaseR.step hs hf hw, rootLab_fr hf hw.inv.acyc hw.rng r.fs_lt r.rl⟩

/-- the bound on the number of processed states of a column that `TB` alone gives: number of keys
times number of patterns (`card_patT`) -/
def colBound (S W L m : Nat) : Nat :=
  (S + 1) * (W + 1) * (L + 1) * (2 ^ (L + 1) * (2 ^ (L + 1) * (m + 3))) ^ (L + 1)

section
variable {C : Ctx} {vals : List String} {L : Nat} {T : Tables} {rk : Nat → Nat}
 

theorem TB.base (h : TB C vals L T rk) : Base C T rk :=
  h.mono (fun h => h.toBaseS) fun h => h.toBaseR

theorem TB.acc_le (h : TB C vals L T rk) (j : Nat) :
    acc T j ≤ colBound C.spec.length C.word.length L vals.length := by
  have := (h.tab.col j).flen_le_card (fun o => pat vals L T.store o.fs) fun _ _ _ _ _ _ h => h
  rwa [card_patT] at this

theorem mem_proc_of_entry {T : Tables} {j : Nat} {e : Key × List EState} {o : EState}
    (he : e ∈ colGet T.processed j) (ho : o ∈ e.2) : o ∈ procStates T j :=
  List.mem_flatMap.2 ⟨e, he, ho⟩

theorem TB.carry {rk' : Nat → Nat} (h : TB C vals L T rk) {st' : Store}
    (hs : Lem.Step C.P T.store rk st' rk') (hf : Fr T.store st') :
    Carry (TBR C L) T.store rk st' rk' :=
  fun _ _ r => r.step hs hf h.tab.wf

theorem TB.store {rk' : Nat → Nat} (h : TB C vals L T rk) {st' : Store}
    (hB' : BaseS C st' rk' T.processed T.chart.length) (hs : Lem.Step C.P T.store rk st' rk')
    (hf : Fr T.store st') : TB C vals L { T with store := st' } rk' :=
  have hw := h.tab.wf
  Lay.store h { hB' with
      rlo := fun k p hp => rootLab_fr hf hw.inv.acyc hw.rng (h.tab.objs k p hp).1 (h.tab.rlo k p hp)
      col := fun j => (h.tab.col j).congr fun e he o ho =>
        pat_fr hf hw.inv.acyc hw.rng (h.p j o (mem_proc_of_entry he ho)).fs_lt }
    (h.carry hs hf)

end

theorem procAdd_col (G : Grammar) (T : Tables) {i : Nat} (s : EState)
    (hi : i < T.processed.length) (j : Nat) :
    colGet (procAdd G T i s).1.processed j =
      if j = i then (if (procAdd G T i s).2 then ins (colGet T.processed i) (keyOf G s) s
        else touch (colGet T.processed i) (keyOf G s))
      else colGet T.processed j := by
  rw [procAdd_fst]
  by_cases hj : j = i
  · rw [if_pos hj, hj]; exact colGet_set_self _ hi
  · rw [if_neg hj]; exact colGet_set_ne _ (Ne.symm hj)

theorem bucket_of_mem {d : Dict} (hnd : (d.map (·.1)).Nodup) {e : Key × List EState} (he : e ∈ d) :
    bucket d e.1 = e.2 := by
  obtain ⟨x, hx, hx2⟩ := Option.map_eq_some_iff.1 ((Assoc.get_eq_some_iff (v := e.2) hnd).2 he)
  unfold bucket; rw [hx]; exact hx2

theorem TBS.procAdd {C : Ctx} {vals : List String} {L : Nat} (hc : TC C vals L) {T : Tables}
    {rk : Nat → Nat} (h : TB C vals L T rk) {i : Nat} {s : EState}
    (hi : i < C.word.length + 1) (hs : StOK C T.store rk i s) (hdot : s.dot ≤ L) :
    TBS C vals L T.store rk (Pfl.Earley.procAdd C.G T i s).1.processed T.chart.length := by
  have hil : i < T.processed.length := by rw [h.tab.lenp]; exact hi
  have hkey : KeyIn C.spec.length C.word.length L i (keyOf C.G s) := by
    refine ⟨hs.prod_le, ?_, hs.e_eq, hdot⟩
    have h1 := hs.ble; have h2 := hs.e_eq
    show s.b ≤ C.word.length
    omega
  refine { h.tab.toBaseS.procAdd i s, h.tab with col := fun j => ?_ }
  rw [procAdd_col C.G T s hil]
  by_cases hj : j = i
  · subst hj
    rw [if_pos rfl]
    cases hadd : (Pfl.Earley.procAdd C.G T j s).2 with
    | false => exact (h.tab.col j).touch hkey
    | true =>
      refine (h.tab.col j).ins hkey fun e he hek o ho heq => ?_
      -- `o` is stored under the key of `s` and was not found to subsume `s`; but it has its pattern
      rw [procAdd_snd, ← hek, bucket_of_mem (h.tab.col j).kn he, Bool.not_eq_true'] at hadd
      have hm := mem_proc_of_entry he ho
      exact List.any_eq_false.1 hadd o ho
        (subsumes_of_pat (vals := vals) (L := L) h.tab.wf h.tab.sx.kf h.tab.sx.alln
          (fun n v hv => hc.pvals v (h.tab.sx.ap n v hv))
          (len2_of_child h.tab.wf (h.p j o hm).fs_lt (h.p j o hm).pth.1.choose_spec)
          (h.p j o hm).rk2 hs.rk2
          (h.p j o hm).rl heq)
  · rw [if_neg hj]; exact h.tab.col j

theorem TB.push {C : Ctx} {vals : List String} {L : Nat} (hc : TC C vals L) {T : Tables}
    {rk : Nat → Nat} (h : TB C vals L T rk) {i : Nat} {s : EState}
    (hi : i < C.word.length + 1) (r : TBR C L T.store rk i s) (hdot : s.dot ≤ L) :
    TB C vals L (pushIfNew C.G T i s) rk :=
  Lay.push h C.G (TBS.procAdd hc h hi r.toStOK hdot) r

end Term
end Earley
end Pfl
