/-
The model's FIRST / FOLLOW saturation and the reference LL(1) parser (C14): what `llParseAux`
returns (`llParseAux_spec`: well-formed trees of the consumed input, from which `llParse_valid` in
`Props/C14_LL1.lean`); `firstSets` and `followSets` are characterised by derivations: each is the
least set closed under its rules (`Least`, from `Pass.least`), the rules are sound (rule induction)
and a closed set is complete (induction on the derivation).
`firstOfString` computes what `FRule` describes (`mem_fos_iff`).
-/
import Pfl.Oracle.Trees
import Pfl.Proofs.CFGBase
import Pfl.Props.C12_Classes
import Pfl.Proofs.HornSat
namespace Pfl
namespace CFG
namespace LL1

theorem llParseAux_spec (G : CFG) : ∀ (fuel : Nat) (u : List Sym) (w : List String)
    (ts : List PTree) (w' : List String), llParseAux G fuel u w = some (ts, w') →
      w = yieldL ts ++ w' ∧ ts.map PTree.sym = u ∧ G.wellFormedL ts = true := by
  intro fuel u w
  fun_induction llParseAux G fuel u w with
  | case1 | case4 | case5 | case6 | case8 => exact fun _ _ h => nomatch h
  | case2 =>
    rintro _ _ ⟨⟩
    simp [yieldL, wellFormedL]
  | case3 fuel rest a w1 ih =>
    intro ts w' h
    obtain ⟨⟨ts1, w2⟩, hr, ⟨⟩⟩ := Option.map_eq_some_iff.mp h
    obtain ⟨h1, h2, h3⟩ := ih ts1 w2 hr
    refine ⟨?_, ?_, ?_⟩
    · simp [yieldL, yieldT, h1]
    · simp [PTree.sym, h2]
    · simp [wellFormedL, wellFormedT, h3]
  | case7 fuel v rest w look p hp sons w1 hs ih1 ih2 =>
    -- `p` is the one production predicted for `v`: `sons` parse `p.2`, then `rest` is parsed
    intro ts w' h
    have hpm : p ∈ G.prods.eraseDups.filter (fun p => p.1 = v ∧ look ∈ G.predict p) :=
      hp ▸ List.mem_singleton.mpr rfl
    obtain ⟨hp1, hp2⟩ := List.mem_filter.mp hpm
    rw [List.mem_eraseDups] at hp1
    simp only [decide_eq_true_eq] at hp2
    obtain ⟨⟨ts1, w2⟩, hr, ⟨⟩⟩ := Option.map_eq_some_iff.mp h
    obtain ⟨h1, h2, h3⟩ := ih2 ts1 w2 hr
    obtain ⟨g1, g2, g3⟩ := ih1 sons w1 hs
    refine ⟨?_, ?_, ?_⟩
    · simp only [yieldL, yieldT]; rw [g1, h1]; simp
    · simp [PTree.sym, h2]
    · simp only [wellFormedL, wellFormedT, Bool.and_eq_true, decide_eq_true_eq]
      refine ⟨⟨?_, g3⟩, h3⟩
      rw [g2, ← hp2.1]; exact hp1

abbrev FPair := String × String

/-- the rules applied by `firstStep.go` on a body suffix -/
inductive FRule (nul : List Sym) (F : List FPair) (h : String) : List Sym → FPair → Prop
  | ter (t : String) (rest : List Sym) : FRule nul F h (.ter t :: rest) (h, t)
  | var (v t : String) (rest : List Sym) : (v, t) ∈ F → FRule nul F h (.var v :: rest) (h, t)
  | skip (v : String) (rest : List Sym) (x : FPair) : Sym.var v ∈ nul → FRule nul F h rest x →
      FRule nul F h (.var v :: rest) x

theorem FRule.mono {nul : List Sym} {F F' : List FPair} {h : String} {b : List Sym} {x : FPair}
    (hs : ∀ y ∈ F, y ∈ F') (hr : FRule nul F h b x) : FRule nul F' h b x := by
  induction hr with
  | ter t rest => exact .ter t rest
  | var v t rest hm => exact .var v t rest (hs _ hm)
  | skip v rest x hn _ ih => exact .skip v rest x hn ih

theorem frule_ter_iff {nul : List Sym} {F : List FPair} {h t : String} {rest : List Sym} {x : FPair} :
    FRule nul F h (.ter t :: rest) x ↔ ∃ e ∈ [t], x = (h, e) := by
  constructor
  · intro hr; cases hr; exact ⟨t, List.mem_singleton.mpr rfl, rfl⟩
  · rintro ⟨e, he, rfl⟩
    rw [List.mem_singleton.mp he]; exact .ter t rest

theorem frule_var_iff {nul : List Sym} {F : List FPair} {h v : String} {rest : List Sym} {x : FPair} :
    FRule nul F h (.var v :: rest) x ↔
      (∃ e ∈ F.filter (fun x => decide (x.1 = v)), x = (h, e.2)) ∨
      (Sym.var v ∈ nul ∧ FRule nul F h rest x) := by
  constructor
  · intro hr
    cases hr with
    | var _ t _ hm => exact Or.inl ⟨(v, t), List.mem_filter.mpr ⟨hm, by simp⟩, rfl⟩
    | skip _ _ _ hn hr => exact Or.inr ⟨hn, hr⟩
  · rintro (⟨e, he, rfl⟩ | ⟨hn, hr⟩)
    · obtain ⟨he1, he2⟩ := List.mem_filter.mp he
      refine .var v e.2 rest ?_
      rw [← of_decide_eq_true he2]; exact he1
    · exact .skip v rest x hn hr

theorem go_pass (nul : List Sym) (p : Pfl.Prod) :
    ∀ b : List Sym, Pass (fun F x => FRule nul F p.1 b x) (fun F => firstStep.go nul p F b)
  | [] => (Pass.id.congr fun F x => ⟨fun h => (by cases h), False.elim⟩).of_eq
      (fun _ => rfl)
  | .ter t :: rest =>
    ((Pass.add (fun e : String => ((p.1, e) : FPair)) (fun _ => [t])).congr
      fun _ _ => frule_ter_iff).of_eq (fun _ => rfl)
  | .var v :: rest => by
    have hin := Pass.add (fun e : FPair => ((p.1, e.2) : FPair))
      (fun F => F.filter (fun x => decide (x.1 = v)))
    by_cases hn : Sym.var v ∈ nul
    · refine ((hin.comp (go_pass nul p rest)).congr fun F x => ?_).of_eq
        (fun F => by rw [firstStep.go, if_pos hn])
      rw [frule_var_iff, and_iff_right hn]
    · refine (hin.congr fun F x => ?_).of_eq (fun F => by rw [firstStep.go, if_neg hn])
      rw [frule_var_iff, or_iff_left (fun h : _ ∧ _ => hn h.1)]

theorem firstStep_eq (G : CFG) (nul : List Sym) (F : List FPair) :
    G.firstStep nul F = G.prods.foldl (fun F p => firstStep.go nul p F p.2) F := rfl

theorem firstStep_pass (G : CFG) (nul : List Sym) :
    Pass (fun F x => ∃ p ∈ G.prods, FRule nul F p.1 p.2 x) (G.firstStep nul) :=
  (Pass.foldl (fun (p : Pfl.Prod) F x => FRule nul F p.1 p.2 x)
    (fun p F => firstStep.go nul p F p.2) G.prods fun p _ => go_pass nul p p.2).of_eq (fun _ => rfl)

/-- the universe of pairs the saturation can ever produce -/
def fUniv (G : CFG) : List FPair := G.prods.flatMap fun p => G.ters.map fun t => (p.1, t)

theorem mem_fUniv (G : CFG) (x : FPair) :
    x ∈ fUniv G ↔ (∃ p ∈ G.prods, p.1 = x.1) ∧ x.2 ∈ G.ters := by
  rcases x with ⟨a, b⟩
  simp only [fUniv, List.mem_flatMap, List.mem_map, Prod.mk.injEq, exists_eq_right_right,
    Prod.exists, exists_and_right, exists_eq_right]

theorem fUniv_length (G : CFG) : (fUniv G).length = G.prods.length * G.ters.length := by
  simp only [fUniv, List.length_flatMap, List.length_map, List.map_const', List.sum_replicate_nat]

theorem frule_ters (G : CFG) {nul : List Sym} {F : List FPair} {h : String}
    (hF : ∀ y ∈ F, y.2 ∈ G.ters) {b : List Sym} {x : FPair} (hb : ∀ t, Sym.ter t ∈ b → t ∈ G.ters)
    (hr : FRule nul F h b x) : x.1 = h ∧ x.2 ∈ G.ters := by
  induction hr with
  | ter t rest => exact ⟨rfl, hb t List.mem_cons_self⟩
  | var v t rest hm => exact ⟨rfl, hF (v, t) hm⟩
  | skip v rest x _ _ ih => exact ih (fun t ht => hb t (List.mem_cons_of_mem _ ht))

theorem firstSets_least (G : CFG) (hG : G.WF) :
    Least (fun F x => ∃ p ∈ G.prods, FRule G.nullable F p.1 p.2 x) [] G.firstSets := by
  refine Pass.least (firstStep_pass G _) (iter_iter _) (fUniv G) ?_ List.nodup_nil (fun _ h => by cases h)
    (by rw [fUniv_length]; exact Nat.lt_succ_of_le (Nat.mul_le_mul_left _ (Nat.le_succ _)))
  rintro F x hF ⟨p, hp, hr⟩
  obtain ⟨h1, h2⟩ := frule_ters G (fun y hy => ((mem_fUniv G y).mp (hF y hy)).2) (hG.ter_mem p hp) hr
  exact (mem_fUniv G x).mpr ⟨⟨p, hp, h1.symm⟩, h2⟩

theorem firstSets_ters (G : CFG) (hG : G.WF) : ∀ y ∈ G.firstSets, y.2 ∈ G.ters :=
  (firstSets_least G hG).ind _ (fun _ _ hF ⟨p, hp, hr⟩ => (frule_ters G hF (hG.ter_mem p hp) hr).2)
    (fun _ h => by cases h)

theorem frule_sound (G : CFG) (F : List FPair) (h : String)
    (hF : ∀ y ∈ F, ∃ w, G.Gen (.var y.1) (y.2 :: w)) :
    ∀ (b : List Sym) (x : FPair), (∀ s ∈ b, ∃ w, G.Gen s w) → FRule G.nullable F h b x →
      ∃ t, x = (h, t) ∧ ∃ w, G.GenList b (t :: w) := by
  intro b x hb hr
  induction hr with
  | ter t rest =>
    obtain ⟨w, hw⟩ := genList_of_forall G rest (fun s hs => hb s (List.mem_cons_of_mem _ hs))
    exact ⟨t, rfl, w, GenList.cons (w₁ := [t]) (Gen.ter t) hw⟩
  | var v t rest hm =>
    obtain ⟨w, hw⟩ := genList_of_forall G rest (fun s hs => hb s (List.mem_cons_of_mem _ hs))
    obtain ⟨w1, hw1⟩ := hF _ hm
    exact ⟨t, rfl, w1 ++ w, GenList.cons (w₁ := t :: w1) hw1 hw⟩
  | skip v rest x hn _ ih =>
    obtain ⟨t, rfl, w, hw⟩ := ih (fun s hs => hb s (List.mem_cons_of_mem _ hs))
    exact ⟨t, rfl, w, GenList.cons (w₁ := []) ((mem_nullable G _).mp hn) hw⟩

def BodiesGen (G : CFG) : Prop := ∀ p ∈ G.prods, ∀ s ∈ p.2, ∃ w, G.Gen s w

theorem firstSets_sound (G : CFG) (hg : BodiesGen G) (hG : G.WF) :
    ∀ y ∈ G.firstSets, ∃ w, G.Gen (.var y.1) (y.2 :: w) := by
  refine (firstSets_least G hG).ind _ ?_ (fun _ h => by cases h)
  rintro F x hF ⟨p, hp, hr⟩
  obtain ⟨t, rfl, w, hw⟩ := frule_sound G F p.1 hF p.2 x (hg p hp) hr
  exact ⟨w, Gen.var (body := p.2) hp hw⟩

/-- completeness of FIRST: a set closed under the FIRST rules holds the first terminal of every
generated word -/
theorem fclosed_complete (G : CFG) (F : List FPair)
    (hc : ∀ x, (∃ p ∈ G.prods, FRule G.nullable F p.1 p.2 x) → x ∈ F) :
    (∀ s w, G.Gen s w → ∀ v t w', s = .var v → w = t :: w' → (v, t) ∈ F) ∧
    (∀ u w, G.GenList u w → ∀ t w' h, w = t :: w' → FRule G.nullable F h u (h, t)) := by
  refine Clean.gen_ind ?_ ?_ ?_ ?_
  · intro t v t' w' e; cases e
  · intro h body w hp _ ih v t w' e hw
    cases e
    exact hc _ ⟨(h, body), hp, ih t w' h hw⟩
  · intro t w' h e; cases e
  · intro s u w₁ w₂ hs _ ih1 ih2 t w' h hw
    cases w₁ with
    | nil =>
      cases s with
      | ter a => cases hs
      | var v => exact .skip v u _ ((mem_nullable G _).mpr hs) (ih2 t w' h hw)
    | cons a w1 =>
      obtain ⟨rfl, _⟩ := List.cons.inj hw
      cases s with
      | ter b =>
        cases hs
        exact .ter a u
      | var v => exact .var v a u (ih1 v a w1 rfl rfl)

theorem mem_firstSets_iff' (G : CFG) (hg : BodiesGen G) (hG : G.WF)
    (v t : String) : (v, t) ∈ G.firstSets ↔ ∃ w, G.Gen (.var v) (t :: w) :=
  ⟨firstSets_sound G hg hG _, fun ⟨w, hw⟩ =>
    (fclosed_complete G _ (firstSets_least G hG).closed).1 _ _ hw v t w rfl rfl⟩

theorem fos_nil (G : CFG) (F : List FPair) (nul : List Sym) :
    G.firstOfString F nul [] = ([], true) := rfl

theorem fos_ter (G : CFG) (F : List FPair) (nul : List Sym) (t : String) (rest : List Sym) :
    G.firstOfString F nul (.ter t :: rest) = ([t], false) := rfl

theorem fos_var (G : CFG) (F : List FPair) (nul : List Sym) (v : String) (rest : List Sym) :
    G.firstOfString F nul (.var v :: rest) =
      if Sym.var v ∈ nul then
        ((((F.filter (fun x => decide (x.1 = v))).map (·.2)) ++
            (G.firstOfString F nul rest).1).eraseDups, (G.firstOfString F nul rest).2)
      else (((F.filter (fun x => decide (x.1 = v))).map (·.2)).eraseDups, false) := rfl

theorem mem_fv {β : Type} (F : List (String × β)) (v : String) (t : β) :
    t ∈ (F.filter (fun x => decide (x.1 = v))).map (·.2) ↔ (v, t) ∈ F := by
  rw [List.mem_map]
  constructor
  · rintro ⟨e, he, rfl⟩
    rw [List.mem_filter] at he
    simp only [decide_eq_true_eq] at he
    rw [← he.2]; exact he.1
  · intro h
    exact ⟨(v, t), List.mem_filter.mpr ⟨h, by simp⟩, rfl⟩

theorem mem_fos_iff (G : CFG) (F : List FPair) (nul : List Sym) (h t : String) :
    ∀ b : List Sym, t ∈ (G.firstOfString F nul b).1 ↔ FRule nul F h b (h, t)
  | [] => ⟨fun hm => (by cases hm), fun hr => (by cases hr)⟩
  | .ter a :: rest => by
    rw [fos_ter, frule_ter_iff, List.mem_singleton]
    simp only [List.mem_singleton, exists_eq_left, Prod.mk.injEq, true_and]
  | .var v :: rest => by
    have hv : (∃ e ∈ F.filter (fun x => decide (x.1 = v)), ((h, t) : FPair) = (h, e.2)) ↔
        t ∈ (F.filter (fun x => decide (x.1 = v))).map (·.2) := by
      simp only [Prod.mk.injEq, true_and, List.mem_map, eq_comm]
    rw [fos_var, frule_var_iff, hv, ← mem_fos_iff G F nul h t rest]
    by_cases hn : Sym.var v ∈ nul
    · rw [if_pos hn, and_iff_right hn]
      show t ∈ List.eraseDups _ ↔ _
      rw [List.mem_eraseDups, List.mem_append]
    · rw [if_neg hn, or_iff_left (fun h : _ ∧ _ => hn h.1)]
      show t ∈ List.eraseDups _ ↔ _
      rw [List.mem_eraseDups]

theorem fos_nul_iff (G : CFG) (F : List FPair) :
    ∀ b : List Sym, (G.firstOfString F G.nullable b).2 = true ↔ G.GenList b []
  | [] => by simp [fos_nil, genList_nil_iff]
  | .ter a :: rest => by
    rw [fos_ter, genList_cons_nil, gen_ter_iff]
    simp
  | .var v :: rest => by
    rw [fos_var, genList_cons_nil, ← mem_nullable, ← fos_nul_iff G F rest]
    by_cases hn : Sym.var v ∈ G.nullable
    · rw [if_pos hn, and_iff_right hn]
    · rw [if_neg hn]
      exact ⟨fun h => (by cases h), fun h => absurd h.1 hn⟩

theorem fos_spec (G : CFG) (hg : BodiesGen G) (hG : G.WF)
    (b : List Sym) (hb : ∀ s ∈ b, ∃ w, G.Gen s w) :
      ((G.firstOfString G.firstSets G.nullable b).2 = true ↔ G.GenList b []) ∧
      ∀ t, t ∈ (G.firstOfString G.firstSets G.nullable b).1 ↔ ∃ w, G.GenList b (t :: w) := by
  refine ⟨fos_nul_iff G _ b, fun t => (mem_fos_iff G _ _ "" t b).trans ⟨fun hr => ?_, fun ⟨w, hw⟩ =>
    (fclosed_complete G _ (firstSets_least G hG).closed).2 _ _ hw t w _ rfl⟩⟩
  obtain ⟨_, e, hw⟩ := frule_sound G _ _ (firstSets_sound G hg hG) b _ hb hr
  cases e
  exact hw

abbrev OPair := String × Option String

/-- the rules applied by `followStep.go` on a body suffix -/
inductive WRule (fos : List Sym → List String × Bool) (Fo : List OPair) (h : String) :
    List Sym → OPair → Prop
  | first (v t : String) (rest : List Sym) : t ∈ (fos rest).1 →
      WRule fos Fo h (.var v :: rest) (v, some t)
  | last (v : String) (x : Option String) (rest : List Sym) : (fos rest).2 = true → (h, x) ∈ Fo →
      WRule fos Fo h (.var v :: rest) (v, x)
  | skip (s : Sym) (rest : List Sym) (x : OPair) : WRule fos Fo h rest x →
      WRule fos Fo h (s :: rest) x

theorem WRule.prepend {fos : List Sym → List String × Bool} {Fo : List OPair} {h : String}
    {b : List Sym} {x : OPair} (hr : WRule fos Fo h b x) :
    ∀ pre : List Sym, WRule fos Fo h (pre ++ b) x
  | [] => hr
  | s :: pre => .skip s _ x (WRule.prepend hr pre)

theorem WRule.occ {fos : List Sym → List String × Bool} {Fo : List OPair} {h : String}
    {b : List Sym} {x : OPair} (hr : WRule fos Fo h b x) :
    ∃ pre rest, b = pre ++ .var x.1 :: rest ∧
      ((∃ t ∈ (fos rest).1, x.2 = some t) ∨ ((fos rest).2 = true ∧ (h, x.2) ∈ Fo)) := by
  induction hr with
  | first v t rest ht => exact ⟨[], rest, rfl, Or.inl ⟨t, ht, rfl⟩⟩
  | last v x rest hn hm => exact ⟨[], rest, rfl, Or.inr ⟨hn, hm⟩⟩
  | skip s rest x _ ih =>
    obtain ⟨pre, rest', hb, h⟩ := ih
    exact ⟨s :: pre, rest', by rw [hb]; rfl, h⟩

theorem wrule_nil_iff {fos : List Sym → List String × Bool} {Fo : List OPair} {h : String}
    {x : OPair} : WRule fos Fo h [] x ↔ False :=
  ⟨fun hr => (by cases hr), False.elim⟩

theorem wrule_ter_iff {fos : List Sym → List String × Bool} {Fo : List OPair} {h t : String}
    {rest : List Sym} {x : OPair} : WRule fos Fo h (.ter t :: rest) x ↔ WRule fos Fo h rest x := by
  constructor
  · intro hr; cases hr with
    | skip _ _ _ hr => exact hr
  · exact .skip _ _ _

theorem wrule_var_iff {fos : List Sym → List String × Bool} {Fo : List OPair} {h v : String}
    {rest : List Sym} {x : OPair} : WRule fos Fo h (.var v :: rest) x ↔
      ((∃ t ∈ (fos rest).1, x = (v, some t)) ∨
        ((fos rest).2 = true ∧ ∃ e ∈ Fo.filter (fun x => decide (x.1 = h)), x = (v, e.2))) ∨
      WRule fos Fo h rest x := by
  constructor
  · intro hr
    cases hr with
    | first _ t _ ht => exact Or.inl (Or.inl ⟨t, ht, rfl⟩)
    | last _ y _ hn hm => exact Or.inl (Or.inr ⟨hn, (h, y), List.mem_filter.mpr ⟨hm, by simp⟩, rfl⟩)
    | skip _ _ _ hr => exact Or.inr hr
  · rintro ((⟨t, ht, rfl⟩ | ⟨hn, e, he, rfl⟩) | hr)
    · exact .first v t rest ht
    · obtain ⟨he1, he2⟩ := List.mem_filter.mp he
      refine .last v e.2 rest hn ?_
      rw [← of_decide_eq_true he2]; exact he1
    · exact .skip _ _ _ hr

theorem wgo_pass (G : CFG) (F : List FPair) (nul : List Sym) (p : Pfl.Prod) :
    ∀ b : List Sym, Pass (fun Fo x => WRule (G.firstOfString F nul) Fo p.1 b x)
      (fun Fo => followStep.go G F nul p Fo b)
  | [] => (Pass.id.congr fun _ _ => wrule_nil_iff).of_eq (fun _ => rfl)
  | .ter t :: rest =>
    ((wgo_pass G F nul p rest).congr fun _ _ => wrule_ter_iff).of_eq
      (fun _ => rfl)
  | .var v :: rest => by
    have h1 := Pass.add (fun t : String => ((v, some t) : OPair))
      (fun _ => (G.firstOfString F nul rest).1)
    have h2 := Pass.add (fun e : OPair => ((v, e.2) : OPair))
      (fun Fo => Fo.filter (fun x => decide (x.1 = p.1)))
    by_cases hn : (G.firstOfString F nul rest).2 = true
    · refine (((h1.comp h2).comp (wgo_pass G F nul p rest)).congr fun Fo x => ?_).of_eq
        (fun Fo => by
          -- `followStep.go` reads the pair `firstOfString … rest` by a `match`
          rw [followStep.go]; generalize G.firstOfString F nul rest = q at hn ⊢
          obtain ⟨fr, nr⟩ := q; cases (hn : nr = true); rfl)
      rw [wrule_var_iff, and_iff_right hn]
    · refine ((h1.comp (wgo_pass G F nul p rest)).congr fun Fo x => ?_).of_eq
        (fun Fo => by
          rw [followStep.go]; generalize G.firstOfString F nul rest = q at hn ⊢
          obtain ⟨fr, nr⟩ := q; cases (Bool.not_eq_true _ ▸ hn : nr = false); rfl)
      rw [wrule_var_iff, or_iff_left (fun h : _ ∧ _ => hn h.1)]

theorem followStep_pass (G : CFG) (F : List FPair) (nul : List Sym) :
    Pass (fun Fo x => ∃ p ∈ G.prods, WRule (G.firstOfString F nul) Fo p.1 p.2 x)
      (G.followStep F nul) :=
  (Pass.foldl (fun (p : Pfl.Prod) Fo x => WRule (G.firstOfString F nul) Fo p.1 p.2 x)
    (fun p Fo => followStep.go G F nul p Fo p.2) G.prods
    fun p _ => wgo_pass G F nul p p.2).of_eq (fun _ => rfl)

/-- the universe of pairs the FOLLOW saturation can ever produce -/
def oUniv (G : CFG) : List OPair :=
  G.vars.flatMap fun v => (none :: G.ters.map some).map fun x => (v, x)

theorem mem_oUniv (G : CFG) (x : OPair) :
    x ∈ oUniv G ↔ x.1 ∈ G.vars ∧ ∀ t, x.2 = some t → t ∈ G.ters := by
  rcases x with ⟨a, _ | b⟩ <;> simp [oUniv]

theorem oUniv_length (G : CFG) : (oUniv G).length = G.vars.length * (G.ters.length + 1) := by
  simp only [oUniv, List.length_flatMap, List.length_map, List.length_cons, List.map_const',
    List.sum_replicate_nat]

theorem fos_ters (G : CFG) (hG : G.WF) (nul : List Sym) (b : List Sym)
    (hb : ∀ t, Sym.ter t ∈ b → t ∈ G.ters) (t : String)
    (ht : t ∈ (G.firstOfString G.firstSets nul b).1) : t ∈ G.ters :=
  (frule_ters G (firstSets_ters G hG) hb ((mem_fos_iff G _ nul "" t b).mp ht)).2

theorem wrule_univ (G : CFG) (hG : G.WF) (nul : List Sym) {p : Pfl.Prod} (hp : p ∈ G.prods)
    {Fo : List OPair} (hF : ∀ y ∈ Fo, y ∈ oUniv G) {x : OPair}
    (hr : WRule (G.firstOfString G.firstSets nul) Fo p.1 p.2 x) : x ∈ oUniv G := by
  obtain ⟨pre, rest, hb, h⟩ := hr.occ
  refine (mem_oUniv G _).mpr ⟨hG.var_mem p hp _ (by rw [hb]; simp), ?_⟩
  rcases h with ⟨t, ht, e⟩ | ⟨_, hm⟩
  · intro t' e'
    rw [e] at e'; cases e'
    exact fos_ters G hG nul rest (fun t ht => hG.ter_mem p hp t (by rw [hb]; simp [ht])) t ht
  · exact ((mem_oUniv G _).mp (hF _ hm)).2

def followInit (G : CFG) : List OPair :=
  match G.start with
  | some s => [(s, none)]
  | none => []

theorem followInit_nodup (G : CFG) : (followInit G).Nodup := by
  unfold followInit; split <;> simp

theorem mem_followInit (G : CFG) (y : OPair) :
    y ∈ followInit G ↔ ∃ s, G.start = some s ∧ y = (s, none) := by
  unfold followInit
  cases G.start <;> simp

theorem followInit_univ (G : CFG) (hG : G.WF) : ∀ y ∈ followInit G, y ∈ oUniv G := by
  intro y hy
  obtain ⟨s, hs, rfl⟩ := (mem_followInit G y).mp hy
  exact (mem_oUniv G _).mpr ⟨hG.start_mem s hs, by intro t e; cases e⟩

theorem followSets_least (G : CFG) (hG : G.WF) :
    Least (fun Fo x => ∃ p ∈ G.prods, WRule (G.firstOfString G.firstSets G.nullable) Fo p.1 p.2 x)
      (followInit G) G.followSets :=
  Pass.least (followStep_pass G _ _) (iter_iter _) (oUniv G)
    (fun _ _ hF ⟨_, hp, hr⟩ => wrule_univ G hG _ hp hF hr)
    (followInit_nodup G) (followInit_univ G hG)
    (by rw [oUniv_length]; exact Nat.lt_succ_of_le (Nat.mul_le_mul_left _ (Nat.le_succ _)))

/-- what may come right after the variable -/
def Tail (x : Option String) (β : List Sym) : Prop :=
  match x with
  | none => β = []
  | some t => ∃ β', β = .ter t :: β'

/-- textbook FOLLOW -/
def FollowSpec (G : CFG) (st v : String) (x : Option String) : Prop :=
  ∃ α β, G.Derives [.var st] (α ++ [.var v] ++ β) ∧ Tail x β

theorem derive_into (G : CFG) {st v : String} {p : Pfl.Prod} {a c pre rest r' : List Sym}
    (hd : G.Derives [.var st] (a ++ [.var p.1] ++ c)) (hp : p ∈ G.prods)
    (hb : p.2 = pre ++ .var v :: rest) (hr : G.Derives rest r') :
    G.Derives [.var st] ((a ++ pre) ++ [.var v] ++ (r' ++ c)) := by
  have d2 := Derives.context a c (Derives.prod (h := p.1) (body := p.2) hp)
  have d3 := Derives.context (a ++ pre ++ [.var v]) c hr
  have e1 : a ++ (pre ++ Sym.var v :: rest) ++ c = a ++ pre ++ [Sym.var v] ++ rest ++ c := by
    simp only [List.append_assoc, List.cons_append, List.nil_append]
  have e2 : a ++ pre ++ [Sym.var v] ++ r' ++ c = a ++ pre ++ [Sym.var v] ++ (r' ++ c) :=
    List.append_assoc _ _ _
  rw [hb, e1] at d2
  rw [e2] at d3
  exact hd.trans (d2.trans d3)

theorem wrule_sound (G : CFG) (hg : BodiesGen G) (hG : G.WF)
    (st : String) (p : Pfl.Prod) (hp : p ∈ G.prods)
    (hreach : ∃ u v', G.Derives [.var st] (u ++ [.var p.1] ++ v'))
    (Fo : List OPair) (hF : ∀ y ∈ Fo, FollowSpec G st y.1 y.2) (x : OPair)
    (hr : WRule (G.firstOfString G.firstSets G.nullable) Fo p.1 p.2 x) : FollowSpec G st x.1 x.2 := by
  obtain ⟨pre, rest, hb, h⟩ := hr.occ
  obtain ⟨f1, f2⟩ := fos_spec G hg hG rest fun s hs => hg p hp s (by rw [hb]; simp [hs])
  rcases h with ⟨t, ht, e⟩ | ⟨hn, hm⟩
  · obtain ⟨w, hw⟩ := (f2 t).mp ht
    obtain ⟨u, v', hd⟩ := hreach
    rw [e]
    exact ⟨u ++ pre, _, derive_into G hd hp hb (genList_derives hw), w.map Sym.ter ++ v', by simp⟩
  · obtain ⟨α, β, hd, ht⟩ := hF _ hm
    exact ⟨α ++ pre, _, derive_into G hd hp hb (genList_derives (f1.mp hn)), by simpa using ht⟩

theorem followSets_sound (G : CFG) (hg : BodiesGen G) (hG : G.WF)
    (hreach : ∀ p ∈ G.prods, Sym.var p.1 ∈ G.reachable) :
    ∀ y ∈ G.followSets, ∃ st, G.start = some st ∧ FollowSpec G st y.1 y.2 := by
  refine (followSets_least G hG).ind _ ?_ ?_
  · rintro Fo x hF ⟨p, hp, hr⟩
    obtain ⟨st, hs, hd⟩ := (mem_reachable_iff G _).mp (hreach p hp)
    refine ⟨st, hs, wrule_sound G hg hG st p hp hd Fo (fun y hy => ?_) x hr⟩
    obtain ⟨st', hs', h⟩ := hF y hy
    rw [hs] at hs'; cases hs'; exact h
  · intro y hy
    obtain ⟨s, hs, rfl⟩ := (mem_followInit G y).mp hy
    exact ⟨s, hs, [], [], Derives.refl _, rfl⟩

theorem split2 {α : Type} (y z a b : List α) (s : α) (h : y ++ z = a ++ s :: b) :
    (∃ y2, y = a ++ s :: y2 ∧ b = y2 ++ z) ∨ (∃ z1, z = z1 ++ s :: b ∧ a = y ++ z1) := by
  rcases List.append_eq_append_iff.1 h with ⟨z1, ha, hz⟩ | ⟨bs, hy, hb⟩
  · exact .inr ⟨z1, hz, ha⟩
  · rcases List.cons_eq_append_iff.1 hb with ⟨rfl, hz⟩ | ⟨y2, rfl, hb'⟩
    · exact .inr ⟨[], hz, by simpa using hy.symm⟩
    · exact .inl ⟨y2, hy, hb'⟩

theorem singleton_eq_mid {α : Type} {x y : α} {a b : List α} (h : [x] = a ++ [y] ++ b) :
    a = [] ∧ b = [] ∧ x = y := by
  cases a with
  | nil =>
    cases b with
    | nil => exact ⟨rfl, rfl, by simpa using h⟩
    | cons c b => simp at h
  | cons c a => simp at h

/-- completeness of FOLLOW: in the sentential form `γ`, whatever begins a word generated by the
part to the right of an occurrence of a variable `v` (`none`: the empty word, the end marker
follows) is in `Fo` for `v`.  True of the start symbol alone (`finv_start`), kept by a derivation
step when `Fo` is closed under the FOLLOW rules (`finv_step`). -/
def FInv (G : CFG) (Fo : List OPair) (γ : List Sym) : Prop :=
  ∀ α v β, γ = α ++ [.var v] ++ β → ∀ w, G.GenList β w → (v, w.head?) ∈ Fo

theorem finv_step (G : CFG) (hg : BodiesGen G) (hG : G.WF)
    (Fo : List OPair)
    (hc : ∀ x, (∃ p ∈ G.prods, WRule (G.firstOfString G.firstSets G.nullable) Fo p.1 p.2 x) → x ∈ Fo)
    (u : List Sym) (h : String) (body v' : List Sym) (hp : (h, body) ∈ G.prods)
    (hinv : FInv G Fo (u ++ [.var h] ++ v')) : FInv G Fo (u ++ body ++ v') := by
  intro α v β e w hw
  have e' : u ++ (body ++ v') = α ++ Sym.var v :: β := by simpa using e
  rcases split2 _ _ _ _ _ e' with ⟨x2, hu, rfl⟩ | ⟨z1, hz, hα⟩
  · -- the occurrence lies in `u`: fold the body back into `h`
    exact hinv α v (x2 ++ [.var h] ++ v') (by rw [hu]; simp) w
      (genList_fold G hp (by simpa using hw))
  · rcases split2 _ _ _ _ _ hz with ⟨y2, hb, rfl⟩ | ⟨z2, hv', _⟩
    · -- the occurrence lies in the body: the word begins in the rest `y2` of the body, or `y2`
      -- vanishes and the word is one that follows `h`
      obtain ⟨w₁, w₂, rfl, h1, h2⟩ := (genList_append_iff G _ _ _).mp hw
      obtain ⟨f1, f2⟩ := fos_spec G hg hG y2 fun s hs => hg _ hp s (by rw [hb]; simp [hs])
      refine hc _ ⟨(h, body), hp, hb ▸ WRule.prepend ?_ z1⟩
      cases w₁ with
      | nil => exact .last v _ y2 (f1.mpr h1) (hinv u h v' rfl w₂ h2)
      | cons t w₁ => exact .first v t y2 ((f2 t).mpr ⟨w₁, h1⟩)
    · -- the occurrence lies in `v'`
      exact hinv (u ++ [.var h] ++ z2) v β (by rw [hv']; simp) w hw

theorem finv_start (G : CFG) (hG : G.WF) (st : String) (hst : G.start = some st) :
    FInv G G.followSets [.var st] := by
  intro α v β e w hw
  obtain ⟨rfl, rfl, e⟩ := singleton_eq_mid e
  cases e; cases hw
  exact (followSets_least G hG).seed _ ((mem_followInit G _).mpr ⟨st, hst, rfl⟩)

/-- symbols of sentential forms generate (apart from a start symbol without productions) -/
theorem sentential_gen (G : CFG) (hg : BodiesGen G) (st : String)
    {γ : List Sym} (hd : G.Derives [.var st] γ) :
    γ = [.var st] ∨ ∀ s ∈ γ, ∃ w, G.Gen s w := by
  refine derives_inv G (fun γ => γ = [.var st] ∨ ∀ s ∈ γ, ∃ w, G.Gen s w) ?_ hd (Or.inl rfl)
  intro u h body v hp hP
  right
  have hbody := hg _ hp
  rcases hP with e | hall
  · obtain ⟨rfl, rfl, _⟩ := singleton_eq_mid e.symm
    simpa using hbody
  · intro s hs
    simp only [List.mem_append] at hs
    rcases hs with (hs | hs) | hs
    · exact hall s (by simp [hs])
    · exact hbody s hs
    · exact hall s (by simp [hs])

theorem followSets_complete (G : CFG) (hg : BodiesGen G) (hG : G.WF)
    (st : String) (hst : G.start = some st) (v : String) (x : Option String)
    (h : FollowSpec G st v x) : (v, x) ∈ G.followSets := by
  obtain ⟨α, β, hd, ht⟩ := h
  have hinv : FInv G G.followSets (α ++ [.var v] ++ β) :=
    derives_inv G (FInv G G.followSets)
      (fun u h body v' hp hi => finv_step G hg hG _ (followSets_least G hG).closed u h body v' hp hi)
      hd (finv_start G hG st hst)
  have := hinv α v β rfl
  cases x with
  | none =>
    have hb : β = [] := ht
    subst hb
    exact this [] GenList.nil
  | some t =>
    obtain ⟨β', hb⟩ : ∃ β', β = .ter t :: β' := ht
    subst hb
    rcases sentential_gen G hg st hd with e | hall
    · obtain ⟨_, hβ, _⟩ := singleton_eq_mid e.symm
      cases hβ
    · obtain ⟨w, hw⟩ := genList_of_forall G β' (fun s hs => hall s (by simp [hs]))
      exact this (t :: w) (GenList.cons (w₁ := [t]) (Gen.ter t) hw)

theorem mem_followSets_iff' (G : CFG) (hg : BodiesGen G) (hG : G.WF)
    (hreach : ∀ p ∈ G.prods, Sym.var p.1 ∈ G.reachable) (v : String) (x : Option String) :
    (v, x) ∈ G.followSets ↔ ∃ st, G.start = some st ∧ FollowSpec G st v x :=
  ⟨fun h => followSets_sound G hg hG hreach (v, x) h,
    fun ⟨st, hst, h⟩ => followSets_complete G hg hG st hst v x h⟩

end LL1
end CFG
end Pfl
