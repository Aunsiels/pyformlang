/-
Completeness of the primitive steps of the Earley loop: the predicted push, the scanner's push and
`advance` keep `Base` and leave covering states for the conclusions of the deduction rules (`Post`), which
makes `CI` an instance of the walk (`Pfl/Proofs/EarleyWalk.lean`).
-/
import Pfl.Proofs.EarleyCompleteAdvance
namespace Pfl
namespace Earley
namespace Cmp
open FsDag Lem

/-- what a primitive step of the work in column `i` leaves covered, for instances read in the store `st0`
the walk started from -/
def Post (C : Ctx) (i : Nat) (st0 : Store) (T : Tables) : Act → Prop
  | .pred k => ∀ env, C.okEnv k env → CovT C T ⟨k, env, i, i, 0⟩
  | .scan s => s.fs < st0.length → ∀ env, Cov C st0 s.fs s.prod env →
    CovT C T ⟨s.prod, env, s.b, i + 1, s.dot + 1⟩
  | .adv nx c => nx.fs < st0.length → c.fs < st0.length → CompCov C st0 T nx c i

theorem Post.mono {C : Ctx} {i : Nat} {st0 : Store} {T1 T2 : Tables} {rk : Nat → Nat}
    {lo : Nat} (hB : Base C T1 rk) (hle : TLe lo T1 T2) :
    ∀ {a : Act}, Post C i st0 T1 a → Post C i st0 T2 a
  | .pred .., h => fun env h1 => (h env h1).mono hB hle
  | .scan .., h => fun h0 env h1 => (h h0 env h1).mono hB hle
  | .adv .., h => fun h1 h2 => CompCov.mono (h h1 h2) hB hle

/-- the invariant of the work on the popped state of column `i`, started on `T0`: `Base`, the tables
are later than `T0`, and every step logged has left its items covered -/
def CI (C : Ctx) (i : Nat) (T0 : Tables) (T : Tables) (rk : Nat → Nat) (L : List Act) : Prop :=
  Base C T rk ∧ TLe i T0 T ∧ ∀ a ∈ L, Post C i T0.store T a

theorem CI.cons {C : Ctx} {i : Nat} {T0 T T' : Tables} {rk rk' : Nat → Nat}
    {L : List Act} (h : CI C i T0 T rk L) (hB : Base C T' rk') (hle : TLe i T T') {a : Act} (ha : Post C i T0.store T' a) :
    CI C i T0 T' rk' (a :: L) :=
  ⟨hB, h.2.1.trans hle, fun b hb => (List.mem_cons.1 hb).elim (fun e => e ▸ ha)
    fun hb => (h.2.2 b hb).mono h.1 hle⟩

/-- a step reads its instances in the store it works on; they are instances there when they were in
the store of `T0`, which is frozen in every later store -/
theorem ci_walk {C : Ctx} (hC : CtxOK C) {i : Nat} (hi : i < C.word.length + 1) {T0 : Tables}
    {rk0 : Nat → Nat} (hw0 : WFS T0.store rk0) :
    Walk C.G C.word i (BaseS C) (BaseR C)
      (fun T L => TLe i T0 T ∧ ∀ a ∈ L, Post C i T0.store T a) where
  adv := fun {T rk L c nx} h hs hnx hcomp hnext => by
    obtain ⟨rk', ⟨hB', hcar⟩, hle, hcov⟩ := advance_spec hC h.1 hs hnx hi hcomp hnext
    exact ⟨rk', CI.cons h hB' hle fun h1 h2 env env' e1 e2 e3 =>
      hcov env env' (e1.fwd h.2.1.fr hw0 h1) (e2.fwd h.2.1.fr hw0 h2) e3, hcar⟩
  scan := fun {T rk L s t} h r hn hw => by
    obtain ⟨hB', hle, hcov⟩ := push_spec h.1
      (Nat.succ_lt_succ (List.getElem?_eq_some_iff.1 hw).1) ⟨scanned_ok hC r.toStOK hn hw, r.pth⟩
    exact CI.cons h hB' (hle.mono (Nat.le_succ i)) fun h0 env e1 =>
      hcov env (e1.fwd h.2.1.fr hw0 h0)
  pred := fun {T rk L k p} h hget => by
    obtain ⟨hB', hle, hcov⟩ := push_spec h.1 hi
      ⟨predicted_ok hC h.1.tab.toInvS hget i, h.1.tab.opth _ _ hget⟩
    exact CI.cons h hB' hle fun env h2 => hcov env (h.1.tab.cov _ _ env hget h2)

end Cmp
end Earley
end Pfl
