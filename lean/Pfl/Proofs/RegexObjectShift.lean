/- Regex objects (C19): the Thompson automaton numbered from counter `c` is the one numbered from `0`
with every state shifted by `c`. -/
import Pfl.Spec.RegexObject
import Pfl.Props.C05_Regex
import Pfl.Props.C03_Rev
import Pfl.Proofs.ListBasics
namespace Pfl
namespace RxObj
namespace PS
open Pfl.Rx

theorem eraseDups_map_inj {α β : Type} [BEq α] [LawfulBEq α] [BEq β] [LawfulBEq β] (f : α → β)
    (hf : Function.Injective f) (l : List α) :
    (l.map f).eraseDups = l.eraseDups.map f := by
  induction l using eraseDups_induct with
  | nil => simp
  | cons a as ih =>
    rw [List.map_cons, List.eraseDups_cons, List.eraseDups_cons, List.map_cons, List.filter_map, ← ih]
    congr 3
    refine List.filter_congr fun x _ => ?_
    rw [Bool.eq_iff_iff]
    simp [hf.eq_iff]

theorem eraseDups_of_nodup {α : Type} [BEq α] [LawfulBEq α] (l : List α) (h : l.Nodup) :
    l.eraseDups = l := by
  induction l with
  | nil => simp
  | cons a as ih =>
    rw [List.nodup_cons] at h
    rw [List.eraseDups_cons]
    have : as.filter (fun b => !b == a) = as := by
      rw [List.filter_eq_self]
      intro x hx
      have : x ≠ a := fun e => h.1 (e ▸ hx)
      simp [this]
    rw [this, ih h.2]

theorem eraseDups_map_eraseDups {α β : Type} [BEq α] [LawfulBEq α] [BEq β] [LawfulBEq β] (f : α → β)
    (hf : Function.Injective f) (l : List α) :
    (l.eraseDups.map f).eraseDups = (l.map f).eraseDups := by
  rw [eraseDups_map_inj f hf, eraseDups_of_nodup _ (nodup_eraseDups l), eraseDups_map_inj f hf]

theorem thompsonAux_shift (code : String → Nat) (r : Rx) (f t c k : Nat) :
    thompsonAux code r (f + k) (t + k) (c + k) =
      ((thompsonAux code r f t c).1.map (fun e => (e.1 + k, e.2.1, e.2.2 + k)),
       (thompsonAux code r f t c).2 + k) := by
  induction r generalizing f t c with
  | empty => simp [thompsonAux]
  | eps => simp [thompsonAux]
  | sym s => simp [thompsonAux]
  | cat a b iha ihb =>
    -- the sons get the state `c + k + 1` and the counter `c + k + 2`: written `c + 1 + k`, `c + 2 + k`
    -- they have the form `_ + k` of the induction hypotheses (the first hands `c1 + k` to the second)
    simp only [thompsonAux, Nat.add_right_comm _ k, iha, ihb]
    simp
  | alt a b iha ihb =>
    simp only [thompsonAux, Nat.add_right_comm _ k, iha, ihb]
    simp
  | star a iha =>
    simp only [thompsonAux, Nat.add_right_comm _ k, iha]
    simp

theorem ofParts_map {σ τ : Type} [DecidableEq σ] [DecidableEq τ] (g : σ → τ) (hg : Function.Injective g)
    (ss fs : List σ) (es : List (σ × Option Nat × σ)) :
    ENFA.ofParts (ss.map g) (fs.map g) (es.map (fun e => (g e.1, e.2.1, g e.2.2)))
      = (ENFA.ofParts ss fs es).mapStates g := by
  have hg3 : Function.Injective (fun e : σ × Option Nat × σ => (g e.1, e.2.1, g e.2.2)) := by
    rintro ⟨a, b, c⟩ ⟨a', b', c'⟩ h
    simp only [Prod.mk.injEq] at h
    rw [hg h.1, h.2.1, hg h.2.2]
  simp only [ENFA.ofParts, ENFA.mapStates]
  congr 1
  · rw [eraseDups_map_eraseDups _ hg]
    congr 1
    simp [List.map_append, List.map_flatMap, List.flatMap_map]
  · congr 1
    simp [List.filterMap_map]
    rfl
  · exact (eraseDups_map_eraseDups _ hg _).symm
  · exact (eraseDups_map_eraseDups _ hg _).symm
  · exact (eraseDups_map_eraseDups _ hg3 _).symm

theorem thompson_shift (code : String → Nat) (r : Rx) (c : Nat) :
    (r.thompson code c).1 = ((r.thompson code 0).1).mapStates (· + c) ∧
    (r.thompson code c).2 = (r.thompson code 0).2 + c := by
  have h := thompsonAux_shift code r 0 1 2 c
  rw [Nat.zero_add, Nat.add_comm 1, Nat.add_comm 2] at h
  simp only [thompson, Nat.zero_add, h, and_true]
  simpa [Nat.add_comm 1] using ofParts_map (· + c) (fun _ _ h => Nat.add_right_cancel h) [0] [1] _

end PS
end RxObj
end Pfl
