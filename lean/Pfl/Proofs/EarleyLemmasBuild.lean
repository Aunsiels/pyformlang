/-
Specification of `buildGrammar` (the harness's `build_fcfg`) for the Earley model (C18).  The builder
only appends, so its store is written down once as a list of objects with their ranks (`occBlk`,
`occsBlk`, `prodBlk`, `specBlk`; `buildGrammar_blk`), and everything is read off that list where it
sits in the final store (`Sits`): the kind and the rank of every object (`Cmp.Obj`, `Cmp.SInv`) and the
record of every production (`Cmp.PR`: the feature `lab i` leads to the symbol record of the `i`-th
occurrence, the head's first), together `Cmp.BuiltOK`.  Soundness, completeness and termination read
their start conditions off `build_shape`.
-/
import Pfl.Proofs.EarleyLemmasDefs
import Pfl.Proofs.EarleyColumns
import Std.Data.String.ToNat
namespace Pfl
namespace Earley

namespace Term

/-- the feature names of a production record: `head`, `0`, `1`, … -/
def lab : Nat → String
  | 0 => "head"
  | j + 1 => toString j

end Term

namespace Lem
open FsDag FsDag.Lem
namespace Bld

abbrev BAcc := Store × List (String × Nat) × List Nat

def bodyStep (a : BAcc) (item : Sym × Feat) : BAcc :=
  match item.1 with
  | .ter _ => (a.1 ++ [emptyNode], a.2.1, a.2.2 ++ [a.1.length])
  | .var _ => ((fsFor a.1 a.2.1 item.2).1, (fsFor a.1 a.2.1 item.2).2.1,
      a.2.2 ++ [(fsFor a.1 a.2.1 item.2).2.2])

/-- the features of the record of a production whose symbol records are `sl`, the head's first -/
def prodContent : List Nat → List (String × Nat)
  | [] => []
  | hfs :: bfs => ("head", hfs) :: (bfs.zip (List.range bfs.length)).map fun e => (toString e.2, e.1)

abbrev Spec1 := (String × Feat) × List (Sym × Feat)

def prodStep (acc : Store × List FProd) (pr : Spec1) : Store × List FProd :=
  let r1 := fsFor acc.1 [] pr.1.2
  let r2 := pr.2.foldl bodyStep (r1.1, r1.2.1, [])
  (r2.1 ++ [{ value := none, content := prodContent (r1.2.2 :: r2.2.2), pointer := none }],
    acc.2 ++ [{ head := pr.1.1, body := pr.2.map (·.1), feats := r2.1.length }])

/-- the feature of an occurrence as `buildGrammar` reads it: that of a terminal is ignored -/
def featOf (item : Sym × Feat) : Feat :=
  match item.1 with
  | .ter _ => none
  | .var _ => item.2

/-- the features of the occurrences of a production: head, then body -/
def occ (pr : Spec1) : List Feat := pr.1.2 :: pr.2.map featOf

theorem bodyStep_eq (a : BAcc) (item : Sym × Feat) :
    bodyStep a item = ((fsFor a.1 a.2.1 (featOf item)).1, (fsFor a.1 a.2.1 (featOf item)).2.1,
      a.2.2 ++ [(fsFor a.1 a.2.1 (featOf item)).2.2]) := by
  obtain ⟨sym, f⟩ := item
  cases sym <;> rfl

theorem buildGrammar_eq (spec : List Spec1) (start : String) :
    buildGrammar spec start =
      ((spec.foldl prodStep ([], [])).1 ++ [emptyNode] ++ [emptyNode] ++
        [{ value := none, content := [("head", (spec.foldl prodStep ([], [])).1.length),
            ("0", ((spec.foldl prodStep ([], [])).1 ++ [emptyNode]).length)], pointer := none }],
        { prods := (spec.foldl prodStep ([], [])).2, start := start,
          gammaFeats := ((spec.foldl prodStep ([], [])).1 ++ [emptyNode] ++ [emptyNode]).length,
          gammaName := freshGamma (grammarVars (spec.foldl prodStep ([], [])).2 start) }) := rfl

/-- the dummy rule `Gamma → start` is laid out like a production -/
theorem prodStep_dummy (acc : Store × List FProd) (g s : String) :
    (prodStep acc ((g, none), [(Sym.var s, none)])).1 = acc.1 ++ [emptyNode] ++ [emptyNode] ++
      [{ value := none, content := [("head", acc.1.length), ("0", (acc.1 ++ [emptyNode]).length)],
         pointer := none }] := by
  show _ ++ [({ value := none, content := [_, (toString 0, _)], pointer := none } : Node)] = _
  rfl

theorem fsFor_none (st : Store) (vars : List (String × Nat)) :
    fsFor st vars none = (st ++ [emptyNode], vars, st.length) := rfl

theorem get_app_add (st l : Store) (k : Nat) : get (st ++ l) (st.length + k) = get l k := by
  simp [FsDag.get, List.getD_eq_getElem?_getD, List.getElem?_append_right]

theorem get_app_len (st l : Store) : get (st ++ l) st.length = get l 0 := get_app_add st l 0

theorem get_cons_zero (a : Node) (l : Store) : get (a :: l) 0 = a := rfl

theorem get_cons_succ (a : Node) (l : Store) (k : Nat) : get (a :: l) (k + 1) = get l k := rfl

theorem head_ne_toString (j : Nat) : "head" ≠ toString j := by
  intro h
  have h1 : 'h' ∈ (Nat.repr j).toList := by
    rw [show Nat.repr j = "head" from h.symm]; decide
  rw [Nat.toList_repr] at h1
  have := Nat.isDigit_of_mem_toDigits (by decide) (by decide) h1
  revert this; decide

theorem mem_prodContent_iff {sl : List Nat} {g : String} {x : Nat} :
    (g, x) ∈ prodContent sl ↔ ∃ i, g = Term.lab i ∧ sl[i]? = some x := by
  cases sl with
  | nil => simp [prodContent]
  | cons hfs bfs =>
    simp only [prodContent, List.mem_cons, Prod.mk.injEq, List.mem_map]
    constructor
    · rintro (⟨rfl, rfl⟩ | ⟨e, he, rfl, rfl⟩)
      · exact ⟨0, rfl, rfl⟩
      · exact ⟨e.2 + 1, rfl, (mem_zip_range he : bfs[e.2]? = some e.1)⟩
    · rintro ⟨_ | j, rfl, hj⟩
      · exact Or.inl ⟨rfl, (Option.some.inj hj).symm⟩
      · exact Or.inr ⟨(x, j), mem_zip_range_iff.2 hj, rfl, rfl⟩

theorem lab_inj : ∀ {i j : Nat}, Term.lab i = Term.lab j → i = j
  | 0, 0, _ => rfl
  | 0, j + 1, h => absurd h (head_ne_toString j)
  | i + 1, 0, h => absurd h.symm (head_ne_toString i)
  | _ + 1, _ + 1, h => congrArg (· + 1) (Nat.repr_injective h)

/-- the feature names are distinct, so a lookup finds every member -/
theorem lookupC_prodContent_iff {sl : List Nat} {g : String} {x : Nat} :
    lookupC g (prodContent sl) = some x ↔ (g, x) ∈ prodContent sl := by
  refine ⟨lookupC_mem, fun h => ?_⟩
  obtain ⟨y, hy⟩ := lookupC_isSome_of_mem h
  obtain ⟨i, rfl, hi⟩ := mem_prodContent_iff.1 (lookupC_mem hy)
  obtain ⟨j, e, hj⟩ := mem_prodContent_iff.1 h
  cases lab_inj e
  exact hy.trans (hi.symm.trans hj)

theorem lookupC_prodContent_lab {sl : List Nat} {i s : Nat} :
    lookupC (Term.lab i) (prodContent sl) = some s ↔ sl[i]? = some s := by
  rw [lookupC_prodContent_iff, mem_prodContent_iff]
  exact ⟨fun ⟨j, e, h⟩ => lab_inj e ▸ h, fun h => ⟨i, rfl, h⟩⟩

theorem mem_prodContent {sl : List Nat} {g : String} {x : Nat}
    (h : (g, x) ∈ prodContent sl) : x ∈ sl :=
  (mem_prodContent_iff.1 h).elim fun _ h => List.mem_of_getElem? h.2

end Bld
end Lem

namespace Cmp
open FsDag FsDag.Lem.Build Lem Lem.Bld

def recN (x : Nat) : Node := { value := none, content := [("n", x)], pointer := none }
def atomN (v : String) : Node := { value := some v, content := [], pointer := none }
def linkN (j : Nat) : Node := { value := none, content := [], pointer := some j }
def rootN (sl : List Nat) : Node := { value := none, content := prodContent sl, pointer := none }

theorem cont_rootN {st : Store} {F : Nat} {sl : List Nat} (h : get st F = rootN sl) :
    cont st (deref st F) = prodContent sl := by
  rw [deref_of_none (by rw [ptr, h]; rfl), cont, h]; rfl

/-- `fsFor` fills the symbol record it allocated first -/
theorem set_rec (st rest : Store) (x : Nat) :
    (st ++ emptyNode :: rest).set st.length
        { get (st ++ emptyNode :: rest) st.length with content := [("n", x)] } =
      st ++ recN x :: rest := by
  have hg : get (st ++ emptyNode :: rest) st.length = emptyNode := by
    rw [get_app_len, get_cons_zero]
  rw [hg, List.set_append]
  simp [emptyNode, recN]

/-- the objects `fsFor` appends at `L` for an occurrence, each with its rank, and the table afterwards -/
def occBlk (L : Nat) (vars : List (String × Nat)) : Feat → List (Node × Nat) × List (String × Nat)
  | none => ([(emptyNode, 1)], vars)
  | some v =>
    if v.startsWith "?" = true then
      match lookupC v vars with
      | some vn => ([(recN (L + 1), 1), (linkN vn, 0)], vars)
      | none => ([(recN (L + 2), 1), (emptyNode, 0), (linkN (L + 1), 0)], vars ++ [(v, L + 1)])
    else ([(recN (L + 1), 1), (atomN v, 0)], vars)

theorem fsFor_blk (st : Store) (vars : List (String × Nat)) (f : Feat) :
    fsFor st vars f =
      (st ++ (occBlk st.length vars f).1.map (·.1), (occBlk st.length vars f).2, st.length) := by
  cases f with
  | none => rfl
  | some v =>
    by_cases hq : v.startsWith "?" = true
    · cases hl : lookupC v vars with
      | some vn =>
        simp only [fsFor, occBlk, alloc, if_pos hq, hl, List.append_assoc, List.cons_append,
          List.nil_append, List.length_append, List.length_cons, List.length_nil, List.map]
        exact congrArg (·, vars, st.length) (set_rec st [linkN vn] (st.length + 1))
      | none =>
        simp only [fsFor, occBlk, alloc, if_pos hq, hl, List.append_assoc, List.cons_append,
          List.nil_append, List.length_append, List.length_cons, List.length_nil, List.map]
        exact congrArg (·, vars ++ [(v, st.length + 1)], st.length)
          (set_rec st [emptyNode, linkN (st.length + 1)] (st.length + 2))
    · simp only [fsFor, occBlk, alloc, if_neg hq, List.append_assoc, List.cons_append,
        List.nil_append, List.length_append, List.length_cons, List.length_nil, List.map]
      exact congrArg (·, vars, st.length) (set_rec st [atomN v] (st.length + 1))

/-- slots, objects with ranks and final table of the occurrences `fs` laid out from `L` on -/
def occsBlk (L : Nat) (vars : List (String × Nat)) :
    List Feat → List (Node × Nat) × List Nat × List (String × Nat)
  | [] => ([], [], vars)
  | f :: fs =>
    ((occBlk L vars f).1 ++ (occsBlk (L + (occBlk L vars f).1.length) (occBlk L vars f).2 fs).1,
      L :: (occsBlk (L + (occBlk L vars f).1.length) (occBlk L vars f).2 fs).2.1,
      (occsBlk (L + (occBlk L vars f).1.length) (occBlk L vars f).2 fs).2.2)

theorem fold_bodyStep : ∀ (items : List (Sym × Feat)) (st : Store) (vars : List (String × Nat))
    (sl : List Nat), items.foldl bodyStep (st, vars, sl) =
      (st ++ (occsBlk st.length vars (items.map featOf)).1.map (·.1),
        (occsBlk st.length vars (items.map featOf)).2.2,
        sl ++ (occsBlk st.length vars (items.map featOf)).2.1) := by
  intro items
  induction items with
  | nil => intro st vars sl; simp [occsBlk]
  | cons item items ih =>
    intro st vars sl
    rw [List.foldl_cons, bodyStep_eq, fsFor_blk, ih]
    simp [occsBlk, List.append_assoc]

/-- the objects of a production laid out from `L` on: those of its occurrences, then its record -/
def prodBlk (L : Nat) (pr : Spec1) : List (Node × Nat) :=
  (occsBlk L [] (occ pr)).1 ++ [(rootN (occsBlk L [] (occ pr)).2.1, 2)]

theorem prodStep_blk (acc : Store × List FProd) (pr : Spec1) :
    prodStep acc pr = (acc.1 ++ (prodBlk acc.1.length pr).map (·.1),
      acc.2 ++ [{ head := pr.1.1, body := pr.2.map (·.1),
                  feats := acc.1.length + (occsBlk acc.1.length [] (occ pr)).1.length }]) := by
  simp only [prodStep, fsFor_blk, fold_bodyStep, prodBlk, occ, occsBlk, rootN, List.map_append,
    List.length_append, List.length_map, List.append_assoc, List.nil_append, List.map_cons,
    List.map_nil]

/-- the objects of the productions laid out from `L` on, and the productions with their records -/
def specBlk (L : Nat) : List Spec1 → List (Node × Nat) × List FProd
  | [] => ([], [])
  | pr :: spec =>
    (prodBlk L pr ++ (specBlk (L + (prodBlk L pr).length) spec).1,
      { head := pr.1.1, body := pr.2.map (·.1), feats := L + (occsBlk L [] (occ pr)).1.length } ::
        (specBlk (L + (prodBlk L pr).length) spec).2)

theorem fold_prodStep : ∀ (spec : List Spec1) (acc : Store × List FProd),
    spec.foldl prodStep acc = (acc.1 ++ (specBlk acc.1.length spec).1.map (·.1),
      acc.2 ++ (specBlk acc.1.length spec).2) := by
  intro spec
  induction spec with
  | nil => intro acc; simp [specBlk]
  | cons pr spec ih =>
    intro acc
    rw [List.foldl_cons, prodStep_blk, ih]
    simp [specBlk, List.append_assoc]

/-- the store of `buildGrammar`, object by object with the ranks: the productions, then the dummy
production `Gamma → start` (its name does not matter here) -/
def builtBlk (spec : List Spec1) (start : String) : List (Node × Nat) :=
  (specBlk 0 spec).1 ++ prodBlk (specBlk 0 spec).1.length (("", none), [(Sym.var start, none)])

theorem buildGrammar_blk (spec : List Spec1) (start : String) :
    buildGrammar spec start =
      ((builtBlk spec start).map (·.1),
        { prods := (specBlk 0 spec).2, start := start,
          gammaFeats := (specBlk 0 spec).1.length + 2,
          gammaName := freshGamma (grammarVars (specBlk 0 spec).2 start) }) := by
  rw [buildGrammar_eq, ← prodStep_dummy _ "" start, prodStep_blk, fold_prodStep]; simp [builtBlk]

/-- the objects of the variables are distinct empty objects -/
structure VarsOK (st : Store) (vars : List (String × Nat)) : Prop where
  emp : ∀ v n, lookupC v vars = some n → get st n = emptyNode
  inj : ∀ v v' n, lookupC v vars = some n → lookupC v' vars = some n → v = v'

/-- the record `s` of an occurrence with feature `f` -/
def SymRec (st : Store) (vars : List (String × Nat)) (s : Nat) : Feat → Prop
  | none => True
  | some v => ∃ n, get st s = recN n ∧
    if v.startsWith "?" = true then ∃ vn, lookupC v vars = some vn ∧ get st n = linkN vn
    else get st n = atomN v

def SlotsOK (st : Store) (l : List Nat) : Prop :=
  l.Pairwise (· < ·) ∧ ∀ s ∈ l, ptr st s = none

theorem VarsOK.nil (st : Store) : VarsOK st [] :=
  ⟨fun v n hl => by simp [lookupC] at hl, fun v v' n hl => by simp [lookupC] at hl⟩

theorem SymRec.sub {st : Store} {vars vars' : List (String × Nat)} {s : Nat} {f : Feat}
    (h : SymRec st vars s f) (hsub : vars <+: vars') : SymRec st vars' s f := by
  obtain ⟨e, rfl⟩ := hsub
  cases f with
  | none => trivial
  | some v =>
    obtain ⟨n, hn1, hn3⟩ := h
    refine ⟨n, hn1, ?_⟩
    by_cases hq : v.startsWith "?" = true
    · rw [if_pos hq] at hn3 ⊢
      exact hn3.imp fun vn h => ⟨lookupC_append_some _ h.1, h.2⟩
    · rw [if_neg hq] at hn3 ⊢
      exact hn3

/-- The objects of a built store of length `L`, by what their three fields may hold, each with what
it asks of the rank function: production records at rank 2, symbol records at rank 1, leaves (atoms
and links) and the objects of the variables at rank 0.  An empty object is a symbol record without
feature or the object of a variable; its rank is fixed by who refers to it.  `Src` holds of the
features that occur in the specification. -/
structure Obj (Src : String → Prop) (L : Nat) (rk : Nat → Nat) (i : Nat) (nd : Node) : Prop where
  v : ∀ v, nd.value = some v → Src v ∧ ¬ v.startsWith "?" = true ∧ nd = atomN v ∧ rk i = 0
  c : ∀ g x, (g, x) ∈ nd.content → x < L ∧
    ((nd = recN x ∧ g = "n" ∧ rk i = 1 ∧ rk x = 0 ∧ ∃ v, Src v) ∨
      ∃ sl, nd = rootN sl ∧ rk i = 2 ∧ rk x = 1)
  p : ∀ j, nd.pointer = some j → j < i ∧ rk j = 0 ∧ rk i = 0 ∧ nd.content = []

section
variable {Src : String → Prop} {L : Nat} {rk : Nat → Nat} {i : Nat}

theorem Obj.emp : Obj Src L rk i emptyNode :=
  ⟨fun _ h => (nomatch h), fun _ _ h => (nomatch h), fun _ h => (nomatch h)⟩

theorem Obj.record {x : Nat} (v : String) (hs : Src v) (hx : x < L) (hrx : rk x = 0) (hri : rk i = 1) :
    Obj Src L rk i (recN x) :=
  ⟨fun _ h => (nomatch h), fun _ y hy => by
    obtain ⟨rfl, rfl⟩ := Prod.mk.inj (List.mem_singleton.1 hy)
    exact ⟨hx, Or.inl ⟨rfl, rfl, hri, hrx, v, hs⟩⟩, fun _ h => (nomatch h)⟩

theorem Obj.atom {v : String} (hs : Src v) (hq : ¬ v.startsWith "?" = true) (hri : rk i = 0) :
    Obj Src L rk i (atomN v) :=
  ⟨fun _ h => Option.some.inj h ▸ ⟨hs, hq, rfl, hri⟩, fun _ _ h => (nomatch h),
    fun _ h => (nomatch h)⟩

theorem Obj.link {j : Nat} (hj : j < i) (hrj : rk j = 0) (hri : rk i = 0) :
    Obj Src L rk i (linkN j) :=
  ⟨fun _ h => (nomatch h), fun _ _ h => (nomatch h),
    fun _ h => Option.some.inj h ▸ ⟨hj, hrj, hri, rfl⟩⟩

theorem Obj.root {sl : List Nat} (hs : ∀ s ∈ sl, s < L ∧ rk s = 1) (hri : rk i = 2) :
    Obj Src L rk i (rootN sl) :=
  ⟨fun _ h => (nomatch h), fun _ x hx => ⟨(hs x (mem_prodContent hx)).1,
    Or.inr ⟨sl, rfl, hri, (hs x (mem_prodContent hx)).2⟩⟩, fun _ h => (nomatch h)⟩

/-- an object meets what the ranked stores of `FeatureDagLemmas` ask of it, for the ranks of the
Earley model -/
theorem Obj.objOK {nd : Node} (h : Obj Src L rk i nd) : ObjOKA (rankAlg crE) L rk i nd := by
  refine ⟨fun g x hx => ?_, fun j hj => ?_, fun v hv => (h.v v hv).2.2.2⟩
  · obtain ⟨hx1, ⟨_, _, hri, hrx, _⟩ | ⟨_, _, hri, hrx⟩⟩ := h.c g x hx <;> rw [hri, hrx] <;>
      exact ⟨hx1, rfl, by decide⟩
  · obtain ⟨h1, h2, h3, h4⟩ := h.p j hj
    exact ⟨h1, h3.trans h2.symm, h4⟩

/-- every object of the store is such an object; this implies the global `WFS` -/
def SInv (Src : String → Prop) (st : Store) (rk : Nat → Nat) : Prop :=
  ∀ i, i < st.length → Obj Src st.length rk i (get st i)

theorem SInv.obj {st : Store} (h : SInv Src st rk) (i : Nat) :
    Obj Src st.length rk i (get st i) := by
  by_cases hi : i < st.length
  · exact h i hi
  · rw [get_ge (Nat.le_of_not_lt hi)]; exact .emp

theorem SInv.objInv {st : Store} (h : SInv Src st rk) : ObjInvA (rankAlg crE) st rk :=
  fun i hi => (h i hi).objOK

theorem SInv.wfs {st : Store} (h : SInv Src st rk) : WFS st rk :=
  ⟨h.objInv.rng, .ofC (amodel_rank.1 h.objInv.amodel), h.objInv.cc⟩

/-- `Q` holds of the elements of a list at their indices, the first at `i` -/
def Along {α : Type} (Q : Nat → α → Prop) : Nat → List α → Prop
  | _, [] => True
  | i, x :: B => Q i x ∧ Along Q (i + 1) B

theorem Along.append {α : Type} {Q : Nat → α → Prop} {B1 B2 : List α} : ∀ {i : Nat},
    Along Q i (B1 ++ B2) ↔ Along Q i B1 ∧ Along Q (i + B1.length) B2 := by
  induction B1 with
  | nil => exact ⟨fun h => ⟨trivial, h⟩, fun h => h.2⟩
  | cons x B1 ih =>
    intro i
    rw [List.length_cons, Nat.add_comm B1.length, ← Nat.add_assoc]
    exact ⟨fun h => ⟨⟨h.1, (ih.1 h.2).1⟩, (ih.1 h.2).2⟩,
      fun h => ⟨h.1.1, ih.2 ⟨h.1.2, h.2⟩⟩⟩

theorem Along.iff_get {α : Type} {Q : Nat → α → Prop} {B : List α} : ∀ {i : Nat},
    Along Q i B ↔ ∀ k x, B[k]? = some x → Q (i + k) x := by
  induction B with
  | nil => exact ⟨fun _ k x h => (nomatch h), fun _ => trivial⟩
  | cons y B ih =>
    intro i
    refine ⟨fun h k x hk => ?_, fun h => ⟨h 0 y rfl, ih.2 fun k x hk => ?_⟩⟩
    · cases k with
      | zero => cases hk; exact h.1
      | succ k => rw [← Nat.add_assoc, Nat.add_right_comm]; exact ih.1 h.2 k x hk
    · rw [Nat.add_right_comm]; exact h (k + 1) x hk

/-- the objects of a block that starts at index `i` are such objects; the ranks written beside them
are read by `Sits` -/
def BlockOK (Src : String → Prop) (L : Nat) (rk : Nat → Nat) : Nat → List (Node × Nat) → Prop :=
  Along fun i x => Obj Src L rk i x.1

/-- the objects of the block, with their ranks, are those of `S`, `rk` from `L` on -/
def Sits (S : Store) (rk : Nat → Nat) : Nat → List (Node × Nat) → Prop :=
  Along fun L x => L < S.length ∧ get S L = x.1 ∧ rk L = x.2

def rkOf (T : List (Node × Nat)) (i : Nat) : Nat := (T.getD i (emptyNode, 0)).2

theorem sits_all (T : List (Node × Nat)) : Sits (T.map (·.1)) (rkOf T) 0 T :=
  Along.iff_get.2 fun k x hk => by
    obtain ⟨hl, rfl⟩ := List.getElem?_eq_some_iff.1 hk
    simp [FsDag.get, rkOf, List.getD_eq_getElem?_getD, hl]

/-- the table in the store `S`: objects below `L`, empty, of rank 0, one per variable -/
structure VarsL (S : Store) (rk : Nat → Nat) (L : Nat) (vars : List (String × Nat)) : Prop where
  ok : VarsOK S vars
  low : ∀ v n, lookupC v vars = some n → n < L ∧ rk n = 0

theorem VarsL.mono {S : Store} {rk : Nat → Nat} {L L' : Nat} {vars : List (String × Nat)}
    (hv : VarsL S rk L vars) (h : L ≤ L') : VarsL S rk L' vars :=
  ⟨hv.ok, fun v n hl => ⟨Nat.lt_of_lt_of_le (hv.low v n hl).1 h, (hv.low v n hl).2⟩⟩

theorem VarsL.snoc {S : Store} {rk : Nat → Nat} {L n : Nat} {vars : List (String × Nat)} {v : String}
    (hv : VarsL S rk L vars) (hn : L ≤ n) (g : get S n = emptyNode) (r : rk n = 0) :
    VarsL S rk (n + 1) (vars ++ [(v, n)]) := by
  have lt := fun v' m (h : lookupC v' vars = some m) => Nat.lt_of_lt_of_le (hv.low v' m h).1 hn
  refine ⟨⟨fun v' m hm => ?_, fun v1 v2 m h1 h2 => ?_⟩, fun v' m hm => ?_⟩
  · rcases lookupC_snoc_some hm with h | ⟨_, _, rfl⟩
    · exact hv.ok.emp v' m h
    · exact g
  · rcases lookupC_snoc_some h1 with a1 | ⟨_, rfl, rfl⟩ <;>
      rcases lookupC_snoc_some h2 with a2 | ⟨_, rfl, e2⟩
    · exact hv.ok.inj _ _ _ a1 a2
    · exact absurd e2 (Nat.ne_of_lt (lt _ _ a1))
    · exact absurd (lt _ _ a2) (Nat.lt_irrefl _)
    · rfl
  · rcases lookupC_snoc_some hm with h | ⟨_, _, rfl⟩
    · exact ⟨Nat.lt_succ_of_lt (lt v' m h), (hv.low v' m h).2⟩
    · exact ⟨Nat.lt_succ_self _, r⟩

/-- the block of an occurrence where it sits: the one case split on `fsFor` -/
theorem occBlk_ok {S : Store} {rk : Nat → Nat} {L : Nat} {vars vars' : List (String × Nat)} {f : Feat}
    {B : List (Node × Nat)} (e : occBlk L vars f = (B, vars')) (hs : Sits S rk L B)
    (hv : VarsL S rk L vars) (ho : ∀ v, f = some v → Src v) :
    BlockOK Src S.length rk L B ∧ VarsL S rk (L + B.length) vars' ∧ vars <+: vars' ∧
      SymRec S vars' L f ∧ L < S.length ∧ rk L = 1 ∧ ptr S L = none ∧ 0 < B.length := by
  have hup := hv.mono (Nat.le_add_right L B.length)
  cases f with
  | none =>
    cases e
    obtain ⟨⟨h0, g0, r0⟩, -⟩ := hs
    exact ⟨⟨.emp, trivial⟩, hup, List.prefix_refl _, trivial, h0, r0, by rw [ptr, g0]; rfl,
      Nat.one_pos⟩
  | some v =>
    have hov := ho v rfl
    by_cases hq : v.startsWith "?" = true
    · cases hl : lookupC v vars with
      | some vn =>
        simp only [occBlk, if_pos hq, hl] at e
        cases e
        obtain ⟨⟨h0, g0, r0⟩, ⟨h1, g1, r1⟩, -⟩ := hs
        exact ⟨⟨.record v hov h1 r1 r0, .link (Nat.lt_succ_of_lt (hv.low v vn hl).1)
            (hv.low v vn hl).2 r1, trivial⟩,
          hup, List.prefix_refl _, ⟨_, g0, by rw [if_pos hq]; exact ⟨vn, hl, g1⟩⟩, h0, r0,
          by rw [ptr, g0]; rfl, Nat.succ_pos _⟩
      | none =>
        simp only [occBlk, if_pos hq, hl] at e
        cases e
        obtain ⟨⟨h0, g0, r0⟩, ⟨h1, g1, r1⟩, ⟨h2, g2, r2⟩, -⟩ := hs
        exact ⟨⟨.record v hov h2 r2 r0, .emp, .link (Nat.lt_succ_self _) r1 r2, trivial⟩,
          (hv.snoc (Nat.le_succ L) g1 r1).mono (Nat.le_succ _), List.prefix_append _ _,
          ⟨_, g0, by rw [if_pos hq]; exact ⟨L + 1, lookupC_append_single_self _ hl, g2⟩⟩, h0, r0,
          by rw [ptr, g0]; rfl, Nat.succ_pos _⟩
    · simp only [occBlk, if_neg hq] at e
      cases e
      obtain ⟨⟨h0, g0, r0⟩, ⟨h1, g1, r1⟩, -⟩ := hs
      exact ⟨⟨.record v hov h1 r1 r0, .atom hov hq r1, trivial⟩, hup, List.prefix_refl _,
        ⟨_, g0, by rw [if_neg hq]; exact g1⟩, h0, r0, by rw [ptr, g0]; rfl, Nat.succ_pos _⟩

theorem occsBlk_ok {S : Store} {rk : Nat → Nat} (fs : List Feat) : ∀ {L : Nat}
    {vars : List (String × Nat)}, Sits S rk L (occsBlk L vars fs).1 → VarsL S rk L vars →
    (∀ f ∈ fs, ∀ v, f = some v → Src v) →
    BlockOK Src S.length rk L (occsBlk L vars fs).1 ∧ VarsOK S (occsBlk L vars fs).2.2 ∧
      vars <+: (occsBlk L vars fs).2.2 ∧ (occsBlk L vars fs).2.1.Pairwise (· < ·) ∧
      (∀ s ∈ (occsBlk L vars fs).2.1, L ≤ s ∧ s < S.length ∧ rk s = 1 ∧ ptr S s = none) ∧
      (occsBlk L vars fs).2.1.length = fs.length ∧
      ∀ (j : Nat) (f : Feat), fs[j]? = some f →
        ∃ s, (occsBlk L vars fs).2.1[j]? = some s ∧ SymRec S (occsBlk L vars fs).2.2 s f := by
  induction fs with
  | nil =>
    intro L vars _ hv _
    exact ⟨trivial, hv.ok, List.prefix_refl _, .nil, fun _ h => absurd h List.not_mem_nil, rfl,
      fun j f hf => nomatch hf⟩
  | cons f fs ih =>
    intro L vars hs hv ho
    obtain ⟨hs1, hs2⟩ := Along.append.1 hs
    obtain ⟨b1, v1, sub1, sym1, l1, r1, p1, pos⟩ :=
      occBlk_ok rfl hs1 hv (ho f (List.mem_cons_self ..))
    obtain ⟨b2, v2, sub2, pw, at2, len2, sym2⟩ :=
      ih hs2 v1 fun f' hf' => ho f' (List.mem_cons_of_mem _ hf')
    refine ⟨Along.append.2 ⟨b1, b2⟩, v2, sub1.trans sub2,
      List.pairwise_cons.2 ⟨fun s hs =>
        Nat.lt_of_lt_of_le (Nat.lt_add_of_pos_right pos) (at2 s hs).1, pw⟩,
      fun s hs => ?_, congrArg (· + 1) len2, fun j f' hf => ?_⟩
    · rcases List.mem_cons.1 hs with rfl | hs
      · exact ⟨Nat.le_refl _, l1, r1, p1⟩
      · exact ⟨Nat.le_trans (Nat.le_add_right ..) (at2 s hs).1, (at2 s hs).2⟩
    · cases j with
      | zero => cases hf; exact ⟨L, rfl, SymRec.sub sym1 sub2⟩
      | succ j => exact sym2 j f' hf

/-- the object `F` is the record of production `pr`: its `i`-th slot is the symbol record of the `i`-th
occurrence (the head's first) -/
def PR (st : Store) (F : Nat) (pr : Spec1) : Prop :=
  ∃ (sl : List Nat) (vars : List (String × Nat)), F < st.length ∧ get st F = rootN sl ∧
    SlotsOK st sl ∧ VarsOK st vars ∧ sl.length = (occ pr).length ∧
    ∀ (i : Nat) (f : Feat), (occ pr)[i]? = some f → ∃ s, sl[i]? = some s ∧ SymRec st vars s f

theorem PR.lt {st : Store} {F : Nat} {pr : Spec1} (h : PR st F pr) : F < st.length := by
  obtain ⟨_, _, h1, _⟩ := h; exact h1

theorem prodBlk_ok {S : Store} {rk : Nat → Nat} {L : Nat} {pr : Spec1} (hs : Sits S rk L (prodBlk L pr))
    (ho : ∀ f ∈ occ pr, ∀ v, f = some v → Src v) :
    BlockOK Src S.length rk L (prodBlk L pr) ∧ PR S (L + (occsBlk L [] (occ pr)).1.length) pr ∧
      rk (L + (occsBlk L [] (occ pr)).1.length) = 2 := by
  obtain ⟨hs1, ⟨hF, gF, rF⟩, -⟩ := Along.append.1 hs
  obtain ⟨b, v, -, pw, sl, len, sym⟩ := occsBlk_ok (occ pr) hs1
    ⟨.nil S, fun v n h => by simp [lookupC] at h⟩ ho
  exact ⟨Along.append.2 ⟨b, .root (fun s hs => ⟨(sl s hs).2.1, (sl s hs).2.2.1⟩) rF, trivial⟩,
    ⟨_, _, hF, gF, ⟨pw, fun s hs => (sl s hs).2.2.2⟩, v, len, sym⟩, rF⟩

theorem specBlk_ok {S : Store} {rk : Nat → Nat} (spec : List Spec1) : ∀ {L : Nat},
    Sits S rk L (specBlk L spec).1 → (∀ pr ∈ spec, ∀ f ∈ occ pr, ∀ v, f = some v → Src v) →
    BlockOK Src S.length rk L (specBlk L spec).1 ∧ (specBlk L spec).2.length = spec.length ∧
      ∀ (k : Nat) (pr : Spec1), spec[k]? = some pr → ∃ p, (specBlk L spec).2[k]? = some p ∧
        p.head = pr.1.1 ∧ p.body = pr.2.map (·.1) ∧ PR S p.feats pr ∧ rk p.feats = 2 := by
  induction spec with
  | nil => exact fun _ _ => ⟨trivial, rfl, fun k pr hk => nomatch hk⟩
  | cons pr spec ih =>
    intro L hs ho
    obtain ⟨hs1, hs2⟩ := Along.append.1 hs
    obtain ⟨b1, hpr, hr⟩ := prodBlk_ok hs1 (ho pr (List.mem_cons_self ..))
    obtain ⟨b2, len2, h2⟩ := ih hs2 fun pr' h => ho pr' (List.mem_cons_of_mem _ h)
    refine ⟨Along.append.2 ⟨b1, b2⟩, congrArg (· + 1) len2, fun k pr' hk => ?_⟩
    cases k with
    | zero => cases hk; exact ⟨_, rfl, rfl, rfl, hpr, hr⟩
    | succ k => exact h2 k pr' hk

/-- the store and grammar returned by `buildGrammar`, with a rank function: every object is of one of
the kinds of `Obj`, the `k`-th production is that of `spec[k]` with its record, and the dummy
production `Gamma → start` has its record -/
structure BuiltOK (Src : String → Prop) (spec : List Spec1) (st0 : Store) (G : Grammar)
    (rk : Nat → Nat) : Prop where
  inv : SInv Src st0 rk
  len : G.prods.length = spec.length
  prods : ∀ (k : Nat) (pr : Spec1), spec[k]? = some pr → ∃ p, G.prods[k]? = some p ∧
    p.head = pr.1.1 ∧ p.body = pr.2.map (·.1) ∧ PR st0 p.feats pr ∧ rk p.feats = 2
  gam : PR st0 G.gammaFeats ((G.gammaName, none), [(.var G.start, none)]) ∧ rk G.gammaFeats = 2

theorem mem_occ {pr : Spec1} {v : String} (h : some v ∈ occ pr) :
    some v ∈ pr.1.2 :: pr.2.map (·.2) := by
  rcases List.mem_cons.1 h with h | h
  · exact h ▸ List.mem_cons_self ..
  · obtain ⟨⟨sym, f⟩, hi, hf⟩ := List.mem_map.1 h
    cases sym with
    | ter t => exact nomatch hf
    | var X => exact List.mem_cons_of_mem _ (List.mem_map.2 ⟨_, hi, hf⟩)

theorem BuiltOK.prod {spec : List Spec1} {st0 : Store} {G : Grammar} {rk : Nat → Nat}
    (h : BuiltOK Src spec st0 G rk) {k : Nat} {p : FProd} (hp : G.prods[k]? = some p) :
    ∃ pr, spec[k]? = some pr ∧ PR st0 p.feats pr ∧ rk p.feats = 2 := by
  have hk : k < spec.length := by rw [← h.len]; exact (List.getElem?_eq_some_iff.1 hp).1
  obtain ⟨p', hp', _, _, h4, h5⟩ := h.prods k _ (List.getElem?_eq_getElem hk)
  cases Option.some.inj (hp'.symm.trans hp)
  exact ⟨_, List.getElem?_eq_getElem hk, h4, h5⟩

theorem BuiltOK.prOf {spec : List Spec1} {st0 : Store} {G : Grammar} {rk : Nat → Nat}
    (h : BuiltOK Src spec st0 G rk) (k : Nat) : ∃ pr, PR st0 (prodOf G k).feats pr := by
  cases hk : G.prods[k]? with
  | some p => rw [prodOf_some hk]; exact (h.prod hk).imp fun _ h => h.2.1
  | none => rw [prodOf_none hk]; exact ⟨_, h.gam.1⟩

theorem build_shape (spec : List Spec1) (start : String)
    (ho : ∀ pr ∈ spec, ∀ v, some v ∈ pr.1.2 :: pr.2.map (·.2) → Src v) :
    ∃ rk, BuiltOK Src spec (buildGrammar spec start).1 (buildGrammar spec start).2 rk := by
  rw [buildGrammar_blk]
  have hs := sits_all (builtBlk spec start)
  obtain ⟨hs1, hs2⟩ := Along.append.1 hs
  obtain ⟨b1, len, h1⟩ := specBlk_ok (Src := Src) spec hs1
    fun pr hpr f hf v hv => ho pr hpr v (mem_occ (hv ▸ hf))
  rw [Nat.zero_add] at hs2
  obtain ⟨b2, hg, hrg⟩ := prodBlk_ok (Src := Src) hs2 fun f hf v hv => by
    rcases List.mem_pair.1 hf with rfl | rfl <;> cases hv
  refine ⟨rkOf (builtBlk spec start), fun i hi => ?_, len, h1, hg, hrg⟩
  rw [List.length_map] at hi
  have hb := Along.iff_get.1 (Along.append.2 ⟨b1, by rw [Nat.zero_add]; exact b2⟩) i _
    (List.getElem?_eq_getElem hi)
  rwa [← (Along.iff_get.1 hs i _ (List.getElem?_eq_getElem hi)).2.1, Nat.zero_add] at hb

end

theorem PR.leaf {st : Store} {F : Nat} {pr : Spec1} (h : PR st F pr) :
    ∃ vars, VarsOK st vars ∧ ∀ i v, (occ pr)[i]? = some (some v) →
      ∃ n, byPath st F [Term.lab i, "n"] = some n ∧
        if v.startsWith "?" = true then ∃ vn, lookupC v vars = some vn ∧ get st n = linkN vn
        else get st n = atomN v := by
  obtain ⟨sl, vars, _, h2, _, hv, _, h6⟩ := h
  refine ⟨vars, hv, fun i v hi => ?_⟩
  obtain ⟨s, hs, n, hn1, hn3⟩ := h6 i _ hi
  have hps : ptr st s = none := by rw [ptr, hn1]; rfl
  refine ⟨n, ?_, hn3⟩
  rw [byPath_cons_of _ (by rw [cont_rootN h2]; exact lookupC_prodContent_lab.2 hs),
    byPath_cons_of _ (by rw [deref_of_none hps, cont, hn1]; exact if_pos rfl), byPath_nil]

theorem occ_cases {pr : Spec1} {Q : String → String → Prop}
    (h : ∀ i v, (occ pr)[i]? = some (some v) → Q (Term.lab i) v) :
    (∀ v, pr.1.2 = some v → Q "head" v) ∧
      ∀ (j : Nat) (X v : String), pr.2[j]? = some (Sym.var X, some v) → Q (toString j) v :=
  ⟨fun v hv => h 0 v (congrArg some hv), fun j X v hj => h (j + 1) v (by
    rw [occ, List.getElem?_cons_succ, List.getElem?_map, hj]; rfl)⟩

theorem PR.prodOK {st : Store} {F : Nat} {pr : Spec1} (h : PR st F pr) (ha : Acyc st) :
    ProdOK st pr F := by
  obtain ⟨vars, _, h⟩ := h.leaf
  refine ⟨fun v => (lookupC v vars).getD 0,
    occ_cases (Q := fun name v => LeafAt st F name v _) fun i v hi => ?_⟩
  obtain ⟨n, hn, hl⟩ := h i v hi
  refine ⟨n, hn, ?_⟩
  by_cases hq : v.startsWith "?" = true
  · rw [if_pos hq] at hl ⊢
    obtain ⟨vn, hvn, hg⟩ := hl
    show deref st n = deref st ((lookupC v vars).getD 0)
    rw [hvn]; exact deref_step ha (by rw [ptr, hg]; rfl)
  · rw [if_neg hq] at hl ⊢
    rw [deref_of_none (by rw [ptr, hl]; rfl), val, hl]; rfl

end Cmp

namespace Lem
open Bld

theorem buildGrammar_start (spec : List Spec1) (start : String) :
    (buildGrammar spec start).2.start = start := by
  rw [buildGrammar_eq]

theorem buildGrammar_gammaName (spec : List Spec1) (start : String) :
    (buildGrammar spec start).2.gammaName =
      freshGamma (grammarVars (buildGrammar spec start).2.prods start) := by
  rw [buildGrammar_eq]

end Lem
end Earley
end Pfl
