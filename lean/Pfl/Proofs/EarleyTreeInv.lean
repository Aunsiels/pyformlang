/-
The positional invariant of the tree-carrying Earley run: every state carries a tree whose root is the
head of its rule, whose sons spell the part of the body before the dot, are well-formed trees of the
skeleton grammar and yield the span of the state (`TreeOK`), and the run keeps it (`TreeOK.rules`).
-/
import Pfl.Proofs.EarleyTreeSim
import Pfl.Proofs.ListBasics
import Pfl.Proofs.Trees
namespace Pfl.Earley.Tr
open FsDag CFG Lem

theorem node_eta (t : PTree) : t = .node t.sym t.sons := by cases t; rfl

theorem skeleton_prods (G : Grammar) :
    (skeleton G).prods = G.prods.map fun p => (p.head, p.body) := rfl

theorem skeleton_start (G : Grammar) : (skeleton G).start = some G.start := rfl

theorem prodOf_lt (G : Grammar) (k : Nat) (h : k < G.prods.length) : prodOf G k = G.prods[k] :=
  prodOf_some (List.getElem?_eq_getElem h)

theorem prodOf_ge (G : Grammar) (k : Nat) (h : ¬ k < G.prods.length) :
    prodOf G k = { head := G.gammaName, body := [.var G.start], feats := G.gammaFeats } :=
  prodOf_none (List.getElem?_eq_none (Nat.le_of_not_lt h))

theorem nextSym_var_mem (G : Grammar) (s : EState) (A : String)
    (h : nextSym G s = some (.var A)) : A ∈ grammarVars G.prods G.start := by
  unfold nextSym at h
  by_cases hk : s.prod < G.prods.length
  · rw [prodOf_lt G _ hk] at h
    exact body_mem_grammarVars _ (List.getElem_mem hk) (List.mem_of_getElem? h)
  · rw [prodOf_ge G _ hk] at h
    rw [List.mem_singleton.1 (List.mem_of_getElem? h) |> Sym.var.inj]
    exact start_mem_grammarVars ..

theorem head_mem_vars_real (G : Grammar) (k : Nat) (hG : G.gammaName ∉ grammarVars G.prods G.start)
    (h : (prodOf G k).head ∈ grammarVars G.prods G.start) : k < G.prods.length := by
  by_contra hk
  rw [prodOf_ge G _ hk] at h
  exact hG h

structure TreeOK (G : Grammar) (w : List String) (p : TState) : Prop where
  root : p.2.sym = if p.1.prod < G.prods.length then Sym.var (prodOf G p.1.prod).head else Sym.var "BEGIN"
  syms : p.2.sons.map PTree.sym = (prodOf G p.1.prod).body.take p.1.dot
  dot_le : p.1.dot ≤ (prodOf G p.1.prod).body.length
  be : p.1.b ≤ p.1.e
  ew : p.1.e ≤ w.length
  yld : yieldL p.2.sons = (w.drop p.1.b).take (p.1.e - p.1.b)
  wf : wellFormedL (skeleton G) p.2.sons = true

theorem TreeOK.start (G : Grammar) (w : List String) {k i : Nat} (fs : Nat) {X : Sym}
    (hX : X = if k < G.prods.length then Sym.var (prodOf G k).head else Sym.var "BEGIN")
    (hi : i ≤ w.length) :
    TreeOK G w ({ prod := k, b := i, e := i, dot := 0, fs := fs }, .node X []) :=
  ⟨hX, rfl, Nat.zero_le _, Nat.le_refl _, hi, by rw [Nat.sub_self]; rfl, rfl⟩

theorem TreeOK.son {G : Grammar} {w : List String} {p : TState} (hp : TreeOK G w p) {X : Sym}
    (hn : nextSym G p.1 = some X) {t : PTree} {e : Nat} (fs : Nat) (hsym : t.sym = X)
    (hwf : wellFormedT (skeleton G) t = true) (hpe : p.1.e ≤ e) (hew : e ≤ w.length)
    (hy : yieldT t = seg w p.1.e e) :
    TreeOK G w ({ prod := p.1.prod, b := p.1.b, e := e, dot := p.1.dot + 1, fs := fs },
      addSon p.2 t) := by
  unfold nextSym at hn
  refine ⟨hp.root, ?_, (List.getElem?_eq_some_iff.1 hn).1, Nat.le_trans hp.be hpe, hew, ?_, ?_⟩
  · show (p.2.sons ++ [t]).map PTree.sym = _
    rw [List.map_append, hp.syms, List.take_add_one, hn, List.map_singleton, hsym]; rfl
  · show yieldL (p.2.sons ++ [t]) = seg w p.1.b e
    rw [Trees.yieldL_append, hp.yld, ← seg_append w hp.be hpe, yieldL, yieldL, List.append_nil, hy]; rfl
  · show wellFormedL (skeleton G) (p.2.sons ++ [t]) = true
    rw [Trees.wellFormedL_append, hp.wf, wellFormedL, wellFormedL, hwf]; rfl

theorem TreeOK.complete (G : Grammar) (w : List String) (s : TState) (hs : TreeOK G w s)
    (hk : s.1.prod < G.prods.length) (hc : incomplete G s.1 = false) :
    s.2.sym = .var (prodOf G s.1.prod).head ∧ wellFormedT (skeleton G) s.2 = true ∧
      yieldT s.2 = (w.drop s.1.b).take (s.1.e - s.1.b) := by
  have hroot := hs.root
  rw [if_pos hk] at hroot
  refine ⟨hroot, ?_, ?_⟩
  · rw [node_eta s.2, hroot, wellFormedT, hs.wf, hs.syms, skeleton_prods]
    have hd : s.1.dot = (prodOf G s.1.prod).body.length := by
      have := hs.dot_le
      unfold incomplete at hc
      simp only [decide_eq_false_iff_not] at hc
      omega
    rw [hd, List.take_length, prodOf_lt G _ hk]
    simp only [Bool.and_true, decide_eq_true_eq, List.mem_map]
    exact ⟨G.prods[s.1.prod], List.getElem_mem hk, rfl⟩
  · rw [node_eta s.2, hroot, yieldT, hs.yld]

/-- the run keeps `TreeOK`.  A completed state that a waiting state moves over is of a real production
(the head of the dummy rule is no variable of the grammar), so its root is the variable waited for. -/
theorem TreeOK.rules {G : Grammar} (w : List String)
    (hG : G.gammaName ∉ grammarVars G.prods G.start) : Rules G w (TreeOK G w) where
  init := .start G w _ (if_neg (Nat.lt_irrefl _)).symm (Nat.zero_le _)
  pred := fun hs hk => by
    obtain ⟨hk', rfl⟩ := List.getElem?_eq_some_iff.1 hk
    exact .start G w _ (by rw [if_pos hk', prodOf_lt G _ hk']) hs.ew
  scan := fun {s t} hs hn hw => hs.son hn _ rfl rfl (Nat.le_succ _) (List.getElem?_eq_some_iff.1 hw).1
    (by rw [← seg_succ w (Nat.le_refl _) hw, seg_self]; rfl)
  adv := fun {nx c} fs hnx hc hbe hcomp hn => by
    obtain ⟨h1, h2, h3⟩ := hc.complete G w c
      (head_mem_vars_real G _ hG (nextSym_var_mem G _ _ hn)) hcomp
    exact hnx.son hn fs h1 h2 (hbe ▸ hc.be) hc.ew (hbe ▸ h3)

end Pfl.Earley.Tr
