/-
Chomsky normal form (C09): shape and language of `toNormalForm` (`Pfl/Props/C09_CNF.lean` draws
the results from `toNormalForm_induct`), in the order of the fast path: the names both steps make
up and why they never meet, lifting of the terminals, binarisation, the fast path, the cleaning
steps and the recursion.
The binarisation is described once, by `DecInv`: what the fold of `decompose` has emitted derives
every processed production, and every fresh variable derives the suffix it stands for and occurs
below the head it was cut from.  Shape, language (here) and usefulness (`CFGWords`) are read off it.
For the language, each step derives the productions it replaces (`lift_prod`, `dec_prod`); back,
one induction over the result (`cnf_bwd`) shows that every name generates what it stands for.
-/
import Pfl.Props.C09_Clean
import Pfl.Proofs.CFGCYK
import Mathlib.Data.List.Nodup
import Pfl.Proofs.FreshName
namespace Pfl
namespace CFG

def cnfName (j : Nat) : String := "C#CNF#" ++ toString j

theorem cnfName_inj {a b : Nat} (h : cnfName a = cnfName b) : a = b := Fresh.suffix_inj "C#CNF#" h

/-- `L` holds the names in use that the search can still run into.  A candidate found in use is struck
off, since the later candidates differ from it: a search of more rounds than `L` is long ends free. -/
theorem nextFreeVar_fresh (G : CFG) (fuel idx : Nat) (L : List String)
    (hL : ∀ j, idx < j → cnfName j ∈ G.vars → cnfName j ∈ L) (hf : L.length ≤ fuel) :
    ∃ j, idx < j ∧ G.nextFreeVar fuel idx = (j, cnfName j) ∧ cnfName j ∉ G.vars := by
  fun_induction nextFreeVar G fuel idx generalizing L with
  | case1 idx =>
    refine ⟨idx + 1, Nat.lt_succ_self idx, rfl, fun h => ?_⟩
    have := hL _ (Nat.lt_succ_self idx) h
    rw [List.eq_nil_of_length_eq_zero (Nat.le_zero.1 hf)] at this
    cases this
  | case2 fuel idx name hm ih =>
    obtain ⟨j, hj, he, hfr⟩ := ih (L.erase (cnfName (idx + 1)))
      (fun j hj h => (List.mem_erase_of_ne fun e => Nat.ne_of_gt hj (cnfName_inj e)).2
        (hL j (Nat.lt_of_succ_lt hj) h))
      (by rw [List.length_erase_of_mem (hL _ (Nat.lt_succ_self idx) hm)]
          exact Nat.sub_le_of_le_add hf)
    exact ⟨j, Nat.lt_of_succ_lt hj, he, hfr⟩
  | case3 fuel idx name hm => exact ⟨idx + 1, Nat.lt_succ_self idx, rfl, hm⟩

theorem freshVars_spec (G : CFG) (n idx : Nat) :
    idx ≤ (G.freshVars n idx).1 ∧ (G.freshVars n idx).2.length = n ∧
    (G.freshVars n idx).2.Nodup ∧
    ∀ v ∈ (G.freshVars n idx).2, ∃ j, idx < j ∧ j ≤ (G.freshVars n idx).1 ∧ v = cnfName j ∧
      v ∉ G.vars := by
  fun_induction freshVars G n idx with
  | case1 idx => simp
  | case2 n idx j v h2 idx'' vs hr ih =>
    obtain ⟨j', h1, h2', h3⟩ := nextFreeVar_fresh G _ idx G.vars (fun _ _ h => h) (Nat.le_succ _)
    obtain ⟨rfl, rfl⟩ := Prod.mk.inj (h2.symm.trans h2')
    rw [hr] at ih
    obtain ⟨i1, i2, i3, i4⟩ := ih
    refine ⟨Nat.le_trans (Nat.le_of_lt h1) i1, by simp [i2], ?_, ?_⟩
    · simp only [List.nodup_cons]
      refine ⟨?_, i3⟩
      intro hmem
      obtain ⟨j', hj1, _, hj3, _⟩ := i4 _ hmem
      exact Nat.ne_of_lt hj1 (cnfName_inj hj3)
    · intro v hv
      simp only [List.mem_cons] at hv
      rcases hv with rfl | hv
      · exact ⟨j, h1, i1, rfl, h3⟩
      · obtain ⟨j', hj1, hj2, hj3, hj4⟩ := i4 v hv
        exact ⟨j', Nat.lt_trans h1 hj1, hj2, hj3, hj4⟩

def EndsHash (s : String) : Prop := ∃ x, s = x ++ "#CNF#"

theorem liftName_endsHash (vars used : List String) (fuel : Nat) (n : String) (h : EndsHash n) :
    EndsHash (liftName vars used fuel n) := by
  fun_induction liftName vars used fuel n with
  | case1 n => exact h
  | case2 fuel n hm ih => exact ih ⟨n, rfl⟩
  | case3 fuel n hm => exact h

/-- as `nextFreeVar_fresh`; here the later candidates are longer than the one struck off -/
theorem liftName_fresh (vars used : List String) (fuel : Nat) (n : String) (L : List String)
    (hL : ∀ x, x ∈ vars ∨ x ∈ used → n.length ≤ x.length → x ∈ L) (hf : L.length ≤ fuel) :
    liftName vars used fuel n ∉ vars ∧ liftName vars used fuel n ∉ used := by
  fun_induction liftName vars used fuel n generalizing L with
  | case1 n =>
    refine not_or.1 fun h => ?_
    have := hL n h (Nat.le_refl _)
    rw [List.eq_nil_of_length_eq_zero (Nat.le_zero.1 hf)] at this
    cases this
  | case2 fuel n hm ih =>
    refine ih (L.erase n) (fun x hx hl => ?_) (by
      rw [List.length_erase_of_mem (hL n hm (Nat.le_refl _))]
      exact Nat.sub_le_of_le_add hf)
    rw [String.length_append] at hl
    refine (List.mem_erase_of_ne fun e => ?_).2 (hL x hx (Nat.le_of_add_right_le hl))
    rw [e] at hl
    exact Nat.not_succ_le_self _ (Nat.le_trans (Nat.add_le_add_left (by decide : 1 ≤ "#CNF#".length) _) hl)
  | case3 fuel n hm => exact not_or.1 hm

def ttvStep (G : CFG) (tbl : List (String × String)) (t : String) : List (String × String) :=
  tbl ++ [(t, liftName G.vars (tbl.map (·.2)) (G.vars.length + tbl.length + 1) (t ++ "#CNF#"))]

structure TtvInv (G : CFG) (tbl : List (String × String)) : Prop where
  fresh : ∀ e ∈ tbl, e.2 ∉ G.vars ∧ EndsHash e.2
  nodup : (tbl.map (·.2)).Nodup

theorem TtvInv.step {G : CFG} {tbl : List (String × String)} (h : TtvInv G tbl) (t : String) :
    TtvInv G (ttvStep G tbl t) := by
  have hf := liftName_fresh G.vars (tbl.map (·.2)) (G.vars.length + tbl.length + 1) (t ++ "#CNF#")
    (G.vars ++ tbl.map (·.2)) (fun _ hx _ => List.mem_append.2 hx) (by simp)
  have he := liftName_endsHash G.vars (tbl.map (·.2)) (G.vars.length + tbl.length + 1) _ ⟨t, rfl⟩
  unfold ttvStep
  refine ⟨?_, ?_⟩
  · intro e he'
    rcases List.mem_append.1 he' with he' | he'
    · exact h.fresh e he'
    · simp only [List.mem_singleton] at he'
      subst he'
      exact ⟨hf.1, he⟩
  · rw [List.map_append]
    exact nodup_append_singleton h.nodup hf.2

theorem termToVar_inv (G : CFG) : TtvInv G G.termToVar ∧ G.termToVar.map (·.1) = G.ters :=
  foldl_inv_prefix (fun tbl l => TtvInv G tbl ∧ tbl.map (·.1) = l) (ttvStep G) G.ters
    (fun tbl l t _ _ h => ⟨h.1.step t, by rw [← h.2]; simp [ttvStep]⟩) []
    ⟨⟨by simp, by simp⟩, rfl⟩

theorem termToVar_find_some (G : CFG) (t : String) (ht : t ∈ G.ters) :
    ∃ e, G.termToVar.find? (fun e => e.1 = t) = some e := by
  have : t ∈ G.termToVar.map (·.1) := by rw [(termToVar_inv G).2]; exact ht
  simp only [List.mem_map] at this
  obtain ⟨e, he, het⟩ := this
  have : (G.termToVar.find? (fun e => e.1 = t)).isSome = true := by
    rw [List.find?_isSome]
    exact ⟨e, he, by simp [het]⟩
  exact Option.isSome_iff_exists.1 this

theorem termToVar_find (G : CFG) (t : String) (e : String × String)
    (h : G.termToVar.find? (fun e => e.1 = t) = some e) : e ∈ G.termToVar ∧ e.1 = t :=
  ⟨List.mem_of_find?_eq_some h, by simpa using List.find?_some h⟩

theorem endsHash_ne_cnfName (s : String) (hs : EndsHash s) (j : Nat) : s ≠ cnfName j := by
  obtain ⟨x, rfl⟩ := hs
  intro h
  have h2 := congrArg (fun s => s.toList.getLast?) h
  simp only [cnfName, String.toList_append, Nat.toString_eq_repr, Nat.toList_repr] at h2
  rw [List.getLast?_append_of_ne_nil _ Nat.toDigits_ne_nil,
    List.getLast?_append_of_ne_nil _ (by decide)] at h2
  have h3 : "#CNF#".toList.getLast? = some '#' := by decide
  rw [h3] at h2
  have h4 := List.mem_of_getLast? h2.symm
  have := Nat.isDigit_of_mem_toDigits (by decide) (by decide) h4
  exact absurd this (by decide)

def liftSym (tbl : List (String × String)) : Sym → Sym
  | .ter t => match tbl.find? (fun e => e.1 = t) with
    | some e => .var e.2
    | none => .ter t
  | .var v => .var v

def usedTers (G : CFG) : List String :=
  (G.prods.flatMap fun p => if p.2.length = 1 then [] else
      p.2.filterMap fun s => match s with
        | .ter t => if t ∈ G.ters then some t else none
        | .var _ => none).eraseDups

theorem singleTerminals_eq (G : CFG) :
    G.singleTerminals =
      (G.prods.map fun p => if p.2.length = 1 then p else (p.1, p.2.map (liftSym G.termToVar))) ++
      G.usedTers.filterMap fun t =>
        (G.termToVar.find? fun e => e.1 = t).map fun e => (e.2, [Sym.ter t]) := by
  rfl

theorem mem_usedTers (G : CFG) (t : String) :
    t ∈ G.usedTers ↔ t ∈ G.ters ∧ ∃ p ∈ G.prods, p.2.length ≠ 1 ∧ Sym.ter t ∈ p.2 := by
  unfold usedTers
  simp only [List.mem_eraseDups, List.mem_flatMap]
  constructor
  · rintro ⟨p, hp, ht⟩
    by_cases hl : p.2.length = 1
    · rw [if_pos hl] at ht
      cases ht
    · rw [if_neg hl, List.mem_filterMap] at ht
      obtain ⟨s, hs, hst⟩ := ht
      cases s with
      | var v => cases hst
      | ter t' =>
        obtain ⟨hm, he⟩ := Option.ite_none_right_eq_some.1 hst
        cases he
        exact ⟨hm, p, hp, hl, hs⟩
  · rintro ⟨ht, p, hp, hl, hs⟩
    refine ⟨p, hp, ?_⟩
    rw [if_neg hl, List.mem_filterMap]
    exact ⟨_, hs, if_pos ht⟩

theorem mem_singleTerminals (G : CFG) (p : Prod) :
    p ∈ G.singleTerminals ↔
      (p ∈ G.prods ∧ p.2.length = 1) ∨
      (∃ q ∈ G.prods, q.2.length ≠ 1 ∧ p = (q.1, q.2.map (liftSym G.termToVar))) ∨
      (∃ t e, t ∈ G.usedTers ∧ G.termToVar.find? (fun e => e.1 = t) = some e ∧
        p = (e.2, [Sym.ter t])) := by
  rw [singleTerminals_eq]
  simp only [List.mem_append, List.mem_map, List.mem_filterMap, Option.map_eq_some_iff]
  constructor
  · rintro (⟨q, hq, rfl⟩ | ⟨t, ht, e, he, rfl⟩)
    · split
      · exact Or.inl ⟨hq, ‹_›⟩
      · exact Or.inr (Or.inl ⟨q, hq, ‹_›, rfl⟩)
    · exact Or.inr (Or.inr ⟨t, e, ht, he, rfl⟩)
  · rintro (⟨hp, hl⟩ | ⟨q, hq, hl, rfl⟩ | ⟨t, e, ht, he, rfl⟩)
    · exact Or.inl ⟨p, hp, if_pos hl⟩
    · exact Or.inl ⟨q, hq, if_neg hl⟩
    · exact Or.inr ⟨t, ht, e, he, rfl⟩

theorem isUnit_false_single (h : String) (s : Sym) (hu : isUnit (h, [s]) = false) :
    ∃ t, s = Sym.ter t := by
  cases s with
  | ter t => exact ⟨t, rfl⟩
  | var v => simp [isUnit] at hu

theorem liftSym_isVar (G : CFG) (hG : G.WF) (p : Prod) (hp : p ∈ G.prods) (s : Sym) (hs : s ∈ p.2) :
    ∃ v, liftSym G.termToVar s = Sym.var v := by
  cases s with
  | var v => exact ⟨v, rfl⟩
  | ter t =>
    obtain ⟨e, he⟩ := termToVar_find_some G t (hG.ter_mem p hp t hs)
    exact ⟨e.2, by simp [liftSym, he]⟩

theorem singleTerminals_shape (G : CFG) (hG : G.WF) (h1 : ∀ p ∈ G.prods, p.2 ≠ [])
    (h2 : ∀ p ∈ G.prods, isUnit p = false) :
    ∀ p ∈ G.singleTerminals, (∃ t, p.2 = [Sym.ter t]) ∨
      (2 ≤ p.2.length ∧ ∀ s ∈ p.2, ∃ v, s = Sym.var v) := by
  intro p hp
  rw [mem_singleTerminals] at hp
  rcases hp with ⟨hq, hl⟩ | ⟨q, hq, hl, rfl⟩ | ⟨t, e, _, _, rfl⟩
  · obtain ⟨h, body⟩ := p
    obtain ⟨s, rfl⟩ := List.length_eq_one_iff.1 hl
    obtain ⟨t, rfl⟩ := isUnit_false_single h s (h2 _ hq)
    exact Or.inl ⟨t, rfl⟩
  · right
    have := List.length_pos_iff.2 (h1 q hq)
    refine ⟨by simp only [List.length_map]; omega, ?_⟩
    intro s hs
    simp only [List.mem_map] at hs
    obtain ⟨s', hs', rfl⟩ := hs
    exact liftSym_isVar G hG q hq s' hs'
  · exact Or.inl ⟨t, rfl⟩

/-- the grammar after lifting the terminals -/
def liftG (G : CFG) : CFG := { vars := [], ters := [], start := G.start, prods := G.singleTerminals }

theorem lift_sym (G : CFG) (hG : G.WF) {q : Prod} (hq : q ∈ G.prods) (hl : q.2.length ≠ 1)
    {s : Sym} (hs : s ∈ q.2) : (liftG G).Derives [liftSym G.termToVar s] [s] := by
  cases s with
  | var v => exact .refl _
  | ter t =>
    -- a terminal of a long body is derived from the variable that stands for it
    have htt := hG.ter_mem _ hq t hs
    obtain ⟨e, he⟩ := termToVar_find_some G t htt
    have : liftSym G.termToVar (Sym.ter t) = Sym.var e.2 := by simp [liftSym, he]
    rw [this]
    exact Derives.prod ((mem_singleTerminals G _).2
      (Or.inr (Or.inr ⟨t, e, (mem_usedTers G t).2 ⟨htt, _, hq, hl, hs⟩, he, rfl⟩)))

theorem derives_map {N : CFG} {f : Sym → Sym} :
    ∀ {u : List Sym}, (∀ s ∈ u, N.Derives [f s] [s]) → N.Derives (u.map f) u
  | [], _ => .refl _
  | s :: _, h => Derives.append (h s List.mem_cons_self)
      (derives_map fun x hx => h x (List.mem_cons_of_mem _ hx))

theorem lift_prod (G : CFG) (hG : G.WF) {hd : String} {body : List Sym}
    (hp : (hd, body) ∈ G.prods) : (liftG G).Derives [.var hd] body := by
  by_cases hl : body.length = 1
  · exact Derives.prod ((mem_singleTerminals G _).2 (Or.inl ⟨hp, hl⟩))
  · exact (Derives.prod ((mem_singleTerminals G _).2 (Or.inr (Or.inl ⟨_, hp, hl, rfl⟩)))).trans
      (derives_map fun s hs => lift_sym G hG hp hl hs)

/-- What a symbol of the lifted grammar generates, in terms of `G`: a variable of `G` what it
generates there, the variable that stands for a terminal that terminal.  A fresh variable of the
binarisation is neither, and nothing is said of it. -/
def LiftSem (G : CFG) (s : Sym) (w : List String) : Prop :=
  ((∀ v, s = .var v → v ∈ G.vars) → G.Gen s w) ∧ ∀ e ∈ G.termToVar, s = .var e.2 → w = [e.1]

theorem liftSem_body (G : CFG) (hG : G.WF) {q : Prod} (hq : q ∈ G.prods) {w : List String}
    (h : GenBy (LiftSem G) q.2 w ∨ GenBy (LiftSem G) (q.2.map (liftSym G.termToVar)) w) :
    G.GenList q.2 w := by
  refine GenBy.genList (h.elim (GenBy.mono fun s hs _ h => ?_) fun h =>
    GenBy.mono (fun s hs _ h => ?_) (GenBy.map h))
  · exact h.1 fun v hv => hG.var_mem q hq v (hv ▸ hs)
  · cases s with
    | var v => exact h.1 fun v' hv' => Sym.var.inj hv' ▸ hG.var_mem q hq v hs
    | ter t =>
      cases hf : G.termToVar.find? (fun e => e.1 = t) with
      | none => simp only [liftSym, hf] at h; exact h.1 fun _ h => nomatch h
      | some e =>
        simp only [liftSym, hf] at h
        obtain ⟨he, het⟩ := termToVar_find G t e hf
        rw [h.2 e he rfl, het]
        exact Gen.ter t

theorem liftSem_prod (G : CFG) (hG : G.WF) {hd : String} {body : List Sym} {w : List String}
    (hp : (hd, body) ∈ G.singleTerminals) (ih : GenBy (LiftSem G) body w) :
    LiftSem G (.var hd) w := by
  have hfr := (termToVar_inv G).1
  have old : ∀ q ∈ G.prods, hd = q.1 → G.GenList q.2 w → LiftSem G (.var hd) w := by
    rintro q hq rfl hb
    exact ⟨fun _ => Gen.var hq hb, fun e he hv =>
      absurd (hG.head_mem q hq) (Sym.var.inj hv ▸ (hfr.fresh e he).1)⟩
  rcases (mem_singleTerminals G (hd, body)).1 hp with ⟨hq, _⟩ | ⟨q, hq, _, he⟩ | ⟨t, e, _, hfe, he⟩
  · exact old _ hq rfl (liftSem_body G hG hq (Or.inl ih))
  · exact old q hq (Prod.mk.inj he).1 (liftSem_body G hG hq (Or.inr ((Prod.mk.inj he).2 ▸ ih)))
  · cases he
    obtain ⟨w₁, _, rfl, ht, rfl⟩ := ih
    obtain ⟨he, het⟩ := termToVar_find G t e hfe
    rw [gen_ter_iff.1 (ht.1 fun _ h => nomatch h), List.append_nil]
    exact ⟨fun h => absurd (h _ rfl) (hfr.fresh e he).1, fun e' he' hv => by
      -- the names given to the terminals are pairwise distinct
      rw [← het, List.inj_on_of_nodup_map hfr.nodup he he' (Sym.var.inj hv)]⟩

/-- the body `pb` is the (possibly binarised) first layer of `σ` -/
def LinkBody (D : List (List Sym × String)) (pb σ : List Sym) : Prop :=
  (σ.length ≤ 2 ∧ pb = σ) ∨
  ∃ b rest v, σ = b :: rest ∧ 2 ≤ rest.length ∧ (rest, v) ∈ D ∧ pb = [b, Sym.var v]

theorem LinkBody.mono {D D' : List (List Sym × String)} {pb σ : List Sym}
    (h : ∀ d ∈ D, d ∈ D') (hl : LinkBody D pb σ) : LinkBody D' pb σ := by
  rcases hl with hl | ⟨b, rest, v, h1, h2, h3, h4⟩
  · exact Or.inl hl
  · exact Or.inr ⟨b, rest, v, h1, h2, h _ h3, h4⟩

def ofProds (ps : List Prod) : CFG := ⟨[], [], none, ps⟩

/-- What one call of `decomposeOne` does, in terms of its own output `r`; `N` is any grammar that
holds the productions the call emits and derives the suffixes recorded before.  `new` says of a
fresh variable both that it derives its suffix and where it hangs below `head`. -/
structure DecOneSpec (N : CFG) (head : String) (body : List Sym) (vs : List String)
    (D : List (List Sym × String)) (r : List Prod × List (List Sym × String)) : Prop where
  mono : ∀ d ∈ D, d ∈ r.2
  root : N.Derives [.var head] body
  new : ∀ e ∈ r.2, e ∈ D ∨ (e.2 ∈ vs ∧ 2 ≤ e.1.length ∧ N.Derives [.var e.2] e.1 ∧
    ∃ pre, body = pre ++ e.1 ∧ N.Derives [.var head] (pre ++ [.var e.2]))
  src : ∀ p ∈ r.1, (p.1 = head ∧ LinkBody r.2 p.2 body) ∨ ∃ σ, (σ, p.1) ∈ r.2 ∧ LinkBody r.2 p.2 σ
  nodup : vs.Nodup → (∀ v ∈ vs, v ∉ D.map (·.2)) → (D.map (·.2)).Nodup → (r.2.map (·.2)).Nodup

theorem DecOneSpec.leaf {N : CFG} {head : String} {body pb : List Sym} {vs : List String}
    {D : List (List Sym × String)} (hl : LinkBody D pb body) (hr : N.Derives [.var head] body) :
    DecOneSpec N head body vs D ([(head, pb)], D) where
  mono := fun _ hd => hd
  root := hr
  new := fun _ he => Or.inl he
  src := fun p hp => by
    rw [List.mem_singleton.1 hp]
    exact Or.inl ⟨rfl, hl⟩
  nodup := fun _ _ hE => hE

/-- only suffixes shorter than `body` are looked up, so only those need to be derivable beforehand -/
theorem decomposeOne_spec (N : CFG) (head : String) (body : List Sym) (vs : List String)
    (D : List (List Sym × String)) :
    vs.length + 2 = body.length → (∀ p ∈ (decomposeOne head body vs D).1, p ∈ N.prods) →
      (∀ e ∈ D, e.1.length < body.length → N.Derives [.var e.2] e.1) →
      DecOneSpec N head body vs D (decomposeOne head body vs D) := by
  fun_induction decomposeOne head body vs D with
  | case1 head b c vs D =>
    intro _ hps _
    exact .leaf (Or.inl ⟨Nat.le_refl _, rfl⟩) (Derives.prod (hps _ List.mem_cons_self))
  | case2 head b rest v vs D _ e hf =>
    intro hlen hps hD
    have h2 : 2 ≤ rest.length := by simp at hlen; omega
    have he1 : e.1 = rest := by simpa using List.find?_some hf
    have he2 : (rest, e.2) ∈ D := by
      rw [← he1]; exact List.mem_of_find?_eq_some hf
    exact .leaf (Or.inr ⟨b, rest, e.2, rfl, h2, he2, rfl⟩)
      (Derives.cons (hps _ List.mem_cons_self) (hD _ he2 (Nat.lt_succ_self _)))
  | case3 head b rest v vs D _ hf ps D' hr ih =>
    intro hlen hps hD
    have h2 : 2 ≤ rest.length := by simp at hlen; omega
    have hm : (head, [b, .var v]) ∈ N.prods := hps _ List.mem_cons_self
    rw [hr] at ih
    have IH := ih (by simpa using hlen)
      (fun p hp => hps p (List.mem_cons_of_mem _ hp)) (by
        intro e he hlt
        rcases List.mem_cons.1 he with rfl | he
        · exact absurd hlt (Nat.lt_irrefl _)
        · exact hD e he (Nat.lt_succ_of_lt hlt))
    have hv := IH.mono _ List.mem_cons_self
    refine ⟨fun x hx => IH.mono x (List.mem_cons_of_mem _ hx), Derives.cons hm IH.root, ?_, ?_, ?_⟩
    · intro e he
      rcases IH.new e he with h | ⟨n1, n2, n3, pre, n4, n5⟩
      · rcases List.mem_cons.1 h with rfl | h
        · exact Or.inr ⟨List.mem_cons_self, h2, IH.root, [b], rfl, Derives.prod hm⟩
        · exact Or.inl h
      · exact Or.inr ⟨List.mem_cons_of_mem _ n1, n2, n3, b :: pre, by rw [n4]; rfl,
          Derives.cons hm n5⟩
    · intro p hp
      rcases List.mem_cons.1 hp with rfl | hp
      · exact Or.inl ⟨rfl, Or.inr ⟨b, rest, v, rfl, h2, hv, rfl⟩⟩
      · rcases IH.src p hp with ⟨s1, s2⟩ | s
        · exact Or.inr ⟨rest, s1 ▸ hv, s2⟩
        · exact Or.inr s
    · intro hnd hfr hE
      rw [List.nodup_cons] at hnd
      exact IH.nodup hnd.2 (fun v' hv' => List.not_mem_cons_of_ne_of_not_mem
        (fun (e : v' = v) => hnd.1 (e ▸ hv')) (hfr v' (List.mem_cons_of_mem _ hv')))
        (List.nodup_cons.2 ⟨hfr v List.mem_cons_self, hE⟩)
  | case4 body head vs D h1 h2 =>
    intro hlen
    match body, vs, hlen, h1, h2 with
    | [b, c], _, _, h1, _ => exact absurd rfl (h1 b c)
    | b :: _ :: _ :: _, v :: vs, _, _, h2 => exact (h2 b _ v vs rfl rfl).elim

abbrev DecState := Nat × List Prod × List (List Sym × String)

def decStep (G : CFG) (st : DecState) (p : Prod) : DecState :=
  if p.2.length ≤ 2 then (st.1, st.2.1 ++ [p], st.2.2)
  else
    ((G.freshVars (p.2.length - 2) st.1).1,
     st.2.1 ++ (decomposeOne p.1 p.2 (G.freshVars (p.2.length - 2) st.1).2 st.2.2).1,
     (decomposeOne p.1 p.2 (G.freshVars (p.2.length - 2) st.1).2 st.2.2).2)

theorem decompose_eq (G : CFG) (prods : List Prod) :
    G.decompose prods = (prods.foldl (decStep G) (0, [], [])).2.1 := by
  unfold decompose
  congr 3

/-- Invariant of the fold of `decompose`: `Q` = the productions processed so far, `st` = (next
index, productions emitted, the table `D` of suffixes that already have a fresh variable).
Derivations are taken in the grammar of the productions emitted so far: every processed production is
derivable (`fwd`); a fresh variable derives its suffix and occurs, in place of that suffix, in a
sentential form of the head it was cut from (`entry`). -/
structure DecInv (G : CFG) (Q : List Prod) (st : DecState) : Prop where
  fwd : ∀ p ∈ Q, (ofProds st.2.1).Derives [.var p.1] p.2
  src : ∀ p ∈ st.2.1, ∃ σ, ((p.1, σ) ∈ Q ∨ (σ, p.1) ∈ st.2.2) ∧ LinkBody st.2.2 p.2 σ
  entry : ∀ e ∈ st.2.2, (∃ j, j ≤ st.1 ∧ e.2 = cnfName j) ∧ e.2 ∉ G.vars ∧ 2 ≤ e.1.length ∧
    (ofProds st.2.1).Derives [.var e.2] e.1 ∧
    ∃ p ∈ Q, ∃ pre, p.2 = pre ++ e.1 ∧ (ofProds st.2.1).Derives [.var p.1] (pre ++ [.var e.2])
  nodup : (st.2.2.map (·.2)).Nodup

/-- a production that is kept as it is counts as the call with no names and output `([p], D)` -/
theorem DecInv.extend {G : CFG} {Q : List Prod} {st : DecState} {p : Prod}
    {vs : List String} {r : List Prod × List (List Sym × String)} {idx' : Nat}
    (h : DecInv G Q st) (sp : DecOneSpec (ofProds (st.2.1 ++ r.1)) p.1 p.2 vs st.2.2 r)
    (hnd : vs.Nodup) (hfr : ∀ v ∈ vs, v ∉ st.2.2.map (·.2)) (hidx : st.1 ≤ idx')
    (hvs : ∀ v ∈ vs, (∃ j, j ≤ idx' ∧ v = cnfName j) ∧ v ∉ G.vars) :
    DecInv G (Q ++ [p]) (idx', st.2.1 ++ r.1, r.2) := by
  have up : ∀ {a b : List Sym}, (ofProds st.2.1).Derives a b →
      (ofProds (st.2.1 ++ r.1)).Derives a b :=
    fun hd => hd.mono fun _ hq => List.mem_append_left _ hq
  refine ⟨?_, ?_, ?_, sp.nodup hnd hfr h.nodup⟩
  · intro q hq
    rcases List.mem_append.1 hq with hq | hq
    · exact up (h.fwd q hq)
    · cases List.mem_singleton.1 hq
      exact sp.root
  · intro p' hp'
    rcases List.mem_append.1 hp' with hp' | hp'
    · obtain ⟨σ, h1, h2⟩ := h.src p' hp'
      exact ⟨σ, h1.imp (List.mem_append_left _) (sp.mono _), h2.mono sp.mono⟩
    · rcases sp.src p' hp' with ⟨h1, h2⟩ | ⟨σ, h1, h2⟩
      · exact ⟨p.2, Or.inl (List.mem_append_right _ (by simp [h1])), h2⟩
      · exact ⟨σ, Or.inr h1, h2⟩
  · intro e he
    rcases sp.new e he with he | ⟨h1, h2, h3, pre, h4, h5⟩
    · obtain ⟨⟨j, hj, hj2⟩, r2, r3, r4, q, hq, pre, r5, r6⟩ := h.entry e he
      exact ⟨⟨j, Nat.le_trans hj hidx, hj2⟩, r2, r3, up r4, q, List.mem_append_left _ hq, pre, r5, up r6⟩
    · obtain ⟨hj, hnv⟩ := hvs _ h1
      exact ⟨hj, hnv, h2, h3, p, List.mem_append_right _ (List.mem_singleton.2 rfl), pre, h4, h5⟩

theorem decInv_step (G : CFG) (Q : List Prod) (st : DecState) (p : Prod)
    (h : DecInv G Q st) : DecInv G (Q ++ [p]) (decStep G st p) := by
  unfold decStep
  by_cases hlen : p.2.length ≤ 2
  · rw [if_pos hlen]
    exact h.extend (vs := [])
      (.leaf (Or.inl ⟨hlen, rfl⟩) (Derives.prod (List.mem_append_right _ (List.mem_singleton.2 rfl))))
      List.nodup_nil (fun v hv => by cases hv) (Nat.le_refl _) (fun v hv => by cases hv)
  · rw [if_neg hlen]
    obtain ⟨f1, f2, f3, f4⟩ := freshVars_spec G (p.2.length - 2) st.1
    have hvl : (G.freshVars (p.2.length - 2) st.1).2.length + 2 = p.2.length := by omega
    have hfr : ∀ v ∈ (G.freshVars (p.2.length - 2) st.1).2, v ∉ st.2.2.map (·.2) := by
      intro v hv hσ
      obtain ⟨e, he, rfl⟩ := List.mem_map.1 hσ
      obtain ⟨j, hj1, _, hj3, _⟩ := f4 _ hv
      obtain ⟨⟨j', hj', he'⟩, _⟩ := h.entry e he
      exact Nat.not_lt_of_le hj' (cnfName_inj (hj3.symm.trans he') ▸ hj1)
    refine h.extend (decomposeOne_spec _ p.1 p.2 _ st.2.2 hvl (fun q hq => List.mem_append_right _ hq)
      fun e he _ => (h.entry e he).2.2.2.1.mono fun _ hq => List.mem_append_left _ hq)
      f3 hfr f1 fun v hv => ?_
    obtain ⟨j, _, hj2, hj3, hj4⟩ := f4 v hv
    exact ⟨⟨j, hj2, hj3⟩, hj4⟩

theorem decompose_inv (G : CFG) (prods : List Prod) :
    ∃ idx D, DecInv G prods (idx, G.decompose prods, D) := by
  have := foldl_inv_prefix (fun st Q => DecInv G Q st) (decStep G) prods
    (fun st Q p _ _ h => decInv_step G Q st p h) (0, [], [])
    ⟨by simp, by simp, by simp, List.nodup_nil⟩
  refine ⟨(prods.foldl (decStep G) (0, [], [])).1, (prods.foldl (decStep G) (0, [], [])).2.2, ?_⟩
  rw [decompose_eq]
  exact this

theorem DecInv.entry_sub {G : CFG} {Q : List Prod} {st : DecState} (inv : DecInv G Q st)
    {e : List Sym × String} (he : e ∈ st.2.2) : ∃ p ∈ Q, 2 ≤ p.2.length ∧ ∀ s ∈ e.1, s ∈ p.2 := by
  obtain ⟨_, _, h2, _, p, hp, pre, hpre, _⟩ := inv.entry e he
  refine ⟨p, hp, ?_, fun s hs => hpre ▸ List.mem_append_right _ hs⟩
  rw [hpre, List.length_append]
  exact Nat.le_trans h2 (Nat.le_add_left _ _)

theorem decompose_shape (G : CFG) (prods : List Prod)
    (h : ∀ p ∈ prods, (∃ t, p.2 = [Sym.ter t]) ∨
      (2 ≤ p.2.length ∧ ∀ s ∈ p.2, ∃ v, s = Sym.var v)) :
    ∀ p ∈ G.decompose prods, prodIsNormal p = true := by
  obtain ⟨idx, D, inv⟩ := decompose_inv G prods
  intro p hp
  obtain ⟨σ, hσ, hl⟩ := inv.src p hp
  simp only at hσ hl
  have hσ' : (∃ t, σ = [Sym.ter t]) ∨ (2 ≤ σ.length ∧ ∀ s ∈ σ, ∃ v, s = Sym.var v) := by
    rcases hσ with hσ | hσ
    · exact h _ hσ
    · obtain ⟨q, hq, hq2, hsub⟩ := inv.entry_sub hσ
      refine Or.inr ⟨(inv.entry _ hσ).2.2.1, fun s hs => ?_⟩
      rcases h q hq with ⟨t, ht⟩ | ⟨_, h2⟩
      · rw [ht] at hq2; exact absurd hq2 (by simp)
      · exact h2 s (hsub s hs)
  rw [prodIsNormal_iff]
  rcases hl with ⟨hl1, hl2⟩ | ⟨b, rest, v, rfl, hl2, _, hl4⟩
  · rw [hl2]
    rcases hσ' with ⟨t, ht⟩ | ⟨h2, h3⟩
    · exact Or.inr ⟨t, ht⟩
    · obtain ⟨b, c, rfl⟩ := List.length_eq_two.1 (Nat.le_antisymm hl1 h2)
      obtain ⟨vb, rfl⟩ := h3 b List.mem_cons_self
      obtain ⟨vc, rfl⟩ := h3 c (List.mem_cons_of_mem _ List.mem_cons_self)
      exact Or.inl ⟨vb, vc, rfl⟩
  · rcases hσ' with ⟨t, ht⟩ | ⟨h2, h3⟩
    · simp only [List.cons.injEq] at ht
      rw [ht.2] at hl2
      simp at hl2
    · obtain ⟨vb, rfl⟩ := h3 b (by simp)
      exact Or.inl ⟨vb, v, hl4⟩

/-- the grammar after binarisation of the productions of `H` (fresh names avoiding `G.vars`) -/
def decG (G H : CFG) : CFG :=
  { vars := [], ters := [], start := H.start, prods := G.decompose H.prods }

theorem dec_prod {G H : CFG} {idx : Nat} {D : List (List Sym × String)}
    (inv : DecInv G H.prods (idx, G.decompose H.prods, D)) {hd : String} {body : List Sym}
    (hp : (hd, body) ∈ H.prods) : (decG G H).Derives [.var hd] body :=
  (inv.fwd _ hp).mono (N := decG G H) fun _ h => h

theorem fastPath_not_nullable (G : CFG) (h : G.isFastPath = true) (s : String) :
    ¬ G.Gen (.var s) [] := by
  intro hg
  have hn : G.nullable.length = 0 := by
    simp only [isFastPath, Bool.and_eq_true, decide_eq_true_eq] at h
    exact h.1.1.1.1
  have : Sym.var s ∈ G.nullable := (mem_nullable G _).2 hg
  rw [List.eq_nil_of_length_eq_zero hn] at this
  cases this

theorem fastPath_noEps (G : CFG) (h : G.isFastPath = true) : ∀ p ∈ G.prods, p.2 ≠ [] :=
  fun p hp he => fastPath_not_nullable G h p.1 (Gen.var (body := []) (he ▸ hp) GenList.nil)

theorem fastPath_noUnit (G : CFG) (h : G.isFastPath = true) : ∀ p ∈ G.prods, isUnit p = false := by
  intro p hp
  have hn : (G.prods.any isUnit) = false := by
    simp only [isFastPath, Bool.and_eq_true, Bool.not_eq_true'] at h
    exact h.1.1.2
  rw [List.any_eq_false] at hn
  simpa using hn p hp

theorem fastPath_isNormalForm (G : CFG) (hG : G.WF) (h : G.isFastPath = true) :
    (mk' [] [] G.start (G.decompose G.singleTerminals).eraseDups).isNormalForm = true := by
  rw [isNormalForm_iff, (mk'_prods _ _ _ _).1]
  intro p hp
  rw [List.mem_eraseDups] at hp
  exact decompose_shape G _ (singleTerminals_shape G hG (fastPath_noEps G h) (fastPath_noUnit G h)) p hp

section Dec
variable {G : CFG} {idx : Nat} {D : List (List Sym × String)}
  (inv : DecInv G G.singleTerminals (idx, G.decompose G.singleTerminals, D))
include inv

theorem DecInv.name {σ : List Sym} {v : String} (h : (σ, v) ∈ D) :
    v ∉ G.vars ∧ ∀ e ∈ G.termToVar, e.2 ≠ v := by
  obtain ⟨⟨j, _, hj⟩, hnv, _⟩ := inv.entry _ h
  exact ⟨hnv, fun e he hev =>
    endsHash_ne_cnfName _ ((termToVar_inv G).1.fresh e he).2 j (hev.trans hj)⟩

/-- In the normal form a symbol of the lifted grammar generates what `LiftSem` says, and a fresh
variable what the suffix it stands for generates.  Every name has exactly one of these roles, and
that is checked at the head of a production only. -/
theorem cnf_bwd (hG : G.WF) {s : Sym} {w : List String} (hg : (decG G (liftG G)).Gen s w) :
    LiftSem G s w ∧ ∀ σ v, s = .var v → (σ, v) ∈ D → GenBy (LiftSem G) σ w := by
  refine gen_least (P := fun s w => LiftSem G s w ∧
    ∀ σ v, s = .var v → (σ, v) ∈ D → GenBy (LiftSem G) σ w)
    (fun t => ⟨⟨fun _ => Gen.ter t, fun _ _ h => nomatch h⟩, fun _ _ h => nomatch h⟩) ?_ hg
  intro hd pb w hp _ ih
  obtain ⟨σ, hsrc, hl⟩ := inv.src (hd, pb) hp
  have hσ : GenBy (LiftSem G) σ w := by
    rcases hl with ⟨_, rfl⟩ | ⟨b, rest, v, rfl, _, hv, rfl⟩
    · exact GenBy.mono (fun _ _ _ h => h.1) ih
    · obtain ⟨w₁, _, rfl, hb, w₂, _, rfl, hv', rfl⟩ := ih
      exact ⟨w₁, w₂, by rw [List.append_nil], hb.1, hv'.2 rest v rfl hv⟩
  rcases hsrc with hsrc | hsrc
  · refine ⟨liftSem_prod G hG hsrc hσ, fun σ' v hv h => ?_⟩
    obtain ⟨h1, h2⟩ := DecInv.name inv (Sym.var.inj hv ▸ h)
    rcases (mem_singleTerminals G _).1 hsrc with ⟨hq, _⟩ | ⟨q, hq, _, he⟩ | ⟨t, e, _, hfe, he⟩
    · exact absurd (hG.head_mem _ hq) h1
    · cases he; exact absurd (hG.head_mem q hq) h1
    · exact absurd (congrArg (·.1) he).symm (h2 e (termToVar_find G t e hfe).1)
  · obtain ⟨h1, h2⟩ := DecInv.name inv hsrc
    exact ⟨⟨fun h => absurd (h hd rfl) h1, fun e he hv => absurd (Sym.var.inj hv).symm (h2 e he)⟩,
      fun σ' v hv h => by
        cases hv
        cases List.inj_on_of_nodup_map inv.nodup h hsrc rfl
        exact hσ⟩

end Dec

theorem fastPath_gen_iff (G : CFG) (hG : G.WF) (x : String) (hx : x ∈ G.vars) (w : List String) :
    (decG G (liftG G)).Gen (.var x) w ↔ G.Gen (.var x) w := by
  obtain ⟨idx, D, inv⟩ := decompose_inv G (liftG G).prods
  exact ⟨fun h => (cnf_bwd inv hG h).1.1 fun _ h' => Sym.var.inj h' ▸ hx, fun h =>
    gen_of_derives_sim (fun _ _ => dec_prod inv) (gen_of_derives_sim (fun _ _ => lift_prod G hG) h)⟩

theorem fastPath_lang (G : CFG) (hG : G.WF) (hf : G.isFastPath = true) (w : List String) :
    (mk' [] [] G.start (G.decompose G.singleTerminals).eraseDups).Lang w ↔ G.Lang w ∧ w ≠ [] := by
  rw [lang_iff_gen, lang_iff_gen, (mk'_prods _ _ _ _).2]
  have key : ∀ s, G.start = some s →
      ((mk' [] [] G.start (G.decompose G.singleTerminals).eraseDups).Gen (.var s) w ↔
        G.Gen (.var s) w) := by
    intro s hs
    rw [gen_congr _ (decG G (liftG G)) (by
      intro p
      rw [(mk'_prods _ _ _ _).1, List.mem_eraseDups]
      exact Iff.rfl)]
    exact fastPath_gen_iff G hG s (hG.start_mem s hs) w
  constructor
  · rintro ⟨s, hs, hg⟩
    have := (key s hs).1 hg
    exact ⟨⟨s, hs, this⟩, fun hw => fastPath_not_nullable G hf s (hw ▸ this)⟩
  · rintro ⟨⟨s, hs, hg⟩, _⟩
    exact ⟨s, hs, (key s hs).2 hg⟩

theorem cleanup_lang (G : CFG) (hG : G.WF) (w : List String) :
    G.removeUseless.removeEpsilon.removeUseless.elimUnit.removeUseless.Lang w ↔
      G.Lang w ∧ w ≠ [] := by
  rw [removeUseless_lang _ (Clean.elimUnit_wf _), elimUnit_lang _ (Clean.removeUseless_wf _),
    removeUseless_lang _ (Clean.removeEpsilon_wf _), removeEpsilon_lang, removeUseless_lang _ hG]

theorem toNormalForm_induct {P : CFG → CFG → Prop}
    (fast : ∀ G, G.WF → G.isFastPath = true →
      P G (mk' [] [] G.start (G.decompose G.singleTerminals).eraseDups))
    (empty : ∀ G, G.WF → G.prods.length = 0 → P G G)
    (clean : ∀ G N, G.WF →
      P (G.removeUseless.removeEpsilon.removeUseless.elimUnit.removeUseless) N → P G N)
    (fuel : Nat) : ∀ (G : CFG), G.WF → ∀ N, G.toNormalForm fuel = some N → P G N := by
  intro G
  fun_induction toNormalForm G fuel with
  | case1 => exact fun _ _ h => nomatch h
  | case2 G fuel hf =>
    rintro hG _ ⟨⟩
    exact fast G hG hf
  | case3 G fuel _ hl =>
    rintro hG _ ⟨⟩
    exact empty G hG hl
  | case4 G fuel _ _ ih => exact fun hG N h => clean G N hG (ih (Clean.removeUseless_wf _) N h)

end CFG
end Pfl
