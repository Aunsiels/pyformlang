/-
Kernel-reducible copies of the (tree-carrying) Earley run, for non-vacuity witnesses by `decide +kernel`:
`FsDag.unify` is compiled by well-founded recursion and does not reduce in the kernel; the run is
re-stated over an abstract unifier `u` (`parseTreeU u`), shown to be the model's run for `u = unify`
(`parseTree_eq_K`), and `unify` is replaced by its structurally recursive copy `unifyK`.
-/
import Pfl.Proofs.EarleyTreeSim
import Pfl.Proofs.FeatureDagLemmas
namespace Pfl.Earley.Tr.NV
open FsDag FsDag.Lem

/-- `unify.go` with the recursive call abstracted (structural recursion) -/
def goK (u : Store → Nat → Nat → Res) (ca : Nat) : Store → List (String × Nat) → Res
  | st, [] => .ok st
  | st, (g, y) :: rest =>
    match u (fieldOf st ca g).1 (fieldOf st ca g).2 y with
    | .ok st2 => goK u ca st2 rest
    | r => r

def unifyK : Nat → Store → Nat → Nat → Res
  | 0, _, _, _ => .fuel
  | f+1, st, a, b =>
      if deref st a = deref st b then .ok st else
      if cont st (deref st a) = [] ∧ cont st (deref st b) = [] then
        if val st (deref st a) = val st (deref st b) then .ok (setPointer st (deref st a) (deref st b))
        else if val st (deref st a) = none then .ok (setPointer st (deref st a) (deref st b))
        else if val st (deref st b) = none then .ok (setPointer st (deref st b) (deref st a))
        else .conflict
      else goK (unifyK f) (deref st a) (setPointer st (deref st b) (deref st a)) (cont st (deref st b))

theorem go_eq_goK (f ca : Nat) (ih : ∀ st a b, unify f st a b = unifyK f st a b) :
    ∀ (l : List (String × Nat)) (st : Store), unify.go f ca st l = goK (unifyK f) ca st l
  | [], st => by rw [go_nil]; rfl
  | (g, y) :: rest, st => by
    rw [go_cons, goK, ih]
    cases unifyK f (fieldOf st ca g).1 (fieldOf st ca g).2 y with
    | ok st2 => exact go_eq_goK f ca ih rest st2
    | conflict => rfl
    | fuel => rfl

theorem unify_eq_unifyK : ∀ f st a b, unify f st a b = unifyK f st a b
  | 0, st, a, b => by rw [unify_zero]; rfl
  | f+1, st, a, b => by rw [unify_succ, unifyK, go_eq_goK f _ (unify_eq_unifyK f)]

theorem unify_eq : unify = unifyK := by
  funext f st a b; exact unify_eq_unifyK f st a b

abbrev Unifier := Nat → Store → Nat → Nat → Res

def advanceU (u : Unifier) (G : Grammar) (T : TablesT) (nx s : TState) : TablesT :=
  let (st1, cl) := copy T.store s.1.fs
  match byPath st1 cl ["head"] with
  | none => { T with store := st1 }
  | some left =>
    let (st2, cr) := copy st1 nx.1.fs
    match byPath st2 cr [toString nx.1.dot] with
    | none => { T with store := st2 }
    | some considered =>
      match u (st2.length + 2) st2 considered left with
      | .ok st3 =>
        pushIfNewT G { T with store := st3 } s.1.e
          ({ prod := nx.1.prod, b := nx.1.b, e := s.1.e, dot := nx.1.dot + 1, fs := cr }, addSon nx.2 s.2)
      | _ => { T with store := st2 }

def predictorU (u : Unifier) (G : Grammar) (T : TablesT) (s : TState) : TablesT :=
  match nextSym G s.1 with
  | some (.var v) =>
    let T1 := (G.prods.zip (List.range G.prods.length)).foldl (fun T pk =>
      if pk.1.head = v then
        pushIfNewT G T s.1.e ({ prod := pk.2, b := s.1.e, e := s.1.e, dot := 0, fs := pk.1.feats }, .node (.var pk.1.head) [])
      else T) T
    let snapshot : List TState := (colGet T1.processed s.1.e).flatMap (·.2)
    snapshot.foldl (fun T c =>
      if !(incomplete G c.1) ∧ c.1.b = s.1.e ∧ (prodOf G c.1.prod).head = v then advanceU u G T s c else T) T1
  | _ => T

def completerU (u : Unifier) (G : Grammar) (T : TablesT) (s : TState) : TablesT :=
  let head := (prodOf G s.1.prod).head
  let snapshot : List TState := (colGet T.processed s.1.b).flatMap (·.2)
  snapshot.foldl (fun T nx =>
    if incomplete G nx.1 ∧ nextSym G nx.1 = some (.var head) then advanceU u G T nx s else T) T

def columnLoopU (u : Unifier) (G : Grammar) (word : List String) (i : Nat) : Nat → TablesT → Option TablesT
  | 0, _ => none
  | f+1, T =>
    match (colGet T.chart i).getLast? with
    | none => some T
    | some s =>
      let T0 := { T with chart := T.chart.set i (colGet T.chart i).dropLast }
      let T1 :=
        if incomplete G s.1 then
          match nextSym G s.1 with
          | some (.var _) => predictorU u G T0 s
          | some (.ter t) => if word[i]? = some t then scannerT G T0 s else T0
          | none => T0
        else completerU u G T0 s
      columnLoopU u G word i f T1

def colsU (u : Unifier) (G : Grammar) (word : List String) (fuel : Nat) : List Nat → TablesT → Option TablesT
  | [], T => some T
  | i :: rest, T =>
    match columnLoopU u G word i fuel T with
    | none => none
    | some T' => colsU u G word fuel rest T'

def parseTreeU (u : Unifier) (G : Grammar) (st0 : Store) (word : List String) (fuel : Nat) :
    Option (Option PTree) :=
  let n := word.length
  let first : TState := ({ prod := G.prods.length, b := 0, e := 0, dot := 0, fs := G.gammaFeats }, .node (.var "BEGIN") [])
  let T0 : TablesT := { store := st0, chart := List.replicate (n + 1) [], processed := List.replicate (n + 1) [] }
  let T1 := pushIfNewT G T0 0 first
  match colsU u G word fuel (List.range (n + 1)) T1 with
  | none => none
  | some T3 =>
    some ((((colGet T3.processed n).flatMap (·.2)).find? fun s =>
      s.1.b = 0 ∧ !(incomplete G s.1) ∧ (prodOf G s.1.prod).head = G.start).map (·.2))

theorem advanceU_eq (G : Grammar) (T : TablesT) (nx s : TState) :
    advanceU unify G T nx s = advPushT G T nx s (Lem.advStore T.store s.1.fs nx.1.fs nx.1.dot) := by
  unfold advanceU Lem.advStore
  simp only
  cases byPath (copy T.store s.1.fs).1 (copy T.store s.1.fs).2 ["head"] with
  | none => rfl
  | some left =>
    simp only
    cases byPath (copy (copy T.store s.1.fs).1 nx.1.fs).1 (copy (copy T.store s.1.fs).1 nx.1.fs).2
        [toString nx.1.dot] with
    | none => rfl
    | some considered =>
      simp only
      cases unify ((copy (copy T.store s.1.fs).1 nx.1.fs).1.length + 2)
          (copy (copy T.store s.1.fs).1 nx.1.fs).1 considered left <;> rfl

theorem advanceU_unify : advanceU unify = advanceT := by
  funext G T nx s; rw [advanceU_eq, advanceT_eq]

theorem predictorU_unify : predictorU unify = predictorT := by
  funext G T s; unfold predictorU predictorT; rw [advanceU_unify]; rfl

theorem completerU_unify : completerU unify = completerT := by
  funext G T s; unfold completerU completerT; rw [advanceU_unify]

theorem columnLoopU_unify (G : Grammar) (word : List String) (i f : Nat) (T : TablesT) :
    columnLoopU unify G word i f T = columnLoopT G word i f T := by
  induction f generalizing T with
  | zero => rfl
  | succ f ih =>
    unfold columnLoopU columnLoopT
    simp only [predictorU_unify, completerU_unify, ih]
    rfl

theorem colsU_unify (G : Grammar) (word : List String) (fuel : Nat) (l : List Nat) (T : TablesT) :
    colsU unify G word fuel l T = parseTree.cols G word fuel l T := by
  induction l generalizing T with
  | nil => rfl
  | cons i l ih =>
    unfold colsU parseTree.cols
    simp only [columnLoopU_unify, ih]
    rfl

theorem parseTree_eq_K (G : Grammar) (st0 : Store) (word : List String) (fuel : Nat) :
    parseTree G st0 word fuel = parseTreeU unifyK G st0 word fuel := by
  rw [← unify_eq]
  unfold parseTree parseTreeU
  simp only [colsU_unify]
  rfl

theorem parseTreeSpec_eq_K (spec : List ((String × Feat) × List (Sym × Feat))) (start : String)
    (word : List String) (fuel : Nat) :
    parseTreeSpec spec start word fuel =
      parseTreeU unifyK (buildGrammar spec start).2 (buildGrammar spec start).1 word fuel :=
  parseTree_eq_K _ _ _ _

end Pfl.Earley.Tr.NV
