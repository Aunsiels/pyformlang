/-
Termination of the stack machine of `get_llone_parse_tree`: the order in which the symbols
under one lookahead descend.  `descent`: when the variable `v` is expanded under the lookahead `a`
by the ONLY production of its cell, every symbol of the body that can come on top of the stack
before any input is consumed is strictly smaller than `v` for `phi`: first the class "nullable with
`a` in FOLLOW" below the other class, then the height of the least justification.  The reason is
always that a second production would otherwise sit in the cell.
-/
import Pfl.Proofs.LL1TerminationSets
import Mathlib.Data.Nat.Find
namespace Pfl
namespace LL1Lib
namespace Term
open CFG Lem

open Classical in
/-- the height of the least justification of `a ∈ FIRST(s)` (0 when there is none) -/
noncomputable def rk (G : CFG) (a : Look) (s : Sym) : Nat :=
  if h : ∃ n, FJ G n s a then Nat.find h else 0

theorem rk_spec {G : CFG} {a : Look} {s : Sym} {n : Nat} (h : FJ G n s a) :
    FJ G (rk G a s) s a ∧ rk G a s ≤ n := by
  classical
  have hex : ∃ n, FJ G n s a := ⟨n, h⟩
  unfold rk
  rw [dif_pos hex]
  exact ⟨Nat.find_spec hex, Nat.find_min' hex h⟩

def lt (p q : Nat × Nat) : Prop := p.1 < q.1 ∨ (p.1 = q.1 ∧ p.2 < q.2)

theorem lt_irrefl (p : Nat × Nat) : ¬ lt p p := by
  rintro (h | ⟨_, h⟩) <;> omega

theorem lt_trans {p q r : Nat × Nat} (h1 : lt p q) (h2 : lt q r) : lt p r := by
  rcases h1 with h1 | ⟨e1, h1⟩
  · rcases h2 with h2 | ⟨e2, _⟩
    · exact Or.inl (Nat.lt_trans h1 h2)
    · exact Or.inl (e2 ▸ h1)
  · rcases h2 with h2 | ⟨e2, h2⟩
    · exact Or.inl (e1.symm ▸ h2)
    · exact Or.inr ⟨e1.trans e2, Nat.lt_trans h1 h2⟩

/-- class 1: nullable, and the lookahead is in FOLLOW -/
def T1 (f : Sym → List Look) (fo : Option Sym → List Look) (a : Look) (s : Sym) : Prop :=
  Look.eps ∈ f s ∧ a ∈ fo (some s)

open Classical in
noncomputable def phi (G : CFG) (f : Sym → List Look) (fo : Option Sym → List Look) (a : Look)
    (s : Sym) : Nat × Nat :=
  if T1 f fo a s then (0, rk G .eps s) else (1, rk G a s)

section
variable {G : CFG} {tb : List (String × Look × Pfl.Prod)} {f : Sym → List Look}
  {fo : Option Sym → List Look}

theorem cell_single (H : Facts G tb f fo) {v : String} {a : Look} {e : String × Look × Pfl.Prod}
    (ha : a ≠ Look.eps) (hc : cell tb v a = [e]) :
    e.2.2 ∈ G.prods ∧ e.2.2.1 = v ∧
      (Lem.Reach f e.2.2.2 a ∨ ((∀ y ∈ e.2.2.2, Look.eps ∈ f y) ∧ a ∈ fo (some (.var v)))) ∧
      ∀ q, (v, a, q) ∈ tb → q = e.2.2 := by
  obtain ⟨hetb, rfl, rfl⟩ := mem_of_cell_single hc
  obtain ⟨hp, hv, hpred⟩ := (H.tb_iff e.1 e.2.1 e.2.2 ha).mp hetb
  refine ⟨hp, hv.symm, hv ▸ hpred, fun q hq => ?_⟩
  have := (mem_cell tb _ _ (e.1, e.2.1, q)).mpr ⟨hq, rfl, rfl⟩
  rw [hc] at this
  exact congrArg (·.2.2) (List.mem_singleton.mp this)

theorem eps_not_ter (H : Facts G tb f fo) (t : String) : Look.eps ∉ f (.ter t) := by
  intro h
  obtain ⟨n, hj⟩ := H.just _ _ h
  cases hj.ter_inv

theorem Facts.mem_body (H : Facts G tb f fo) {p : Pfl.Prod} (hp : p ∈ G.prods) {y : Sym}
    (hy : y ∈ p.2) {n : Nat} {a : Look} (hj : FJ G n y a) : a ∈ f y :=
  H.mem n y a hj fun t e => H.wf.ter_mem p hp t (e ▸ hy)

theorem first_witness (H : Facts G tb f fo) {v : String} {a : Look} {e : String × Look × Pfl.Prod}
    (ha : a ≠ Look.eps) (hc : cell tb v a = [e]) (hf : a ∈ f (.var v)) :
    ∃ α Z β, e.2.2.2 = α ++ Z :: β ∧ (∀ y ∈ α, Look.eps ∈ f y) ∧ a ∈ f Z ∧
      rk G a Z < rk G a (.var v) := by
  obtain ⟨n, hj⟩ := H.just _ _ hf
  obtain ⟨m, body, α, Z, β, hm, hp, hb, h1, h2⟩ := (rk_spec hj).1.first_inv ha
  have hα : ∀ y ∈ α, Look.eps ∈ f y := fun s hs =>
    H.mem_body hp (hb ▸ List.mem_append_left _ hs) (h1 s hs)
  have hZ : a ∈ f Z := H.mem_body hp (hb ▸ List.mem_append_right _ List.mem_cons_self) h2
  have hin : (v, a, (v, body)) ∈ tb := (H.tb_iff v a (v, body) ha).mpr
    ⟨hp, rfl, Or.inl (reach_iff_split.mpr ⟨α, Z, β, hb, hα, hZ⟩)⟩
  have := (cell_single H ha hc).2.2.2 _ hin
  refine ⟨α, Z, β, ?_, hα, hZ, Nat.lt_of_le_of_lt (rk_spec h2).2 (hm ▸ Nat.lt_succ_self m)⟩
  rw [← this]; exact hb

theorem eps_witness (H : Facts G tb f fo) {v : String} {a : Look} {e : String × Look × Pfl.Prod}
    (ha : a ≠ Look.eps) (hc : cell tb v a = [e]) (hT : T1 f fo a (.var v)) :
    ∀ s ∈ e.2.2.2, Look.eps ∈ f s ∧ rk G .eps s < rk G .eps (.var v) := by
  obtain ⟨n, hj⟩ := H.just _ _ hT.1
  obtain ⟨m, body, hm, hp, hb⟩ := (rk_spec hj).1.eps_inv
  have hmem : ∀ y ∈ body, Look.eps ∈ f y := fun y hy => H.mem_body hp hy (hb y hy)
  have hin : (v, a, (v, body)) ∈ tb := (H.tb_iff v a (v, body) ha).mpr ⟨hp, rfl, Or.inr ⟨hmem, hT.2⟩⟩
  rw [← (cell_single H ha hc).2.2.2 _ hin]
  exact fun s hs => ⟨hmem s hs, Nat.lt_of_le_of_lt (rk_spec (hb s hs)).2 (hm ▸ Nat.lt_succ_self m)⟩

theorem nofirst (H : Facts G tb f fo) {v : String} {a : Look} {e : String × Look × Pfl.Prod}
    (ha : a ≠ Look.eps) (hc : cell tb v a = [e]) (hn : ∀ y ∈ e.2.2.2, a ∉ f y) : a ∉ f (.var v) := by
  intro hf
  obtain ⟨α, Z, β, hb, _, hZ, _⟩ := first_witness H ha hc hf
  exact hn Z (by rw [hb]; simp) hZ

theorem descent (H : Facts G tb f fo) {v : String} {a : Look} {e : String × Look × Pfl.Prod}
    (ha : a ≠ Look.eps) (hc : cell tb v a = [e]) (pre : List Sym) (s : Sym) (post : List Sym)
    (hb : e.2.2.2 = pre ++ s :: post) (hpre : ∀ y ∈ pre, a ∉ f y) :
    lt (phi G f fo a s) (phi G f fo a (.var v)) := by
  classical
  obtain ⟨hp, hv, hpred, _⟩ := cell_single H ha hc
  by_cases hT : T1 f fo a (.var v)
  · -- class 1: the whole body is nullable with `a` in FOLLOW, at smaller heights
    have hall := eps_witness H ha hc hT
    have hTs : T1 f fo a s := by
      refine ⟨(hall s (by rw [hb]; simp)).1, ?_⟩
      refine H.fo2 _ hp pre s post a hb (fun y hy => (hall y (by rw [hb]; simp [hy])).1) ?_
      rw [hv]; exact hT.2
    unfold phi
    rw [if_pos hTs, if_pos hT]
    exact Or.inr ⟨rfl, (hall s (by rw [hb]; simp)).2⟩
  · -- class 2
    have hr : Lem.Reach f e.2.2.2 a := by
      rcases hpred with h | ⟨h1, h2⟩
      · exact h
      · exfalso
        apply hT
        refine ⟨?_, h2⟩
        obtain ⟨n, g⟩ := FJ.all_common e.2.2.2 (fun y hy => H.just _ _ (h1 y hy))
        have := H.mem (n + 1) (.var e.2.2.1) .eps (.eps n e.2.2.1 e.2.2.2 hp g) (by intro t e'; cases e')
        rw [hv] at this; exact this
    have hf : a ∈ f (.var v) := by
      obtain ⟨n, g⟩ := fp_just H.just e.2.2 hp a ⟨hr, fun e' => absurd e' ha⟩
      have := H.mem n _ a g (by intro t e'; cases e')
      rw [hv] at this; exact this
    obtain ⟨α, Z, β, hb', hαf, hZf, hrk⟩ := first_witness H ha hc hf
    unfold phi
    rw [if_neg hT]
    -- where is `s` with respect to `Z`?
    rcases LL1.split2 α (Z :: β) pre post s (hb'.symm.trans hb) with ⟨y2, e1, e2⟩ | ⟨z1, e2, e1⟩
    · -- strictly before `Z`: nullable, with `a` in FOLLOW
      have hTs : T1 f fo a s := by
        refine ⟨hαf s (by rw [e1]; simp), H.fo1 _ hp pre s post a hb ha ?_⟩
        exact reach_iff_split.mpr ⟨y2, Z, β, e2, fun y hy => hαf y (by rw [e1]; simp [hy]), hZf⟩
      rw [if_pos hTs]; exact Or.inl Nat.zero_lt_one
    · cases z1 with
      | nil =>
        -- `s` is `Z`: the class is not larger, and in the same class the height is smaller
        obtain ⟨rfl, _⟩ := List.cons.inj e2
        by_cases hTs : T1 f fo a Z
        · rw [if_pos hTs]; exact Or.inl Nat.zero_lt_one
        · rw [if_neg hTs]; exact Or.inr ⟨rfl, hrk⟩
      | cons x z1 =>
        -- `Z` lies in `pre`, where no symbol has `a` in FIRST
        obtain ⟨rfl, _⟩ := List.cons.inj e2
        exact absurd hZf (hpre Z (by rw [e1]; simp))

end

end Term
end LL1Lib
end Pfl
