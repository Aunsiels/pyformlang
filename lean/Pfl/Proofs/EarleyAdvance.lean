/-
The store side of `advance` (`Lem.advStore`), walked once for soundness, completeness and
termination: a copy `cl` of the object of the completed state, a copy `cr` of the object of the
waiting state, the unification of the head record of the first with the record after the dot of the
second.  `CopyOut` and `UnifyOut` say what the walk uses of the two operations, `AdvWalk` names the
stores and objects it passes through, `adv_walk` produces it on any well-formed store.  What needs
the further store facts `SX` of completeness is stated under that hypothesis.
-/
import Pfl.Proofs.EarleyCompleteStore
import Pfl.Proofs.EarleyLemmasCopy
import Pfl.Proofs.EarleyColumns
namespace Pfl
namespace Earley
namespace Lem
open FsDag FsDag.Lem

/-- the store `st'` is a later version of `st` -/
structure Step (P : String → Prop) (st : Store) (rk : Nat → Nat) (st' : Store) (rk' : Nat → Nat) :
    Prop where
  len : st.length ≤ st'.length
  rk : ∀ i, i < st.length → rk' i = rk i
  sim : ∀ F, F < st.length → Sim P st F st' F

theorem Step.refl (P : String → Prop) (st : Store) (rk : Nat → Nat) : Step P st rk st rk :=
  ⟨Nat.le_refl _, fun _ _ => rfl, fun F _ => Sim.refl P st F⟩

theorem Step.trans {P : String → Prop} {st st1 st2 : Store} {rk rk1 rk2 : Nat → Nat}
    (h1 : Step P st rk st1 rk1) (h2 : Step P st1 rk1 st2 rk2) : Step P st rk st2 rk2 :=
  ⟨Nat.le_trans h1.len h2.len,
   fun i hi => by rw [h2.rk i (Nat.lt_of_lt_of_le hi h1.len), h1.rk i hi],
   fun F hF => (h1.sim F hF).trans (h2.sim F (Nat.lt_of_lt_of_le hF h1.len))⟩

/-- on a well-formed store `copy` meets its specification: "rank, then height in the pointer
chain" is a well-founded order in which pointers and features go down -/
theorem wfs_copySpec {st : Store} {rk : Nat → Nat} {F : Nat} (hw : WFS st rk) (hF : F < st.length) :
    ∃ κ dom π, CopySpec st F (copy st F).1 (copy st F).2 κ dom π := by
  obtain ⟨h, hh⟩ := id hw.inv.acyc
  exact copy_spec (F := F) hw.rng hw.inv.acyc hF
    (fun a b => rk a < rk b ∨ (rk a = rk b ∧ h a < h b))
    (fun a ha => ha.elim (Nat.lt_irrefl _) fun ha => Nat.lt_irrefl _ ha.2)
    (fun a b c h1 h2 => by
      rcases h1 with h1 | ⟨e1, h1⟩
      · exact Or.inl (h2.elim (Nat.lt_trans h1) fun h2 => h2.1 ▸ h1)
      · rw [e1]; exact h2.imp id fun h2 => ⟨h2.1, Nat.lt_trans h1 h2.2⟩)
    (fun i j hp => Or.inr ⟨(hw.inv.rkp i j hp).symm, hh i j hp⟩)
    (fun i g x hx => Or.inl ((hw.inv.rkc i g x hx).1 ▸ crE_lt _ g (hw.inv.rkc i g x hx).2))

theorem rk_child {st : Store} {rk : Nat → Nat} (hw : WFS st rk) {F x : Nat} {g : String}
    (h : byPath st F [g] = some x) : rk x + 1 = rk F :=
  rk_lookup hw.inv ((byPath_one st F g).symm.trans h)

end Lem

namespace Cmp
open FsDag Lem

/-- what `advance` uses of a copy of the object `F`: the extended store `st1` with its rank
function, the invariants it keeps, the paths and the valuations of the copy `F'` -/
structure CopyOut (P : String → Prop) (st : Store) (rk : Nat → Nat) (F : Nat) (st1 : Store)
    (F' : Nat) (rk1 : Nat → Nat) : Prop where
  fr : Fr st st1
  wf : WFS st1 rk1
  sx : SX P st rk → SX P st1 rk1
  nv : NoVal st → NoVal st1
  step : Lem.Step P st rk st1 rk1
  lt : F' < st1.length
  rkF : rk1 F' = rk F
  path : ∀ p n, byPath st F p = some n → ∃ n', byPath st1 F' p = some n'
  /-- the classes reached from the copy are new objects -/
  ge : ∀ p u, (byPath st1 F' p).map (deref st1) = some u → st.length ≤ u
  sim : Sim P st F st1 F'
  /-- the renaming of the copied objects, for what the fields above do not say -/
  spec : ∃ κ dom π, CopySpec st F st1 F' κ dom π
  fwd : ∀ σ τ, Resp P st σ → Resp P st τ → ∃ σ1, Resp P st1 σ1 ∧
    (∀ G p, G < st.length → rdv st1 σ1 G p = rdv st σ G p) ∧
    (∀ p, rdv st1 σ1 F' p = rdv st τ F p)

theorem copy_out (P : String → Prop) {st : Store} {rk : Nat → Nat} {F : Nat} (hw : WFS st rk)
    (hF : F < st.length) : ∃ rk1, CopyOut P st rk F (copy st F).1 (copy st F).2 rk1 := by
  obtain ⟨κ, dom, π, hc⟩ := wfs_copySpec hw hF
  have hr := hw.rng
  have ha := hw.inv.acyc
  refine ⟨_, hc.fr, hc.wfs hw, fun hsx => ⟨copy_kf hc hsx.kf, copy_vr hc hr ha hsx.vr,
      copy_alln hc hr hsx.alln, copy_ap hc hsx.ap⟩, copy_noval hc,
    ⟨hc.fr.len, fun j hj => by simp only [proj_old hj], fun G hG => hc.fr.sim P ha hr hG⟩, ?_, ?_,
    fun p n hp => ⟨_, hc.κF ▸ (hc.byPath_κ hr ha p F n hc.domF hp).2⟩,
    fun p u => derefPath_copy_ge hc hr ha, hc.sim P hr ha, ⟨κ, dom, π, hc⟩,
    fun σ τ hσ hτ => ⟨_, copy_fwd hc hr ha hσ hτ⟩⟩
  · rw [← hc.κF]; exact (hc.rng _ hc.domF).2
  · show rk (proj st π (copy st F).2) = rk F
    rw [← hc.κF, hc.proj_κ hc.domF]

/-- what `advance` uses of a successful unification of two symbol records; `sx`: the store facts of
completeness survive, the objects outside `Touched` are as they were and that set is still closed -/
structure UnifyOut (P : String → Prop) (st : Store) (rk : Nat → Nat) (a b : Nat) (st' : Store)
    (rk' : Nat → Nat) : Prop where
  wf : WFS st' rk'
  ext : Ext st rk st' rk' 1
  step : Lem.Step P st rk st' rk'
  cls : deref st' a = deref st' b
  path : ∀ p i n, i < st.length → byPath st i p = some n →
    ∃ n', byPath st' i p = some n' ∧ deref st' n' = deref st' n
  sx : SX P st rk → SX P st' rk' ∧ UPost (Touched st a b) (TouchedLab st a b) st st'

theorem unify_out (P : String → Prop) {st : Store} {rk : Nat → Nat} {a b f : Nat} {st' : Store}
    (hw : WFS st rk) (ha : a < st.length) (hb : b < st.length)
    (hra : rk a = 1) (hrb : rk b = 1) (hu : unify f st a b = .ok st') :
    ∃ rk', UnifyOut P st rk a b st' rk' := by
  obtain ⟨rk', hw', he, hder⟩ := (unify_wf crE_lt hw.wf ha hb hra hrb f).2.1 st' hu
  have hw1 : WFS st' rk' := .of_wf hw'
  exact ⟨rk', hw1, he, ⟨he.len, he.rkold, fun _ hF => sim_of_ext P hw hw1 he hF⟩, hder,
    fun p _ _ => path_pres he hw.rng hw.inv.acyc hw'.cc p,
    fun hsx => unify_sx hw hsx ha hb hra hrb he hu⟩

theorem UnifyOut.deref_deref {P : String → Prop} {st : Store} {rk rk' : Nat → Nat} {a b : Nat}
    {st' : Store} (u : UnifyOut P st rk a b st' rk') (hw : WFS st rk) {z : Nat}
    (hz : z < st.length) : deref st' z = deref st' (deref st z) :=
  u.ext.e1 z _ hz (deref_lt hw.rng hz) (deref_idem hw.inv.acyc z).symm

theorem near_path {st : Store} {F r u : Nat} {g : String} (hF : byPath st F [g] = some r)
    (h : NearC st (deref st r) u) : ∃ p, (byPath st F p).map (deref st) = some u := by
  rcases h with rfl | ⟨x, hx, rfl⟩
  · exact ⟨[g], by rw [hF]; rfl⟩
  · refine ⟨[g] ++ ["n"], ?_⟩
    rw [byPath_append, hF]
    show (byPath st r ["n"]).map _ = _
    rw [byPath_cons_of [] hx]; rfl

/-- the anatomy of `advStore st sfs nxfs dot`: a copy `cl` of `sfs` in `st1`, then a copy `cr`
of `nxfs` in `st2`; the head record `left` of the first and the record `considered` under `dot` of
the second are unified, and when that succeeds the result is the new store with `cr` -/
structure AdvWalk (P : String → Prop) (st : Store) (rk : Nat → Nat) (sfs nxfs dot : Nat)
    (st1 : Store) (cl : Nat) (rk1 : Nat → Nat) (st2 : Store) (cr : Nat) (rk2 : Nat → Nat)
    (left considered : Nat) : Prop where
  o1 : CopyOut P st rk sfs st1 cl rk1
  o2 : CopyOut P st1 rk1 nxfs st2 cr rk2
  left2 : byPath st2 cl ["head"] = some left
  cons0 : byPath st2 cr [toString dot] = some considered
  rkcr : rk2 cr = 2
  rkcons : rk2 considered = 1
  rkleft : rk2 left = 1
  eq : advStore st sfs nxfs dot = match unify (st2.length + 2) st2 considered left with
    | .ok st3 => .inr (st3, cr)
    | _ => .inl st2
  ok : ∀ st3, unify (st2.length + 2) st2 considered left = .ok st3 →
    ∃ rk3, UnifyOut P st2 rk2 considered left st3 rk3

theorem adv_walk (P : String → Prop) {st : Store} {rk : Nat → Nat} {sfs nxfs : Nat}
    (hw : WFS st rk) (hs : sfs < st.length) (hnx : nxfs < st.length) (hrs : rk sfs = 2)
    (hrnx : rk nxfs = 2) (dot : Nat) :
    (∃ st' rk', advStore st sfs nxfs dot = .inl st' ∧ WFS st' rk' ∧ Step P st rk st' rk' ∧
      (byPath st sfs ["head"] = none ∨ byPath st nxfs [toString dot] = none)) ∨
    ∃ st1 cl rk1 st2 cr rk2 left considered,
      AdvWalk P st rk sfs nxfs dot st1 cl rk1 st2 cr rk2 left considered := by
  obtain ⟨rk1, o1⟩ := copy_out P hw hs
  have hnx1 : nxfs < (copy st sfs).1.length := Nat.lt_of_lt_of_le hnx o1.fr.len
  obtain ⟨rk2, o2⟩ := copy_out P o1.wf hnx1
  have old1 : ∀ p, byPath (copy st sfs).1 nxfs p = byPath st nxfs p := fun p =>
    o1.fr.byPath_eq hw.inv.acyc hw.rng p hnx
  cases hleft : byPath (copy st sfs).1 (copy st sfs).2 ["head"] with
  | none =>
    refine Or.inl ⟨_, rk1, by unfold advStore; rw [hleft], o1.wf, o1.step, Or.inl ?_⟩
    cases hb : byPath st sfs ["head"] with
    | none => rfl
    | some n => obtain ⟨n', hn'⟩ := o1.path _ n hb; rw [hleft] at hn'; cases hn'
  | some left =>
    cases hcons : byPath (copy (copy st sfs).1 nxfs).1 (copy (copy st sfs).1 nxfs).2
        [toString dot] with
    | none =>
      refine Or.inl ⟨_, rk2, by unfold advStore; rw [hleft]; simp only; rw [hcons],
        o2.wf, o1.step.trans o2.step, Or.inr ?_⟩
      cases hb : byPath st nxfs [toString dot] with
      | none => rfl
      | some n =>
        obtain ⟨n', hn'⟩ := o2.path _ n ((old1 _).trans hb); rw [hcons] at hn'; cases hn'
    | some considered =>
      have hleftlt : left < (copy st sfs).1.length := byPath_lt o1.wf.rng _ _ _ o1.lt hleft
      have hrk2cr : rk2 (copy (copy st sfs).1 nxfs).2 = 2 := by
        rw [o2.rkF, o1.step.rk _ hnx]; exact hrnx
      have hrk2cons : rk2 considered = 1 :=
        Nat.succ.inj (by rw [Nat.succ_eq_add_one, rk_child o2.wf hcons, hrk2cr])
      have hrk2left : rk2 left = 1 := Nat.succ.inj (by
        rw [Nat.succ_eq_add_one, o2.step.rk _ hleftlt, rk_child o1.wf hleft, o1.rkF]; exact hrs)
      refine Or.inr ⟨_, _, rk1, _, _, rk2, left, considered, o1, o2,
        (o2.fr.byPath_eq o1.wf.inv.acyc o1.wf.rng _ o1.lt).trans hleft, hcons, hrk2cr, hrk2cons,
        hrk2left, ?_, fun st3 hun => unify_out P o2.wf (byPath_lt o2.wf.rng _ _ _ o2.lt hcons)
          (Nat.lt_of_lt_of_le hleftlt o2.fr.len) hrk2cons hrk2left hun⟩
      unfold advStore
      rw [hleft]; simp only; rw [hcons]; rfl

section
variable {P : String → Prop} {st : Store} {rk : Nat → Nat} {sfs nxfs dot : Nat} {st1 : Store}
  {cl : Nat} {rk1 : Nat → Nat} {st2 : Store} {cr : Nat} {rk2 : Nat → Nat} {left considered : Nat}
  (W : AdvWalk P st rk sfs nxfs dot st1 cl rk1 st2 cr rk2 left considered)
include W

theorem AdvWalk.fr : Fr st st2 := W.o1.fr.trans W.o2.fr

theorem AdvWalk.step : Step P st rk st2 rk2 := W.o1.step.trans W.o2.step

theorem AdvWalk.sx (hsx : SX P st rk) : SX P st2 rk2 := W.o2.sx (W.o1.sx hsx)

theorem AdvWalk.cl_lt : cl < st2.length := Nat.lt_of_lt_of_le W.o1.lt W.o2.fr.len

variable {st3 : Store} {rk3 : Nat → Nat} (u : UnifyOut P st2 rk2 considered left st3 rk3)
include u

theorem AdvWalk.link : byPath st3 cr [toString dot, "n"] = byPath st3 cl ["head", "n"] := by
  obtain ⟨l', hl', hdl'⟩ := u.path _ _ _ W.cl_lt W.left2
  obtain ⟨c', hc', hdc'⟩ := u.path _ _ _ W.o2.lt W.cons0
  exact byPath_link hc' hl' (by rw [hdc', hdl', u.cls]) "n"

theorem AdvWalk.simA (hnx : nxfs < st.length) : Sim P st nxfs st3 cr :=
  ((W.o1.step.sim _ hnx).trans W.o2.sim).trans (u.step.sim _ W.o2.lt)

theorem AdvWalk.simB : Sim P st sfs st3 cl :=
  (W.o1.sim.trans (W.o2.step.sim _ W.o1.lt)).trans (u.step.sim _ W.cl_lt)

theorem AdvWalk.path3 (hw : WFS st rk) (hnx : nxfs < st.length) {p : List String} {r : Nat}
    (hp : byPath st nxfs p = some r) : ∃ r', byPath st3 cr p = some r' := by
  obtain ⟨r2, h2⟩ := W.o2.path p r ((W.o1.fr.byPath_eq hw.inv.acyc hw.rng p hnx).trans hp)
  obtain ⟨r', hr', _⟩ := u.path _ _ _ W.o2.lt h2
  exact ⟨r', hr'⟩

/-- the touched classes are reached from the two copies, hence new: the old store is not touched -/
theorem AdvWalk.fr3 (hw : WFS st rk) (hsx : SX P st rk) : Fr st st3 := by
  refine ⟨Nat.le_trans W.fr.len u.step.len, fun j hj => ?_⟩
  rw [← W.fr.old j hj]
  refine (u.sx (W.sx hsx)).2.frame j ?_
  have hd : deref st2 j < st.length := by
    rw [W.fr.deref_eq hw.inv.acyc hw.rng hj]; exact deref_lt hw.rng hj
  rintro (h | h | h)
  · exact absurd (Nat.lt_of_lt_of_le hj W.fr.len) (Nat.not_lt.2 h)
  · obtain ⟨p, hp⟩ := near_path W.cons0 h
    exact absurd hd (Nat.not_lt.2 (Nat.le_trans W.o1.fr.len (W.o2.ge p _ hp)))
  · obtain ⟨p, hp⟩ := near_path W.left2 h
    rw [derefPath_fr W.o2.fr W.o1.wf.inv.acyc W.o1.wf.rng W.o1.lt] at hp
    exact absurd hd (Nat.not_lt.2 (W.o1.ge p _ hp))

end

end Cmp
end Earley
end Pfl
