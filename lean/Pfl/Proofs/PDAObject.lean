/-
The PDA object model (`Pfl/Model/PDAObject.lean`): the table invariant `TInv`, what `addT` does to the
set of transitions (`edges`), that every mutator call keeps `PDA.WF` (`step_wf`, `run_wf`), and what
adding a list of transitions one after the other does (`foldl_addE`), which is all a history and the
table copy `copyT` do to the table.  The table is an association list handled by `Assoc.get/set`.
-/
import Pfl.Model.PDAObject
import Pfl.Proofs.PDAModes
import Pfl.Proofs.FAObject
import Mathlib.Data.List.Nodup
namespace Pfl
namespace PDAObj

/-- the shape of every table reachable through the API: unique keys, no outcome twice -/
def TInv (T : Table) : Prop := (T.map (·.1)).Nodup ∧ ∀ e ∈ T, e.2.Nodup

namespace P

theorem tabGet_eq (T : Table) (k : Key) : tabGet T k = Assoc.get T k := rfl
theorem tabSet_eq (T : Table) (k : Key) (v : List Outcome) : tabSet T k v = Assoc.set T k v := rfl

theorem tinv_nil : TInv [] := by
  constructor
  · simp
  · intro e he; simp at he

theorem edges_nil : edges [] = [] := rfl

theorem edges_cons (e : Key × List Outcome) (T : Table) :
    edges (e :: T) = (e.2.map fun out => (e.1.1, e.1.2.1, e.1.2.2, out.1, out.2)) ++ edges T := by
  simp [edges]

theorem mem_edges_iff (T : Table) (q : String) (a : Option String) (x q2 : String) (push : List String) :
    (q, a, x, q2, push) ∈ edges T ↔ ∃ outs, ((q, a, x), outs) ∈ T ∧ (q2, push) ∈ outs := by
  unfold edges
  simp only [List.mem_flatMap, List.mem_map, Prod.mk.injEq]
  constructor
  · rintro ⟨⟨⟨k1, k2, k3⟩, outs⟩, he, ⟨o1, o2⟩, ho, h1, h2, h3, h4, h5⟩
    simp only at h1 h2 h3 h4 h5
    subst h1 h2 h3 h4 h5
    exact ⟨outs, he, ho⟩
  · rintro ⟨outs, h1, h2⟩
    exact ⟨_, h1, _, h2, rfl, rfl, rfl, rfl, rfl⟩

theorem mem_edges_get {T : Table} (hi : TInv T) (q : String) (a : Option String) (x q2 : String)
    (push : List String) :
    (q, a, x, q2, push) ∈ edges T ↔ ∃ outs, tabGet T (q, a, x) = some outs ∧ (q2, push) ∈ outs := by
  rw [mem_edges_iff]
  simp only [tabGet_eq, Assoc.get_eq_some_iff hi.1]

theorem addT_eq {T : Table} (hi : TInv T) (k : Key) (out : Outcome) :
    ∃ v, addT T k out = tabSet T k v ∧ v.Nodup ∧
      ∀ o, o ∈ v ↔ o = out ∨ ∃ outs, tabGet T k = some outs ∧ o ∈ outs := by
  unfold addT
  cases h : tabGet T k with
  | none => exact ⟨[out], rfl, by simp, by simp⟩
  | some outs =>
    refine ⟨_, rfl, nodup_insert_end (hi.2 (k, outs) (Assoc.mem_of_get h)), fun o => ?_⟩
    rw [mem_insert_end]
    simp only [Option.some.injEq, exists_eq_left']

theorem tinv_tabSet {T : Table} (hi : TInv T) (k : Key) {v : List Outcome} (hv : v.Nodup) :
    TInv (tabSet T k v) := by
  rw [tabSet_eq]
  exact ⟨Assoc.keys_set_nodup k v hi.1, Assoc.forall_mem_set hv hi.2⟩

theorem addT_spec {T : Table} (hi : TInv T) (k : Key) (out : Outcome) :
    TInv (addT T k out) ∧
      ∀ t, t ∈ edges (addT T k out) ↔ t = (k.1, k.2.1, k.2.2, out.1, out.2) ∨ t ∈ edges T := by
  obtain ⟨v, heq, hv, hm⟩ := addT_eq hi k out
  have hi' : TInv (addT T k out) := by rw [heq]; exact tinv_tabSet hi k hv
  refine ⟨hi', ?_⟩
  rintro ⟨q, a, x, q2, push⟩
  obtain ⟨k1, k2, k3⟩ := k
  obtain ⟨o1, o2⟩ := out
  rw [mem_edges_get hi', mem_edges_get hi, heq, tabSet_eq, tabGet_eq, Assoc.get_set]
  by_cases hk : ((q, a, x) : Key) = (k1, k2, k3)
  · rw [if_pos hk]
    simp only [Prod.mk.injEq] at hk
    obtain ⟨rfl, rfl, rfl⟩ := hk
    simp only [Option.some.injEq, exists_eq_left', hm, Prod.mk.injEq, true_and, tabGet_eq]
  · rw [if_neg hk]
    simp only [Prod.mk.injEq] at hk ⊢
    constructor
    · exact Or.inr
    · rintro (⟨h1, h2, h3, -⟩ | h)
      · exact absurd ⟨h1, h2, h3⟩ hk
      · exact h

theorem run_cons (o : Obj) (op : Op) (ops : List Op) : run o (op :: ops) = run (step o op) ops := rfl

theorem numTransitions_eq (T : Table) : numTransitions T = (edges T).length := by
  induction T with
  | nil => rfl
  | cons e T ih =>
    rw [edges_cons, List.length_append, List.length_map, ← ih]
    simp [numTransitions]

theorem mem_ins {x y : String} {l : List String} : y ∈ ins x l ↔ y = x ∨ y ∈ l := mem_insert_end

theorem mem_ins_self {x : String} {l : List String} : x ∈ ins x l := mem_ins.2 (.inl rfl)

theorem mem_ins_of_mem {x y : String} {l : List String} (h : y ∈ l) : y ∈ ins x l :=
  mem_ins.2 (.inr h)

theorem mem_insAll {xs l : List String} {y : String} : y ∈ insAll xs l ↔ y ∈ xs ∨ y ∈ l :=
  (mem_foldl_insert_end xs l y).trans or_comm

-- with `ins` reducible the unifier unfolds it before it looks at the record the set sits in
attribute [local irreducible] ins insAll in
theorem step_wf {o : Obj} (op : Op) (hi : TInv o.trans) (hwf : (toPDA o).WF) :
    (toPDA (step o op)).WF ∧ TInv (step o op).trans := by
  cases op with
  | addT q a x q2 push =>
    have hs := addT_spec hi (q, a, x) (q2, push)
    refine ⟨hwf.grow (fun _ h => mem_ins_of_mem (mem_ins_of_mem h))
      (fun _ h => mem_insAll.2 (.inr (mem_ins_of_mem h))) ?_ ?_ (fun _ => .inl) (fun _ => .inl)
      (fun _ => .inl), hs.1⟩
    · intro c hc
      cases a with
      | none => exact hc
      | some _ => exact mem_ins_of_mem hc
    · intro t ht
      rcases (hs.2 t).1 ht with rfl | h
      · refine .inr ⟨mem_ins_of_mem mem_ins_self, mem_ins_self, mem_insAll.2 (.inr mem_ins_self),
          fun y hy => mem_insAll.2 (.inl hy), ?_⟩
        rintro c rfl
        exact mem_ins_self
      · exact .inl h
  | setStart q =>
    refine ⟨hwf.grow (fun _ => mem_ins_of_mem) (fun _ => id) (fun _ => id) (fun _ => .inl) ?_
      (fun _ => .inl) (fun _ => .inl), hi⟩
    rintro s ⟨⟩
    exact .inr mem_ins_self
  | setStartStack z =>
    refine ⟨hwf.grow (fun _ => id) (fun _ => mem_ins_of_mem) (fun _ => id) (fun _ => .inl)
      (fun _ => .inl) ?_ (fun _ => .inl), hi⟩
    rintro z' ⟨⟩
    exact .inr mem_ins_self
  | addFinal q =>
    refine ⟨hwf.grow (fun _ => mem_ins_of_mem) (fun _ => id) (fun _ => id) (fun _ => .inl)
      (fun _ => .inl) (fun _ => .inl) ?_, hi⟩
    intro f hf
    exact (mem_ins.1 hf).elim (fun e => .inr (e ▸ mem_ins_self)) .inl

theorem run_wf (o : Obj) (ops : List Op) (hi : TInv o.trans) (hwf : (toPDA o).WF) :
    (toPDA (run o ops)).WF ∧ TInv (run o ops).trans :=
  List.foldlRecOn (motive := fun o => (toPDA o).WF ∧ TInv o.trans) ops step ⟨hwf, hi⟩
    fun _ h op _ => step_wf op h.2 h.1

/-- `add_transition` of the table, on a transition as the value model writes it -/
def addE (T : Table) (t : String × Option String × String × String × List String) : Table :=
  addT T (t.1, t.2.1, t.2.2.1) (t.2.2.2.1, t.2.2.2.2)

theorem foldl_addE (L : List (String × Option String × String × String × List String)) {T : Table}
    (hi : TInv T) :
    TInv (L.foldl addE T) ∧ ∀ t, t ∈ edges (L.foldl addE T) ↔ t ∈ edges T ∨ t ∈ L := by
  induction L generalizing T with
  | nil => exact ⟨hi, by simp⟩
  | cons e L ih =>
    have hs : TInv (addE T e) ∧ ∀ t, t ∈ edges (addE T e) ↔ t = e ∨ t ∈ edges T := addT_spec hi _ _
    refine ⟨(ih hs.1).1, fun t => ?_⟩
    rw [List.foldl_cons, (ih hs.1).2, hs.2 t, List.mem_cons, or_assoc, or_left_comm]

theorem run_trans (o : Obj) (ops : List Op) : (run o ops).trans = (added ops).foldl addE o.trans := by
  induction ops generalizing o with
  | nil => rfl
  | cons op ops ih =>
    rw [run_cons, ih]
    cases op <;> rfl

theorem copyT_eq (T : Table) : copyT T = (edges T).foldl addE [] := by
  simp only [copyT, edges, List.foldl_flatMap, List.foldl_map]
  rfl

theorem copyT_spec {T : Table} (hi : TInv T) :
    TInv (copyT T) ∧ ∀ t, t ∈ edges (copyT T) ↔ t ∈ edges T := by
  have _ := hi
  rw [copyT_eq]
  refine ⟨(foldl_addE _ tinv_nil).1, fun t => ?_⟩
  rw [(foldl_addE _ tinv_nil).2, edges_nil]
  simp

end P
end PDAObj
end Pfl
