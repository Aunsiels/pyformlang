/-
Specification of `copy` (deep copy with memo, preserving sharing) of the Earley model (C18), relative
to any strict order `Lt` on objects in which pointers and features go down.  `st0` is the store before
the copy, never changed.  An object enters the memo only after its children, so every memo entry is
finished (`EntryOK`).  Termination within the fuel `|st0| + 1`: the recursion carries a ghost list `l`
of pairwise distinct objects of `st0` (its ancestors), and "fuel + |l| > |st0|" is kept.
-/
import Pfl.Proofs.EarleyLemmasDefs
import Pfl.Proofs.Assoc
import Mathlib.Data.List.Nodup
namespace Pfl
namespace Earley
namespace Lem
open FsDag FsDag.Lem

namespace Copy

/-- one step of the content loop of `copyF` for the in-progress object `n` -/
def stepC (f n : Nat) (acc : Store × List (Nat × Nat)) (fc : String × Nat) :
    Store × List (Nat × Nat) :=
  ((copyF f acc.1 acc.2 fc.2).1.set n
    { get (copyF f acc.1 acc.2 fc.2).1 n with
      content := (get (copyF f acc.1 acc.2 fc.2).1 n).content ++ [(fc.1, (copyF f acc.1 acc.2 fc.2).2.2)] },
   (copyF f acc.1 acc.2 fc.2).2.1)

/-- the pointer step of `copyF` for the in-progress object `n` -/
def stepP (f n : Nat) (st : Store) (memo : List (Nat × Nat)) : Option Nat → Store × List (Nat × Nat)
  | some p => ((copyF f st memo p).1.set n
      { get (copyF f st memo p).1 n with pointer := some (copyF f st memo p).2.2 },
      (copyF f st memo p).2.1)
  | none => (st, memo)

theorem copyF_zero (st : Store) (memo : List (Nat × Nat)) (i : Nat) :
    copyF 0 st memo i = (st, memo, i) := rfl

theorem copyF_succ_some {f : Nat} {st : Store} {memo : List (Nat × Nat)} {i : Nat} {e : Nat × Nat}
    (h : memo.find? (·.1 = i) = some e) : copyF (f + 1) st memo i = (st, memo, e.2) := by
  rw [copyF]; simp only [h]

theorem copyF_succ_none {f : Nat} {st : Store} {memo : List (Nat × Nat)} {i : Nat}
    (h : memo.find? (·.1 = i) = none) :
    copyF (f + 1) st memo i =
      (((cont st i).foldl (stepC f st.length)
          (stepP f st.length (st ++ [{ value := val st (deref st i), content := [], pointer := none }])
            memo (ptr st i))).1,
       ((cont st i).foldl (stepC f st.length)
          (stepP f st.length (st ++ [{ value := val st (deref st i), content := [], pointer := none }])
            memo (ptr st i))).2 ++ [(i, st.length)],
       st.length) := by
  rw [copyF]; simp only [h, alloc]
  have e : ptr st i = (get st i).pointer := rfl
  rw [e]
  cases (get st i).pointer <;> rfl

/-- the copy registered for `x` in the memo -/
def look (memo : List (Nat × Nat)) (x : Nat) : Nat := ((memo.find? (·.1 = x)).map (·.2)).getD 0

theorem look_of_find {memo : List (Nat × Nat)} {x : Nat} {e : Nat × Nat}
    (h : memo.find? (·.1 = x) = some e) : e ∈ memo ∧ e.1 = x ∧ look memo x = e.2 := by
  refine ⟨List.mem_of_find?_eq_some h, by simpa using List.find?_some h, ?_⟩
  simp [look, h]

theorem look_append_key {memo : List (Nat × Nat)} {x : Nat} (new : List (Nat × Nat))
    (h : x ∈ memo.map Prod.fst) : look (memo ++ new) x = look memo x := by
  cases hf : memo.find? (·.1 = x) with
  | none => exact absurd h (Assoc.find_eq_none_iff.1 hf)
  | some e => simp [look, List.find?_append, hf]

theorem look_of_mem {memo : List (Nat × Nat)} (hnd : (memo.map Prod.fst).Nodup) {e : Nat × Nat}
    (h : e ∈ memo) : look memo e.1 = e.2 :=
  congrArg (·.getD 0) ((Assoc.get_eq_some_iff (v := e.2) hnd).2 h)

theorem ext_of_frame {st st' : Store} (hlen : st.length ≤ st'.length)
    (h : ∀ k, k < st.length → get st' k = get st k) : ∃ e, st' = st ++ e := by
  refine ⟨st'.drop st.length, ?_⟩
  apply List.ext_getElem
  · simp; omega
  · intro k h1 h2
    by_cases hk : k < st.length
    · rw [List.getElem_append_left hk, ← get_lt h1, ← get_lt hk]; exact h k hk
    · rw [List.getElem_append_right (by omega), List.getElem_drop]
      congr 1; omega

/-- the memo entry `e = (object of st0, its copy)` is finished: the children of the object are keys of
the memo, and the copy is a new object whose node is that of the original with the children replaced
by their copies -/
structure EntryOK (st0 st : Store) (memo : List (Nat × Nat)) (e : Nat × Nat) : Prop where
  key_lt : e.1 < st0.length
  rng : st0.length ≤ e.2 ∧ e.2 < st.length
  cl_ptr : ∀ p, ptr st0 e.1 = some p → p ∈ memo.map Prod.fst
  cl_cont : ∀ g x, (g, x) ∈ cont st0 e.1 → x ∈ memo.map Prod.fst
  node : get st e.2 =
    { value := val st0 (deref st0 e.1),
      content := (cont st0 e.1).map (fun c => (c.1, look memo c.2)),
      pointer := (ptr st0 e.1).map (look memo) }

/-- between two calls of `copyF`: `st` extends `st0` without changing it, every memo entry is
finished, keys and copies are each pairwise distinct -/
structure Inv (st0 st : Store) (memo : List (Nat × Nat)) : Prop where
  len : st0.length ≤ st.length
  old : ∀ k, k < st0.length → get st k = get st0 k
  ent : ∀ e ∈ memo, EntryOK st0 st memo e
  ndk : (memo.map Prod.fst).Nodup
  ndv : (memo.map Prod.snd).Nodup

theorem node_congr {memo : List (Nat × Nat)} (new : List (Nat × Nat))
    (v : Option String) (cs : List (String × Nat)) (pd : Option Nat)
    (hc : ∀ c ∈ cs, c.2 ∈ memo.map Prod.fst) (hp : ∀ p, pd = some p → p ∈ memo.map Prod.fst) :
    ({ value := v, content := cs.map (fun c => (c.1, look memo c.2)), pointer := pd.map (look memo) } : Node) =
    { value := v, content := cs.map (fun c => (c.1, look (memo ++ new) c.2)),
      pointer := pd.map (look (memo ++ new)) } := by
  have h1 : cs.map (fun c => (c.1, look (memo ++ new) c.2)) = cs.map (fun c => (c.1, look memo c.2)) :=
    List.map_congr_left (fun c hcm => by rw [look_append_key new (hc c hcm)])
  have h2 : pd.map (look (memo ++ new)) = pd.map (look memo) := by
    cases pd with
    | none => rfl
    | some p => simp only [Option.map_some]; rw [look_append_key new (hp p rfl)]
  rw [h1, h2]

theorem EntryOK.mono {st0 st st' : Store} {memo : List (Nat × Nat)} {e : Nat × Nat}
    (h : EntryOK st0 st memo e) (hlen : st.length ≤ st'.length) (hg : get st' e.2 = get st e.2)
    (new : List (Nat × Nat)) : EntryOK st0 st' (memo ++ new) e := by
  constructor
  · exact h.key_lt
  · exact ⟨h.rng.1, Nat.lt_of_lt_of_le h.rng.2 hlen⟩
  · intro p hp; rw [List.map_append]; exact List.mem_append_left _ (h.cl_ptr p hp)
  · intro g x hx; rw [List.map_append]; exact List.mem_append_left _ (h.cl_cont g x hx)
  · rw [hg, h.node]
    exact node_congr new _ _ _ (fun c hc => h.cl_cont c.1 c.2 hc) h.cl_ptr

theorem EntryOK.mono' {st0 st st' : Store} {memo : List (Nat × Nat)} {e : Nat × Nat}
    (h : EntryOK st0 st memo e) (hlen : st.length ≤ st'.length) (hg : get st' e.2 = get st e.2) :
    EntryOK st0 st' memo e := by
  have := h.mono hlen hg []
  rwa [List.append_nil] at this

theorem Inv.deref_old {st0 st : Store} {memo : List (Nat × Nat)} (hr : Rng st0) (ha : Acyc st0)
    (h : Inv st0 st memo) {i : Nat} (hi : i < st0.length) : deref st i = deref st0 i :=
  FsDag.Lem.deref_old ha hr h.len h.old hi

/-- result of a call `copyF f st memo i = (st', memo', c)`: the invariant again, the new memo entries
are exactly the new objects, with keys `i` or below `i` in `Lt`, and `c` is the copy registered for `i` -/
structure Post (Lt : Nat → Nat → Prop) (st0 st : Store) (memo : List (Nat × Nat)) (i : Nat)
    (st' : Store) (memo' : List (Nat × Nat)) (c : Nat) : Prop where
  inv : Inv st0 st' memo'
  len : st.length ≤ st'.length
  frame : ∀ k, k < st.length → get st' k = get st k
  new : ∃ new, memo' = memo ++ new ∧
    (∀ x, x ∈ new.map Prod.snd ↔ st.length ≤ x ∧ x < st'.length) ∧
    (∀ x ∈ new.map Prod.fst, x = i ∨ Lt x i)
  key : i ∈ memo'.map Prod.fst
  res : look memo' i = c

/-- state while the object `sta.length` (the copy of `i`) is in progress: `sta`/`memoa` are the
store and memo at the entry of the call, `pd` and `done` the pointer and the features of `i` copied so far -/
structure Prog (Lt : Nat → Nat → Prop) (st0 sta : Store) (memoa : List (Nat × Nat)) (i : Nat)
    (pd : Option Nat) (done : List (String × Nat)) (st : Store) (memo : List (Nat × Nat)) : Prop where
  inv : Inv st0 st memo
  lenL : st0.length ≤ sta.length
  lt : sta.length < st.length
  frame : ∀ k, k < sta.length → get st k = get sta k
  olda : ∀ e ∈ memoa, e.2 < sta.length
  new : ∃ new, memo = memoa ++ new ∧
    (∀ x, x ∈ new.map Prod.snd ↔ sta.length < x ∧ x < st.length) ∧
    (∀ x ∈ new.map Prod.fst, Lt x i)
  node : get st sta.length =
    { value := val st0 (deref st0 i),
      content := done.map (fun c => (c.1, look memo c.2)),
      pointer := pd.map (look memo) }
  kp : ∀ p, pd = some p → p ∈ memo.map Prod.fst
  kd : ∀ c ∈ done, c.2 ∈ memo.map Prod.fst

theorem prog_init {Lt : Nat → Nat → Prop} {st0 sta : Store} {memoa : List (Nat × Nat)} (i : Nat)
    (h : Inv st0 sta memoa) :
    Prog Lt st0 sta memoa i none []
      (sta ++ [{ value := val st0 (deref st0 i), content := [], pointer := none }]) memoa := by
  have hL := h.len
  constructor
  · constructor
    · simp only [List.length_append, List.length_singleton]; omega
    · intro k hk; rw [get_append_lt _ (by omega)]; exact h.old k hk
    · intro e he
      exact (h.ent e he).mono' (by simp) (get_append_lt _ (h.ent e he).rng.2)
    · exact h.ndk
    · exact h.ndv
  · exact h.len
  · simp
  · intro k hk; exact get_append_lt _ hk
  · intro e he; exact (h.ent e he).rng.2
  · refine ⟨[], by simp, ?_, by simp⟩
    intro x; simp only [List.map_nil, List.not_mem_nil, List.length_append, List.length_singleton,
      false_iff]; omega
  · rw [get_append_len]; rfl
  · intro p hp; cases hp
  · intro c hc; cases hc

theorem prog_call {Lt : Nat → Nat → Prop} (htr : ∀ a b c, Lt a b → Lt b c → Lt a c)
    {st0 sta : Store} {memoa : List (Nat × Nat)} {i : Nat} {pd : Option Nat}
    {done : List (String × Nat)} {st : Store} {memo : List (Nat × Nat)} {c : Nat} {st' : Store}
    {memo' : List (Nat × Nat)} {cc : Nat}
    (h : Prog Lt st0 sta memoa i pd done st memo) (hp : Post Lt st0 st memo c st' memo' cc)
    (hc : Lt c i) : Prog Lt st0 sta memoa i pd done st' memo' := by
  obtain ⟨new2, rfl, hv2, hk2⟩ := hp.new
  obtain ⟨new, hm, hv, hk⟩ := h.new
  have hlt := h.lt
  have hlen := hp.len
  constructor
  · exact hp.inv
  · exact h.lenL
  · omega
  · intro k hk'; rw [hp.frame k (by omega)]; exact h.frame k hk'
  · exact h.olda
  · refine ⟨new ++ new2, by rw [hm, List.append_assoc], ?_, ?_⟩
    · intro x; rw [List.map_append, List.mem_append, hv, hv2]; omega
    · intro x hx; rw [List.map_append, List.mem_append] at hx
      rcases hx with hx | hx
      · exact hk x hx
      · rcases hk2 x hx with rfl | hx2
        · exact hc
        · exact htr _ _ _ hx2 hc
  · rw [hp.frame _ h.lt, h.node]; exact node_congr new2 _ _ _ h.kd h.kp
  · intro p hp'; rw [List.map_append]; exact List.mem_append_left _ (h.kp p hp')
  · intro c hc'; rw [List.map_append]; exact List.mem_append_left _ (h.kd c hc')

theorem Prog.val_ne {Lt : Nat → Nat → Prop}
    {st0 sta : Store} {memoa : List (Nat × Nat)} {i : Nat} {pd : Option Nat}
    {done : List (String × Nat)} {st : Store} {memo : List (Nat × Nat)}
    (h : Prog Lt st0 sta memoa i pd done st memo) : ∀ e ∈ memo, sta.length ≠ e.2 := by
  obtain ⟨new, hm, hv, hk⟩ := h.new
  intro e he
  rw [hm, List.mem_append] at he
  rcases he with he | he
  · have := h.olda e he; omega
  · have := (hv e.2).1 (List.mem_map_of_mem he); omega

theorem prog_set {Lt : Nat → Nat → Prop}
    {st0 sta : Store} {memoa : List (Nat × Nat)} {i : Nat} {pd : Option Nat}
    {done : List (String × Nat)} {st : Store} {memo : List (Nat × Nat)}
    (h : Prog Lt st0 sta memoa i pd done st memo) (pd' : Option Nat) (done' : List (String × Nat))
    (nd' : Node)
    (hnd : nd' = { value := val st0 (deref st0 i),
                   content := done'.map (fun c => (c.1, look memo c.2)),
                   pointer := pd'.map (look memo) })
    (kp' : ∀ p, pd' = some p → p ∈ memo.map Prod.fst)
    (kd' : ∀ c ∈ done', c.2 ∈ memo.map Prod.fst) :
    Prog Lt st0 sta memoa i pd' done' (st.set sta.length nd') memo := by
  have hlt := h.lt
  have hL := h.lenL
  have hne := h.val_ne
  constructor
  · constructor
    · rw [List.length_set]; exact h.inv.len
    · intro k hk; rw [get_set_ne _ (by omega)]; exact h.inv.old k hk
    · intro e he
      exact (h.inv.ent e he).mono' (by simp) (get_set_ne _ (hne e he))
    · exact h.inv.ndk
    · exact h.inv.ndv
  · exact hL
  · rw [List.length_set]; exact hlt
  · intro k hk; rw [get_set_ne _ (by omega)]; exact h.frame k hk
  · exact h.olda
  · rw [List.length_set]; exact h.new
  · rw [get_set_self _ hlt]; exact hnd
  · exact kp'
  · exact kd'

theorem prog_ptr {Lt : Nat → Nat → Prop} (htr : ∀ a b c, Lt a b → Lt b c → Lt a c)
    {st0 sta : Store} {memoa : List (Nat × Nat)} {i : Nat}
    {st : Store} {memo : List (Nat × Nat)} {p : Nat} {st' : Store}
    {memo' : List (Nat × Nat)} {pc : Nat}
    (h : Prog Lt st0 sta memoa i none [] st memo) (hp : Post Lt st0 st memo p st' memo' pc)
    (hc : Lt p i) :
    Prog Lt st0 sta memoa i (some p) []
      (st'.set sta.length { get st' sta.length with pointer := some pc }) memo' := by
  have h1 := prog_call htr h hp hc
  refine prog_set h1 (some p) [] _ ?_ ?_ ?_
  · rw [h1.node]; simp [hp.res]
  · intro q hq; cases hq; exact hp.key
  · intro c hc'; cases hc'

theorem prog_cont {Lt : Nat → Nat → Prop} (htr : ∀ a b c, Lt a b → Lt b c → Lt a c)
    {st0 sta : Store} {memoa : List (Nat × Nat)} {i : Nat} {pd : Option Nat}
    {done : List (String × Nat)} {st : Store} {memo : List (Nat × Nat)} {c : String × Nat}
    {st' : Store} {memo' : List (Nat × Nat)} {cc : Nat}
    (h : Prog Lt st0 sta memoa i pd done st memo) (hp : Post Lt st0 st memo c.2 st' memo' cc)
    (hc : Lt c.2 i) :
    Prog Lt st0 sta memoa i pd (done ++ [c])
      (st'.set sta.length { get st' sta.length with
        content := (get st' sta.length).content ++ [(c.1, cc)] }) memo' := by
  have h1 := prog_call htr h hp hc
  refine prog_set h1 pd (done ++ [c]) _ ?_ h1.kp ?_
  · rw [h1.node]; simp [hp.res]
  · intro d hd
    rcases List.mem_append.1 hd with hd | hd
    · exact h1.kd d hd
    · simp only [List.mem_singleton] at hd; subst hd; exact hp.key

theorem prog_finish {Lt : Nat → Nat → Prop} (hirr : ∀ a, ¬ Lt a a)
    {st0 sta : Store} {memoa : List (Nat × Nat)} {i : Nat} {st : Store} {memo : List (Nat × Nat)}
    (h : Prog Lt st0 sta memoa i (ptr st0 i) (cont st0 i) st memo) (hi : i < st0.length)
    (hnk : i ∉ memoa.map Prod.fst) :
    Post Lt st0 sta memoa i st (memo ++ [(i, sta.length)]) sta.length := by
  obtain ⟨new, hm, hv, hk⟩ := h.new
  have hlt := h.lt
  have hik : i ∉ memo.map Prod.fst := by
    rw [hm, List.map_append, List.mem_append]
    rintro (hx | hx)
    · exact hnk hx
    · exact hirr i (hk i hx)
  have hnv : sta.length ∉ memo.map Prod.snd := by
    intro hx
    obtain ⟨e, he, hx⟩ := List.mem_map.1 hx
    exact h.val_ne e he hx.symm
  have ndk' : ((memo ++ [(i, sta.length)]).map Prod.fst).Nodup := by
    rw [List.map_append, List.map_singleton, ← List.concat_eq_append]
    exact h.inv.ndk.concat hik
  have ndv' : ((memo ++ [(i, sta.length)]).map Prod.snd).Nodup := by
    rw [List.map_append, List.map_singleton, ← List.concat_eq_append]
    exact h.inv.ndv.concat hnv
  constructor
  · constructor
    · exact h.inv.len
    · exact h.inv.old
    · intro e he
      rcases List.mem_append.1 he with he | he
      · exact (h.inv.ent e he).mono (Nat.le_refl _) rfl _
      · simp only [List.mem_singleton] at he; subst he
        constructor
        · exact hi
        · exact ⟨h.lenL, hlt⟩
        · intro p hp; rw [List.map_append]; exact List.mem_append_left _ (h.kp p hp)
        · intro g x hx; rw [List.map_append]; exact List.mem_append_left _ (h.kd (g, x) hx)
        · show get st sta.length = _
          rw [h.node]
          exact node_congr _ _ _ _ h.kd h.kp
    · exact ndk'
    · exact ndv'
  · omega
  · exact h.frame
  · refine ⟨new ++ [(i, sta.length)], by rw [hm, List.append_assoc], ?_, ?_⟩
    · intro x
      rw [List.map_append, List.mem_append, hv]
      simp only [List.map_singleton, List.mem_singleton]; omega
    · intro x hx
      rw [List.map_append, List.mem_append] at hx
      rcases hx with hx | hx
      · exact Or.inr (hk x hx)
      · simp only [List.map_singleton, List.mem_singleton] at hx; exact Or.inl hx
  · rw [List.map_append]; exact List.mem_append_right _ (List.mem_singleton.2 rfl)
  · exact look_of_mem ndk' (e := (i, sta.length))
      (List.mem_append_right _ (List.mem_singleton.2 rfl))

theorem fold_prog {Lt : Nat → Nat → Prop} (htr : ∀ a b c, Lt a b → Lt b c → Lt a c)
    {st0 sta : Store} {memoa : List (Nat × Nat)} {i : Nat} {pd : Option Nat} {f : Nat}
    (IH : ∀ st memo c, c < st0.length → Lt c i → Inv st0 st memo →
      Post Lt st0 st memo c (copyF f st memo c).1 (copyF f st memo c).2.1 (copyF f st memo c).2.2) :
    ∀ (rest done : List (String × Nat)) (st : Store) (memo : List (Nat × Nat)),
      (∀ c ∈ rest, c.2 < st0.length ∧ Lt c.2 i) → Prog Lt st0 sta memoa i pd done st memo →
      Prog Lt st0 sta memoa i pd (done ++ rest)
        (rest.foldl (stepC f sta.length) (st, memo)).1
        (rest.foldl (stepC f sta.length) (st, memo)).2 := by
  intro rest
  induction rest with
  | nil => intro done st memo _ h; simpa using h
  | cons c rest ih =>
    intro done st memo hr h
    rw [List.foldl_cons]
    have hc := hr c (by simp)
    have hp := IH st memo c.2 hc.1 hc.2 h.inv
    have h2 := prog_cont htr h hp hc.2
    have := ih (done ++ [c]) (stepC f sta.length (st, memo) c).1 (stepC f sta.length (st, memo) c).2
      (fun d hd => hr d (List.mem_cons_of_mem _ hd)) h2
    rw [List.append_assoc] at this
    exact this

/-- induction on the fuel.  A recursive call on a child `c` (`Lt c i`) is made with `i :: l`, which is
still duplicate-free because `Lt` is irreflexive; at fuel 0 the list `l` would have more than `|st0|`
distinct members. -/
theorem copyF_post {st0 : Store} (hr : Rng st0) (ha : Acyc st0)
    (Lt : Nat → Nat → Prop) (hirr : ∀ a, ¬ Lt a a) (htr : ∀ a b c, Lt a b → Lt b c → Lt a c)
    (hp : ∀ i j, ptr st0 i = some j → Lt j i) (hc : ∀ i g x, (g, x) ∈ cont st0 i → Lt x i) :
    ∀ (f i : Nat) (l : List Nat) (st : Store) (memo : List (Nat × Nat)), i < st0.length →
      l.Nodup → (∀ x ∈ l, x < st0.length) → (∀ x ∈ l, Lt i x) → st0.length + 1 ≤ f + l.length →
      Inv st0 st memo →
      Post Lt st0 st memo i (copyF f st memo i).1 (copyF f st memo i).2.1 (copyF f st memo i).2.2 := by
  intro f
  induction f with
  | zero =>
    intro i l st memo hi hnd hl _ hf _
    exfalso
    have hsub : l ⊆ List.range st0.length := fun x hx => List.mem_range.2 (hl x hx)
    have := hnd.length_le_of_subset hsub
    simp only [List.length_range] at this; omega
  | succ f ih =>
    intro i l st memo hi hnd hl hlt hf hinv
    cases hfind : memo.find? (·.1 = i) with
    | some e =>
      rw [copyF_succ_some hfind]
      obtain ⟨hem, he1, hlook⟩ := look_of_find hfind
      refine ⟨hinv, Nat.le_refl _, fun _ _ => rfl, ⟨[], by simp, ?_, by simp⟩, he1 ▸ List.mem_map_of_mem hem, hlook⟩
      intro x; simp only [List.map_nil, List.not_mem_nil, false_iff]; omega
    | none =>
      rw [copyF_succ_none hfind]
      have e1 : val st (deref st i) = val st0 (deref st0 i) := by
        rw [hinv.deref_old hr ha hi, val, hinv.old _ (deref_lt hr hi)]
      have e2 : ptr st i = ptr st0 i := by rw [ptr, hinv.old _ hi]
      have e3 : cont st i = cont st0 i := by rw [cont, hinv.old _ hi]
      rw [e1, e2, e3]
      have IH : ∀ st memo c, c < st0.length → Lt c i → Inv st0 st memo →
          Post Lt st0 st memo c (copyF f st memo c).1 (copyF f st memo c).2.1
            (copyF f st memo c).2.2 := by
        intro st memo c hc' hci hI
        refine ih c (i :: l) st memo hc' (List.nodup_cons.2 ⟨fun hm => hirr i (hlt i hm), hnd⟩)
          ?_ ?_ (by simp only [List.length_cons]; omega) hI
        · intro x hx
          rcases List.mem_cons.1 hx with rfl | hx
          · exact hi
          · exact hl x hx
        · intro x hx
          rcases List.mem_cons.1 hx with rfl | hx
          · exact hci
          · exact htr _ _ _ hci (hlt x hx)
      have h0 := prog_init (Lt := Lt) i hinv
      have h1 : Prog Lt st0 st memo i (ptr st0 i) []
          (stepP f st.length
            (st ++ [{ value := val st0 (deref st0 i), content := [], pointer := none }]) memo
            (ptr st0 i)).1
          (stepP f st.length
            (st ++ [{ value := val st0 (deref st0 i), content := [], pointer := none }]) memo
            (ptr st0 i)).2 := by
        cases hpp : ptr st0 i with
        | none => exact h0
        | some p => exact prog_ptr htr h0 (IH _ _ p (hr.p i p hpp) (hp i p hpp) h0.inv) (hp i p hpp)
      have h2 := fold_prog htr IH (cont st0 i) [] _ _
        (fun c hcm => ⟨hr.c i c.1 c.2 hcm, hc i c.1 c.2 hcm⟩) h1
      rw [List.nil_append] at h2
      exact prog_finish hirr h2 hi (Assoc.find_eq_none_iff.1 hfind)

theorem inv_init (st : Store) : Inv st st [] :=
  ⟨Nat.le_refl _, fun _ _ => rfl, fun e he => (by cases he), by simp, by simp⟩

end Copy

open Copy in
theorem copy_spec {st : Store} {F : Nat} (hr : Rng st) (ha : Acyc st) (hF : F < st.length)
    (Lt : Nat → Nat → Prop) (hirr : ∀ a, ¬ Lt a a) (htr : ∀ a b c, Lt a b → Lt b c → Lt a c)
    (hp : ∀ i j, ptr st i = some j → Lt j i) (hc : ∀ i g x, (g, x) ∈ cont st i → Lt x i) :
    ∃ κ dom π, CopySpec st F (copy st F).1 (copy st F).2 κ dom π := by
  have h := copyF_post hr ha Lt hirr htr hp hc (st.length + 1) F [] st [] hF List.nodup_nil
    (by simp) (by simp) (by simp) (inv_init st)
  have e1 : (copy st F).1 = (copyF (st.length + 1) st [] F).1 := rfl
  have e2 : (copy st F).2 = (copyF (st.length + 1) st [] F).2.2 := rfl
  rw [e1, e2]
  generalize (copyF (st.length + 1) st [] F).1 = st1 at h
  generalize (copyF (st.length + 1) st [] F).2.1 = memo at h
  generalize (copyF (st.length + 1) st [] F).2.2 = c at h
  obtain ⟨new, hm, hv, hk⟩ := h.new
  rw [List.nil_append] at hm; subst hm
  have hmem : ∀ j, j ∈ memo.map Prod.fst → (j, look memo j) ∈ memo := by
    intro j hj
    obtain ⟨e, he, rfl⟩ := List.mem_map.1 hj
    rw [look_of_mem h.inv.ndk he]; exact he
  have hent : ∀ j, j ∈ memo.map Prod.fst → EntryOK st st1 memo (j, look memo j) :=
    fun j hj => h.inv.ent _ (hmem j hj)
  refine ⟨look memo, fun j => j ∈ memo.map Prod.fst,
    fun n => ((memo.find? (·.2 = n)).map (·.1)).getD 0, ?_⟩
  refine ⟨ext_of_frame h.len h.frame, h.key, h.res, fun j hj => (hent j hj).key_lt,
    fun j p hj => (hent j hj).cl_ptr p, fun j g x hj => (hent j hj).cl_cont g x,
    fun j hj => (hent j hj).rng, fun j hj => (hent j hj).node, fun j j' hj hj' heq => ?_, ?_⟩
  · exact congrArg Prod.fst (List.inj_on_of_nodup_map h.inv.ndv (hmem j hj) (hmem j' hj') heq)
  · intro n hn1 hn2
    have hnv : n ∈ memo.map Prod.snd := (hv n).2 ⟨hn1, hn2⟩
    cases hf : memo.find? (·.2 = n) with
    | none =>
      exfalso
      obtain ⟨e, he, hen⟩ := List.mem_map.1 hnv
      have := List.find?_eq_none.1 hf e he
      simp [hen] at this
    | some e =>
      have he : e ∈ memo := List.mem_of_find?_eq_some hf
      have hen : e.2 = n := by simpa using List.find?_some hf
      simp only [Option.map_some, Option.getD_some]
      exact ⟨List.mem_map_of_mem he, by rw [look_of_mem h.inv.ndk he, hen]⟩

end Lem
end Earley
end Pfl
