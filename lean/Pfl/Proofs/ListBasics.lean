/-
General facts about lists used by several groups of proofs; core Lean only.
-/
namespace Pfl

theorem eraseDups_induct {α : Type} [BEq α] {P : List α → Prop} (nil : P [])
    (cons : ∀ a as, P (as.filter fun b => !b == a) → P (a :: as)) (l : List α) : P l := by
  generalize hn : l.length = n
  induction n using Nat.strongRecOn generalizing l with
  | _ n ih =>
    cases l with
    | nil => exact nil
    | cons a as =>
      exact cons a as (ih _ (hn ▸ Nat.lt_succ_of_le (List.length_filter_le _ as)) _ rfl)

theorem nodup_eraseDups {α : Type} [BEq α] [LawfulBEq α] (l : List α) : l.eraseDups.Nodup := by
  induction l using eraseDups_induct with
  | nil => simp
  | cons a as ih =>
    rw [List.eraseDups_cons, List.nodup_cons]
    exact ⟨by simp [List.mem_eraseDups, List.mem_filter], ih⟩

theorem pigeon {α : Type} (f : Nat → α) (hf : ∀ a b, f a = f b → a = b) (L : List α) :
    ∃ i, i ≤ L.length ∧ f i ∉ L := by
  apply Classical.byContradiction
  intro hcon
  have hnd : ((List.range (L.length + 1)).map f).Nodup :=
    List.Pairwise.map f (fun a b hne heq => hne (hf a b heq)) List.nodup_range
  have hsub : (List.range (L.length + 1)).map f ⊆ L := by
    intro x hx
    obtain ⟨i, hi, rfl⟩ := List.mem_map.1 hx
    apply Classical.byContradiction
    intro h
    exact hcon ⟨i, Nat.le_of_lt_succ (List.mem_range.1 hi), h⟩
  have := hnd.length_le_of_subset hsub
  rw [List.length_map, List.length_range] at this
  exact Nat.not_succ_le_self _ this

/-- the search `for i in range(len(L) + 1): if f(i) not in L` finds a free candidate -/
theorem find_fresh {α : Type} [DecidableEq α] (f : Nat → α) (hf : ∀ a b, f a = f b → a = b)
    (L : List α) :
    ∃ x, ((List.range (L.length + 1)).map f).find? (fun x => decide (x ∉ L)) = some x ∧ x ∉ L := by
  obtain ⟨i, hi, hn⟩ := pigeon f hf L
  obtain ⟨x, hx⟩ := Option.isSome_iff_exists.1 (List.find?_isSome (p := fun x => decide (x ∉ L)).2
    ⟨f i, List.mem_map.2 ⟨i, List.mem_range.2 (Nat.lt_succ_of_le hi), rfl⟩, decide_eq_true hn⟩)
  exact ⟨x, hx, of_decide_eq_true (List.find?_some (p := fun x => decide (x ∉ L)) hx)⟩

theorem countP_lt_of {α : Type} (l : List α) (p q : α → Bool) (hqp : ∀ x ∈ l, q x → p x)
    (a : α) (ha : a ∈ l) (hpa : p a) (hqa : ¬ q a) : l.countP q < l.countP p := by
  obtain ⟨l₁, l₂, rfl⟩ := List.append_of_mem ha
  have h₁ : l₁.countP q ≤ l₁.countP p :=
    List.countP_mono_left fun x hx => hqp x (List.mem_append_left _ hx)
  have h₂ : l₂.countP q ≤ l₂.countP p :=
    List.countP_mono_left fun x hx => hqp x (List.mem_append_right _ (List.mem_cons_of_mem _ hx))
  rw [List.countP_append, List.countP_append, List.countP_cons_of_pos hpa,
    List.countP_cons_of_neg hqa]
  omega

/-- how many elements of a universe `U` (with multiplicity) are still outside `F`: the measure of the
loops that only ever add elements of `U` -/
def unseen {α : Type} [DecidableEq α] (U F : List α) : Nat := U.countP fun x => decide (x ∉ F)

theorem unseen_le {α : Type} [DecidableEq α] (U F : List α) : unseen U F ≤ U.length :=
  List.countP_le_length

theorem unseen_lt {α : Type} [DecidableEq α] {U F F' : List α} (hsub : ∀ y ∈ F, y ∈ F') {x : α}
    (hU : x ∈ U) (hx : x ∉ F) (hx' : x ∈ F') : unseen U F' < unseen U F :=
  countP_lt_of U _ _ (fun y _ hy => decide_eq_true fun hm => of_decide_eq_true hy (hsub y hm)) x hU
    (decide_eq_true hx) fun h => of_decide_eq_true h hx'

theorem foldl_inv_prefix {α β : Type} (P : β → List α → Prop) (step : β → α → β) (l : List α)
    (hstep : ∀ acc l1 e l2, l = l1 ++ e :: l2 → P acc l1 → P (step acc e) (l1 ++ [e]))
    (acc : β) (h : P acc []) : P (l.foldl step acc) l := by
  suffices ∀ l2 l1 acc, l = l1 ++ l2 → P acc l1 → P (l2.foldl step acc) l from this l [] acc rfl h
  intro l2
  induction l2 with
  | nil => intro l1 acc hs h; rw [List.append_nil] at hs; exact hs ▸ h
  | cons e l2 ih =>
    intro l1 acc hs h
    exact ih (l1 ++ [e]) _ (by rw [hs, List.append_assoc]; rfl) (hstep acc l1 e l2 hs h)

theorem foldl_inv {α β : Type} (Q : α → Prop) (f : α → β → α) (l : List β)
    (hf : ∀ S b, b ∈ l → Q S → Q (f S b)) (S : α) (h : Q S) : Q (l.foldl f S) :=
  foldl_inv_prefix (fun a _ => Q a) f l
    (fun a _ e _ hl => hf a e (hl ▸ List.mem_append_right _ List.mem_cons_self)) S h

/-- `set.add` on a list without repetitions -/
theorem mem_insert_end {α : Type} {x y : α} {l : List α} [Decidable (x ∈ l)] :
    y ∈ (if x ∈ l then l else l ++ [x]) ↔ y = x ∨ y ∈ l := by
  by_cases h : x ∈ l
  · rw [if_pos h]
    exact ⟨Or.inr, fun h1 => h1.elim (fun e => e ▸ h) id⟩
  · rw [if_neg h, List.mem_append, List.mem_singleton, or_comm]

theorem nodup_append_singleton {α : Type} {x : α} {l : List α} (h : l.Nodup) (hx : x ∉ l) :
    (l ++ [x]).Nodup :=
  (List.perm_append_singleton x l).nodup_iff.2 (List.nodup_cons.2 ⟨hx, h⟩)

theorem nodup_insert_end {α : Type} {x : α} {l : List α} [Decidable (x ∈ l)] (h : l.Nodup) :
    (if x ∈ l then l else l ++ [x]).Nodup := by
  by_cases hx : x ∈ l
  · rw [if_pos hx]; exact h
  · rw [if_neg hx]; exact nodup_append_singleton h hx

/-- `set.update`: the elements of `l` added one by one -/
theorem mem_foldl_insert_end {α : Type} [∀ (x : α) (l : List α), Decidable (x ∈ l)] (l q : List α) (y : α) :
    y ∈ l.foldl (fun acc x => if x ∈ acc then acc else acc ++ [x]) q ↔ y ∈ q ∨ y ∈ l := by
  induction l generalizing q with
  | nil => simp
  | cons x l ih => rw [List.foldl_cons, ih, mem_insert_end, List.mem_cons, or_comm (a := y = x), or_assoc]

theorem length_flatMap_le {α β : Type} (l : List α) (f : α → List β) (b : Nat)
    (h : ∀ x ∈ l, (f x).length ≤ b) : (l.flatMap f).length ≤ l.length * b := by
  induction l with
  | nil => simp
  | cons x l ih =>
    have h1 := h x List.mem_cons_self
    have h2 := ih (fun y hy => h y (List.mem_cons_of_mem _ hy))
    simp only [List.flatMap_cons, List.length_append, List.length_cons, Nat.succ_mul]
    omega

theorem mapM_cons_some {α β : Type} {f : α → Option β} {a : α} {w : List α} {ks : List β} :
    (a :: w).mapM f = some ks ↔ ∃ k ks', f a = some k ∧ w.mapM f = some ks' ∧ ks = k :: ks' := by
  rw [List.mapM_cons]
  simp only [Option.pure_def, Option.bind_eq_bind, Option.bind_eq_some_iff, Option.some.injEq]
  constructor
  · rintro ⟨k, hk, ks', hks, rfl⟩
    exact ⟨k, ks', hk, hks, rfl⟩
  · rintro ⟨k, ks', hk, hks, rfl⟩
    exact ⟨k, hk, ks', hks, rfl⟩

theorem mapM_nil_some {α β : Type} {f : α → Option β} {ks : List β} :
    ([] : List α).mapM f = some ks ↔ ks = [] := by
  rw [List.mapM_nil]
  simp only [Option.pure_def, Option.some.injEq]
  exact eq_comm

theorem mapM_append_some {α β : Type} {f : α → Option β} {u v : List α} {ks : List β} :
    (u ++ v).mapM f = some ks ↔
      ∃ k₁ k₂, u.mapM f = some k₁ ∧ v.mapM f = some k₂ ∧ ks = k₁ ++ k₂ := by
  rw [List.mapM_append]
  simp only [Option.bind_eq_bind, Option.bind_eq_some_iff, Option.pure_def, Option.some.injEq,
    eq_comm (a := ks), exists_and_left]

theorem eq_of_length_le_one {α : Type} {l : List α} (h : l.length ≤ 1) {x y : α} (hx : x ∈ l) (hy : y ∈ l) :
    x = y := by
  cases l with
  | nil => exact absurd hx List.not_mem_nil
  | cons z t =>
    cases t with
    | nil => rw [List.mem_singleton.1 hx, List.mem_singleton.1 hy]
    | cons _ _ => exact absurd (Nat.le_of_succ_le_succ h) (Nat.not_succ_le_zero _)

theorem length_le_one_of_nodup {α : Type} {l : List α} (hn : l.Nodup) (h : ∀ x ∈ l, ∀ y ∈ l, x = y) :
    l.length ≤ 1 := by
  cases l with
  | nil => exact Nat.zero_le 1
  | cons x t =>
    cases t with
    | nil => exact Nat.le_refl 1
    | cons y _ =>
      have hxy : x = y := h x List.mem_cons_self y (List.mem_cons_of_mem _ List.mem_cons_self)
      exact absurd (hxy ▸ List.mem_cons_self) (List.nodup_cons.1 hn).1

theorem mem_dropLast_or {α : Type} (q : List α) (cur : α) (h : q.getLast? = some cur) (y : α) (hy : y ∈ q) :
    y ∈ q.dropLast ∨ y = cur := by
  obtain ⟨ys, rfl⟩ := List.getLast?_eq_some_iff.1 h
  simpa using hy

theorem key_inj_of_nodup {α κ : Type} (key : α → κ) {l : List α} (h : (l.map key).Nodup) :
    ∀ x ∈ l, ∀ y ∈ l, key x = key y → x = y := by
  have h' : l.Pairwise fun a b => key a ≠ key b := List.pairwise_map.1 h
  exact fun x hx y hy => List.Pairwise.forall_of_forall_of_flip (R := fun a b => key a = key b → a = b)
    (fun _ _ _ => rfl) (h'.imp fun hne he => absurd he hne) (h'.imp fun hne he => absurd he.symm hne)
    hx hy

theorem nodup_flatMap_of_keys {γ δ κ : Type} {l : List γ} {g : γ → List δ} (key : γ → κ) (proj : δ → κ)
    (hk : (l.map key).Nodup) (hg : ∀ x ∈ l, (g x).Nodup) (hp : ∀ x, ∀ y ∈ g x, proj y = key x) :
    (l.flatMap g).Nodup := by
  refine List.pairwise_flatMap.2 ⟨hg, (List.pairwise_map.1 hk).imp ?_⟩
  intro x x' hne y hy y' hy' e
  exact hne ((hp x y hy).symm.trans (e ▸ hp x' y' hy'))

theorem append_cons_inj_left {α : Type} {c : α} {u u' v v' : List α} (hu : c ∉ u) (hu' : c ∉ u')
    (h : u ++ c :: v = u' ++ c :: v') : u = u' ∧ v = v' := by
  induction u generalizing u' with
  | nil =>
    cases u' with
    | nil => exact ⟨rfl, List.tail_eq_of_cons_eq h⟩
    | cons b u' => exact absurd (List.head_eq_of_cons_eq h ▸ List.mem_cons_self) hu'
  | cons a u ih =>
    cases u' with
    | nil => exact absurd ((List.head_eq_of_cons_eq h).symm ▸ List.mem_cons_self) hu
    | cons b u' =>
      obtain ⟨h3, h4⟩ := ih (mt (List.mem_cons_of_mem _) hu) (mt (List.mem_cons_of_mem _) hu')
        (List.tail_eq_of_cons_eq h)
      exact ⟨by rw [List.head_eq_of_cons_eq h, h3], h4⟩

theorem append_cons_inj_right {α : Type} {c : α} {u u' v v' : List α} (hv : c ∉ v)
    (hv' : c ∉ v') (h : u ++ c :: v = u' ++ c :: v') : u = u' ∧ v = v' := by
  have h' := congrArg List.reverse h
  simp only [List.reverse_append, List.reverse_cons, List.append_assoc, List.singleton_append] at h'
  obtain ⟨h3, h4⟩ :=
    append_cons_inj_left (mt List.mem_reverse.1 hv) (mt List.mem_reverse.1 hv') h'
  exact ⟨List.reverse_inj.1 h4, List.reverse_inj.1 h3⟩

end Pfl
