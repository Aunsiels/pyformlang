/-
Helper lemmas for C11_BarHillel: the triple construction `[p A r]` over a Chomsky normal form and a
deterministic ε-free automaton.
-/
import Pfl.Model.BarHillel
import Pfl.Props.C09_CNF
import Pfl.Props.C12_Classes
import Pfl.Props.C04_Preds
import Pfl.Props.C01_Accepts
namespace Pfl.CFG.BH
open Pfl Pfl.CFG Pfl.ENFA
variable {τ : Type} [DecidableEq τ]

def binProds (N : CFG) (D : ENFA τ) (symOf : String → Option Nat) (nm : τ → String) : List Prod :=
  N.prods.flatMap fun pr => match pr.2 with
    | [.var b, .var c] => D.states.flatMap fun p => D.states.flatMap fun r =>
        D.states.map fun q => (PDA.tripleName nm id p pr.1 r,
          [Sym.var (PDA.tripleName nm id p b q), Sym.var (PDA.tripleName nm id q c r)])
    | [.ter a] => D.states.filterMap fun p =>
        (dfaNext D symOf p a).map fun r => (PDA.tripleName nm id p pr.1 r, [Sym.ter a])
    | _ => []

theorem mem_binProds (N : CFG) (D : ENFA τ) (symOf : String → Option Nat) (nm : τ → String)
    (pr : Prod) :
    pr ∈ binProds N D symOf nm ↔
      (∃ A b c p r q, (A, [Sym.var b, Sym.var c]) ∈ N.prods ∧ p ∈ D.states ∧ r ∈ D.states ∧
        q ∈ D.states ∧ pr = (PDA.tripleName nm id p A r,
          [Sym.var (PDA.tripleName nm id p b q), Sym.var (PDA.tripleName nm id q c r)])) ∨
      (∃ A a p r, (A, [Sym.ter a]) ∈ N.prods ∧ p ∈ D.states ∧ dfaNext D symOf p a = some r ∧
        pr = (PDA.tripleName nm id p A r, [Sym.ter a])) := by
  unfold binProds
  simp only [List.mem_flatMap]
  constructor
  · rintro ⟨⟨A, body⟩, hp, hm⟩
    split at hm
    · rename_i b c hb
      simp only at hb
      subst hb
      simp only [List.mem_flatMap, List.mem_map] at hm
      obtain ⟨p, hp', r, hr, q, hq, rfl⟩ := hm
      exact Or.inl ⟨A, b, c, p, r, q, hp, hp', hr, hq, rfl⟩
    · rename_i a hb
      simp only at hb
      subst hb
      simp only [List.mem_filterMap, Option.map_eq_some_iff] at hm
      obtain ⟨p, hp', r, hr, rfl⟩ := hm
      exact Or.inr ⟨A, a, p, r, hp, hp', hr, rfl⟩
    · cases hm
  · rintro (⟨A, b, c, p, r, q, hp, hp', hr, hq, rfl⟩ | ⟨A, a, p, r, hp, hp', hr, rfl⟩)
    · refine ⟨(A, [Sym.var b, Sym.var c]), hp, ?_⟩
      simp only [List.mem_flatMap, List.mem_map]
      exact ⟨p, hp', r, hr, q, hq, rfl⟩
    · refine ⟨(A, [Sym.ter a]), hp, ?_⟩
      simp only [List.mem_filterMap, Option.map_eq_some_iff]
      exact ⟨p, hp', r, hr, rfl⟩

theorem dfaNext_edge {D : ENFA τ} {symOf : String → Option Nat} {p r : τ} {a : String}
    (h : dfaNext D symOf p a = some r) : ∃ k, symOf a = some k ∧ (p, some k, r) ∈ D.delta := by
  unfold dfaNext at h
  split at h
  · cases h
  · rename_i k hk
    exact ⟨k, hk, (mem_succs D p r (some k)).mp (List.mem_of_head? h)⟩

theorem edge_dfaNext {D : ENFA τ} (dD : D.Deterministic) {symOf : String → Option Nat} {p r : τ}
    {a : String} {k : Nat} (hk : symOf a = some k) (he : (p, some k, r) ∈ D.delta) :
    dfaNext D symOf p a = some r := by
  unfold dfaNext
  rw [hk]
  exact (dD.head?_succs_iff p r (some k)).mpr he

def SoundP (N : CFG) (D : ENFA τ) (symOf : String → Option Nat) (nm : τ → String)
    (s : Sym) (w : List String) : Prop :=
  ∀ p A r, s = .var (PDA.tripleName nm id p A r) → p ∈ D.states → r ∈ D.states →
    N.Gen (.var A) w ∧ D.RunOn symOf p w r

theorem sound (N : CFG) (D : ENFA τ) (hD : D.WF) (symOf : String → Option Nat) (nm : τ → String)
    (hinj : ∀ p a r p' a' r', p ∈ D.states → r ∈ D.states → p' ∈ D.states → r' ∈ D.states →
      PDA.tripleName nm id p a r = PDA.tripleName nm id p' a' r' → p = p' ∧ a = a' ∧ r = r')
    (hstart : ∀ p a r, PDA.tripleName nm id p a r ≠ "Start")
    (R : CFG) (S : Prod → Prop) (hS : ∀ pr, S pr → pr.1 = "Start")
    (hR : ∀ pr, pr ∈ R.prods → pr ∈ binProds N D symOf nm ∨ S pr)
    {s : Sym} {w : List String} (hg : R.Gen s w) : SoundP N D symOf nm s w := by
  refine gen_least (fun t p A r h => nomatch h) (fun h body w hp hb ih p A r heq hps hrs => ?_) hg
  cases heq
  rcases hR _ hp with hm | hm
  · rw [mem_binProds] at hm
    rcases hm with ⟨A', b, c, p', r', q, hp', hps', hrs', hqs, he⟩ | ⟨A', a, p', r', hp', hps', hn, he⟩
    · obtain ⟨he1, rfl⟩ := Prod.mk.inj he
      obtain ⟨rfl, rfl, rfl⟩ := hinj _ _ _ _ _ _ hps hrs hps' hrs' he1
      -- a body of two symbols: two pieces
      obtain ⟨_, _, rfl, h1, _, _, rfl, h2, rfl⟩ := ih
      obtain ⟨g1, r1⟩ := h1 p b q rfl hps hqs
      obtain ⟨g2, r2⟩ := h2 q c r rfl hqs hrs
      rw [List.append_nil]
      exact ⟨Gen.var hp' (genList_pair_iff.2 ⟨_, _, rfl, g1, g2⟩), r1.append r2⟩
    · obtain ⟨he1, rfl⟩ := Prod.mk.inj he
      obtain ⟨k, hk, hedge⟩ := dfaNext_edge hn
      have hrs' : r' ∈ D.states := hD.delta_dst _ hedge
      obtain ⟨rfl, rfl, rfl⟩ := hinj _ _ _ _ _ _ hps hrs hps' hrs' he1
      cases gen_ter_iff.1 (genList_singleton.1 hb)
      exact ⟨Gen.var hp' (genList_singleton.2 (Gen.ter a)), [k],
        mapM_cons_some.2 ⟨k, [], hk, mapM_nil_some.2 rfl, rfl⟩, Run.step hedge (Run.nil _)⟩
  · exact absurd (hS _ hm) (hstart p A r)

theorem complete (N : CFG) (hN : N.isNormalForm = true) (D : ENFA τ) (hD : D.WF)
    (dD : D.Deterministic) (eD : D.EpsFree) (symOf : String → Option Nat) (nm : τ → String)
    (R : CFG) (hR : ∀ pr, pr ∈ binProds N D symOf nm → pr ∈ R.prods) :
    ∀ (n : Nat) (w : List String) (A : String), w.length ≤ n → N.Gen (.var A) w →
      ∀ p r ks, p ∈ D.states → w.mapM symOf = some ks → D.Run p ks r →
        R.Gen (.var (PDA.tripleName nm id p A r)) w := by
  intro _ w A _ h p r ks hps hks hrun
  refine cnf_gen_ind hN (P := fun A w => ∀ p r, p ∈ D.states → D.RunOn symOf p w r →
    R.Gen (.var (PDA.tripleName nm id p A r)) w) ?_ ?_ A w h p r hps (Exists.intro ks ⟨hks, hrun⟩)
  · intro A t hp p r hps hrun
    obtain ⟨k, r', hk, hedge, hr'⟩ := (runOn_cons_iff eD).1 hrun
    cases (runOn_nil_iff eD).1 hr'
    have hm : (PDA.tripleName nm id p A r, [Sym.ter t]) ∈ binProds N D symOf nm :=
      (mem_binProds _ _ _ _ _).2 (Or.inr ⟨A, t, p, r, hp, hps, edge_dfaNext dD hk hedge, rfl⟩)
    exact Gen.var (hR _ hm) (genList_singleton.2 (Gen.ter t))
  · intro A b c u₁ u₂ hp _ _ g1 g2 p r hps hrun
    obtain ⟨q, r1, r2⟩ := (runOn_append_iff eD).1 hrun
    have hqs : q ∈ D.states := r1.mem_states hD hps
    have hm : (PDA.tripleName nm id p A r,
        [Sym.var (PDA.tripleName nm id p b q), Sym.var (PDA.tripleName nm id q c r)]) ∈
          binProds N D symOf nm :=
      (mem_binProds _ _ _ _ _).2
        (Or.inl ⟨A, b, c, p, r, q, hp, hps, r2.mem_states hD hqs, hqs, rfl⟩)
    exact Gen.var (hR _ hm) (genList_pair_iff.2 ⟨_, _, rfl, g1 p q hps r1, g2 q r hqs r2⟩)

theorem triple_iff (N : CFG) (hN : N.isNormalForm = true) (D : ENFA τ) (hD : D.WF)
    (dD : D.Deterministic) (eD : D.EpsFree) (symOf : String → Option Nat) (nm : τ → String)
    (hinj : ∀ p a r p' a' r', p ∈ D.states → r ∈ D.states → p' ∈ D.states → r' ∈ D.states →
      PDA.tripleName nm id p a r = PDA.tripleName nm id p' a' r' → p = p' ∧ a = a' ∧ r = r')
    (hstart : ∀ p a r, PDA.tripleName nm id p a r ≠ "Start")
    (R : CFG) (S : Prod → Prop) (hS : ∀ pr, S pr → pr.1 = "Start")
    (hR : ∀ pr, pr ∈ R.prods ↔ pr ∈ binProds N D symOf nm ∨ S pr)
    (p r : τ) (A : String) (w : List String) (hp : p ∈ D.states) (hr : r ∈ D.states) :
    R.Gen (.var (PDA.tripleName nm id p A r)) w ↔
      N.Gen (.var A) w ∧ D.RunOn symOf p w r := by
  constructor
  · intro h
    exact sound N D hD symOf nm hinj hstart R S hS (fun pr h => (hR pr).1 h) h p A r rfl hp hr
  · rintro ⟨hg, ks, hks, hrun⟩
    exact complete N hN D hD dD eD symOf nm R (fun pr h => (hR pr).2 (Or.inl h)) w.length w A
      (Nat.le_refl _) hg p r ks hp hks hrun

theorem binProds_head (N : CFG) (D : ENFA τ) (symOf : String → Option Nat) (nm : τ → String)
    (hstart : ∀ p a r, PDA.tripleName nm id p a r ≠ "Start") :
    ∀ pr ∈ binProds N D symOf nm, pr.1 ≠ "Start" := by
  intro pr h
  rw [mem_binProds] at h
  rcases h with ⟨A, b, c, p, r, q, _, _, _, _, rfl⟩ | ⟨A, a, p, r, _, _, _, rfl⟩
  · exact hstart _ _ _
  · exact hstart _ _ _

/-- the productions of "Start" that `interD` adds: one for every final state, and the ε-production
when both operands have ε -/
def StartProd (G N : CFG) (D : ENFA τ) (nm : τ → String) (pr : Prod) : Prop :=
  (∃ s0 st f, D.starts.head? = some s0 ∧ N.start = some st ∧ f ∈ D.finals ∧
    pr = ("Start", [Sym.var (PDA.tripleName nm id s0 st f)])) ∨
  (pr = ("Start", []) ∧ G.Lang [] ∧ D.Lang [])

omit [DecidableEq τ] in
theorem StartProd.head {G N : CFG} {D : ENFA τ} {nm : τ → String} {pr : Prod}
    (h : StartProd G N D nm pr) : pr.1 = "Start" := by
  rcases h with ⟨_, _, _, _, _, _, rfl⟩ | ⟨rfl, _⟩ <;> rfl

theorem interD_some {G : CFG} {D : ENFA τ} {symOf : String → Option Nat} {nm : τ → String}
    {fuel : Nat} {R : CFG} (hE : ¬ D.isEmpty = true) (h : G.interD D symOf nm fuel = some R) :
    ∃ N, G.toNormalForm fuel = some N ∧ R.start = some "Start" ∧
      ∀ pr, pr ∈ R.prods ↔ pr ∈ binProds N D symOf nm ∨ StartProd G N D nm pr := by
  unfold interD at h
  rw [if_neg hE] at h
  cases hN : G.toNormalForm fuel with
  | none => rw [hN] at h; cases h
  | some N =>
    rw [hN] at h
    cases h
    refine ⟨N, rfl, rfl, fun pr => ?_⟩
    have ha : D.acceptsE [] = true ↔ D.Lang [] := acceptsE_iff D []
    -- `binProds` is the model's `bin`
    show pr ∈ binProds N D symOf nm ++ _ ++ _ ↔ _
    rw [List.mem_append, List.mem_append, or_assoc, StartProd, ← generateEpsilon_iff, ← ha,
      ← Bool.and_eq_true]
    refine or_congr Iff.rfl (or_congr ?_ ?_)
    · constructor
      · intro h
        split at h
        · rename_i s0 st h0 hst
          obtain ⟨f, hf, rfl⟩ := List.mem_map.1 h
          exact ⟨s0, st, f, h0, hst, hf, rfl⟩
        · cases h
      · rintro ⟨s0, st, f, h0, hst, hf, rfl⟩
        rw [h0, hst]
        exact List.mem_map.2 ⟨f, hf, rfl⟩
    · split
      · rename_i hc
        rw [List.mem_singleton]
        exact ⟨fun h => ⟨h, hc⟩, fun h => h.1⟩
      · rename_i hc
        exact iff_of_false List.not_mem_nil fun h => hc h.2

end Pfl.CFG.BH
