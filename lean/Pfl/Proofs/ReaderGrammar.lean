/-
The reader theorem.  `Reads l k ts r` is the grammar `RegexReader.parse` implements, as a relation between
token lists and trees: unions of concatenations (written by juxtaposition or with `.`) of starred
atoms, atoms = symbol tokens or parenthesised expressions.  `Reads.parse_ok`: on a text whose tokens
are `ts`, `parse` yields `r`.  The expressions `E` of the documented grammar (`parse_joinBlank`) and the
printed text of a tree (`PlainRx.printed`) are two ways of deriving `Reads`.
-/
import Pfl.Proofs.ReaderTokens
namespace Pfl.PyRx.E2E
open Pfl.RegexReader Pfl.RegexReader.Lem

/-- right-nested expressions: `cat a b` needs `a` a (starred) atom, `alt a b` needs `a` union free -/
inductive E where
  | tok (x : List Char)
  | par (e : E)
  | star (e : E)
  | cat (a b : E)
  | alt (a b : E)

namespace E

def flat : E → List (List Char)
  | tok x => [x]
  | par e => ['('] :: flat e ++ [[')']]
  | star e => flat e ++ [['*']]
  | cat a b => flat a ++ flat b
  | alt a b => flat a ++ ['|'] :: flat b

def lvl : E → Nat
  | tok _ => 0
  | par _ => 0
  | star _ => 0
  | cat _ _ => 1
  | alt _ _ => 2

def leaf (x : List Char) : Rx :=
  match toNode x with
  | .nSym v => .sym (String.ofList v)
  | .nEps => .eps
  | _ => .empty

def tree : E → Rx
  | tok x => leaf x
  | par e => tree e
  | star e => .star (tree e)
  | cat a b => .cat (tree a) (tree b)
  | alt a b => .alt (tree a) (tree b)

def need : E → Nat
  | tok _ => 1
  | par e => need e
  | star e => need e + 1
  | cat a b => need a + need b + 1
  | alt a b => need a + need b + 1

def SymNode (n : Node) : Prop := (∃ v, n = .nSym v) ∨ n = .nEps

def IsLeaf (x : List Char) : Prop := x ≠ ['('] ∧ x ≠ [')'] ∧ SymNode (toNode x)

/-- `e` is in the right-nested form of the inductive's docstring (via `lvl`: 0 atom or starred atom,
1 concatenation, 2 union) and its leaf tokens are in the token class `A` and read as symbols. -/
def WF (A : List Char → Prop) : E → Prop
  | tok x => A x ∧ IsLeaf x
  | par e => WF A e
  | star e => WF A e ∧ lvl e = 0
  | cat a b => WF A a ∧ WF A b ∧ lvl a = 0 ∧ lvl b ≤ 1
  | alt a b => WF A a ∧ WF A b ∧ lvl a ≤ 1

end E

open E

theorem isSym_sp {c : Char} (h : isSpecialChar c = true) : IsSym [c] := Or.inl ⟨c, rfl, h⟩

/-- how a concatenation is written: by juxtaposition or with the token `.` -/
def Dot (d : List (List Char)) : Prop := d = [] ∨ d = [['.']]

/-- `Reads l k ts r`: the token list `ts` is an expression of the reader's grammar at level `l`
(0: an atom, possibly starred; 1: a concatenation; 2: a union) over the reader's symbols; it
denotes the tree `r`, and `parse` needs fuel `k` for it.  Right-nested, as the reader reads: the
first operand of a concatenation is a starred atom, that of a union is no union.  `E.WF.reads` and
`PlainRx.printed` are the two uses. -/
inductive Reads : Nat → Nat → List (List Char) → Rx → Prop
  | tok {x : List Char} : IsSym x → IsLeaf x → Reads 0 1 [x] (leaf x)
  | par {l k : Nat} {ts : List (List Char)} {r : Rx} :
      Reads l k ts r → Reads 0 k (['('] :: ts ++ [[')']]) r
  | star {k : Nat} {ts : List (List Char)} {r : Rx} :
      Reads 0 k ts r → Reads 0 (k + 1) (ts ++ [['*']]) (.star r)
  | cat {l ka kb : Nat} {us vs : List (List Char)} {a b : Rx} (d : List (List Char)) :
      Dot d → Reads 0 ka us a → Reads l kb vs b → l ≤ 1 →
      Reads 1 (ka + kb + 1) (us ++ d ++ vs) (.cat a b)
  | alt {l l' ka kb : Nat} {us vs : List (List Char)} {a b : Rx} :
      Reads l ka us a → l ≤ 1 → Reads l' kb vs b →
      Reads 2 (ka + kb + 1) (us ++ ['|'] :: vs) (.alt a b)

def NotOp (n : Node) : Prop := n ≠ .nUnion ∧ n ≠ .nConcat

/-- a sequence of groups (atoms and stars) -/
inductive Chain : List (List Char) → Prop
  | nil : Chain []
  | cons (g l : List (List Char)) : Grp g → (∀ x tl, g = x :: tl → NotOp (toNode x)) → Chain l →
      Chain (g ++ l)

theorem Chain.single (g : List (List Char)) (hg : Grp g)
    (hx : ∀ x tl, g = x :: tl → NotOp (toNode x)) : Chain g := by
  simpa using Chain.cons g [] hg hx .nil

theorem Chain.bal {l : List (List Char)} (h : Chain l) : bal l = 0 := by
  induction h with
  | nil => rfl
  | cons g l hg _ _ ih => simp [hg.inner.1, ih]

/-- a sequence of groups, each one juxtaposed to what is in front of it or joined to it by `.` -/
inductive Seq : List (List Char) → Prop
  | nil : Seq []
  | cons (d g l : List (List Char)) :
      (d = [] ∧ ∀ x tl, g = x :: tl → NotOp (toNode x)) ∨ d = [['.']] → Grp g → Seq l →
      Seq (d ++ g ++ l)

theorem Seq.append {a b : List (List Char)} (ha : Seq a) (hb : Seq b) : Seq (a ++ b) := by
  induction ha with
  | nil => simpa using hb
  | cons d g l hd hg _ ih => rw [List.append_assoc]; exact .cons d g _ hd hg ih

/-- the scan over a sequence `l` that ends the text or stands in front of a union stops behind it,
on a union node in the second case only -/
theorem scan_seq {l : List (List Char)} (hl : Seq l) :
    ∀ (cs pre post : List (List Char)) (nd : Node) (F : Nat), cs = pre ++ l ++ post → bal pre = 0 →
    (∀ x p, l ++ post = x :: p → nd = toNode x) → (∀ y p, post = y :: p → y = ['|']) →
    (l = [] → post = [] → nd ≠ .nUnion) → l.length < F →
    ∃ nd', scanToUnion cs F pre.length nd = .ok (pre.length + l.length, nd') ∧
      (nd' = .nUnion ↔ post ≠ []) := by
  induction hl with
  | nil =>
    intro cs pre post nd F hcs _ hnd hpost hne hF
    obtain ⟨f, rfl⟩ : ∃ f, F = f + 1 := ⟨F - 1, by omega⟩
    refine ⟨nd, ?_, ?_⟩
    · cases post with
      | nil => exact scan_stop _ _ _ _ (by simp [hcs])
      | cons y p =>
        rw [hnd y p rfl, hpost y p rfl, toNode_bar, scanToUnion, if_neg (fun h => h.2 rfl)]
        rfl
    · cases post with
      | nil => simpa using hne rfl rfl
      | cons y p => simp [hnd y p rfl, hpost y p rfl, toNode_bar]
  | cons d g l hd hg hl ih =>
    intro cs pre post nd F hcs hpre hnd hpost _ hF
    have hpos := hg.length_pos
    obtain ⟨f, rfl⟩ : ∃ f, F = f + 1 := ⟨F - 1, by omega⟩
    -- one round takes the scan over `d ++ g`: a `.` is skipped, a group is passed
    have hd' : bal (pre ++ d) = 0 ∧ nd ≠ .nUnion ∧
        (if isOperatorNotStar nd = true then pre.length + 1 else pre.length) = (pre ++ d).length := by
      rcases hd with ⟨rfl, hx⟩ | rfl
      · obtain ⟨x, tl, rfl⟩ := List.exists_cons_of_length_pos hpos
        have := hx x tl rfl
        rw [hnd x (tl ++ l ++ post) (by simp)]
        simp [isOperatorNotStar, this.1, this.2, hpre]
      · rw [hnd ['.'] (g ++ l ++ post) (by simp), toNode_dot]
        simp [isOperatorNotStar, hpre, parVal]
    rw [scan_grp cs (pre ++ d) g (l ++ post) (by rw [hcs]; simp) hd'.1 hg f pre.length nd hd'.2.1 hd'.2.2]
    obtain ⟨nd', h1, h2⟩ := ih cs (pre ++ d ++ g) post (((l ++ post).head?.map toNode).getD nd) f
      (by rw [hcs]; simp) (by rw [bal_append, hd'.1, hg.inner.1]; rfl)
      (fun y p e => by rw [e]; rfl) hpost (fun hl hp => by rw [hl, hp]; exact hd'.2.1)
      (by simp only [List.length_append] at hF; omega)
    rw [List.length_append] at h1
    exact ⟨nd', by rw [h1]; simp only [List.length_append, Nat.add_assoc], h2⟩

theorem SymNode.ne_star {n : Node} (h : SymNode n) : n ≠ .nStar := by
  rcases h with ⟨v, rfl⟩ | rfl <;> simp

theorem SymNode.notOp {n : Node} (h : SymNode n) : NotOp n := by
  rcases h with ⟨v, rfl⟩ | rfl <;> exact ⟨by simp, by simp⟩

theorem IsLeaf.grp {x : List Char} (h : IsLeaf x) : Grp [x] := Or.inl ⟨x, rfl, h.1, h.2.1⟩

theorem toNode_open : toNode ['('] = .nSym ['('] := by decide

section Reads
variable {l k : Nat} {ts : List (List Char)} {r : Rx}

theorem Dot.mem {d : List (List Char)} (hd : Dot d) : ∀ a ∈ d, IsSym a := by
  rcases hd with rfl | rfl
  · exact fun _ h => nomatch h
  · exact List.forall_mem_singleton.2 (isSym_sp (by decide))

theorem Reads.mem (h : Reads l k ts r) : ∀ a ∈ ts, IsSym a := by
  induction h with
  | tok hx _ => exact List.forall_mem_singleton.2 hx
  | par _ ih =>
    exact List.forall_mem_append.2 ⟨List.forall_mem_cons.2 ⟨isSym_sp (by decide), ih⟩,
      List.forall_mem_singleton.2 (isSym_sp (by decide))⟩
  | star _ ih => exact List.forall_mem_append.2 ⟨ih, List.forall_mem_singleton.2 (isSym_sp (by decide))⟩
  | cat d hd _ _ _ iha ihb =>
    exact List.forall_mem_append.2 ⟨List.forall_mem_append.2 ⟨iha, hd.mem⟩, ihb⟩
  | alt _ _ _ iha ihb =>
    exact List.forall_mem_append.2 ⟨iha, List.forall_mem_cons.2 ⟨isSym_sp (by decide), ihb⟩⟩

theorem Dot.inner {d : List (List Char)} (hd : Dot d) : Inner d := by
  rcases hd with rfl | rfl
  · exact Inner.nil
  · exact Inner.single (by decide)

theorem Reads.inner (h : Reads l k ts r) : Inner ts := by
  induction h with
  | tok _ hx => exact (IsLeaf.grp hx).inner
  | par _ ih => exact ih.paren
  | star _ ih => exact ih.append (Inner.single (x := ['*']) (by decide))
  | cat d hd _ _ _ iha ihb => exact (iha.append hd.inner).append ihb
  | alt _ _ _ iha ihb => exact iha.append ((Inner.single (x := ['|']) (by decide)).append ihb)

theorem Reads.first (h : Reads l k ts r) (hl : l ≤ 1) : ∃ x g rest, ts = x :: g ++ rest ∧
    Grp (x :: g) ∧ SymNode (toNode x) ∧ Seq rest := by
  induction h with
  | tok _ hx => exact ⟨_, [], [], rfl, IsLeaf.grp hx, hx.2.2, .nil⟩
  | par h _ => exact ⟨_, _, [], by simp, Grp.paren h.inner, Or.inl ⟨_, toNode_open⟩, .nil⟩
  | star _ ih =>
    obtain ⟨x, g, rest, rfl, hg, hx, hr⟩ := ih hl
    refine ⟨x, g, rest ++ [['*']], by simp, hg, hx, hr.append ?_⟩
    simpa using Seq.cons [] [['*']] [] (Or.inl ⟨rfl, fun y tl e => by
      rw [← (List.cons.inj e).1, toNode_star]; exact ⟨by simp, by simp⟩⟩)
      (Or.inl ⟨_, rfl, by decide, by decide⟩) .nil
  | cat d hd _ _ hlb iha ihb =>
    obtain ⟨x, g, rest, rfl, hg, hx, hr⟩ := iha (Nat.zero_le _)
    obtain ⟨y, g', rest', rfl, hg', hy, hr'⟩ := ihb hlb
    refine ⟨x, g, rest ++ (d ++ (y :: g') ++ rest'), by simp, hg, hx, hr.append (.cons d _ _ ?_ hg' hr')⟩
    rcases hd with rfl | rfl
    · exact Or.inl ⟨rfl, fun z tl e => (List.cons.inj e).1 ▸ SymNode.notOp hy⟩
    · exact Or.inr rfl
  | alt => omega

theorem Reads.pos (h : Reads l k ts r) : 0 < k := by
  induction h <;> omega

theorem Reads.ne_nil (h : Reads l k ts r) : ts ≠ [] := by
  induction h with
  | cat _ _ _ _ _ ih _ => simp [ih]
  | _ => simp

/-- `Norm ts G`: in first position the precedence computation turns `ts` into the group `G` -/
def Norm (ts G : List (List Char)) : Prop :=
  Grp G ∧ ∃ j, j < ts.length ∧
    ∀ F rest, computePrecedence (F + j) (ts ++ rest) = computePrecedence F (G ++ rest)

theorem Norm.refl {G : List (List Char)} (hG : Grp G) : Norm G G :=
  ⟨hG, 0, hG.length_pos, fun _ _ => rfl⟩

theorem Norm.star {G : List (List Char)} (h : Norm ts G) :
    Norm (ts ++ [['*']]) (['('] :: (G ++ [['*']]) ++ [[')']]) := by
  obtain ⟨hG, j, hj, hcp⟩ := h
  refine ⟨Grp.paren (hG.inner.append (Inner.single (by decide))), j + 1, by simp; omega,
    fun F rest => ?_⟩
  rw [show F + (j + 1) = F + 1 + j by omega, List.append_assoc, hcp (F + 1)]
  exact (cp_star F G rest hG).trans (by simp)

/-- the budget of `computePrecedence` pays for the rounds of `Norm`; what is left is positive -/
theorem Norm.cp {G : List (List Char)} (h : Norm ts G) (rest cs' : List (List Char))
    (h' : ∀ F, computePrecedence (F + 1) (G ++ rest) = .ok cs') :
    computePrecedence ((ts ++ rest).length + 2) (ts ++ rest) = .ok cs' := by
  obtain ⟨_, j, hj, hcp⟩ := h
  obtain ⟨F, hF⟩ : ∃ F, (ts ++ rest).length + 2 = F + 1 + j :=
    ⟨(ts ++ rest).length + 1 - j, by simp only [List.length_append]; omega⟩
  rw [hF, hcp, h' F]

theorem Reads.norm (h : Reads 0 k ts r) : ∃ G, Norm ts G ∧ Reads 0 k G r := by
  generalize hl : 0 = l at h
  induction h with
  | tok ha hx => exact ⟨_, .refl (IsLeaf.grp hx), .tok ha hx⟩
  | par h _ => exact ⟨_, .refl (Grp.paren h.inner), .par h⟩
  | star _ ih =>
    obtain ⟨G, hN, hR⟩ := ih rfl
    exact ⟨_, hN.star, hR.star.par⟩
  | cat | alt => omega

theorem Reads.stop (h : Reads l k ts r) (hl : l ≤ 1) (rest : List (List Char)) (hr : rest ≠ [])
    (f : Nat) : stripParens (f + 1) (ts ++ rest) = .ok (ts ++ rest) := by
  obtain ⟨x, g, rest', rfl, hg, _, _⟩ := h.first hl
  rw [List.append_assoc]
  exact stripParens_stop_grp f _ _ hg (by simp [hr])

end Reads

/-- One step of `parse` on a starred expression, a concatenation, a union (`pstep_star/cat/alt`): it
re-enters on the operands; the precedence computation has made the first a group, which is again an
expression for the same tree and the same fuel. -/
theorem pstep_star {k : Nat} {ts : List (List Char)} {r : Rx} (h : Reads 0 k ts r) :
    ∃ G, Reads 0 k G r ∧ ∀ fuel, parseT fuel (ts ++ [['*']]) = (do
      let a ← parse fuel (joinBlank G)
      .ok (.star a)) := by
  obtain ⟨G, hN, hR⟩ := h.norm
  refine ⟨G, hR, fun fuel => (parseT_passes fuel _ (['('] :: (G ++ [['*']]) ++ [[')']]) _
    (h.stop (Nat.zero_le 1) _ (by simp) _) ?_ ?_).trans
    (by rw [finish_at fuel G [] _ hN.1, toNode_star])⟩
  · have := hN.star.cp [] _ (fun F => by rw [List.append_nil]; exact cp_done F _ hN.star.1)
    rwa [List.append_nil] at this
  · rw [stripParens_paren _ _ (hN.1.inner.append (Inner.single (by decide)))]
    exact stripParens_stop_grp _ _ _ hN.1 (by simp)

theorem Reads.seq {l k : Nat} {vs d : List (List Char)} {r : Rx} (h : Reads l k vs r) (hl : l ≤ 1)
    (hd : Dot d) : Seq (d ++ vs) ∧ ∃ x tl, d ++ vs = x :: tl ∧ toNode x ≠ .nStar ∧ toNode x ≠ .nUnion := by
  obtain ⟨y, g, rest, rfl, hg, hy, hr⟩ := h.first hl
  rw [← List.append_assoc]
  rcases hd with rfl | rfl
  · exact ⟨.cons [] _ _ (Or.inl ⟨rfl, fun z tl e => (List.cons.inj e).1 ▸ SymNode.notOp hy⟩) hg hr,
      y, _, rfl, SymNode.ne_star hy, (SymNode.notOp hy).1⟩
  · exact ⟨.cons _ _ _ (Or.inr rfl) hg hr, _, _, rfl, by rw [toNode_dot]; simp⟩

/-- the precedence computation on a group `G` followed by the second operand `vs` of a concatenation
and then nothing or a union: the concatenation in front of a union is parenthesised -/
theorem cp_seq (F : Nat) {G d vs : List (List Char)} (post : List (List Char)) {l k : Nat} {r : Rx}
    (hG : Grp G) (hd : Dot d) (h : Reads l k vs r) (hl : l ≤ 1)
    (hpost : ∀ y p, post = y :: p → y = ['|']) :
    computePrecedence (F + 1) (G ++ (d ++ vs) ++ post) =
      .ok (if post = [] then G ++ (d ++ vs) else ['('] :: (G ++ (d ++ vs)) ++ [')'] :: post) := by
  obtain ⟨hl, x, tl, hx, hs, hu⟩ := h.seq hl hd
  rw [hx] at hl ⊢
  rw [List.append_assoc, List.cons_append, cp_at F G _ x hG, if_neg hs, if_neg hu]
  obtain ⟨nd', h1, h2⟩ := scan_seq hl (G ++ x :: (tl ++ post)) G post (toNode x)
    ((G ++ x :: (tl ++ post)).length + 2) (by simp) hG.inner.1
    (by intro y p e; simp only [List.cons_append, List.cons.injEq] at e; rw [e.1]) hpost
    (fun h => nomatch h) (by simp; omega)
  rw [h1]
  cases post with
  | nil => exact (if_neg (mt h2.1 (by simp))).trans (by simp)
  | cons y rest =>
    obtain rfl := hpost y rest rfl
    have := insertParens_zero (G ++ x :: tl) (['|'] :: rest)
    simp only [List.length_append, List.length_cons, List.append_assoc, List.cons_append] at this
    simp [h2.2, this, bind, Except.bind]

theorem finish_cat (fuel : Nat) {g d vs : List (List Char)} {l k : Nat} {r : Rx} (hg : Grp g) (hd : Dot d)
    (h : Reads l k vs r) (hl : l ≤ 1) :
    finish fuel (g ++ d ++ vs) = (do
      let a ← parse fuel (joinBlank g)
      let b ← parse fuel (joinBlank vs)
      .ok (.cat a b)) := by
  obtain ⟨x, g', rest, rfl, -, hx, -⟩ := h.first hl
  rcases hd with rfl | rfl
  · rw [List.append_nil, List.cons_append, finish_at fuel g _ x hg]
    rcases hx with ⟨v, hv⟩ | hv <;> rw [hv]
  · rw [List.append_assoc, List.singleton_append, finish_at fuel g _ _ hg, toNode_dot]

theorem pstep_cat {l ka kb : Nat} {us vs d : List (List Char)} {a b : Rx}
    (h1 : Reads 0 ka us a) (h2 : Reads l kb vs b) (hl : l ≤ 1) (hd : Dot d) :
    ∃ G, Reads 0 ka G a ∧ ∀ fuel, parseT fuel (us ++ d ++ vs) = (do
      let a ← parse fuel (joinBlank G)
      let b ← parse fuel (joinBlank vs)
      .ok (.cat a b)) := by
  obtain ⟨G, hN, hR⟩ := h1.norm
  have hne : d ++ vs ≠ [] := by simp [h2.ne_nil]
  refine ⟨G, hR, fun fuel => ?_⟩
  rw [List.append_assoc]
  refine (parseT_passes fuel _ _ _ (h1.stop (Nat.zero_le 1) _ hne _) (hN.cp _ _ fun F => ?_)
    (stripParens_stop_grp _ _ _ hN.1 hne)).trans
    (by rw [← List.append_assoc]; exact finish_cat fuel hN.1 hd h2 hl)
  simpa using cp_seq F [] hN.1 hd h2 hl (by simp)

theorem Reads.normU {l k : Nat} {us : List (List Char)} {a : Rx} (h : Reads l k us a)
    (hl : l ≤ 1) : ∃ N, Grp N ∧ Reads 0 k N a ∧ ∀ vs,
      computePrecedence ((us ++ ['|'] :: vs).length + 2) (us ++ ['|'] :: vs) =
        .ok (N ++ ['|'] :: vs) := by
  obtain rfl | rfl : l = 0 ∨ l = 1 := by omega
  · obtain ⟨G, hN, hR⟩ := h.norm
    exact ⟨G, hN.1, hR, fun vs => hN.cp _ _ fun F => cp_union F G vs hN.1⟩
  · cases h with
    | cat d hd h1 h2 hl2 =>
      obtain ⟨G, hN, hR⟩ := h1.norm
      have hR' := Reads.cat d hd hR h2 hl2
      refine ⟨_, Grp.paren hR'.inner, hR'.par, fun vs => ?_⟩
      rw [List.append_assoc, List.append_assoc]
      refine hN.cp _ _ fun F => ?_
      simpa using cp_seq F (['|'] :: vs) hN.1 hd h2 hl2 fun y p e => (List.cons.inj e).1.symm

theorem pstep_alt {l ka : Nat} {us : List (List Char)} {a : Rx} (h1 : Reads l ka us a)
    (hl : l ≤ 1) : ∃ N, Reads 0 ka N a ∧ ∀ vs fuel, parseT fuel (us ++ ['|'] :: vs) = (do
      let a ← parse fuel (joinBlank N)
      let b ← parse fuel (joinBlank vs)
      .ok (.alt a b)) := by
  obtain ⟨N, hN, hR, hcp⟩ := h1.normU hl
  exact ⟨N, hR, fun vs fuel => (parseT_passes fuel _ _ _ (h1.stop hl _ (by simp) _) (hcp vs)
    (stripParens_stop_grp _ _ _ hN (by simp))).trans (by rw [finish_at fuel N vs _ hN, toNode_bar])⟩

theorem bind_ok {α β : Type} (a : α) (f : α → Except Err β) :
    (Except.ok a >>= f : Except Err β) = f a := rfl

theorem parseT_leaf (fuel : Nat) (x : List Char) (h : IsLeaf x) : parseT fuel [x] = .ok (leaf x) := by
  rw [parseT_single fuel x h.1 h.2.1]
  rcases h.2.2 with ⟨v, hv⟩ | hv <;> simp [finish, leaf, hv]

/-- The reader reads every expression of its grammar as the tree the expression denotes.  Outer
induction on the fuel, inner induction on the derivation: the reader re-enters, with one unit less,
on token lists that are no parts of `ts` (the groups the precedence computation has made of the
operands: `pstep_star/cat/alt`) but need less fuel, which `reent` gets from the outer hypothesis; a
parenthesised expression is stripped without re-entering and without lowering `k` (`parseT_paren`),
which only the inner hypothesis covers. -/
theorem Reads.parse_ok {l k : Nat} {ts : List (List Char)} {r : Rx} (h : Reads l k ts r) {fuel : Nat}
    (hk : k ≤ fuel) {s : List Char} (hs : components (preProcess s) = ts) : parse fuel s = .ok r := by
  induction fuel using Nat.strongRecOn generalizing l k ts r s with
  | _ fuel ihf =>
    obtain ⟨fuel, rfl⟩ : ∃ n, fuel = n + 1 := ⟨fuel - 1, by have := h.pos; omega⟩
    have reent : ∀ {l k : Nat} {ts : List (List Char)} {r : Rx}, Reads l k ts r → k ≤ fuel →
        parse fuel (joinBlank ts) = .ok r := fun h hk =>
      ihf fuel (Nat.lt_succ_self _) h hk ((written_joinBlank _).components_eq h.ne_nil h.mem)
    rw [parse_succ, hs]
    clear hs
    induction h with
    | tok _ hx => exact parseT_leaf fuel _ hx
    | par h ih =>
      rw [parseT_paren fuel _ h.inner]
      exact ih hk
    | star h _ =>
      obtain ⟨G, hR, e⟩ := pstep_star h
      rw [e, reent hR (by omega)]
      rfl
    | cat d hd h1 h2 hl _ _ =>
      obtain ⟨G, hR, e⟩ := pstep_cat h1 h2 hl hd
      rw [e, reent hR (by omega), bind_ok, reent h2 (by omega)]
      rfl
    | alt h1 hl h2 _ _ =>
      obtain ⟨N, hR, e⟩ := pstep_alt h1 hl
      rw [e, reent hR (by omega), bind_ok, reent h2 (by omega)]
      rfl

theorem Reads.parse_written {l k : Nat} {ts : List (List Char)} {r : Rx} (h : Reads l k ts r)
    {fuel : Nat} (hk : k ≤ fuel) {s : List Char} (hs : Written ts s) : parse fuel s = .ok r :=
  h.parse_ok hk (hs.components_eq h.ne_nil h.mem)

section
variable {A : List Char → Prop} (hA : ∀ x, A x → IsSym x)
include hA

theorem E.WF.reads : ∀ e, WF A e → Reads (lvl e) (E.need e) (flat e) (tree e)
  | .tok _, h => .tok (hA _ h.1) h.2
  | .par e, h => .par (E.WF.reads e h)
  | .star e, h => .star (h.2 ▸ E.WF.reads e h.1)
  | .cat a b, h => by
    have := Reads.cat [] (Or.inl rfl) (h.2.2.1 ▸ E.WF.reads a h.1) (E.WF.reads b h.2.1) h.2.2.2
    rwa [List.append_nil] at this
  | .alt a b, h => .alt (E.WF.reads a h.1) h.2.2 (E.WF.reads b h.2.1)

theorem flat_sym (e : E) (h : WF A e) : ∀ a ∈ flat e, IsSym a := (E.WF.reads hA e h).mem

omit hA in
theorem flat_ne_nil : ∀ e : E, flat e ≠ []
  | .tok _ => by simp [flat]
  | .par _ => by simp [flat]
  | .star _ => by simp [flat]
  | .cat a _ => by simp [flat, flat_ne_nil a]
  | .alt a _ => by simp [flat]

theorem parse_joinBlank (e : E) (h : WF A e) (fuel : Nat) (hf : E.need e ≤ fuel) :
    parse fuel (joinBlank (flat e)) = .ok (tree e) :=
  (E.WF.reads hA e h).parse_written hf (written_joinBlank _)

end
end Pfl.PyRx.E2E

namespace Pfl.RegexReader.Lem
open Pfl.PyRx.E2E Pfl.PyRx.E2E.E

/-- the printed text of a tree is an expression of the reader's grammar for that tree, every
concatenation written with `.` and in parentheses, its symbols written with no blank beside the
special characters -/
theorem PlainRx.printed : ∀ r, PlainRx r → ∃ k ts, Reads 0 k ts r ∧ Written ts (Rx.repr' r).toList
  | .empty, h => h.elim
  | .eps, _ => ⟨1, _, .tok (isSym_sp (by decide)) ⟨by decide, by decide, Or.inr (by decide)⟩, .one ['$']⟩
  | .sym s, h => by
    have hp := PlainSym.isPl h
    have := Reads.tok (Or.inr (Or.inl hp))
      ⟨hp.ne_sp (by decide), hp.ne_sp (by decide), Or.inl ⟨_, PlainSym.toNode h⟩⟩
    rw [leaf, PlainSym.toNode h] at this
    exact ⟨1, _, by simpa using this, by rw [PlainSym.repr h]; exact .one _⟩
  | .cat a b, h =>
    have ⟨_, _, ha, wa⟩ := PlainRx.printed a h.1
    have ⟨_, _, hb, wb⟩ := PlainRx.printed b h.2
    ⟨_, _, (Reads.cat [['.']] (Or.inr rfl) ha hb (Nat.zero_le 1)).par, by
      simpa [Rx.repr'] using
        ((wa.mid_sp wb '.' (by decide)).snoc_sp ')' (by decide)).cons_sp '(' (by decide)⟩
  | .alt a b, h =>
    have ⟨_, _, ha, wa⟩ := PlainRx.printed a h.1
    have ⟨_, _, hb, wb⟩ := PlainRx.printed b h.2
    ⟨_, _, (Reads.alt ha (Nat.zero_le 1) hb).par, by
      simpa [Rx.repr'] using
        ((wa.mid_sp wb '|' (by decide)).snoc_sp ')' (by decide)).cons_sp '(' (by decide)⟩
  | .star a, h =>
    have ⟨_, _, ha, wa⟩ := PlainRx.printed a h
    ⟨_, _, ha.par.star, by
      simpa [Rx.repr'] using
        ((wa.snoc_sp ')' (by decide)).snoc_sp '*' (by decide)).cons_sp '(' (by decide)⟩

end Pfl.RegexReader.Lem
