/-
Termination of the Earley model (C18): the bound `colBoundT` in the general case, under the additional
invariant `TF`.  The symbol records of a state's record are pairwise distinct, its leaves coincide
exactly as those of its production do (a leaf may be new: the dummy rule), so the pattern of a state is
determined by the values of its leaves: at most `(|vals|+2)^(L+1)` states under one key.  The one place
where the store changes shape is the unification in `advance` (`SlotCtx.sh`).
-/
import Pfl.Proofs.EarleyTerminationOps
import Pfl.Proofs.EarleyTerminationUnify
namespace Pfl
namespace Earley
namespace Term
open FsDag Lem Cmp

theorem leaf_self_iff {vals : List String} {st : Store} {F i : Nat} :
    (∃ x, leafOf st F i = some x ∧ leafOf st F i = some x) ↔ leafCode vals st F i ≠ 0 := by
  unfold leafCode
  cases leafOf st F i <;> simp

theorem pat_of_sh {vals : List String} {L : Nat} {st st0 : Store} {a b P : Nat}
    (ha : Sh st a st0 P) (hb : Sh st b st0 P)
    (hcode : ∀ i, i ≤ L → leafCode vals st a i = leafCode vals st b i) :
    pat vals L st a = pat vals L st b := by
  refine pat_eq_iff.2 fun i hi => ⟨fun j hj => ⟨?_, ?_⟩, hcode i hi⟩
  · exact (ha.slot i j).trans (hb.slot i j).symm
  · by_cases hij : i = j
    · subst hij
      rw [leaf_self_iff (vals := vals), leaf_self_iff (vals := vals), hcode i hi]
    · exact (ha.leaf i j hij).trans (hb.leaf i j hij).symm

/-- the values of the leaves -/
def tpat (vals : List String) (L : Nat) (st : Store) (F : Nat) : Fin (L + 1) → Fin (vals.length + 2) :=
  fun i => Fin.ofNat _ (leafCode vals st F i)

theorem leafCode_lt2 {vals : List String} {st : Store}
    (hap : AP (· ∈ vals) st) (F j : Nat) :
    leafCode vals st F j < vals.length + 2 := by
  unfold leafCode
  cases leafOf st F j with
  | none => exact Nat.succ_pos _
  | some x =>
    show valCode vals (val st x) + 1 < _
    cases hv : val st x with
    | none => exact Nat.succ_lt_succ (Nat.succ_pos _)
    | some v =>
      exact Nat.succ_lt_succ (Nat.succ_lt_succ (List.idxOf_lt_length_of_mem (hap x v hv)))

theorem tpat_code {vals : List String} {L : Nat} {st : Store}
    (hap : AP (· ∈ vals) st) {a b : Nat}
    (h : tpat vals L st a = tpat vals L st b) (i : Nat) (hi : i ≤ L) :
    leafCode vals st a i = leafCode vals st b i :=
  finOfNat_inj (Nat.le_of_lt_succ (leafCode_lt2 hap a i)) (Nat.le_of_lt_succ (leafCode_lt2 hap b i))
    (congrFun h ⟨i, Nat.lt_succ_of_le hi⟩)

/-- the facts of `TB`, and the production records still have the shape (`Sh`) they had in the start store
`st0`, the one that makes a pattern a function of the leaf values -/
structure TFS (C : Ctx) (vals : List String) (L : Nat) (st0 st : Store) (rk : Nat → Nat)
    (pr : List Dict) (n : Nat) : Prop extends TBS C vals L st rk pr n where
  sdo : ∀ (k : Nat) (p : FProd), C.G.prods[k]? = some p → Sh st p.feats st0 p.feats

/-- of every state: its record has the shape of the record of its production -/
structure TFR (C : Ctx) (L : Nat) (st0 st : Store) (rk : Nat → Nat) (i : Nat) (s : EState) : Prop
    extends TBR C L st rk i s where
  ts : Sh st s.fs st0 (prodOf C.G s.prod).feats

abbrev TF (C : Ctx) (vals : List String) (L : Nat) (st0 : Store) (T : Tables) (rk : Nat → Nat) : Prop :=
  Lay (TFS C vals L st0) (TFR C L st0) T rk

section
variable {C : Ctx} {vals : List String} {L : Nat} {st0 : Store}

theorem TF.tb {T : Tables} {rk : Nat → Nat} (h : TF C vals L st0 T rk) :
    TB C vals L T rk :=
  h.mono (fun h => h.toTBS) fun h => h.toTBR

theorem TF.carry {T : Tables} {rk rk' : Nat → Nat} (h : TF C vals L st0 T rk) {st' : Store}
    (hs : Lem.Step C.P T.store rk st' rk') (hf : Fr T.store st') :
    Carry (TFR C L st0) T.store rk st' rk' :=
  have hw := h.tab.wf
  fun _ _ r => ⟨r.toTBR.step hs hf hw, r.ts.fr hf hw.inv.acyc hw.rng r.fs_lt⟩

theorem TF.store {T : Tables} {rk rk' : Nat → Nat}
    (h : TF C vals L st0 T rk) {st' : Store} (hB' : BaseS C st' rk' T.processed T.chart.length)
    (hs : Lem.Step C.P T.store rk st' rk') (hf : Fr T.store st') :
    TF C vals L st0 { T with store := st' } rk' :=
  have hw := h.tab.wf
  Lay.store h { (TF.tb h).store hB' hs hf |>.tab with
      sdo := fun k p hp => (h.tab.sdo k p hp).fr hf hw.inv.acyc hw.rng (h.tab.objs k p hp).1 }
    (h.carry hs hf)

theorem TF.push (hc : TC C vals L) {T : Tables} {rk : Nat → Nat}
    (h : TF C vals L st0 T rk) {i : Nat} {s : EState} (hi : i < C.word.length + 1)
    (r : TFR C L st0 T.store rk i s) (hdot : s.dot ≤ L) : TF C vals L st0 (pushIfNew C.G T i s) rk :=
  Lay.push h C.G { TBS.procAdd hc (TF.tb h) hi r.toStOK hdot, h.tab with } r

def colBoundT (S W L m : Nat) : Nat := (S + 1) * (W + 1) * (L + 1) * (m + 2) ^ (L + 1)

theorem TF.pat_of_codes {T : Tables} {rk : Nat → Nat}
    (h : TF C vals L st0 T rk) {j : Nat} {e : Key × List EState} (he : e ∈ colGet T.processed j)
    {o1 o2 : EState} (m1 : o1 ∈ e.2) (m2 : o2 ∈ e.2)
    (hcode : ∀ i, i ≤ L → leafCode vals T.store o1.fs i = leafCode vals T.store o2.fs i) :
    pat vals L T.store o1.fs = pat vals L T.store o2.fs := by
  have hkeys := h.tab.keys j e he
  have hprod : o1.prod = o2.prod := (Prod.mk.inj ((hkeys o1 m1).trans (hkeys o2 m2).symm)).1
  have t1 := (h.p j o1 (mem_proc_of_entry he m1)).ts
  rw [hprod] at t1
  exact pat_of_sh t1 (h.p j o2 (mem_proc_of_entry he m2)).ts hcode

theorem TF.acc_le (hc : TC C vals L) {T : Tables} {rk : Nat → Nat}
    (h : TF C vals L st0 T rk) (j : Nat) :
    acc T j ≤ colBoundT C.spec.length C.word.length L vals.length := by
  have := (h.tab.col j).flen_le_card (fun o => tpat vals L T.store o.fs) fun _ he _ m1 _ m2 heq =>
    h.pat_of_codes he m1 m2 (tpat_code (fun i v hv => hc.pvals v (h.tab.sx.ap i v hv)) heq)
  rwa [Fintype.card_fun, Fintype.card_fin, Fintype.card_fin] at this

end

section
variable {C : Ctx} {vals : List String} {L : Nat} {st0 : Store}

theorem advance_tf (hC : CtxOK C) (hc : TC C vals L) {T : Tables}
    {rk : Nat → Nat} (hT : TF C vals L st0 T rk) {i : Nat} {c nx : EState}
    (rc : TFR C L st0 T.store rk i c) (rnx : TFR C L st0 T.store rk c.b nx) (hi : i < C.word.length + 1)
    (hcomp : incomplete C.G c = false)
    (hnext : nextSym C.G nx = some (.var (prodOf C.G c.prod).head)) :
    ∃ rk', (TF C vals L st0 (Pfl.Earley.advance C.G T nx c) rk' ∧
        Carry (TFR C L st0) T.store rk (Pfl.Earley.advance C.G T nx c).store rk') ∧
      (PlainSt T.store → PlainSt (Pfl.Earley.advance C.G T nx c).store) := by
  obtain ⟨st1, cl, rk1, st2, cr, rk2, left, considered, W⟩ :=
    advance_walk hC hT.tb.base rc.toBaseR rnx.toBaseR hnext
  have hw0 := hT.tab.wf
  have hT2 := And.intro (hT.store (W.baseS hT.tab.toBaseS) W.step W.fr) (hT.carry W.step W.fr)
  rw [advance_eq, W.eq]
  cases hun : unify (st2.length + 2) st2 considered left with
  | ok st3 =>
    obtain ⟨rk3, u⟩ := W.ok st3 hun
    obtain ⟨r, hdot⟩ := advWalk_tbr W hC hc hw0 rc.toTBR rnx.toTBR hcomp hnext u
    have hfr3 := W.fr3 u hw0 hT.tab.sx
    have hU := (u.sx (W.sx hT.tab.sx)).2
    have g := advWalk_slotCtx W
    have hsh2 := advWalk_sh W hw0 rnx.fs_lt rnx.ts
    refine ⟨rk3, ⟨TF.push hc (hT.store (W.baseS3 u hT.tab.toBaseS) (W.step.trans u.step) hfr3)
      (by rw [rc.e_eq]; exact hi) ⟨r, g.sh u hU hsh2⟩ hdot,
      (hT.carry (W.step.trans u.step) hfr3).push _ _ _⟩, fun hp => ?_⟩
    rw [pushIfNew_store]
    exact g.plain hU (advWalk_plain W hw0 hp).1 (advWalk_plain W hw0 hp).2
  | _ => exact ⟨rk2, hT2, fun hp => (advWalk_plain W hw0 hp).1⟩

end

theorem TSh.refl_of {st : Store} {P : Nat}
    (hsd : ∀ i j c, slotOf st P i = some c → slotOf st P j = some c → i = j) : TSh st P P :=
  ⟨fun i j => ⟨fun ⟨c, h1, h2⟩ => ⟨hsd i j c h1 h2, by rw [h1]; rfl⟩,
    fun ⟨e, h⟩ => e ▸ (Option.isSome_iff_exists.1 h).imp fun _ hc => ⟨hc, hc⟩⟩, fun _ _ _ => Iff.rfl⟩

section
variable {C : Ctx} {vals : List String} {L : Nat}

theorem tf_chain (hC : CtxOK C) (hc : TC C vals L) (st0 : Store) :
    Chain C (TFS C vals L st0) (TFR C L st0) (colBoundT C.spec.length C.word.length L vals.length) where
  toS := fun h => h.toBaseS
  toR := fun h => h.toBaseR
  adv := fun h hs hnx hi hcomp hnext =>
    (advance_tf hC hc h hs hnx hi hcomp hnext).imp fun _ h => h.1
  scan := fun {T rk i s t} h r0 hn hw => by
    obtain ⟨r, hi, hdot⟩ := scanned_tbr hC hc r0.toTBR hn hw
    exact TF.push hc h hi ⟨r, r0.ts⟩ hdot
  pred := fun {T rk k p e} h hget he =>
    TF.push hc h he ⟨⟨⟨predicted_ok hC h.tab.toInvS hget _, h.tab.opth _ _ hget⟩,
      h.tab.rlo _ _ hget⟩, by
        show Sh T.store p.feats st0 (prodOf C.G k).feats
        rw [prodOf_some hget]
        exact h.tab.sdo k p hget⟩ (Nat.zero_le _)
  bound := fun h j => TF.acc_le hc h j

theorem tf_init (hC : CtxOK C) (hc : TC C vals L) {st0 : Store} {rk0 : Nat → Nat}
    (h0 : StartOK C L st0 rk0)
    (hsdo : ∀ k, TSh st0 (prodOf C.G k).feats (prodOf C.G k).feats) :
    TF C vals L st0 (initT C.G st0 C.word.length) rk0 := by
  have hfirst : TSh st0 C.G.gammaFeats (prodOf C.G C.G.prods.length).feats := by
    have h0 := hsdo C.G.prods.length
    rw [prodOf_none (List.getElem?_eq_none (Nat.le_refl _))] at h0 ⊢
    exact h0
  exact TF.push hc (Lay.empty { h0.tbs with sdo := fun k p hp => prodOf_some hp ▸ hsdo k })
    (Nat.succ_pos _) ⟨h0.first hC, hfirst⟩ (Nat.zero_le _)

/-- the recogniser answers within the fuel "number of keys of a column times the number of
valuations of the leaves, plus one" -/
theorem contains_total_feat (hC : CtxOK C) (hc : TC C vals L) {st0 : Store} {rk0 : Nat → Nat}
    (h0 : StartOK C L st0 rk0)
    (hsdo : ∀ k, TSh st0 (prodOf C.G k).feats (prodOf C.G k).feats)
    {fuel : Nat}
    (hfuel : colBoundT C.spec.length C.word.length L vals.length + 1 ≤ fuel) :
    (contains C.G st0 C.word fuel).isSome = true :=
  chain_contains (tf_chain hC hc st0) (tf_init hC hc h0 hsdo) hfuel

end

end Term
end Earley
end Pfl
