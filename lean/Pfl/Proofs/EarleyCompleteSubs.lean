/-
`subsumes` (sharing-aware) answers True exactly when a functional, value preserving simulation
relates the classes of the first structure to classes of the second.  From True to the simulation
(`subsumesF_spec`: the `seen` list is one) and on to the inclusion of the ground instances
(`subsumes_cov`) for completeness; from a simulation to True (`subsumesF_hom`) for termination.
-/
import Pfl.Proofs.EarleyCompleteStore
import Pfl.Proofs.Assoc
namespace Pfl
namespace Earley
namespace Cmp
open FsDag Lem

/-- the step of the fold over the features in `subsumesF` -/
def subStep (f : Nat) (st : Store) (cb : Nat) (acc : Bool × List (Nat × Nat)) (fc : String × Nat) :
    Bool × List (Nat × Nat) :=
  if !acc.1 then acc else
    match lookupC fc.1 (get st cb).content with
    | none => (false, acc.2)
    | some y => subsumesF f st acc.2 fc.2 y

theorem subsumesF_zero (st : Store) (seen : List (Nat × Nat)) (a b : Nat) :
    subsumesF 0 st seen a b = (false, seen) := rfl

theorem subsumesF_succ (f : Nat) (st : Store) (seen : List (Nat × Nat)) (a b : Nat) :
    subsumesF (f + 1) st seen a b =
      match seen.find? (·.1 = deref st a) with
      | some e => (decide (e.2 = deref st b), seen)
      | none =>
        if (get st (deref st a)).value ≠ (get st (deref st b)).value then
          (false, seen ++ [(deref st a, deref st b)])
        else (get st (deref st a)).content.foldl (subStep f st (deref st b))
          (true, seen ++ [(deref st a, deref st b)]) := by
  rw [subsumesF]; rfl

theorem foldl_subStep_false (f : Nat) (st : Store) (cb : Nat) (S : List (Nat × Nat)) :
    ∀ cs : List (String × Nat), cs.foldl (subStep f st cb) (false, S) = (false, S) := by
  intro cs
  induction cs with
  | nil => rfl
  | cons fc cs ih => rw [List.foldl_cons]; exact ih

/-- `c ↦ v` is a correct step of a homomorphism recorded in `S`; the `already_seen` association is
read as the dictionary it is (`Assoc.get`: the class recorded for a key) -/
def Good (st : Store) (S : List (Nat × Nat)) (c v : Nat) : Prop :=
  val st c = val st v ∧ ptr st v = none ∧
    ∀ g x, (g, x) ∈ cont st c → ∃ y, lookupC g (cont st v) = some y ∧
      Assoc.get S (deref st x) = some (deref st y)

/-- postcondition of a successful `subsumesF` / fold: entries were appended, and the new keys are
correct steps -/
structure SPost (st : Store) (S0 S' : List (Nat × Nat)) : Prop where
  ext : ∃ e, S' = S0 ++ e
  good : ∀ c v, Assoc.get S' c = some v → Assoc.get S0 c = none → Good st S' c v

theorem SPost.refl (st : Store) (S : List (Nat × Nat)) : SPost st S S :=
  ⟨⟨[], by simp⟩, fun c v h h0 => by rw [h0] at h; cases h⟩

theorem SPost.sub {st : Store} {S0 S' : List (Nat × Nat)} (h : SPost st S0 S') {c v : Nat}
    (hc : Assoc.get S0 c = some v) : Assoc.get S' c = some v := by
  obtain ⟨e, rfl⟩ := h.ext; rw [Assoc.get_append, hc]; rfl

theorem SPost.trans {st : Store} {S0 S1 S2 : List (Nat × Nat)} (h1 : SPost st S0 S1)
    (h2 : SPost st S1 S2) : SPost st S0 S2 := by
  refine ⟨?_, fun c v hc h0 => ?_⟩
  · obtain ⟨e1, rfl⟩ := h1.ext
    obtain ⟨e2, rfl⟩ := h2.ext
    exact ⟨e1 ++ e2, List.append_assoc ..⟩
  · cases h : Assoc.get S1 c with
    | none => exact h2.good c v hc h
    | some v' =>
      obtain rfl := Option.some.inj ((h2.sub h).symm.trans hc)
      obtain ⟨g1, g2, g3⟩ := h1.good c v' h h0
      exact ⟨g1, g2, fun g x hx => (g3 g x hx).imp fun y hy => ⟨hy.1, h2.sub hy.2⟩⟩

theorem fold_spec {st : Store} (f : Nat) (cb : Nat)
    (IH : ∀ seen a b seen', subsumesF f st seen a b = (true, seen') →
      SPost st seen seen' ∧ Assoc.get seen' (deref st a) = some (deref st b)) :
    ∀ (cs : List (String × Nat)) (S0 S' : List (Nat × Nat)),
      cs.foldl (subStep f st cb) (true, S0) = (true, S') →
      SPost st S0 S' ∧ ∀ g x, (g, x) ∈ cs → ∃ y, lookupC g (cont st cb) = some y ∧
        Assoc.get S' (deref st x) = some (deref st y) := by
  intro cs
  induction cs with
  | nil =>
    intro S0 S' h
    simp only [List.foldl_nil, Prod.mk.injEq, true_and] at h
    subst h
    exact ⟨.refl st S0, fun g x hx => by simp at hx⟩
  | cons fc cs ih =>
    intro S0 S' h
    rw [List.foldl_cons] at h
    have hstep : subStep f st cb (true, S0) fc =
        match lookupC fc.1 (get st cb).content with
        | none => (false, S0)
        | some y => subsumesF f st S0 fc.2 y := by
      unfold subStep; simp
    rw [hstep] at h
    cases hl : lookupC fc.1 (get st cb).content with
    | none =>
      rw [hl] at h
      simp only at h
      rw [foldl_subStep_false] at h
      simp at h
    | some y =>
      rw [hl] at h
      simp only at h
      cases hr : subsumesF f st S0 fc.2 y with
      | mk b1 S1 =>
        rw [hr] at h
        cases b1 with
        | false => rw [foldl_subStep_false] at h; simp at h
        | true =>
          obtain ⟨p1, hm1⟩ := IH S0 fc.2 y S1 hr
          obtain ⟨p2, hc2⟩ := ih S1 S' h
          refine ⟨p1.trans p2, ?_⟩
          intro g x hx
          rcases List.mem_cons.1 hx with hx | hx
          · subst hx
            exact ⟨y, hl, p2.sub hm1⟩
          · exact hc2 g x hx

theorem subsumesF_spec {st : Store} (ha : Acyc st) : ∀ (f : Nat) (seen : List (Nat × Nat))
    (a b : Nat) (seen' : List (Nat × Nat)), subsumesF f st seen a b = (true, seen') →
    SPost st seen seen' ∧ Assoc.get seen' (deref st a) = some (deref st b) := by
  intro f
  induction f with
  | zero => intro seen a b seen' h; rw [subsumesF_zero] at h; simp at h
  | succ f IH =>
    intro seen a b seen' h
    rw [subsumesF_succ] at h
    cases hf : seen.find? (·.1 = deref st a) with
    | some e =>
      rw [hf] at h
      simp only [Prod.mk.injEq, decide_eq_true_eq] at h
      obtain ⟨h1, rfl⟩ := h
      exact ⟨.refl st seen, by unfold Assoc.get; rw [hf, ← h1]; rfl⟩
    | none =>
      rw [hf] at h
      simp only at h
      split at h
      · simp at h
      · rename_i hv
        have hv' : val st (deref st a) = val st (deref st b) := by simpa using hv
        obtain ⟨p, hc⟩ := fold_spec f (deref st b) IH _ _ seen' h
        have hs : Assoc.get seen (deref st a) = none := by unfold Assoc.get; rw [hf]; rfl
        have hin := p.sub (c := deref st a) (v := deref st b)
          (by rw [Assoc.get_append, hs, Assoc.get_cons, if_pos rfl]; rfl)
        refine ⟨⟨?_, fun c v hcv h0 => ?_⟩, hin⟩
        · obtain ⟨e, he⟩ := p.ext
          exact ⟨[(deref st a, deref st b)] ++ e, by rw [he, List.append_assoc]⟩
        · by_cases h1 : c = deref st a
          · subst h1
            obtain rfl := Option.some.inj (hin.symm.trans hcv)
            exact ⟨hv', deref_ptr_none ha b, hc⟩
          · refine p.good c v hcv ?_
            rw [Assoc.get_append, h0, Assoc.get_cons, if_neg (Ne.symm h1)]; rfl

theorem subsumes_cov (P : String → Prop) {st : Store} (ha : Acyc st) {a b : Nat}
    (h : subsumes st a b = true) : Sim P st a st b := by
  unfold subsumes at h
  cases hr : subsumesF (st.length + 1) st [] a b with
  | mk b1 S =>
    rw [hr] at h
    simp only at h
    subst h
    obtain ⟨p, hab⟩ := subsumesF_spec ha _ [] a b S hr
    have hg : ∀ c v, Assoc.get S c = some v → Good st S c v := fun c v hc => p.good c v hc rfl
    refine sim_of_hom P (fun c => (Assoc.get S c).getD c) (fun c v hp hv => ?_) fun q n hn => ?_
    · cases hc : Assoc.get S c with
      | none => exact ⟨hp, hv⟩
      | some w =>
        obtain ⟨g1, g2, _⟩ := hg c w hc
        exact ⟨g2, g1 ▸ hv⟩
    · -- a feature of a recorded class is matched in the class recorded for it (`Good`), hence every path
      obtain ⟨m, hm, hnm⟩ := byPath_rel (R := fun a b => Assoc.get S (deref st a) = some (deref st b))
        (fun _ _ g x hab hl => (hg _ _ hab).2.2 g x (lookupC_mem hl)) q hab hn
      exact ⟨m, hm, by rw [hnm]; rfl⟩

theorem fold_hom {st : Store} (Φ : Nat → Nat → Prop) (f cb : Nat) (Q : Nat → Prop)
    (IH : ∀ seen a b, Φ (deref st a) (deref st b) → (∀ e ∈ seen, Φ e.1 e.2) → Q a →
      ∃ seen', subsumesF f st seen a b = (true, seen') ∧ ∀ e ∈ seen', Φ e.1 e.2) :
    ∀ (cs : List (String × Nat)) (seen : List (Nat × Nat)), (∀ e ∈ seen, Φ e.1 e.2) →
      (∀ g x, (g, x) ∈ cs → ∃ y, lookupC g (cont st cb) = some y ∧
        Φ (deref st x) (deref st y) ∧ Q x) →
      ∃ seen', cs.foldl (subStep f st cb) (true, seen) = (true, seen') ∧
        ∀ e ∈ seen', Φ e.1 e.2 := by
  intro cs
  induction cs with
  | nil => intro seen hs _; exact ⟨seen, rfl, hs⟩
  | cons fc cs ih =>
    intro seen hs hc
    obtain ⟨y, hy, hΦ, hQ⟩ := hc fc.1 fc.2 (List.mem_cons_self ..)
    obtain ⟨s1, h1, hs1⟩ := IH seen fc.2 y hΦ hs hQ
    rw [List.foldl_cons]
    have hy' : lookupC fc.1 (get st cb).content = some y := hy
    have hstep : subStep f st cb (true, seen) fc = (true, s1) := by
      unfold subStep
      simp [hy', h1]
    rw [hstep]
    exact ih s1 hs1 (fun g x hx => hc g x (List.mem_cons_of_mem _ hx))

theorem subsumesF_hom {st : Store} {rk : Nat → Nat} (hI : InvR st rk) (Φ : Nat → Nat → Prop)
    (hfun : ∀ u v v', Φ u v → Φ u v' → v = v')
    (hval : ∀ u v, Φ u v → val st u = val st v)
    (hch : ∀ u v, Φ u v → ∀ g x, (g, x) ∈ cont st u →
      ∃ y, lookupC g (cont st v) = some y ∧ Φ (deref st x) (deref st y)) :
    ∀ (f : Nat) (seen : List (Nat × Nat)) (a b : Nat), Φ (deref st a) (deref st b) →
      (∀ e ∈ seen, Φ e.1 e.2) → rk a < f →
      ∃ seen', subsumesF f st seen a b = (true, seen') ∧ ∀ e ∈ seen', Φ e.1 e.2 := by
  intro f
  induction f with
  | zero => intro _ _ _ _ _ h; omega
  | succ f IH =>
    intro seen a b hab hs hrk
    rw [subsumesF_succ]
    cases hf : seen.find? (·.1 = deref st a) with
    | some e =>
      simp only
      have h1 := hs _ (Assoc.mem_of_get (k := deref st a) (v := e.2)
        (by unfold Assoc.get; rw [hf]; rfl))
      have he : e.2 = deref st b := hfun _ _ _ h1 hab
      exact ⟨seen, by simp [he], hs⟩
    | none =>
      simp only
      have hv : (get st (deref st a)).value = (get st (deref st b)).value := hval _ _ hab
      rw [if_neg (by simp [hv])]
      refine fold_hom Φ f (deref st b) (fun x => rk x < f)
        (fun seen a b h1 h2 h3 => IH seen a b h1 h2 h3) _ _ ?_ ?_
      · intro e he
        rcases List.mem_append.1 he with he | he
        · exact hs e he
        · simp only [List.mem_singleton] at he; subst he; exact hab
      · intro g x hx
        obtain ⟨y, hy, hΦ⟩ := hch _ _ hab g x hx
        refine ⟨y, hy, hΦ, ?_⟩
        have := hI.rk_succ hx
        rw [rkR_deref hI] at this
        show rk x < f
        omega

end Cmp
end Earley
end Pfl
