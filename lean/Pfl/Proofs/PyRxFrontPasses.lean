/-
What the front (`Front`: the ASCII guard and the first three passes) makes of the leaves of a rendered
pattern: a literal character (`lit_front`), a shortcut `\d`, `\s`, `\w` (`short_front`; a character set is
`set_front`), and the parentheses `render` writes on a condition (`parenT`).  The whole pattern is
`front` in `PyRxEndToEnd`.
-/
import Pfl.Proofs.PyRxSets
namespace Pfl.PyRx.E2E.S3
open Pfl.PyPass

/-- `\d`, `\s`, `\w` are the sets `[0-9]`, `[\ \t\n\r\f\v]`, `[a-zA-Z0-9_]` that `_replace_shortcuts` writes
for them (`SHORTCUTS`): from the first pass on a shortcut is a set with these items (`short_front`) -/
def shortItems : Char → List Item
  | 'd' => [.range '0' '9']
  | 's' => [.ch ' ', .ch '\t', .ch '\n', .ch '\r', .ch '\x0c', .ch '\x0b']
  | 'w' => [.range 'a' 'z', .range 'A' 'Z', .range '0' '9', .ch '_']
  | _ => []

/-- the renderer's table spelled out once (a String literal is dear to evaluate) -/
theorem metaChars_eq :
    metaChars = ['.', '^', '$', '*', '+', '?', '{', '}', '[', ']', '\\', '|', '(', ')'] := by decide

theorem meta_facts : ∀ c ∈ metaChars, c ≠ ' ' ∧ c.isAlphanum = false := by
  rw [metaChars_eq]; decide

theorem mustEsc_meta : ∀ c ∈ mustEsc, c = ' ' ∨ c ∈ metaChars := by
  rw [metaChars_eq]; decide

theorem plain_facts3 (c : Char) (hm : c ∉ metaChars) : c ≠ '\\' ∧ c ≠ '[' ∧ c ≠ '{' := by
  rw [metaChars_eq] at hm
  refine ⟨?_, ?_, ?_⟩ <;> (rintro rfl; exact hm (by decide))

theorem short_good (k : Char) (hk : k = 'd' ∨ k = 's' ∨ k = 'w') :
    shortItems k ≠ [] ∧ ∀ it ∈ shortItems k, GoodIt false it := by
  have hw : ∀ c ∈ whitespace, GoodIt false (.ch c) := fun c hc =>
    ⟨(mem_printables c).mpr (Or.inr (Or.inr (Or.inr (Or.inr hc)))), fun e => nomatch e⟩
  have hu : GoodIt false (.ch '_') := ⟨visible_char '_' (by decide) (by decide), fun e => nomatch e⟩
  rcases hk with rfl | rfl | rfl
  · exact ⟨by simp [shortItems], by simp [shortItems, GoodIt]⟩
  · exact ⟨by simp [shortItems], by
      simp only [shortItems, List.forall_mem_cons]
      exact ⟨hw _ (by decide), hw _ (by decide), hw _ (by decide), hw _ (by decide), hw _ (by decide),
        hw _ (by decide), fun _ h => nomatch h⟩⟩
  · exact ⟨by simp [shortItems], by simpa [shortItems, GoodIt] using hu⟩

theorem members_short (k : Char) (hk : k = 'd' ∨ k = 's' ∨ k = 'w') :
    members (shortItems k) = shortChars k := by
  rcases hk with rfl | rfl | rfl <;> decide +kernel

theorem shortcut_set (k : Char) (hk : k = 'd' ∨ k = 's' ∨ k = 'w') :
    k.toNat < 128 ∧ k ≠ ' ' ∧ shortcuts.find? (fun p => p.1 == ['\\', k]) =
      some (['\\', k], replaceShortcuts (render (.set false (shortItems k)) .top)) := by
  rcases hk with rfl | rfl | rfl <;> decide +kernel

theorem short_front (k : Char) (h : k = 'd' ∨ k = 's' ∨ k = 'w') (lv : Nat) :
    ∃ l, Front false ['\\', k] l ∧ Pat true true true lv l (anyOf (shortChars k)) := by
  obtain ⟨l, hf, hp⟩ := set_front (short_good k h).1 (short_good k h).2 lv .top (shortChars k)
    fun c => by rw [Lem.mem_setChars, members_short k h]; simp
  obtain ⟨h0, h1, h2⟩ := shortcut_set k h
  exact ⟨l, Front.short h0 h1 h2 hf, hp⟩

/-- A literal as the renderer writes it (escaped if it is a metacharacter), through the front: one leaf token.
It is written like a member of a set: escaped only if it is no letter or digit, plain only if nothing later
reacts to it. -/
theorem lit_front (c : Char) (h : c ∈ printables) (lv : Nat) :
    ∃ l, Front false (if c ∈ metaChars then ['\\', c] else [c]) l ∧ Pat true true true lv l (PyRx.sym c) := by
  have h0 := printable_ascii c h
  have pat : ∀ t, Wr c t → t ≠ ['{'] → Pat true true true lv [t] (PyRx.sym c) := fun t hw hb => by
    obtain ⟨hl, hd⟩ := (hw.facts h).1.resolve_right hb
    have := Pat.tk (pl := true) (rp := true) (l := lv) hl
    rwa [tkRx, if_neg hd, hw.leaf, hw.tokChar] at this
  by_cases hm : c ∈ metaChars
  · have := meta_facts c hm
    rw [if_pos hm]
    exact ⟨_, Front.esc false c h0 this, pat _ (Or.inl ⟨rfl, this.2⟩) (by simp)⟩
  rw [if_neg hm]
  by_cases hb : c = ' '
  · subst hb; exact ⟨_, Front.blank false, pat _ (Or.inl ⟨rfl, by decide⟩) (by simp)⟩
  have := plain_facts3 c hm
  exact ⟨_, Front.ch c ⟨hb, this.1, this.2.1, h0⟩, pat _ (Or.inr ⟨rfl, fun h' => (mustEsc_meta c h').elim hb hm⟩)
    (by simpa using this.2.2)⟩

theorem utok_noBs {q : Bool} {t : Tok} (h : UTok q t) : t ≠ ['\\'] := h.plain.ne (by decide)

/-- parentheses on a condition, as `render` writes them -/
def parenT (c : Prop) [Decidable c] (ts : List Tok) : List Tok := if c then ['('] :: (ts ++ [[')']]) else ts

theorem Front.parenT (c : Prop) [Decidable c] {t : List Char} {l : List Tok} (h : Front false t l) :
    Front false (if c then paren t else t) (parenT c l) := by
  unfold S3.parenT
  split
  · exact (Front.ch '(' (by decide)).append (h.append (Front.ch ')' (by decide)))
  · exact h

end Pfl.PyRx.E2E.S3
