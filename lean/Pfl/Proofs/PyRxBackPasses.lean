/-
`_preprocess_optional` maps a pattern (`Pat`) to the text of a pattern of the same level and language without
`?`; `_separate` on its tokens; the back end of the pipeline (passes 4 to 7 and the reader) for a pattern.
-/
import Pfl.Proofs.PyRxPositiveClosure
namespace Pfl.PyRx.E2E.S3
open Pfl.RegexReader Pfl.PyPass

/-- the loop maps the text of the tokens `l` to the tokens `l'` -/
def OP (l l' : List Tok) : Prop := Pushes optionalStep (fun rt => rt) l l'

theorem OP.run {l l' : List Tok} (h : OP l l') : preprocessOptional l.flatten = .ok l'.flatten := by
  simp only [preprocessOptional, Pushes.run h]
  show Except.ok (joinR l'.reverse) = _
  rw [joinR, List.reverse_reverse]

theorem OP.ch (c : Char) (h : c ≠ '?' ∧ c ≠ '\\') : OP [[c]] [[c]] := by
  refine ⟨NoBsT.single (by simpa using h.2), fun rt hrt => ?_⟩
  simp [optionalStep, h.1, pushSym_of rt c hrt, pure, Except.pure]
  rfl

/-- `\?` becomes the plain token `?` -/
def q5 (t : Tok) : Tok := if t = ['\\', '?'] then ['?'] else t

theorem OP.esc (c : Char) : OP [['\\', c]] [q5 ['\\', c]] := by
  refine ⟨NoBsT.single (by unfold q5; split <;> simp), fun rt hrt => ?_⟩
  show List.foldlM optionalStep rt ['\\', c] = _
  simp only [List.foldlM_cons, List.foldlM_nil, optionalStep]
  rw [if_neg (by decide : ¬ ('\\' : Char) = '?'), pushSym_of rt '\\' hrt]
  by_cases hc : c = '?'
  · subst hc; simp [q5, pure, Except.pure, bind, Except.bind]
  · simp [q5, hc, pushSym_esc, pure, Except.pure, bind, Except.bind]

theorem OP.opt_tok {l : List Tok} {t : Tok} (h : OP l [t]) (ht : t ≠ [')']) :
    OP (l ++ [['?']]) [['('] ++ t ++ ['|', '$', ')']] := by
  have hb : t ≠ ['\\'] := h.1 t (by simp)
  refine ⟨NoBsT.single (by simp), fun rt hrt => ?_⟩
  rw [List.flatten_append, List.foldlM_append, h.2 rt hrt]
  show List.foldlM optionalStep ([t].reverse ++ rt) ['?'] = _
  simp [optionalStep, beq_tok_false ht, beq_tok_false hb, pure, Except.pure]
  rfl

theorem OP.opt_grp {l l' : List Tok} (h : OP l (l' ++ [[')']])) :
    OP (l ++ [['?']]) (l' ++ [['|', '$', ')']]) := by
  refine ⟨NoBsT.append (fun t ht => h.1 t (List.mem_append_left _ ht)) (NoBsT.single (by simp)),
    fun rt hrt => ?_⟩
  rw [List.flatten_append, List.foldlM_append, h.2 rt hrt]
  show List.foldlM optionalStep ((l' ++ [[')']]).reverse ++ rt) ['?'] = _
  simp [optionalStep, pure, Except.pure]
  rfl

/-- the loop maps the text of the tokens `l` to the text of the tokens `us` (the tokens it builds are not
those of a pattern: it writes `(t|$)` as one token) -/
def OPT (l us : List Tok) : Prop := ∃ l', OP l l' ∧ l'.flatten = us.flatten

theorem OP.text {l l' : List Tok} (h : OP l l') : OPT l l' := ⟨_, h, rfl⟩

theorem OPT.append {a a' b b' : List Tok} (h1 : OPT a a') (h2 : OPT b b') : OPT (a ++ b) (a' ++ b') :=
  let ⟨_, p1, f1⟩ := h1
  let ⟨_, p2, f2⟩ := h2
  ⟨_, p1.append p2, by rw [List.flatten_append, List.flatten_append, f1, f2]⟩

theorem OPT.run {l us : List Tok} (h : OPT l us) : preprocessOptional l.flatten = .ok us.flatten :=
  let ⟨_, p, f⟩ := h
  p.run.trans (congrArg _ f)

theorem OPT.paren_opt {l us : List Tok} (h : OPT l us) :
    OPT (['('] :: (l ++ [[')']]) ++ [['?']]) (['('] :: (us ++ ['|'] :: [['$']] ++ [[')']])) := by
  obtain ⟨l', p, f⟩ := h
  exact ⟨_, OP.opt_grp (l' := ['('] :: l')
    ((OP.ch '(' (by decide)).append (p.append (OP.ch ')' (by decide)))), by simp [f]⟩

theorem op_tok {t : Tok} (h : LeafTok true t) : OP [t] [q5 t] := by
  rcases h with ⟨c, rfl, hc⟩ | rfl | rfl | ⟨c, rfl, _, _⟩ | ⟨hq, _⟩
  · have : q5 [c] = [c] := by simp [q5]
    rw [this]
    exact OP.ch c ⟨tk1_ne hc _ (by simp), tk1_ne hc _ (by simp)⟩
  · exact OP.ch '$' (by decide)
  · exact OP.ch '.' (by decide)
  · exact OP.esc c
  · simp at hq

theorem q5_bar : q5 ['|'] = ['|'] := by simp [q5]

theorem op_utok {t : Tok} (h : UTok true t) : OP [t] [q5 t] := by
  rcases h with h | rfl
  · exact op_tok h.1
  · exact OP.ch '{' (by decide)

theorem leaf_q5_ne_close {t : Tok} (h : LeafTok true t) : q5 t ≠ [')'] := by
  unfold q5
  by_cases e : t = ['\\', '?']
  · rw [if_pos e]; simp
  · rw [if_neg e]; exact h.plain.ne (by decide)

theorem leaf_q5 {t : Tok} (h : LeafTok true t) : LeafTok false (q5 t) := by
  rcases h with ⟨c, rfl, hc⟩ | rfl | rfl | ⟨c, rfl, h1, _⟩ | ⟨hq, _⟩
  · exact Or.inl ⟨c, by simp [q5], hc⟩
  · exact Or.inr (Or.inl (by simp [q5]))
  · exact Or.inr (Or.inr (Or.inl (by simp [q5])))
  · by_cases hq : c = '?'
    · subst hq; exact Or.inr (Or.inr (Or.inr (Or.inr ⟨rfl, by simp [q5]⟩)))
    · exact Or.inr (Or.inr (Or.inr (Or.inl ⟨c, by simp [q5, hq], h1, fun _ => hq⟩)))
  · simp at hq

theorem q5_dot {t : Tok} : q5 t = ['.'] ↔ t = ['.'] := by
  unfold q5
  by_cases e : t = ['\\', '?']
  · rw [if_pos e, e]; simp
  · rw [if_neg e]

theorem utok_q5 {t : Tok} (h : UTok true t) : UTok false (q5 t) := by
  rcases h with h | rfl
  · exact Or.inl ⟨leaf_q5 h.1, fun e => h.2 (q5_dot.mp e)⟩
  · exact Or.inr (by simp [q5])

theorem leaf_q5_eq (t : Tok) : E.leaf (q5 t) = E.leaf t := by
  unfold q5
  by_cases e : t = ['\\', '?']
  · have h1 : toNode ['?'] = .nSym ['?'] := by decide
    rw [if_pos e, e]
    simp [E.leaf, toNode_esc, h1]
  · rw [if_neg e]

theorem rx_tk_q5 (t : Tok) : tkRx (q5 t) = tkRx t := by
  simp only [tkRx, q5_dot, leaf_q5_eq]

theorem Alts.op5 {ts : List Tok} {r : Rx} (h : Alts (UTok true) ts r) :
    ∃ ts', Alts (UTok false) ts' r ∧ OP ts ts' := by
  induction h with
  | @one t h => exact ⟨_, leaf_q5_eq t ▸ .one (utok_q5 h), op_utok h⟩
  | @cons t _ _ h _ ih =>
    obtain ⟨_, h', p⟩ := ih
    exact ⟨_, leaf_q5_eq t ▸ .cons (utok_q5 h) h', (op_utok h).append ((OP.ch '|' (by decide)).append p)⟩

theorem Alts.snoc_dollar {ts : List Tok} {r : Rx} (h : Alts (UTok false) ts r) :
    ∃ r', Alts (UTok false) (ts ++ [['|'], ['$']]) r' ∧ Eqv r' (.alt r .eps) := by
  have hd : UTok false ['$'] := Or.inl ⟨dollar_leaf false, by simp⟩
  induction h with
  | one h => exact ⟨_, .cons h (.one hd), by rw [leaf_dollar]; exact Eqv.rfl'⟩
  | cons h _ ih =>
    obtain ⟨_, h', e⟩ := ih
    exact ⟨_, .cons h h', (Eqv.alt Eqv.rfl' e).trans (Eqv.alt_assoc _ _ _).symm⟩

/-- `_preprocess_optional`: a pattern is mapped to the text of a pattern without `?`, of the same level and
language.  `?` rewrites what the loop has written last, so the statement also says what a pattern of level 0
followed by `?` is mapped to: each of the three ways such a pattern is made proves it, the case of `?` uses it. -/
theorem Pat.pass5 {l : Nat} {ts : List Tok} {r : Rx} (h : Pat false false true l ts r) :
    (∃ us, OPT ts us ∧ Pat false false false l us r) ∧
      (l = 0 → ∃ cu, OPT (ts ++ [['?']]) cu ∧ Pat false false false 0 cu (.alt r .eps)) := by
  have hd : ∀ {us a}, Pat false false false 2 us a →
      Pat false false false 0 (['('] :: (us ++ ['|'] :: [['$']] ++ [[')']])) (.alt a .eps) :=
    fun h => .grp (.bar (l := 0) h (rx_dollar ▸ Pat.tk (dollar_leaf false)))
  have par : ∀ {l us}, OPT l us → OPT (['('] :: (l ++ [[')']])) (['('] :: (us ++ [[')']])) :=
    fun p => (OP.ch '(' (by decide)).text.append (p.append (OP.ch ')' (by decide)).text)
  induction h with
  | @tk _ t h =>
    have h' := fun l => rx_tk_q5 t ▸ Pat.tk (pl := false) (rp := false) (l := l) (leaf_q5 h)
    exact ⟨⟨_, (op_tok h).text, h' _⟩, fun _ => ⟨_, ⟨_, (op_tok h).opt_tok (leaf_q5_ne_close h), by simp⟩,
      hd (h' 2)⟩⟩
  | set h =>
    obtain ⟨ts', h', p⟩ := h.op5
    obtain ⟨_, hc, ec⟩ := h'.snoc_dollar
    exact ⟨⟨_, par p.text, .set h'⟩, fun _ => ⟨_, by simpa using p.text.paren_opt, .eqv (.set hc) ec⟩⟩
  | grp _ ih =>
    obtain ⟨⟨_, p, h'⟩, _⟩ := ih
    exact ⟨⟨_, par p, .grp h'⟩, fun _ => ⟨_, p.paren_opt, hd h'⟩⟩
  | seq _ _ iha ihb =>
    obtain ⟨⟨_, pa, ha⟩, _⟩ := iha
    obtain ⟨⟨_, pb, hb⟩, _⟩ := ihb
    exact ⟨⟨_, pa.append pb, .seq ha hb⟩, nofun⟩
  | bar _ _ iha ihb =>
    obtain ⟨⟨_, pa, ha⟩, _⟩ := iha
    obtain ⟨⟨_, pb, hb⟩, _⟩ := ihb
    exact ⟨⟨_, pa.append (((OP.ch '|' (by decide)).text).append pb), .bar ha hb⟩, nofun⟩
  | star _ ih =>
    obtain ⟨⟨_, p, h'⟩, _⟩ := ih
    exact ⟨⟨_, p.append ((OP.ch '*' (by decide)).text), .star h'⟩, nofun⟩
  | plus hp => exact absurd hp (by simp)
  | rep hr => exact absurd hr (by simp)
  | opt _ _ ih =>
    obtain ⟨cu, pc, hc⟩ := ih.2 rfl
    exact ⟨⟨cu, pc, hc.up⟩, nofun⟩
  | eqv _ e ih =>
    obtain ⟨⟨_, p, h'⟩, hc⟩ := ih
    exact ⟨⟨_, p, h'.eqv e⟩, fun hl => let ⟨cu, pc, hc'⟩ := hc hl
      ⟨cu, pc, hc'.eqv (Eqv.alt e Eqv.rfl')⟩⟩

/-- tokens `_separate` reads back as they are -/
abbrev FinTok : Tok → Prop := Plain ['\\']

theorem fin_ch (c : Char) (h : c ≠ '\\') : FinTok [c] := plain_ch c (by simpa using h)

theorem Pat.plain {pl rp op : Bool} {l : Nat} {ts : List Tok} {r : Rx} (h : Pat pl rp op l ts r) :
    ∀ t ∈ ts, Plain ['\\', '\x08'] t := by
  have st : ∀ c : Char, c ∈ ['(', ')', '|', '*', '+', '?'] → Plain ['\\', '\x08'] [c] :=
    fun c hc => plain_ch c (by revert hc c; decide)
  induction h with
  | tk h => exact List.forall_mem_singleton.mpr (h.plain.mono (by decide))
  | set h => exact List.forall_mem_cons.mpr ⟨st '(' (by decide), List.forall_mem_append.mpr
      ⟨h.all (fun _ ht => ht.plain.mono (by decide)) (st '|' (by decide)),
        List.forall_mem_singleton.mpr (st ')' (by decide))⟩⟩
  | grp _ ih => exact List.forall_mem_cons.mpr ⟨st '(' (by decide), List.forall_mem_append.mpr
      ⟨ih, List.forall_mem_singleton.mpr (st ')' (by decide))⟩⟩
  | seq _ _ iha ihb => exact List.forall_mem_append.mpr ⟨iha, ihb⟩
  | bar _ _ iha ihb =>
    exact List.forall_mem_append.mpr ⟨iha, List.forall_mem_cons.mpr ⟨st '|' (by decide), ihb⟩⟩
  | star _ ih => exact List.forall_mem_append.mpr ⟨ih, List.forall_mem_singleton.mpr (st '*' (by decide))⟩
  | plus _ _ ih => exact List.forall_mem_append.mpr ⟨ih, List.forall_mem_singleton.mpr (st '+' (by decide))⟩
  | opt _ _ ih => exact List.forall_mem_append.mpr ⟨ih, List.forall_mem_singleton.mpr (st '?' (by decide))⟩
  | rep _ _ _ ih => exact List.forall_mem_append.mpr ⟨ih, braces_plain (by decide) _ _⟩
  | eqv _ _ ih => exact ih

theorem foldl_pushSym_toks : ∀ (l : List Tok), (∀ t ∈ l, FinTok t) → ∀ rt, escNext rt = false →
    l.flatten.foldl pushSym rt = l.reverse ++ rt ∧ escNext (l.reverse ++ rt) = false
  | [], _, rt, h => ⟨rfl, h⟩
  | t :: r, hl, rt, h => by
    rcases hl t (by simp) with ⟨c, rfl, hc⟩ | ⟨c, rfl, _⟩
    · have e := escNext_cons [c] rt (by simpa using hc)
      have ih := foldl_pushSym_toks r (fun x hx => hl x (by simp [hx])) ([c] :: rt) e
      simp only [List.flatten_cons, List.singleton_append, List.foldl_cons, pushSym_of rt c h]
      simpa using ih
    · have e := escNext_cons ['\\', c] rt (by simp)
      have ih := foldl_pushSym_toks r (fun x hx => hl x (by simp [hx])) (['\\', c] :: rt) e
      simp only [List.flatten_cons, List.cons_append, List.nil_append, List.foldl_cons,
        pushSym_of rt '\\' h, pushSym_esc]
      simpa using ih

theorem recombine_some {t r : Tok} (h : recombine? t = some r) :
    ∃ c, t = ['\\', c] ∧ c.isAlphanum = true := by
  unfold recombine? at h
  split at h <;> first | exact ⟨_, rfl, by decide⟩ | cases h

theorem recombine_plain (c : Char) : recombine? [c] = none := by
  cases h : recombine? [c] with
  | none => rfl
  | some r => obtain ⟨d, e, _⟩ := recombine_some h; simp at e

theorem recombine_esc (c : Char) (hc : c.isAlphanum = false) : recombine? ['\\', c] = none := by
  cases h : recombine? ['\\', c] with
  | none => rfl
  | some r =>
    obtain ⟨d, e, hd⟩ := recombine_some h
    simp only [List.cons.injEq, and_true, true_and] at e
    rw [← e, hc] at hd
    cases hd

theorem fin_supported {t : Tok} (h : FinTok t) : isUnsupportedTok t = false ∧ recombine? t = none := by
  rcases h with ⟨c, rfl, _⟩ | ⟨c, rfl, hc⟩
  · exact ⟨by simp [isUnsupportedTok, escapedOctal], recombine_plain c⟩
  · have hne : ∀ d : Char, d.isAlphanum = true → c ≠ d := fun d hd => (alnum_ne d c hd hc).symm
    exact ⟨by simp [isUnsupportedTok, escapedOctal, hne 'x' (by decide), hne 'N' (by decide),
      hne 'u' (by decide), hne 'U' (by decide), hne '0' (by decide), hne '1' (by decide),
      hne '2' (by decide), hne '3' (by decide), hne '4' (by decide), hne '5' (by decide),
      hne '6' (by decide), hne '7' (by decide)], recombine_esc c hc⟩

theorem recombine_fin (l : List Tok) (h : ∀ t ∈ l, FinTok t) : recombine l = .ok l := by
  have h1 : l.any isUnsupportedTok = false := by
    rw [List.any_eq_false]
    intro t ht
    simp [(fin_supported (h t ht)).1]
  have h2 : l.map (fun t => (recombine? t).getD t) = l := by
    conv => rhs; rw [← List.map_id l]
    apply List.map_congr_left
    intro t ht
    simp [(fin_supported (h t ht)).2]
  simp [recombine, h1, h2]

theorem separate_toks (l : List Tok) (h : ∀ t ∈ l, FinTok t) :
    separate l.flatten = .ok (join [' '] (l.map expT)) := by
  have h1 := (foldl_pushSym_toks l h [] rfl).1
  simp only [List.append_nil] at h1
  simp only [separate, h1, List.reverse_reverse, recombine_fin l h]
  show Except.ok (join [' '] (l.map _)) = _
  congr 2
  apply List.map_congr_left
  intro t _
  by_cases ht : t = ['.'] <;> simp [expT, ht]

theorem join_cons_head (t : Tok) (r : List Tok) (c : Char) (u : List Char) (h : t = c :: u) :
    ∃ v, join [' '] (t :: r) = c :: v := by
  subst h
  cases r with
  | nil => exact ⟨u, rfl⟩
  | cons t' r => exact ⟨_, rfl⟩

theorem lstrip_toks (l : List Tok) (hne : l ≠ []) (h : ∀ t ∈ l, Plain ['\x08'] t) :
    lstripBackspace (join [' '] (l.map expT)) = join [' '] (l.map expT) := by
  obtain ⟨t, r, rfl⟩ := List.exists_cons_of_ne_nil hne
  obtain ⟨c, u, hcu, hc⟩ : ∃ c u, expT t = c :: u ∧ c ≠ '\x08' := by
    by_cases hd : t = ['.']
    · exact ⟨'(', join ['|'] escapedPrintables ++ [')'], by simp [expT, hd, dotReplacement], by decide⟩
    · rw [expT, if_neg hd]
      rcases h t (by simp) with ⟨c, rfl, hc⟩ | ⟨c, rfl, _⟩
      · exact ⟨c, [], rfl, by simpa using hc⟩
      · exact ⟨_, _, rfl, by decide⟩
  rw [List.map_cons]
  obtain ⟨v, hv⟩ := join_cons_head (expT t) (r.map expT) c u hcu
  rw [hv]
  simp [lstripBackspace, hc]

theorem backend {l : Nat} {ts : List Tok} {r : Rx} (h : Pat true true true l ts r) :
    ∃ s4 s5 s6 fuel r', preprocessPositiveClosure ts.flatten = .ok s4 ∧
      preprocessOptional s4 = .ok s5 ∧ separate s5 = .ok s6 ∧
      parse fuel (lstripBackspace s6) = .ok r' ∧ Eqv r' r := by
  obtain ⟨_, h4, e4⟩ := h.pass4
  obtain ⟨⟨us, p5, h5⟩, _⟩ := h4.pass5
  obtain ⟨fuel, r', hr, q6⟩ := h5.parse
  have hp := h5.plain
  refine ⟨_, _, _, fuel, r', e4, p5.run,
    separate_toks us (fun t ht => (hp t ht).mono (by decide)), ?_, q6⟩
  rw [lstrip_toks _ h5.ne_nil (fun t ht => (hp t ht).mono (by decide))]
  exact hr

end Pfl.PyRx.E2E.S3
