/-
Helper lemmas for C18 (feature-structure unification) on records with pairwise distinct feature names.
`FeatureStructure.unify` gives the receiver an unspecified value at every feature it lacks and then unifies
feature by feature; so a record is read as a total map from features to values (`feat`: unspecified where
absent), and `unifyFields` is `unify` pointwise on such maps (`unifyFields_spec`).
-/
import Pfl.Model.Feature
import Mathlib.Data.List.Basic
import Pfl.Proofs.Assoc

namespace Pfl.FS.Lem

abbrev names (fs : List (String × FS)) : List String := fs.map (·.1)

theorem lookup_cons (f g : String) (x : FS) (rest : List (String × FS)) :
    lookup f ((g, x) :: rest) = if g = f then some x else lookup f rest := rfl

theorem lookup_eq (f : String) (fs : List (String × FS)) : lookup f fs = Assoc.get fs f := by
  induction fs with
  | nil => rfl
  | cons e rest ih => rw [Assoc.get_cons, ← ih]; rfl

theorem lookup_eq_none_iff {f : String} {fs : List (String × FS)} :
    lookup f fs = none ↔ f ∉ names fs := by
  rw [lookup_eq]; exact Assoc.get_eq_none_iff

theorem lookup_some_mem {f : String} {fs : List (String × FS)} {x : FS} (h : lookup f fs = some x) :
    (f, x) ∈ fs :=
  Assoc.mem_of_get (lookup_eq f fs ▸ h)

theorem mem_lookup {f : String} {fs : List (String × FS)} {x : FS} (hnd : (names fs).Nodup)
    (h : (f, x) ∈ fs) : lookup f fs = some x := by
  rw [lookup_eq]; exact (Assoc.get_eq_some_iff hnd).2 h

/-- the value of a record at a feature, unspecified where the record does not list it -/
def feat (fs : List (String × FS)) (f : String) : FS := (lookup f fs).getD .unspec

theorem feat_cons (g : String) (x : FS) (rest : List (String × FS)) (f : String) :
    feat ((g, x) :: rest) f = if g = f then x else feat rest f := by
  rw [feat, lookup_cons]; split <;> rfl

theorem feat_of_not_mem {fs : List (String × FS)} {f : String} (h : f ∉ names fs) : feat fs f = .unspec := by
  rw [feat, lookup_eq_none_iff.2 h]; rfl

theorem feat_of_mem {fs : List (String × FS)} {f : String} {x : FS} (hnd : (names fs).Nodup)
    (h : (f, x) ∈ fs) : feat fs f = x := by
  rw [feat, mem_lookup hnd h]; rfl

theorem feat_cases (fs : List (String × FS)) (f : String) :
    feat fs f = .unspec ∨ lookup f fs = some (feat fs f) := by
  unfold feat
  cases lookup f fs with
  | none => exact .inl rfl
  | some x => exact .inr rfl

theorem feat_set (fs : List (String × FS)) (g : String) (z : FS) (f : String) :
    feat (Assoc.set fs g z) f = if f = g then z else feat fs f := by
  rw [feat, feat, lookup_eq, lookup_eq, Assoc.get_set]; split <;> rfl

theorem unify_unspec (a : FS) : unify a .unspec = some a := by cases a <;> rfl

/-- one round of the loop in `FeatureStructure.unify`: `content[g] = content.get(g, FeatureStructure())`
unified with `y` -/
theorem unifyFields_cons (fs : List (String × FS)) (g : String) (y : FS) (rest : List (String × FS)) :
    unifyFields fs ((g, y) :: rest) =
      (unify (feat fs g) y).bind fun z => unifyFields (Assoc.set fs g z) rest := by
  rw [unifyFields.eq_2, feat]
  cases hl : lookup g fs with
  | none =>
    rw [Option.getD_none, unify.eq_1, Option.bind_some, Assoc.set_eq_upsert,
      Assoc.upsert_of_not_mem _ _ (lookup_eq_none_iff.1 hl)]
  | some x =>
    dsimp only [Option.getD_some]
    cases unify x y with
    | none => rfl
    | some z =>
      rw [Option.bind_some, Assoc.set_eq_upsert,
        Assoc.upsert_of_mem _ _ (Assoc.key_of_get (lookup_eq g fs ▸ hl))]; rfl

theorem unifyFields_spec {fs gs : List (String × FS)} (hfs : (names fs).Nodup) (hgs : (names gs).Nodup) :
    match unifyFields fs gs with
    | some hs => (names hs).Nodup ∧ ∀ f, unify (feat fs f) (feat gs f) = some (feat hs f)
    | none => ∃ f, unify (feat fs f) (feat gs f) = none := by
  induction gs generalizing fs with
  | nil => exact ⟨hfs, fun f => unify_unspec _⟩
  | cons e rest ih =>
    obtain ⟨g, y⟩ := e
    obtain ⟨hg, hrest⟩ := List.nodup_cons.1 hgs
    rw [unifyFields_cons]
    cases hu : unify (feat fs g) y with
    | none => exact ⟨g, by rw [feat_cons, if_pos rfl]; exact hu⟩
    | some z =>
      -- the rest of `gs` does not mention `g`, so the round leaves every feature's unification as it
      -- was: at `g` it has been carried out, elsewhere nothing has changed
      have step : ∀ f, unify (feat (Assoc.set fs g z) f) (feat rest f) =
          unify (feat fs f) (feat ((g, y) :: rest) f) := by
        intro f
        rw [feat_set, feat_cons]
        by_cases hf : f = g
        · rw [if_pos hf, if_pos hf.symm, hf, feat_of_not_mem hg, unify_unspec, hu]
        · rw [if_neg hf, if_neg fun e => hf e.symm]
      have := ih (Assoc.keys_set_nodup g z hfs) hrest
      simp only [step] at this
      exact this

end Pfl.FS.Lem
