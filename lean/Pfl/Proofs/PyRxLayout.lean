/-
Character level of the `Regex` reader (`Pfl/Model/Regex.lean`), for the proofs about the reader itself
(`ReaderChars`, C05) and the PythonRegex proofs (`PyRx*`, C07), whose texts contain escaped symbols.
`_pre_process_regex` followed by `_get_regex_componants` is a tokenizer (`tk`): words end at blanks and
at special characters that are not escaped.  This holds of every text (`components_tk`): the loop
`spaceOut` puts blanks around exactly those special characters (`W_sp`), and the five rewriting steps
before it only add or remove a blank next to a blank, which the tokenizer does not see.  What the other
files use is the last section: `Written l t`, the text `t` is read as the symbols `l` whatever break
follows it, its rules of composition, and `Written.components_eq`.
-/
import Pfl.Model.Regex
namespace Pfl.RegexReader.Lem

def IsSp (a : List Char) : Prop := ∃ c, a = [c] ∧ isSpecialChar c = true
def IsPl (a : List Char) : Prop :=
  a ≠ [] ∧ ∀ c ∈ a, c ≠ ' ' ∧ c ≠ '\\' ∧ isSpecialChar c = false
/-- the symbols of a reader text: a special character, a plain symbol, an escaped character -/
def IsSym (x : List Char) : Prop := IsSp x ∨ IsPl x ∨ ∃ c, x = ['\\', c]

theorem special_clean {c : Char} (h : isSpecialChar c = true) : c ≠ ' ' ∧ c ≠ '\\' := by
  simp only [isSpecialChar, List.mem_cons, List.not_mem_nil, or_false, decide_eq_true_eq] at h
  rcases h with rfl | rfl | rfl | rfl | rfl | rfl | rfl <;> decide

theorem joinBlank_cons_cons (a b : List Char) (l : List (List Char)) :
    joinBlank (a :: b :: l) = a ++ ' ' :: joinBlank (b :: l) := by
  simp [joinBlank, List.intercalate]

end Pfl.RegexReader.Lem

namespace Pfl.PyRx.E2E
open Pfl.RegexReader Pfl.RegexReader.Lem

def nonEmpty (l : List Char) : Bool := !l.isEmpty

/-- the word under way (reversed), closed: it counts if it is not empty -/
def flush (cur : List Char) : List (List Char) := [cur.reverse].filter nonEmpty

theorem flush_nil : flush [] = [] := rfl

theorem flush_rev {a : List Char} (h : a ≠ []) : flush a.reverse = [a] := by
  cases a with
  | nil => exact absurd rfl h
  | cons c a => simp [flush, nonEmpty]

/-- the words of `t` as `components` sees them: the non-empty pieces of `splitBlank.go`, `cur` being
the (reversed) word under way -/
def W (t cur : List Char) : List (List Char) := (splitBlank.go t cur).filter nonEmpty

theorem W_blank (t cur : List Char) : W (' ' :: t) cur = flush cur ++ W t [] := by
  simp only [W, splitBlank.go, flush]
  exact List.filter_append (l₁ := [cur.reverse]) ..

theorem W_char {c : Char} (hc : c ≠ ' ') (t cur : List Char) : W (c :: t) cur = W t (c :: cur) := by
  unfold W; rw [splitBlank.go.eq_3 _ _ _ (fun h => hc h)]

/-- `sub` ends with an unescaped backslash: the escaped blank it stood for is restored -/
def fixSub (sub : List Char) : List Char :=
  if endsWith sub ['\\'] && !endsWith sub ['\\', '\\'] then sub ++ [' '] else sub

theorem fixSub_isEmpty (sub : List Char) : (fixSub sub).isEmpty = sub.isEmpty := by
  unfold fixSub
  split
  · rename_i h
    cases sub with
    | nil => simp [endsWith] at h
    | cons c r => simp
  · rfl

theorem filter_map_fixSub (l : List (List Char)) :
    (l.map fixSub).filter (!·.isEmpty) = (l.filter nonEmpty).map fixSub := by
  induction l with
  | nil => rfl
  | cons x l ih =>
    rw [List.map_cons, List.filter_cons, List.filter_cons, fixSub_isEmpty, ih]
    unfold nonEmpty
    split <;> simp

theorem filter_dropLast_if (temp : List (List Char)) :
    (if temp.length > 1 && (temp.getLast?.map (·.isEmpty)).getD false then temp.dropLast
      else temp).filter (!·.isEmpty) = temp.filter (!·.isEmpty) := by
  split
  · rename_i hc
    rcases List.eq_nil_or_concat temp with rfl | ⟨l, x, rfl⟩
    · rfl
    · simp at hc
      simp [hc.2]
  · rfl

theorem components_eq_W (s : List Char) (h : W s [] ≠ []) :
    components s = (W s []).map fixSub := by
  unfold components
  have e1 : (splitBlank s).map (fun sub =>
      if endsWith sub ['\\'] && !endsWith sub ['\\', '\\'] then sub ++ [' '] else sub) =
      (splitBlank s).map fixSub := rfl
  simp only [e1]
  rw [filter_dropLast_if, filter_map_fixSub]
  have : (splitBlank s).filter nonEmpty = W s [] := rfl
  rw [this]
  cases hw : W s [] with
  | nil => exact absurd hw h
  | cons _ _ => rfl


/-- the spacing loop `spaceOut` without its accumulator; `pb`: nothing is written yet, or a blank was
written last -/
def sp : List Char → Bool → Bool → List Char
  | [], _, _ => []
  | c :: rest, pb, pe =>
    let special := !pe && isSpecialChar c
    let post := special && !rest.isEmpty && rest.head? != some ' '
    (if special && !pb then [' '] else []) ++ c :: ((if post then [' '] else []) ++
      sp rest (post || c == ' ') (c = '\\' && !pe))

theorem spaceOut_eq_sp : ∀ (s : List Char) (first pe : Bool) (acc : List Char),
    spaceOut s first pe acc = acc.reverse ++ sp s (first || acc.head? == some ' ') pe
  | [], _, _, acc => by simp [spaceOut, sp]
  | c :: rest, first, pe, acc => by
    rw [spaceOut, sp, spaceOut_eq_sp rest]
    generalize (!pe && isSpecialChar c) = special
    generalize (special && !rest.isEmpty && rest.head? != some ' ') = post
    rw [show (special && !first && acc.head? != some ' ') = (special && !(first || acc.head? == some ' ')) by
      rw [Bool.not_or, Bool.and_assoc]; rfl]
    generalize (special && !(first || acc.head? == some ' ')) = pre
    cases pre <;> cases post <;> simp

/-- the reader's tokenizer: words end at blanks and at special characters that are not escaped; `cur` is
the word under way (reversed), `pe` says that the last character was an escaping backslash -/
def tk : List Char → List Char → Bool → List (List Char)
  | [], cur, _ => flush cur
  | c :: r, cur, pe =>
    if c = ' ' then flush cur ++ tk r [] false
    else if (!pe && isSpecialChar c) = true then flush cur ++ [c] :: tk r [] false
    else tk r (c :: cur) (c = '\\' && !pe)

theorem tk_blank (t cur : List Char) (pe : Bool) : tk (' ' :: t) cur pe = flush cur ++ tk t [] false := by
  rw [tk, if_pos rfl]

theorem tk_sp {c : Char} (hc : isSpecialChar c = true) (r cur : List Char) :
    tk (c :: r) cur false = flush cur ++ [c] :: tk r [] false := by
  rw [tk, if_neg (special_clean hc).1, if_pos (by simpa using hc)]

/-- where a word under way ends: at the end of the text, at a blank, at a special character -/
def Brk (r : List Char) : Prop := r = [] ∨ ∃ c u, r = c :: u ∧ (c = ' ' ∨ isSpecialChar c = true)

theorem tk_flush {r : List Char} (h : Brk r) (cur : List Char) :
    tk r cur false = flush cur ++ tk r [] false := by
  rcases h with rfl | ⟨c, u, rfl, rfl | hc⟩
  · exact (List.append_nil _).symm
  · rw [tk_blank, tk_blank]; rfl
  · rw [tk_sp hc, tk_sp hc]; rfl

/-- Splitting what the spacing loop writes at its blanks is tokenizing what it reads.  The loop has written a
blank last (or nothing) exactly when no word is under way. -/
theorem W_sp : ∀ (s cur : List Char) (pe : Bool), W (sp s cur.isEmpty pe) cur = tk s cur pe
  | [], cur, pe => rfl
  | c :: r, cur, pe => by
    rw [sp, tk]
    by_cases hb : c = ' '
    · subst hb
      have : isSpecialChar ' ' = false := rfl
      simp only [this, Bool.and_false, Bool.false_and, Bool.false_eq_true, if_false, List.nil_append,
        if_true, W_blank, Bool.false_or, beq_self_eq_true]
      rw [← W_sp r [] false]; simp
    · rw [if_neg hb]
      cases hs : (!pe && isSpecialChar c) with
      | false =>
        simp only [Bool.false_and, Bool.false_eq_true, if_false, List.nil_append, Bool.false_or]
        rw [W_char hb, ← W_sp r (c :: cur), beq_eq_false_iff_ne.mpr hb]; rfl
      | true =>
        obtain ⟨rfl, hc⟩ : pe = false ∧ isSpecialChar c = true := by simpa using hs
        -- the blank in front of `c` is written exactly when a word is under way, and ends it
        have hpre : ∀ X, W ((if (true && !cur.isEmpty) = true then [' '] else []) ++ X) cur =
            flush cur ++ W X [] := by
          intro X; cases cur with
          | nil => rfl
          | cons d cur => exact W_blank X _
        rw [if_pos rfl, hpre, W_char hb, beq_eq_false_iff_ne.mpr hb,
          show (decide (c = '\\') && !false) = false by simpa using (special_clean hc).2]
        cases hpost : (true && !r.isEmpty && r.head? != some ' ') with
        | true => rw [if_pos rfl, List.singleton_append, W_blank, ← W_sp r [] false]; rfl
        | false =>
          -- no blank is written after `c`: the text ends or goes on with a blank, which ends the word `c`
          rw [if_neg (by simp), List.nil_append, Bool.false_or, show W (sp r false false) [c] = _ from W_sp r [c] false,
            tk_flush (r := r) (by
              cases r with
              | nil => exact Or.inl rfl
              | cons d u => exact Or.inr ⟨d, u, rfl, Or.inl (by simpa using hpost)⟩)]
          rfl

theorem W_spaceOut (s : List Char) : W (spaceOut s true false []) [] = tk s [] false := by
  rw [spaceOut_eq_sp]; exact W_sp s [] false


theorem tk_congr {r r' : List Char} (h : ∀ cur pe, tk r cur pe = tk r' cur pe) (c : Char) (cur : List Char)
    (pe : Bool) : tk (c :: r) cur pe = tk (c :: r') cur pe := by
  simp only [tk, h]

theorem tk_snoc_blank : ∀ (t cur : List Char) (pe : Bool), tk (t ++ [' ']) cur pe = tk t cur pe
  | [], cur, pe => (tk_blank [] cur pe).trans (List.append_nil _)
  | c :: t, cur, pe => tk_congr (tk_snoc_blank t) c cur pe

theorem tk_dropWhile : ∀ t : List Char, tk (t.dropWhile (· = ' ')) [] false = tk t [] false
  | [] => rfl
  | c :: t => by
    by_cases hc : c = ' '
    · subst hc; rw [List.dropWhile_cons_of_pos (by simp), tk_dropWhile t, tk_blank]; rfl
    · rw [List.dropWhile_cons_of_neg (by simpa using hc)]

/-- blanks at the end, `m` being the text read backwards -/
theorem tk_dropWhile_rev (cur : List Char) (pe : Bool) :
    ∀ m : List Char, tk (m.dropWhile (· = ' ')).reverse cur pe = tk m.reverse cur pe
  | [] => rfl
  | c :: m => by
    by_cases hc : c = ' '
    · subst hc
      rw [List.dropWhile_cons_of_pos (by simp), tk_dropWhile_rev cur pe m, List.reverse_cons, tk_snoc_blank]
    · rw [List.dropWhile_cons_of_neg (by simpa using hc)]

theorem tk_strip (t : List Char) : tk (stripSpaces t) [] false = tk t [] false := by
  rw [stripSpaces, tk_dropWhile_rev, List.reverse_reverse, tk_dropWhile]

/-- `b` (a blank was read last) is set only when no word is under way -/
theorem tk_squeeze : ∀ (t : List Char) (b : Bool) (cur : List Char) (pe : Bool),
    (b = true → cur = [] ∧ pe = false) → tk (squeezeAux b t) cur pe = tk t cur pe
  | [], _, _, _, _ => rfl
  | c :: t, b, cur, pe, h => by
    rw [squeezeAux]
    by_cases hc : c = ' '
    · subst hc
      rw [if_pos rfl]
      cases b with
      | true =>
        obtain ⟨rfl, rfl⟩ := h rfl
        rw [if_pos rfl, tk_squeeze t true [] false (fun _ => ⟨rfl, rfl⟩), tk_blank]; rfl
      | false =>
        rw [if_neg (by simp), tk_blank, tk_blank, tk_squeeze t true [] false (fun _ => ⟨rfl, rfl⟩)]
    · rw [if_neg hc]
      exact tk_congr (fun cur pe => tk_squeeze t false cur pe (by simp)) c cur pe

theorem tk_dup (t : List Char) :
    ∀ (cur : List Char) (pe : Bool), tk (dupEscapedBlank t) cur pe = tk t cur pe := by
  fun_induction dupEscapedBlank t with
  | case1 rest ih => intro cur pe; simp [tk, ih, flush_nil, isSpecialChar]
  | case2 c rest _ ih => exact tk_congr ih c
  | case3 => intros; rfl

theorem tk_fix (b : Bool) (s : List Char) :
    tk (if b then s ++ [' '] else s) [] false = tk s [] false := by
  cases b
  · rfl
  · exact tk_snoc_blank _ _ _

theorem tk_dropLast (s : List Char) :
    tk (if endsWith s [' ', ' '] then s.dropLast else s) [] false = tk s [] false := by
  split
  · rename_i h
    obtain ⟨u, rfl⟩ := List.isSuffixOf_iff_suffix.mp h
    rw [show u ++ [' ', ' '] = (u ++ [' ']) ++ [' '] by simp, List.dropLast_concat]
    exact (tk_snoc_blank _ _ _).symm
  · rfl

/-- `_pre_process_regex` followed by `split(" ")`, empty words dropped, is the tokenizer -/
theorem W_preProcess (t : List Char) : W (preProcess t) [] = tk t [] false :=
  (W_spaceOut _).trans <| (tk_dropLast _).trans <| (tk_dup _ _ _).trans <|
    (tk_squeeze _ false _ _ (by simp)).trans <| (tk_fix _ _).trans (tk_strip t)

theorem components_tk (t : List Char) (h : tk t [] false ≠ []) :
    components (preProcess t) = (tk t [] false).map fixSub := by
  rw [components_eq_W _ (by rwa [W_preProcess]), W_preProcess]


def PEsc (p : List Char) : Prop := ∃ c, p = ['\\', c] ∧ c ≠ ' '

def isSpB (p : List Char) : Bool :=
  match p with
  | [c] => isSpecialChar c
  | _ => false

theorem isSpB_esc {p : List Char} (h : PEsc p) : isSpB p = false := by
  obtain ⟨c, rfl, _⟩ := h; rfl

/-- a symbol as the tokenizer returns it: the escaped blank `\ ` comes back as `\` (its blank ends the word),
and `components` (`fixSub`) gives it the blank back; every other symbol is its own token -/
def enc (x : List Char) : List Char := if x = ['\\', ' '] then ['\\'] else x

theorem tk_pl {a : List Char} (ha : ∀ c ∈ a, c ≠ ' ' ∧ c ≠ '\\' ∧ isSpecialChar c = false) (r : List Char) :
    ∀ cur, tk (a ++ r) cur false = tk r (a.reverse ++ cur) false := by
  induction a with
  | nil => intro cur; rfl
  | cons c a ih =>
    intro cur
    obtain ⟨h1, h2, h3⟩ := ha c (by simp)
    rw [List.cons_append, tk, if_neg h1, if_neg (by simp [h3]),
      show (decide (c = '\\') && !false) = false by simpa using h2, ih (fun x hx => ha x (by simp [hx]))]
    simp

theorem tk_sym {a : List Char} (ha : IsSym a) {r : List Char} (hb : Brk r) :
    tk (a ++ r) [] false = enc a :: tk r [] false := by
  rcases ha with ⟨c, rfl, hc⟩ | hpl | ⟨c, rfl⟩
  · exact (tk_sp hc r []).trans (by simp [enc, flush_nil])
  · have he : enc a = a := by
      unfold enc; rw [if_neg]; rintro rfl; exact (hpl.2 '\\' (by simp)).2.1 rfl
    rw [tk_pl hpl.2, tk_flush hb, he, List.append_nil, flush_rev hpl.1]; rfl
  · rw [List.cons_append, List.cons_append, List.nil_append, tk, if_neg (by decide), if_neg (by decide),
      show (decide ('\\' = '\\') && !false) = true from rfl]
    by_cases hc : c = ' '
    · subst hc; exact tk_blank r _ _
    · rw [tk, if_neg hc, if_neg (by simp), Bool.not_true, Bool.and_false, tk_flush hb,
        show enc ['\\', c] = ['\\', c] by simp [enc, hc]]
      rfl

theorem fixSub_enc {a : List Char} (h : IsSym a) : fixSub (enc a) = a := by
  by_cases hx : a = ['\\', ' ']
  · subst hx; rfl
  · rw [enc, if_neg hx]
    unfold fixSub
    rcases h with ⟨c, rfl, hc⟩ | hpl | ⟨c, rfl⟩
    · simp [endsWith, List.isSuffixOf, List.isPrefixOf, Ne.symm (special_clean hc).2]
    · have h1 := (hpl.2 _ (List.getLast_mem hpl.1)).2.1
      rw [← List.dropLast_concat_getLast hpl.1]
      simp [endsWith, List.isSuffixOf, List.isPrefixOf, Ne.symm h1]
    · by_cases hcb : c = '\\'
      · subst hcb; rfl
      · simp [endsWith, List.isSuffixOf, List.isPrefixOf]

end Pfl.PyRx.E2E

namespace Pfl.RegexReader.Lem
open Pfl.PyRx.E2E

/-- `Written l t`: the text `t` is the symbols `l` written one after the other, with blanks where they are
needed.  Defined by what the tokenizer makes of it: followed by the end of the text, a blank or a special
character, `t` is read as `l` and what follows on its own.  So written texts are put together by rewriting
(`append_blank`, `cons_sp`, `snoc_sp`, `mid_sp`). -/
def Written (l : List (List Char)) (t : List Char) : Prop :=
  (∀ a ∈ l, IsSym a) → ∀ r, Brk r → tk (t ++ r) [] false = l.map enc ++ tk r [] false

theorem Written.nil : Written [] [] := fun _ _ _ => rfl

theorem Written.one (a : List Char) : Written [a] a :=
  fun hl _ hr => tk_sym (hl a (by simp)) hr

theorem Written.components_eq {l : List (List Char)} {t : List Char} (h : Written l t) (hne : l ≠ [])
    (hl : ∀ a ∈ l, IsSym a) : components (preProcess t) = l := by
  have e : tk t [] false = l.map enc := by simpa [tk, flush_nil] using h hl [] (Or.inl rfl)
  rw [components_tk t (by rw [e]; simpa using hne), e, List.map_map]
  simpa using List.map_congr_left (f := fixSub ∘ enc) (g := id) fun a ha => fixSub_enc (hl a ha)

theorem Written.append_blank {l l' : List (List Char)} {t t' : List Char} (h : Written l t)
    (h' : Written l' t') : Written (l ++ l') (t ++ ' ' :: t') :=
  fun hl r hr => by
    rw [List.append_assoc, List.cons_append, h (fun a ha => hl a (List.mem_append_left _ ha)) _
      (Or.inr ⟨' ', _, rfl, Or.inl rfl⟩), tk_blank,
      h' (fun a ha => hl a (List.mem_append_right _ ha)) r hr]
    simp [flush_nil]

/-- the blank-joined text with which `parse` re-enters on a sub-expression -/
theorem written_joinBlank : ∀ l : List (List Char), Written l (joinBlank l)
  | [] => .nil
  | [a] => by simpa [joinBlank, List.intercalate] using Written.one a
  | a :: b :: l => joinBlank_cons_cons a b l ▸ (Written.one a).append_blank (written_joinBlank (b :: l))

theorem Written.mid_sp {l l' : List (List Char)} {t t' : List Char} (h : Written l t)
    (h' : Written l' t') (c : Char) (hc : isSpecialChar c = true) :
    Written (l ++ [c] :: l') (t ++ c :: t') :=
  fun hl r hr => by
    rw [List.append_assoc, List.cons_append, h (fun a ha => hl a (List.mem_append_left _ ha)) _
      (Or.inr ⟨c, _, rfl, Or.inr hc⟩), tk_sp hc,
      h' (fun a ha => hl a (List.mem_append_right _ (List.mem_cons_of_mem _ ha))) r hr]
    simp [flush_nil, enc]

theorem Written.cons_sp {l : List (List Char)} {t : List Char} (h : Written l t) (c : Char)
    (hc : isSpecialChar c = true) : Written ([c] :: l) (c :: t) :=
  Written.nil.mid_sp h c hc

theorem Written.snoc_sp {l : List (List Char)} {t : List Char} (h : Written l t) (c : Char)
    (hc : isSpecialChar c = true) : Written (l ++ [[c]]) (t ++ [c]) :=
  h.mid_sp .nil c hc

end Pfl.RegexReader.Lem
