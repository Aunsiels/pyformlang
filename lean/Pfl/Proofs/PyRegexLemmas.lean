/-
Helper lemmas for C07 (the reference desugaring of the Python regex subset): what the constructors of `Matches`
say, read backwards; `Pieces`, a word cut into between `m` and `n` pieces of a language; and `Means`, a plain regular
expression denoting a language of character words spelled in one-character symbols, with what each operator that
`desugar` writes means.
-/
import Pfl.Model.PyRegex
import Pfl.Spec.Regex
import Pfl.Props.C05_Regex
namespace Pfl
namespace PyRx

/-- a word of characters as a word of one-character symbols -/
def word (w : List Char) : List String := w.map String.singleton

namespace Lem

open Rx

theorem word_inj {u v : List Char} (h : word u = word v) : u = v :=
  (List.map_inj_right (fun _ _ h => String.singleton_inj.mp h)).mp h

theorem word_flatten (l : List (List Char)) : word l.flatten = (l.map word).flatten := by
  rw [word, List.map_flatten]; rfl

theorem fold_denote (cs : List Char) (r0 : Rx) (ws : List String) :
    Denote (cs.foldl (fun r d => .alt r (sym d)) r0) ws ↔
      Denote r0 ws ∨ ∃ c ∈ cs, ws = [String.singleton c] := by
  induction cs generalizing r0 with
  | nil => simp
  | cons d cs ih =>
    rw [List.foldl_cons, ih, alt_denote, sym, Rx.Lem.sym_denote]
    simp only [List.mem_cons, exists_eq_or_imp, or_assoc]

theorem anyOf_denote (cs : List Char) (ws : List String) :
    Denote (anyOf cs) ws ↔ ∃ c ∈ cs, ws = [String.singleton c] := by
  cases cs with
  | nil => simp [anyOf, Rx.Lem.empty_denote]
  | cons c cs =>
    rw [anyOf, fold_denote, sym, Rx.Lem.sym_denote]
    simp only [List.mem_cons, exists_eq_or_imp]

theorem mem_setChars (U : List Char) (neg : Bool) (items : List Item) (c : Char) :
    c ∈ setChars U neg items ↔
      (neg = true ∧ c ∈ U ∧ c ∉ members items) ∨ (neg = false ∧ c ∈ members items) := by
  cases neg <;> simp [setChars, List.mem_eraseDups, List.mem_filter]

theorem star_iff (U : List Char) (a : P) (w : List Char) :
    Matches U (.star a) w ↔ ∃ l : List (List Char), w = l.flatten ∧ ∀ x ∈ l, Matches U a x := by
  constructor
  · intro h
    generalize hp : P.star a = p at h
    induction h with
    | starNil => exact ⟨[], rfl, nofun⟩
    | @starCons a' u v hu _ _ ih =>
      cases hp
      obtain ⟨l, rfl, hall⟩ := ih rfl
      exact ⟨u :: l, by simp, List.forall_mem_cons.2 ⟨hu, hall⟩⟩
    | _ => cases hp
  · rintro ⟨l, rfl, hall⟩
    induction l with
    | nil => exact .starNil
    | cons x l ih =>
      rw [List.flatten_cons]
      exact .starCons (hall x (by simp)) (ih fun y hy => hall y (by simp [hy]))

theorem rep_iff (U : List Char) (a : P) (m n : Nat) (w : List Char) :
    Matches U (.rep a m n) w ↔
      ∃ ws : List (List Char), w = ws.flatten ∧ m ≤ ws.length ∧ ws.length ≤ n ∧
        ∀ x ∈ ws, Matches U a x := by
  constructor
  · intro h
    generalize hp : P.rep a m n = p at h
    induction h generalizing m n with
    | repNil => cases hp; exact ⟨[], rfl, Nat.le_refl _, Nat.zero_le _, nofun⟩
    | @repCons _ _ _ u v hu _ _ ih =>
      cases hp
      obtain ⟨ws, rfl, h1, h2, hall⟩ := ih _ _ rfl
      exact ⟨u :: ws, List.flatten_cons.symm, Nat.sub_le_iff_le_add.mp h1, Nat.succ_le_succ h2,
        List.forall_mem_cons.2 ⟨hu, hall⟩⟩
    | _ => cases hp
  · rintro ⟨ws, rfl, h1, h2, hall⟩
    induction ws generalizing m n with
    | nil => cases Nat.le_zero.mp h1; exact .repNil
    | cons x ws ih =>
      cases n with
      | zero => exact absurd h2 (Nat.not_succ_le_zero _)
      | succ n =>
        have ⟨hx, hall⟩ := List.forall_mem_cons.1 hall
        exact List.flatten_cons ▸
          .repCons hx (ih _ _ (Nat.sub_le_iff_le_add.mpr h1) (Nat.le_of_succ_le_succ h2) hall)

section
variable {U : List Char} {a b : P} {w : List Char}

theorem lit_iff {c : Char} : Matches U (.lit c) w ↔ ∃ d ∈ [c], w = [d] :=
  ⟨fun h => by cases h; exact ⟨c, by simp, rfl⟩,
    by rintro ⟨_, hd, rfl⟩; cases List.mem_singleton.mp hd; exact .lit c⟩

theorem dot_iff : Matches U .dot w ↔ ∃ c ∈ U.filter (· ≠ '\n'), w = [c] := by
  constructor
  · intro h; cases h with | @dot c h1 h2 => exact ⟨c, by simp [h1, h2], rfl⟩
  · rintro ⟨c, hc, rfl⟩
    rw [List.mem_filter] at hc
    exact .dot hc.1 (by simpa using hc.2)

theorem short_iff {k : Char} : Matches U (.short k) w ↔ ∃ c ∈ shortChars k, w = [c] :=
  ⟨fun h => by cases h with | @short _ c h1 => exact ⟨c, h1, rfl⟩, by rintro ⟨c, hc, rfl⟩; exact .short hc⟩

theorem set_iff {neg : Bool} {items : List Item} :
    Matches U (.set neg items) w ↔ ∃ c ∈ setChars U neg items, w = [c] := by
  simp only [mem_setChars]
  constructor
  · intro h
    cases h with
    | @setPos _ c h1 => exact ⟨c, Or.inr ⟨rfl, h1⟩, rfl⟩
    | @setNeg _ c h1 h2 => exact ⟨c, Or.inl ⟨rfl, h1, h2⟩, rfl⟩
  · rintro ⟨c, ⟨rfl, h1, h2⟩ | ⟨rfl, h1⟩, rfl⟩
    · exact .setNeg h1 h2
    · exact .setPos h1

theorem cat_iff : Matches U (.cat a b) w ↔ ∃ u v, w = u ++ v ∧ Matches U a u ∧ Matches U b v :=
  ⟨fun h => by cases h with | cat hu hv => exact ⟨_, _, rfl, hu, hv⟩,
    by rintro ⟨u, v, rfl, hu, hv⟩; exact .cat hu hv⟩

theorem alt_iff : Matches U (.alt a b) w ↔ Matches U a w ∨ Matches U b w :=
  ⟨fun h => by cases h with | altL h => exact .inl h | altR h => exact .inr h, fun h => h.elim .altL .altR⟩

theorem plus_iff : Matches U (.plus a) w ↔ ∃ u v, w = u ++ v ∧ Matches U a u ∧ Matches U (.star a) v :=
  ⟨fun h => by cases h with | plus hu hv => exact ⟨_, _, rfl, hu, hv⟩,
    by rintro ⟨u, v, rfl, hu, hv⟩; exact .plus hu hv⟩

theorem opt_iff : Matches U (.opt a) w ↔ Matches U a w ∨ w = [] :=
  ⟨fun h => by cases h with | optNone => exact .inr rfl | optSome h => exact .inl h,
    fun h => h.elim .optSome fun e => e ▸ .optNone⟩

end

/-- `w` is cut into pieces in `A`, at least `m` and at most `n` of them -/
def Pieces (A : List Char → Prop) (m n : Nat) (w : List Char) : Prop :=
  ∃ l : List (List Char), w = l.flatten ∧ m ≤ l.length ∧ l.length ≤ n ∧ ∀ x ∈ l, A x

variable {A B : List Char → Prop} {m n m' n' : Nat} {w : List Char}

theorem Pieces.zero : Pieces A 0 0 w ↔ w = [] := by
  constructor
  · rintro ⟨l, rfl, -, h, -⟩
    rw [List.length_eq_zero_iff.mp (Nat.le_zero.mp h)]; rfl
  · rintro rfl; exact ⟨[], rfl, Nat.le_refl _, Nat.le_refl _, nofun⟩

theorem Pieces.le_one : Pieces A m 1 w ↔ m = 0 ∧ w = [] ∨ m ≤ 1 ∧ A w := by
  constructor
  · rintro ⟨l, rfl, h1, h2, ha⟩
    match l, h1, h2, ha with
    | [], h1, _, _ => exact Or.inl ⟨Nat.le_zero.mp h1, rfl⟩
    | [x], h1, _, ha => exact Or.inr ⟨h1, by simpa using ha⟩
    | _ :: _ :: _, _, h2, _ => simp at h2
  · rintro (⟨rfl, rfl⟩ | ⟨hm, h⟩)
    · exact ⟨[], rfl, Nat.le_refl _, Nat.zero_le _, nofun⟩
    · exact ⟨[w], by simp, hm, Nat.le_refl _, by simpa using h⟩

theorem Pieces.one : Pieces A 1 1 w ↔ A w := by simp [Pieces.le_one]

theorem Pieces.opt : Pieces A 0 1 w ↔ A w ∨ w = [] := by simp [Pieces.le_one, or_comm]

theorem Pieces.append (hm : m ≤ n) (hm' : m' ≤ n') :
    (∃ u v, w = u ++ v ∧ Pieces A m n u ∧ Pieces A m' n' v) ↔ Pieces A (m + m') (n + n') w := by
  constructor
  · rintro ⟨_, _, rfl, ⟨l, rfl, h1, h2, ha⟩, ⟨l', rfl, h1', h2', ha'⟩⟩
    exact ⟨l ++ l', List.flatten_append.symm, List.length_append ▸ Nat.add_le_add h1 h1',
      List.length_append ▸ Nat.add_le_add h2 h2', fun x hx => (List.mem_append.mp hx).elim (ha x) (ha' x)⟩
  · rintro ⟨l, rfl, h1, h2, ha⟩
    -- the left part takes `m` pieces and the right one the rest, or the right one `n'` and the left one the rest
    obtain ⟨i, j, e, hi, hn, hj, hn'⟩ : ∃ i j, l.length = i + j ∧ m ≤ i ∧ i ≤ n ∧ m' ≤ j ∧ j ≤ n' := by
      generalize l.length = L at h1 h2
      rcases Nat.le_total L (m + n') with h | h
      · obtain ⟨j, rfl⟩ := Nat.exists_eq_add_of_le (Nat.le_trans (Nat.le_add_right m m') h1)
        exact ⟨m, j, rfl, Nat.le_refl _, hm, Nat.le_of_add_le_add_left h1, Nat.le_of_add_le_add_left h⟩
      · obtain ⟨i, rfl⟩ := Nat.exists_eq_add_of_le' (Nat.le_trans (Nat.le_add_left n' m) h)
        exact ⟨i, n', rfl, Nat.le_of_add_le_add_right h, Nat.le_of_add_le_add_right h2, hm', Nat.le_refl _⟩
    have ei : (l.take i).length = i := List.length_take_of_le (e ▸ Nat.le_add_right i j)
    have ej : (l.drop i).length = j := by rw [List.length_drop, e, Nat.add_sub_cancel_left]
    exact ⟨(l.take i).flatten, (l.drop i).flatten, by rw [← List.flatten_append, List.take_append_drop],
      ⟨l.take i, rfl, by rwa [ei], by rwa [ei], fun x hx => ha x (List.mem_of_mem_take hx)⟩,
      ⟨l.drop i, rfl, by rwa [ej], by rwa [ej], fun x hx => ha x (List.mem_of_mem_drop hx)⟩⟩

/-- `r` denotes the language `A` of character words, spelled as words of one-character symbols -/
def Means (r : Rx) (A : List Char → Prop) : Prop := ∀ ws, Denote r ws ↔ ∃ w, ws = word w ∧ A w

variable {r s : Rx}

theorem Means.congr (h : Means r A) (e : ∀ w, A w ↔ B w) : Means r B := by
  simpa only [Means, e] using h

theorem Means.iff (h : Means r A) (w : List Char) : Denote r (word w) ↔ A w :=
  (h _).trans ⟨fun ⟨_, e, hv⟩ => word_inj e ▸ hv, fun hw => ⟨w, rfl, hw⟩⟩

theorem Means.eps : Means .eps (· = []) := fun ws => by
  rw [Rx.Lem.eps_denote]
  exact ⟨fun h => ⟨[], h, rfl⟩, fun ⟨_, e, h⟩ => e.trans (congrArg word h)⟩

theorem Means.anyOf (cs : List Char) : Means (anyOf cs) fun w => ∃ c ∈ cs, w = [c] := fun ws => by
  rw [anyOf_denote]
  constructor
  · rintro ⟨c, hc, rfl⟩; exact ⟨[c], rfl, c, hc, rfl⟩
  · rintro ⟨_, rfl, c, hc, rfl⟩; exact ⟨c, hc, rfl⟩

theorem Means.cat (h : Means r A) (h' : Means s B) :
    Means (.cat r s) fun w => ∃ u v, w = u ++ v ∧ A u ∧ B v := fun ws => by
  simp only [cat_denote, h _, h' _]
  constructor
  · rintro ⟨_, _, rfl, ⟨u, rfl, hu⟩, ⟨v, rfl, hv⟩⟩
    exact ⟨u ++ v, by simp [word], u, v, rfl, hu, hv⟩
  · rintro ⟨_, rfl, u, v, rfl, hu, hv⟩
    exact ⟨word u, word v, by simp [word], ⟨u, rfl, hu⟩, ⟨v, rfl, hv⟩⟩

theorem Means.alt (h : Means r A) (h' : Means s B) : Means (.alt r s) fun w => A w ∨ B w := fun ws => by
  simp only [alt_denote, h _, h' _, and_or_left, exists_or]

theorem Means.star (h : Means r A) :
    Means (.star r) fun w => ∃ l : List (List Char), w = l.flatten ∧ ∀ x ∈ l, A x := fun ws => by
  rw [star_denote]
  constructor
  · rintro ⟨ls, rfl, hall⟩
    -- every piece is the spelling of a word in `A`: choose them
    have : ∃ l : List (List Char), ls = l.map word ∧ ∀ x ∈ l, A x := by
      induction ls with
      | nil => exact ⟨[], rfl, nofun⟩
      | cons x ls ih =>
        obtain ⟨u, rfl, hu⟩ := (h x).mp (hall x (by simp))
        obtain ⟨l, rfl, hl⟩ := ih fun y hy => hall y (by simp [hy])
        exact ⟨u :: l, rfl, List.forall_mem_cons.2 ⟨hu, hl⟩⟩
    obtain ⟨l, rfl, hl⟩ := this
    exact ⟨_, (word_flatten l).symm, l, rfl, hl⟩
  · rintro ⟨_, rfl, l, rfl, hl⟩
    refine ⟨_, word_flatten l, fun x hx => ?_⟩
    obtain ⟨y, hy, rfl⟩ := List.mem_map.mp hx
    exact (h _).mpr ⟨y, rfl, hl y hy⟩

theorem Means.copies (h : Means r A) : ∀ m, Means (copies r m) (Pieces A m m)
  | 0 => Means.eps.congr fun _ => Pieces.zero.symm
  | m + 1 => ((h.congr fun _ => Pieces.one.symm).cat (Means.copies h m)).congr
    fun _ => by rw [Pieces.append (Nat.le_refl 1) (Nat.le_refl m), Nat.add_comm]

theorem Means.optCopies (h : Means r A) : ∀ k, Means (optCopies r k) (Pieces A 0 k)
  | 0 => Means.eps.congr fun _ => Pieces.zero.symm
  | k + 1 => (((h.alt Means.eps).congr fun _ => Pieces.opt.symm).cat (Means.optCopies h k)).congr
    fun _ => by rw [Pieces.append (Nat.zero_le 1) (Nat.zero_le k), Nat.add_comm 1 k]

/-- `r{m,m+k}` as `desugar` writes it -/
theorem Means.rep (h : Means r A) (m k : Nat) :
    Means (.cat (PyRx.copies r m) (PyRx.optCopies r k)) (Pieces A m (m + k)) :=
  ((h.copies m).cat (h.optCopies k)).congr fun _ => Pieces.append (Nat.le_refl m) (Nat.zero_le k)

end Lem
end PyRx
end Pfl
