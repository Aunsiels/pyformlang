/-
Consequences of the shape of the store built by `buildGrammar` (`SInv`, `PR`), used by the
completeness and the termination proof: the extra store invariants, the paths of the production
objects and their ground instances.
-/
import Pfl.Proofs.EarleyCompleteTables
import Pfl.Proofs.EarleyLemmasBuild
namespace Pfl
namespace Earley
namespace Cmp
open FsDag Lem Lem.Bld

section Inv
variable {Src : String → Prop} {st : Store} {rk : Nat → Nat}

theorem SInv.sx (h : SInv Src st rk) {P : String → Prop}
    (hP : ∀ v, Src v → ¬ v.startsWith "?" = true → P v) : SX P st rk where
  kf i g x hx := by
    obtain ⟨_, ⟨hk, rfl, _⟩ | ⟨sl, hk, _⟩⟩ := (h.obj i).c g x hx
    · rw [cont, hk]; exact if_pos rfl
    · rw [cont, hk] at hx ⊢; exact lookupC_prodContent_iff.2 hx
  vr i v hv := by
    have hp : ptr st i = none := by rw [ptr, ((h.obj i).v v hv).2.2.1]; rfl
    rw [deref_of_none hp]; exact hv
  alln i g x hi hx := by
    obtain ⟨_, ⟨_, rfl, _⟩ | ⟨_, _, h2, _⟩⟩ := (h.obj i).c g x hx
    · rfl
    · exact nomatch h2.symm.trans hi
  ap i v hv := hP v ((h.obj i).v v hv).1 ((h.obj i).v v hv).2.1

theorem SInv.noval (h : SInv Src st rk) (hS : ∀ v, ¬ Src v) : NoVal st := by
  intro i
  cases hv : val st i with
  | none => rfl
  | some v => exact absurd ((h.obj i).v v hv).1 (hS v)

end Inv

theorem pr_paths {C : Ctx} {st : Store} {F k : Nat} {pr : Spec1} (hk : prX C k = pr)
    (h : PR st F pr) : HasPaths C st F k := by
  obtain ⟨sl, vars, _, h2, _, _, h3, _⟩ := h
  have key : ∀ i, i < (occ pr).length → ∃ r, byPath st F [Term.lab i] = some r := fun i hi =>
    ⟨_, by rw [byPath_one, cont_rootN h2]
           exact lookupC_prodContent_lab.2 (List.getElem?_eq_getElem (h3 ▸ hi))⟩
  exact ⟨key 0 (Nat.succ_pos _), fun j hj => key (j + 1) (by
    rw [occ, List.length_cons, List.length_map]; exact Nat.succ_lt_succ (hk ▸ hj))⟩

open Classical in
/-- the valuation that gives the variable objects the values of `env` -/
noncomputable def envVal (P : String → Prop) (vf : Env → String → String) (st : Store)
    (vars : List (String × Nat)) (env : Env) (d : String) : Nat → String :=
  fun c => if h : ∃ x, lookupC x vars = some c then
      (if P (vf env (choose h)) then vf env (choose h) else d)
    else dfltVal P st d c

theorem envVal_resp {P : String → Prop} {vf : Env → String → String} {st : Store}
    {vars : List (String × Nat)} (hv : VarsOK st vars) (env : Env) {d : String} (hd : P d) :
    Resp P st (envVal P vf st vars env d) := by
  refine ⟨fun c => ?_, fun c v hp hval hP => ?_⟩
  · unfold envVal
    split
    · split
      · assumption
      · exact hd
    · exact (resp_default P st hd).1 c
  · unfold envVal
    split
    · rename_i h
      obtain ⟨x, hx⟩ := h
      have := hv.emp x c hx
      rw [val, this] at hval; simp [emptyNode] at hval
    · exact (resp_default P st hd).2 c v hp hval hP

theorem pr_cov {C : Ctx} {st : Store} (ha : Acyc st) {F k : Nat} {pr : Spec1}
    (hk : C.spec[k]? = some pr) (hpr : PR st F pr) (env : Env) {d : String} (hd : C.P d)
    (hconst : ∀ f ∈ pr.1.2 :: pr.2.map (·.2), ∀ v, f = some v → ¬ v.startsWith "?" = true →
      C.vf env v = v ∧ C.P v)
    (hvar : ∀ f ∈ pr.1.2 :: pr.2.map (·.2), ∀ v, f = some v → v.startsWith "?" = true →
      C.P (C.vf env v)) : Cov C st F k env := by
  obtain ⟨vars, hv, h⟩ := hpr.leaf
  refine ⟨envVal C.P C.vf st vars env d, envVal_resp hv env hd, ?_⟩
  rw [prX_spec hk]
  refine occ_cases (Q := fun name v => rdv st _ F [name, "n"] = some (C.vf env v)) fun i v hi => ?_
  have hm := mem_occ (List.mem_of_getElem? hi)
  obtain ⟨n, hn, hl⟩ := h i v hi
  unfold rdv
  rw [hn]
  simp only [Option.map_some, Option.some.injEq]
  by_cases hq : v.startsWith "?" = true
  · rw [if_pos hq] at hl
    obtain ⟨vn, hvn, hg⟩ := hl
    have hpn : ptr st n = some vn := by rw [ptr, hg]; rfl
    have hpv : ptr st vn = none := by rw [ptr, hv.emp v vn hvn]; rfl
    rw [deref_step ha hpn, deref_of_none hpv]
    unfold envVal
    have hex : ∃ x, lookupC x vars = some vn := ⟨v, hvn⟩
    rw [dif_pos hex]
    have : Classical.choose hex = v := hv.inj _ _ _ (Classical.choose_spec hex) hvn
    rw [this, if_pos (hvar _ hm v rfl hq)]
  · rw [if_neg hq] at hl
    have hpn : ptr st n = none := by rw [ptr, hl]; rfl
    rw [deref_of_none hpn]
    obtain ⟨e1, e2⟩ := hconst _ hm v rfl hq
    unfold envVal
    have hnex : ¬ ∃ x, lookupC x vars = some n := by
      rintro ⟨x, hx⟩
      have := hv.emp x n hx
      rw [hl] at this
      simp [atomN, emptyNode] at this
    rw [dif_neg hnex]
    unfold dfltVal
    have hval : val st n = some v := by rw [val, hl]; rfl
    rw [hval]
    simp only [Option.getD_some]
    rw [if_pos e2, e1]

end Cmp
end Earley
end Pfl
