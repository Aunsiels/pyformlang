/-
Fuel bounds for the CFG loops (C09_Termination).  The grammar left by the clean-up chain of `to_normal_form`
takes the fast path (or has no production), so the recursion stops after one step; fuel bounds for
the word enumeration loop (bounded, and unbounded on a finite language); the heads in the tables
of the counter-based worklist are variables (`buildTables_heads`).
-/
import Pfl.Props.C09_CNF
import Pfl.Props.C12_Words
import Pfl.Proofs.CFGCounters
namespace Pfl
namespace CFG
namespace Term

theorem mk'_vars_nodup (vars ters : List String) (start : Option String) (prods : List Prod) :
    (mk' vars ters start prods).vars.Nodup := nodup_eraseDups _

theorem mk'_ters_nodup (vars ters : List String) (start : Option String) (prods : List Prod) :
    (mk' vars ters start prods).ters.Nodup := nodup_eraseDups _

theorem allSyms_nodup (G : CFG) (hv : G.vars.Nodup) (ht : G.ters.Nodup) : (Words.allSyms G).Nodup := by
  unfold Words.allSyms
  rw [List.nodup_append]
  refine ⟨List.Nodup.map (fun a b e => by cases e; rfl) hv,
    List.Nodup.map (fun a b e => by cases e; rfl) ht, ?_⟩
  intro a ha b hb
  obtain ⟨v, _, rfl⟩ := List.mem_map.mp ha
  obtain ⟨t, _, rfl⟩ := List.mem_map.mp hb
  intro e; cases e

theorem removeUseless_vars_nodup (G : CFG) : G.removeUseless.vars.Nodup := by
  rw [Clean.removeUseless_eq]; exact mk'_vars_nodup _ _ _ _

theorem removeUseless_ters_nodup (G : CFG) : G.removeUseless.ters.Nodup := by
  rw [Clean.removeUseless_eq]; exact mk'_ters_nodup _ _ _ _

theorem removeUseless_prods_sub (G : CFG) (p : Prod) (hp : p ∈ G.removeUseless.prods) :
    p ∈ G.prods :=
  ((Clean.mem_usefulTmp_prods G p).mp ((Clean.mem_removeUseless_prods G p).mp hp).1).1

theorem removeUseless_prods_nil (G : CFG)
    (h : ∀ st, G.start = some st → Sym.var st ∉ G.generating) : G.removeUseless.prods = [] := by
  rw [List.eq_nil_iff_forall_not_mem]
  intro p hp
  obtain ⟨hp₁, hr⟩ := (Clean.mem_removeUseless_prods G p).mp hp
  obtain ⟨st, hst, hreach⟩ := (mem_reachable_reach _ _).1 hr
  -- the start symbol heads a production of the intermediate grammar: `p`, or the first step towards it
  obtain ⟨body, hb⟩ : ∃ body, (st, body) ∈ (Clean.usefulTmp G).prods := by
    rcases Reach.cases_head hreach with e | ⟨z, hz, _⟩
    · cases e; exact ⟨p.2, hp₁⟩
    · obtain ⟨v, body, hv, hp', _⟩ := (mem_rnext _ _ _).mp hz
      cases hv
      exact ⟨body, hp'⟩
  exact h st hst ((Clean.mem_usefulTmp_prods G _).mp hb).2.1

theorem survives (G : CFG) (hG : G.WF) (v : String) (hg : Sym.var v ∈ G.generating)
    (hr : Sym.var v ∈ (Clean.usefulTmp G).reachable) :
    Sym.var v ∈ G.removeUseless.generating ∧ Sym.var v ∈ G.removeUseless.reachable :=
  Clean.useful_survives G hG hg hr

theorem removeUseless_all (G : CFG) (hG : G.WF) (st : String) (hst : G.start = some st)
    (hsg : Sym.var st ∈ G.generating) :
    ∀ s ∈ Words.allSyms G.removeUseless,
      s ∈ G.removeUseless.generating ∧ s ∈ G.removeUseless.reachable := by
  intro s hs
  unfold Words.allSyms at hs
  rcases List.mem_append.mp hs with hs | hs
  · obtain ⟨v, hv, rfl⟩ := List.mem_map.mp hs
    rw [Clean.removeUseless_eq] at hv
    rcases Clean.mem_mk'_vars.mp hv with h | h | ⟨p, hp, h⟩
    · simp only [List.mem_filter, decide_eq_true_eq] at h
      exact survives G hG v h.1.2 h.2
    · rw [hst] at h; cases h
      exact survives G hG st hsg (Clean.reachable_start (G := Clean.usefulTmp G) hst)
    · exact removeUseless_useful G hG p hp _ h
  · obtain ⟨t, ht, rfl⟩ := List.mem_map.mp hs
    rw [Clean.removeUseless_eq] at ht
    rcases Clean.mem_mk'_ters.mp ht with h | ⟨p, hp, h⟩
    · simp only [List.mem_filter, decide_eq_true_eq] at h
      exact Clean.useful_survives G hG h.1.2 h.2
    · exact removeUseless_useful G hG p hp _ (List.mem_cons_of_mem _ h)

theorem removeUseless_fast (H : CFG) (hH : H.WF) (hne : ∀ p ∈ H.prods, p.2 ≠ [])
    (hnu : ∀ p ∈ H.prods, isUnit p = false) :
    H.removeUseless.isFastPath = true ∨ H.removeUseless.prods.length = 0 := by
  by_cases hs : ∃ st, H.start = some st ∧ Sym.var st ∈ H.generating
  · obtain ⟨st, hst, hsg⟩ := hs
    have hall := removeUseless_all H hH st hst hsg
    exact .inl ((Words.isFastPath_iff _ (Clean.removeUseless_wf H)).2
      ⟨allSyms_nodup _ (removeUseless_vars_nodup H) (removeUseless_ters_nodup H),
        fun p hp => hne p (removeUseless_prods_sub H p hp),
        fun p hp => hnu p (removeUseless_prods_sub H p hp),
        fun s hs => (hall s hs).1, fun s hs => (hall s hs).2⟩)
  · right
    rw [removeUseless_prods_nil H fun st hst hg => hs ⟨st, hst, hg⟩]
    rfl

/-- the clean-up chain of `to_normal_form` -/
def cleaned (G : CFG) : CFG := G.removeUseless.removeEpsilon.removeUseless.elimUnit.removeUseless

theorem cleaned_fast (G : CFG) : (cleaned G).isFastPath = true ∨ (cleaned G).prods.length = 0 := by
  unfold cleaned
  refine removeUseless_fast _ (Clean.elimUnit_wf _) ?_ (Clean.elimUnit_noUnit _)
  apply Clean.elimUnit_noEps
  intro p hp
  exact Clean.removeEpsilon_noEps _ p (removeUseless_prods_sub _ p hp)

theorem wordsLoop_isSome (N : CFG) (s : String) (m : Nat) :
    ∀ fuel cur noMod rows acc, 1 ≤ fuel → m + 2 ≤ fuel + cur →
      (wordsLoop N s (some m) fuel cur noMod rows acc).isSome := by
  intro fuel cur noMod rows acc
  fun_induction wordsLoop N s (some m) fuel cur noMod rows acc with
  | case1 => exact fun h => absurd h (Nat.not_succ_le_zero 0)
  | case2 | case4 => exact fun _ _ => rfl  -- the two exits
  | case3 fuel cur noMod rows acc hc row modified acc' noMod' hstop ih =>
    have hc : cur ≤ m := of_decide_eq_true hc
    exact fun _ hb => ih (by omega) (by omega)

theorem buildTables_heads (G : CFG) (hG : G.WF) :
    (∀ a ∈ G.buildTables.2.2, a ∈ G.vars) ∧ (∀ e ∈ G.buildTables.2.1, e.2.1 ∈ G.vars) := by
  have inv := Ctr.binv_buildTables G
  constructor
  · intro a ha
    exact hG.head_mem (a, []) ((inv.t4 a).mp ha)
  · intro e he
    have hm : e.1 ∈ Ctr.occ G.buildTables.2.1 e.2.1 e.2.2 := (Ctr.mem_occ _ _ _ _).mpr he
    have hne : Ctr.occ G.buildTables.2.1 e.2.1 e.2.2 ≠ [] := by
      intro h0; rw [h0] at hm; cases hm
    exact hG.head_mem _ (inv.t2 _ _ hne)

section
open Pfl.CFG.Words

theorem wordsRow_not_modified {N : CFG} (hN : N.isNormalForm = true) (hWF : N.WF) (L : Nat)
    (hL : ∀ x u, N.Gen (.var x) u → u.length ≤ L) {rows : List WRow} {cur : Nat}
    (hr : Rows N cur rows) (hlt : L < cur) :
    ((wordsRow N rows cur).any fun e => !e.2.isEmpty) = false := by
  have hrow := hr.row hN hWF
  have hempty : ∀ x, rowGet (wordsRow N rows cur) x = [] := by
    intro x
    rw [List.eq_nil_iff_forall_not_mem]
    intro u hu
    obtain ⟨h1, hg⟩ := (hrow x u).mp hu
    have h2 := hL x u hg
    omega
  rw [List.any_eq_false]
  intro e he
  unfold wordsRow at he
  obtain ⟨x, hx, rfl⟩ := List.mem_map.mp he
  have := hempty x
  unfold wordsRow at this
  rw [rowGet_map, if_pos hx] at this
  simp only [this]
  simp

/-- fuel while rows up to length `L` are still to come -/
theorem fuel_early {L cur n : Nat} (hle : cur ≤ L) (hB : 2 * L + 3 ≤ n + 1 + cur) :
    1 ≤ n ∧ cur + 2 ≤ n ∧ 2 * L + 3 ≤ n + (cur + 1) := by
  omega

/-- fuel while only empty rows follow and the stopping rule has not fired -/
theorem fuel_late {cur noMod n : Nat} (hA : cur + 1 ≤ n + 1 + 2 * noMod)
    (hstop : ¬ 2 * (noMod + 1) > cur + 1) : 1 ≤ n ∧ cur + 2 ≤ n + 2 * (noMod + 1) := by
  omega

/-- the unbounded loop on a normal form whose words have length `≤ L`: the rows for the lengths up to
`L` are computed, then `noMod` grows with every round until `2 * noMod > cur + 1` -/
theorem wordsLoop_none_isSome {N : CFG} (hN : N.isNormalForm = true) (hWF : N.WF) (s : String)
    (L : Nat) (hL : ∀ x u, N.Gen (.var x) u → u.length ≤ L) :
    ∀ fuel cur noMod rows acc, Rows N cur rows →
      1 ≤ fuel → (L < cur → cur + 1 ≤ fuel + 2 * noMod) → (cur ≤ L → 2 * L + 3 ≤ fuel + cur) →
      (wordsLoop N s none fuel cur noMod rows acc).isSome := by
  intro fuel cur noMod rows acc
  fun_induction wordsLoop N s none fuel cur noMod rows acc with
  | case1 => exact fun _ h => absurd h (Nat.not_succ_le_zero 0)
  | case2 | case4 => exact fun _ _ _ _ => rfl  -- the two exits
  | case3 fuel cur noMod rows acc _ row modified acc' noMod' hstop ih =>
    intro hr _ hA hB
    by_cases hlt : L < cur
    · have hnm : noMod' = noMod + 1 := by
        simp only [noMod', modified, row, wordsRow_not_modified hN hWF L hL hr hlt]; rfl
      rw [hnm] at hstop ih ⊢
      obtain ⟨h1, h2⟩ := fuel_late (hA hlt) hstop
      exact ih (hr.step hN hWF) h1 (fun _ => h2) (fun h => absurd hlt (Nat.lt_asymm h))
    · have hle := Nat.le_of_not_lt hlt
      obtain ⟨h1, h2, h3⟩ := fuel_early hle (hB hle)
      exact ih (hr.step hN hWF) h1 (fun _ => Nat.le_trans h2 (Nat.le_add_right _ _))
        (fun _ => h3)

theorem lengths_bounded (ws : List (List String)) : ∃ n, ∀ w ∈ ws, w.length ≤ n := by
  induction ws with
  | nil => exact ⟨0, by simp⟩
  | cons a ws ih =>
    obtain ⟨n, hn⟩ := ih
    refine ⟨max a.length n, ?_⟩
    intro w hw
    rcases List.mem_cons.mp hw with rfl | hw
    · exact Nat.le_max_left _ _
    · exact Nat.le_trans (hn w hw) (Nat.le_max_right _ _)

/-- a finite language gives a normal form without cycle, hence words of length `≤ 2 ^ |variables|` -/
theorem normalForm_bounded (G : CFG) (hG : G.WF) (hfin : ∃ n, ∀ w, G.Lang w → w.length ≤ n)
    (fuel : Nat) (N : CFG) (hN : G.toNormalForm fuel = some N) :
    ∀ x u, N.Gen (.var x) u → u.length ≤ 2 ^ N.vars.length :=
  acyclic_bounded (toNormalForm_isNormalForm G hG fuel N hN) (toNormalForm_wf G hG fuel N hN)
    (acyclic_of_finite G hG fuel N hN hfin)

end

end Term
end CFG
end Pfl
