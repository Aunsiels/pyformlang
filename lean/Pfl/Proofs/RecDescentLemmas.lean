/-
Helper lemmas for C15 (model `Pfl/Model/RecDescent.lean`): the pruning test, the choice of the
variable to expand, the backtracking search and the reconstruction of the tree.
-/
import Pfl.Model.RecDescent
import Pfl.Proofs.CFGBase
import Pfl.Proofs.Trees
import Pfl.Proofs.LL1LibParse
namespace Pfl
namespace RecDescent
namespace Lem
open CFG
open Pfl.LL1Lib.Lem (Lm lm_nil_inv lm_ter_inv lm_var_inv)
open Pfl.CFG.Trees (Ters ters_or_split)

theorem rdMatch_var_append (v : String) (rest : List Sym) (w2 : List String)
    (h : rdMatch w2 rest = true) : ∀ w1 : List String, rdMatch (w1 ++ w2) (.var v :: rest) = true := by
  intro w1
  induction w1 with
  | nil =>
    cases w2 with
    | nil => rw [List.nil_append, rdMatch, h]; rfl
    | cons a w2 => rw [List.nil_append, rdMatch, h, Bool.or_true]
  | cons a w1 ih => rw [List.cons_append, rdMatch, ih, Bool.true_or]

theorem rdMatch_of_genList (G : CFG) : ∀ (e : List Sym) (w : List String),
    G.GenList e w → rdMatch w e = true := by
  intro e
  induction e with
  | nil => intro w h; rw [genList_nil_iff.mp h, rdMatch]
  | cons s rest ih =>
    intro w h
    obtain ⟨w1, w2, rfl, h1, h2⟩ := genList_cons_iff.mp h
    cases s with
    | var v => exact rdMatch_var_append v rest w2 (ih w2 h2) w1
    | ter t =>
      rw [gen_ter_iff.mp h1]
      simp [rdMatch, ih w2 h2]

theorem rdMatch_ters (u : List String) : ∀ w, rdMatch w (u.map Sym.ter) = true → u = w := by
  induction u with
  | nil =>
    intro w h
    cases w with
    | nil => rfl
    | cons a w => rw [List.map_nil, rdMatch] at h; cases h
  | cons t u ih =>
    intro w h
    cases w with
    | nil => simp [rdMatch] at h
    | cons a w =>
      simp only [List.map_cons, rdMatch, Bool.and_eq_true, decide_eq_true_eq] at h
      rw [h.1, ih w h.2]

theorem findIdx_ters {p : Sym → Bool} (hp : ∀ t, p (.ter t) = false) (u : List String) :
    (u.map Sym.ter).findIdx? p = none :=
  List.findIdx?_eq_none_iff.mpr fun s hs => by
    obtain ⟨t, _, rfl⟩ := List.mem_map.mp hs
    exact hp t

theorem indexToExtend_ters (left : Bool) (u : List String) :
    indexToExtend (u.map Sym.ter) left = none := by
  unfold indexToExtend
  cases left
  · rw [if_neg Bool.false_ne_true, ← List.map_reverse, findIdx_ters fun _ => rfl]
    rfl
  · rw [if_pos rfl, findIdx_ters fun _ => rfl]

theorem indexToExtend_split (left : Bool) (pre post : List Sym) (v : String)
    (h : if left then Ters pre else Ters post) :
    indexToExtend (pre ++ Sym.var v :: post) left = some pre.length := by
  unfold indexToExtend
  cases left
  · obtain ⟨u, rfl⟩ := h
    rw [if_neg Bool.false_ne_true, List.reverse_append, List.reverse_cons, List.append_assoc,
      List.findIdx?_append, ← List.map_reverse, findIdx_ters fun _ => rfl, List.singleton_append,
      List.findIdx?_cons, if_pos rfl]
    simp
  · obtain ⟨u, rfl⟩ := h
    rw [if_pos rfl, List.findIdx?_append, findIdx_ters fun _ => rfl, List.findIdx?_cons,
      if_pos rfl]
    simp

/-- the loop over the productions `l` answers `r`, `f p` being the search below `p`: it refuses when
every production of `v` was refused below, and its success is the success below one of them -/
def Tried (f : Pfl.Prod → Option (Option (List Pfl.Prod))) (v : String) (l : List Pfl.Prod) :
    Option (List Pfl.Prod) → Prop
  | none => ∀ p ∈ l, p.1 = v → f p = some none
  | some ps => ∃ p r', ps = p :: r' ∧ p ∈ l ∧ p.1 = v ∧ f p = some (some r')

theorem Tried.cons {f : Pfl.Prod → Option (Option (List Pfl.Prod))} {v : String} {l : List Pfl.Prod}
    {q : Pfl.Prod} (hq : q.1 = v → f q = some none) :
    ∀ {r}, Tried f v l r → Tried f v (q :: l) r
  | none, h => fun p hp hpv => by
    rcases List.mem_cons.mp hp with rfl | hp
    · exact hq hpv
    · exact h p hp hpv
  | some _, ⟨p, r', h1, h2, h3⟩ => ⟨p, r', h1, List.mem_cons_of_mem _ h2, h3⟩

theorem tryAll_tried (G : CFG) (left : Bool) (fuel : Nat) (w : List String) (e : List Sym) (i : Nat)
    (v : String) : ∀ l r, rdSub.tryAll G left fuel w e i v l = some r →
      Tried (fun p => rdSub G left fuel w (e.take i ++ p.2 ++ e.drop (i + 1))) v l r := by
  intro l
  induction l with
  | nil => intro r h; rw [rdSub.tryAll] at h; cases h; exact nofun
  | cons q l ih =>
    intro r h
    rw [rdSub.tryAll] at h
    split at h
    · next hq =>
      split at h
      · cases h
      · next r' hr =>
        cases h
        exact ⟨q, r', rfl, List.mem_cons_self, hq, hr⟩
      · next hr => exact (ih r h).cons fun _ => hr
    · next hq => exact (ih r h).cons fun hv => absurd hv hq

theorem split_facts (pre post : List Sym) (v : String) :
    (pre ++ Sym.var v :: post)[pre.length]? = some (Sym.var v) ∧
    (pre ++ Sym.var v :: post).take pre.length = pre ∧
    (pre ++ Sym.var v :: post).drop (pre.length + 1) = post := by
  refine ⟨by simp, by simp, ?_⟩
  rw [show pre ++ Sym.var v :: post = (pre ++ [Sym.var v]) ++ post by simp]
  exact List.drop_left' (by simp)

def revP (p : Pfl.Prod) : Pfl.Prod := (p.1, p.2.reverse)

/-- the productions as the search applies them: a rightmost derivation is the leftmost derivation
of the mirrored grammar on the mirrored word, so from the right every body is reversed -/
def mp : Bool → List Pfl.Prod → List Pfl.Prod
  | true, ps => ps
  | false, ps => ps.map revP

/-- a list as the search meets it: from the left as it stands, from the right reversed -/
def mir {α : Type} : Bool → List α → List α
  | true, l => l
  | false, l => l.reverse

theorem mir_mir {α : Type} (left : Bool) (l : List α) : mir left (mir left l) = l := by
  cases left
  · exact List.reverse_reverse l
  · rfl

theorem mir_map {α β : Type} (f : α → β) (left : Bool) (l : List α) :
    (mir left l).map f = mir left (l.map f) := by
  cases left
  · exact List.map_reverse
  · rfl

theorem mp_cons (left : Bool) (p : Pfl.Prod) (ps : List Pfl.Prod) :
    mp left (p :: ps) = (p.1, mir left p.2) :: mp left ps := by
  cases left <;> rfl

/-- `ps` is a leftmost (`left`) / rightmost derivation of `w` from `e`: the mirror image of a
rightmost derivation is a leftmost derivation in the mirrored grammar -/
def Seq (left : Bool) (e : List Sym) (ps : List Pfl.Prod) (w : List String) : Prop :=
  Lm (mir left e) (mp left ps) (mir left w)

theorem lm_map_ter : ∀ w : List String, Lm (w.map Sym.ter) [] w
  | [] => Lm.nil
  | a :: w => Lm.ter a _ _ _ (lm_map_ter w)

theorem lm_ters_var (v : String) (body post : List Sym) (ps : List Pfl.Prod) (u : List String) :
    ∀ w, Lm (u.map Sym.ter ++ body ++ post) ps w →
      Lm (u.map Sym.ter ++ Sym.var v :: post) ((v, body) :: ps) w := by
  induction u with
  | nil => intro w h; exact Lm.var v post (v, body) ps w rfl (by simpa using h)
  | cons t u ih =>
    intro w h
    obtain ⟨w', rfl, h'⟩ := lm_ter_inv h
    exact Lm.ter t _ _ _ (ih w' h')

theorem seq_base (left : Bool) (w : List String) : Seq left (w.map Sym.ter) [] w := by
  cases left with
  | true => exact lm_map_ter w
  | false =>
    show Lm (w.map Sym.ter).reverse ([].map revP) w.reverse
    rw [← List.map_reverse]
    exact lm_map_ter _

theorem seq_step (left : Bool) (pre post : List Sym) (p : Pfl.Prod) (r : List Pfl.Prod)
    (w : List String) (ht : if left then Ters pre else Ters post)
    (h : Seq left (pre ++ p.2 ++ post) r w) : Seq left (pre ++ Sym.var p.1 :: post) (p :: r) w := by
  cases left with
  | true =>
    obtain ⟨u, rfl⟩ := ht
    exact lm_ters_var p.1 p.2 post r u w h
  | false =>
    obtain ⟨u, rfl⟩ := ht
    have h : Lm (pre ++ p.2 ++ u.map Sym.ter).reverse (r.map revP) w.reverse := h
    show Lm (pre ++ Sym.var p.1 :: u.map Sym.ter).reverse ((p :: r).map revP) w.reverse
    rw [List.reverse_append, List.reverse_append, ← List.map_reverse, ← List.append_assoc] at h
    rw [List.reverse_append, List.reverse_cons, ← List.map_reverse, List.append_assoc,
      List.singleton_append]
    exact lm_ters_var p.1 p.2.reverse pre.reverse (r.map revP) u.reverse w.reverse h

/-- what an answer of the search on the form `e` means -/
def Ans (G : CFG) (left : Bool) (w : List String) (e : List Sym) : Option (List Pfl.Prod) → Prop
  | none => ¬ G.GenList e w
  | some ps => (∀ p ∈ ps, p ∈ G.prods) ∧ Seq left e ps w

theorem rdSub_ans (G : CFG) (left : Bool) : ∀ (fuel : Nat) (w : List String) (e : List Sym)
    (r : Option (List Pfl.Prod)), rdSub G left fuel w e = some r → Ans G left w e r := by
  intro fuel
  induction fuel with
  | zero => intro w e r h; rw [rdSub] at h; cases h
  | succ fuel ih =>
    intro w e r h
    rw [rdSub] at h
    split at h
    · next hm =>
      cases h
      intro hg
      rw [rdMatch_of_genList G e w hg] at hm
      cases hm
    · next hm =>
      have hm : rdMatch w e = true := by simpa using hm
      rcases ters_or_split left e with ⟨u, rfl⟩ | ⟨pre, v, post, rfl, ht⟩
      · rw [indexToExtend_ters left u] at h
        cases h
        cases rdMatch_ters u w hm
        exact ⟨nofun, seq_base left _⟩
      · obtain ⟨f1, f2, f3⟩ := split_facts pre post v
        rw [indexToExtend_split left pre post v ht] at h
        simp only [f1] at h
        have ht' := tryAll_tried G left fuel _ _ _ _ _ _ h
        rw [f2, f3] at ht'
        cases r with
        | none =>
          intro hg
          obtain ⟨w12, w3, rfl, h12, h3⟩ := (genList_append_iff G pre _ _).mp hg
          obtain ⟨w1, w2, rfl, h1, h2⟩ := genList_cons_iff.mp h3
          obtain ⟨body, hb, hgb⟩ := gen_var_iff.mp h1
          refine ih _ _ _ (ht' (v, body) hb rfl) ?_
          rw [List.append_assoc]
          exact genList_append h12 (genList_append hgb h2)
        | some ps =>
          obtain ⟨p, r', rfl, hp, rfl, hr⟩ := ht'
          obtain ⟨g1, g2⟩ := ih _ _ _ hr
          exact ⟨List.forall_mem_cons.mpr ⟨hp, g1⟩, seq_step left pre post p r' w ht g2⟩

/-- the yield of the trees as the mirrored leftmost derivation meets it -/
def yw (left : Bool) (ts : List PTree) : List String := mir left (yieldL (mir left ts))

theorem yw_nil (left : Bool) : yw left [] = [] := by
  cases left <;> rfl

theorem yw_cons (left : Bool) (t : PTree) (ts : List PTree) :
    yw left (t :: ts) = mir left (yieldT t) ++ yw left ts := by
  cases left
  · show (yieldL (t :: ts).reverse).reverse = (yieldT t).reverse ++ (yieldL ts.reverse).reverse
    rw [List.reverse_cons, Trees.yieldL_append, List.reverse_append, yieldL, yieldL,
      List.append_nil]
  · show yieldL (t :: ts) = yieldT t ++ yieldL ts
    rw [yieldL]

theorem wellFormedL_reverse (G : CFG) : ∀ ts : List PTree,
    G.wellFormedL ts.reverse = G.wellFormedL ts
  | [] => rfl
  | t :: ts => by
    rw [List.reverse_cons, Trees.wellFormedL_append, wellFormedL_reverse G ts]
    simp [wellFormedL, Bool.and_comm]

theorem wellFormedL_mir (G : CFG) (left : Bool) (ts : List PTree) :
    G.wellFormedL (mir left ts) = G.wellFormedL ts := by
  cases left
  · exact wellFormedL_reverse G ts
  · rfl

theorem build_var (left : Bool) (fuel : Nat) (v : String) (p : Pfl.Prod) (rest : List Pfl.Prod) :
    build left (fuel + 1) (.var v) (p :: rest) =
      if p.1 ≠ v then none else
        (build.sons left fuel (mir left p.2) rest).map fun r =>
          (PTree.node (.var v) (mir left r.1), r.2) := by
  rw [build]
  cases left <;> rfl

/-- How a derivation `Lm (s :: ss) (mp left ps) w` goes on once `s` has spelt `y`: from `ss`, with
what is left of the productions and of the word. -/
structure Rest (left : Bool) (ss : List Sym) (ps : List Pfl.Prod) (w y : List String)
    (ps' : List Pfl.Prod) : Prop where
  suf : ps' <:+ ps
  rest : ∃ w', w = y ++ w' ∧ Lm ss (mp left ps') w'

theorem sons_lm (left : Bool) (fuel : Nat)
    (hT : ∀ s ss ps w, Lm (s :: ss) (mp left ps) w → ps.length < fuel →
      ∃ t ps', build left fuel s ps = some (t, ps') ∧ t.sym = s ∧
        (∀ G : CFG, (∀ p ∈ ps, p ∈ G.prods) → G.wellFormedT t = true) ∧
        Rest left ss ps w (mir left (yieldT t)) ps') :
    ∀ l ss ps w, Lm (l ++ ss) (mp left ps) w → ps.length < fuel →
      ∃ ts ps', build.sons left fuel l ps = some (ts, ps') ∧ ts.map PTree.sym = l ∧
        (∀ G : CFG, (∀ p ∈ ps, p ∈ G.prods) → G.wellFormedL ts = true) ∧
        Rest left ss ps w (yw left ts) ps' := by
  intro l
  induction l with
  | nil =>
    intro ss ps w h _
    exact ⟨[], ps, by rw [build.sons], rfl, fun _ _ => rfl, List.suffix_refl _, w,
      by rw [yw_nil, List.nil_append], h⟩
  | cons x l ih =>
    intro ss ps w h hlt
    obtain ⟨t, ps1, e1, hs1, hw1, hf1, w1, rfl, hl1⟩ := hT x (l ++ ss) ps w h hlt
    obtain ⟨ts, ps2, e2, hs2, hw2, hf2, w2, rfl, hl2⟩ :=
      ih ss ps1 w1 hl1 (Nat.lt_of_le_of_lt hf1.length_le hlt)
    refine ⟨t :: ts, ps2, by rw [build.sons, e1]; simp only [e2, Option.map_some], ?_, ?_,
      hf2.trans hf1, w2, by rw [yw_cons, List.append_assoc], hl2⟩
    · rw [List.map_cons, hs1, hs2]
    · intro G hall
      rw [wellFormedL, hw1 G hall, hw2 G fun p hp => hall p (hf1.subset hp)]
      rfl

/-- `build` along the derivation it is given.  With a fuel above the number of productions it
returns the tree of the first symbol: the root is that symbol, the tree is well-formed in every
grammar that holds the productions, and its yield is what the symbol spells.  `build` being a
function, this is also what is known of a tree it has returned, and it is why the rebuilding
terminates. -/
theorem build_lm (left : Bool) : ∀ (fuel : Nat) (s : Sym) (ss : List Sym) (ps : List Pfl.Prod)
    (w : List String), Lm (s :: ss) (mp left ps) w → ps.length < fuel →
      ∃ t ps', build left fuel s ps = some (t, ps') ∧ t.sym = s ∧
        (∀ G : CFG, (∀ p ∈ ps, p ∈ G.prods) → G.wellFormedT t = true) ∧
        Rest left ss ps w (mir left (yieldT t)) ps' := by
  intro fuel
  induction fuel with
  | zero => intro s ss ps w _ h; cases h
  | succ fuel ih =>
    intro s ss ps w hl hlen
    cases s with
    | ter a =>
      obtain ⟨w', rfl, hl'⟩ := lm_ter_inv hl
      refine ⟨.node (.ter a) [], ps, ?_, rfl, fun _ _ => rfl, List.suffix_refl _, w', ?_, hl'⟩
      · rw [build]; simp
      · cases left <;> rfl
    | var v =>
      cases ps with
      | nil => cases left <;> cases hl
      | cons p rest =>
        rw [mp_cons] at hl
        obtain ⟨hpv, hl'⟩ := lm_var_inv hl
        obtain ⟨ts, ps', e, hs, hw, hf, w', rfl, hl2⟩ :=
          sons_lm left fuel ih (mir left p.2) ss rest w hl' (Nat.lt_of_succ_lt_succ hlen)
        refine ⟨.node (.var v) (mir left ts), ps', ?_, rfl, ?_, hf.trans (List.suffix_cons _ _),
          w', by rw [yieldT, yw], hl2⟩
        · rw [build_var, if_neg (not_not_intro hpv), e]; rfl
        · intro G hall
          rw [wellFormedT, wellFormedL_mir, hw G fun q hq => hall q (List.mem_cons_of_mem _ hq),
            Bool.and_true, decide_eq_true_eq, mir_map, hs, mir_mir, ← hpv]
          exact hall p List.mem_cons_self

theorem build_start (G : CFG) (left : Bool) {fuel : Nat} {s : String} {ps : List Pfl.Prod}
    {w : List String} (hst : G.start = some s) (hall : ∀ p ∈ ps, p ∈ G.prods)
    (hl : Seq left [.var s] ps w) (hf : ps.length < fuel) :
    ∃ t, build left fuel (.var s) ps = some (t, []) ∧ G.treeValid t w = true := by
  have hl : Lm [.var s] (mp left ps) (mir left w) := by cases left <;> exact hl
  obtain ⟨t, ps', e, hs, hw, _, w', hy, hl'⟩ := build_lm left fuel _ _ _ _ hl hf
  obtain ⟨hps, rfl⟩ := lm_nil_inv hl'
  have hnil : ps' = [] := by
    cases left
    · exact List.map_eq_nil_iff.1 hps
    · exact hps
  subst hnil
  exact ⟨t, e, (Trees.treeValid_iff G t w).mpr ⟨⟨s, hst, hs⟩, hw G hall, by
    rw [← mir_mir left w, hy, List.append_nil, mir_mir]⟩⟩

end Lem
end RecDescent
end Pfl
