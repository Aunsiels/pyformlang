/-
Helper lemmas for C14 (library model `Pfl/Model/LL1Lib.lean`): the FOLLOW triggers, the
initialisation of the FOLLOW sets, the FOLLOW worklist as an instance of `Worklist` (what it leaves:
`FollowRes`), and its agreement with the reference FOLLOW for every well-formed grammar
(`followSet_ref`; the two scans of a body suffix are matched by `fos_ref`).
-/
import Pfl.Proofs.LL1LibFirst
namespace Pfl
namespace LL1Lib
namespace Lem
open CFG

/-- `t` occurs in the body and only symbols with ε in their FIRST set come after it -/
def SufAll (f : Sym → List Look) (body : List Sym) (t : Sym) : Prop :=
  ∃ pre rest, body = pre ++ t :: rest ∧ ∀ y ∈ rest, Look.eps ∈ f y

theorem sufAll_nil (f : Sym → List Look) (t : Sym) : ¬ SufAll f [] t := by
  rintro ⟨pre, rest, h, _⟩
  cases pre <;> simp at h

theorem sufAll_cons (f : Sym → List Look) (x : Sym) (body : List Sym) (t : Sym) :
    SufAll f (x :: body) t ↔ (t = x ∧ ∀ y ∈ body, Look.eps ∈ f y) ∨ SufAll f body t := by
  constructor
  · rintro ⟨pre, rest, h, hr⟩
    cases pre with
    | nil =>
      simp only [List.nil_append, List.cons.injEq] at h
      obtain ⟨rfl, rfl⟩ := h
      exact Or.inl ⟨rfl, hr⟩
    | cons z pre =>
      simp only [List.cons_append, List.cons.injEq] at h
      exact Or.inr ⟨pre, rest, h.2, hr⟩
  · rintro (⟨rfl, hr⟩ | ⟨pre, rest, h, hr⟩)
    · exact ⟨[], body, rfl, hr⟩
    · exact ⟨x :: pre, rest, by rw [h]; rfl, hr⟩

theorem trig_go (F : SetMap Sym Look) (p : Pfl.Prod) : ∀ (body : List Sym) (m : SetMap Sym Sym)
    (k t : Sym), t ∈ getD (followTriggers.go F p m body) k ↔
      t ∈ getD m k ∨ (k = .var p.1 ∧ SufAll (getD F) body t) := by
  intro body
  induction body with
  | nil =>
    intro m k t
    rw [followTriggers.go]
    simp [sufAll_nil]
  | cons x rest ih =>
    intro m k t
    rw [followTriggers.go, ih, sufAll_cons]
    by_cases hall : (rest.all fun y => decide (Look.eps ∈ getD F y)) = true
    · have hall' : ∀ y ∈ rest, Look.eps ∈ getD F y := by simpa using hall
      rw [if_pos hall, mem_setKey_union, List.mem_singleton, or_assoc, and_iff_left hall', and_or_left]
    · have hall' : ¬ ∀ y ∈ rest, Look.eps ∈ getD F y := by simpa using hall
      rw [if_neg hall, or_iff_right fun h : _ ∧ _ => hall' h.2]

def trigStep (F : SetMap Sym Look) (m : SetMap Sym Sym) (p : Pfl.Prod) : SetMap Sym Sym :=
  followTriggers.go F p (if hasKey m (.var p.1) then m else m ++ [(Sym.var p.1, [])]) p.2

theorem getD_ensure (m : SetMap Sym Sym) (k k' : Sym) :
    getD (if hasKey m k then m else m ++ [(k, [])]) k' = getD m k' := by
  by_cases h : hasKey m k = true
  · rw [if_pos h]
  · rw [if_neg h, getD_eq, getD_eq, Assoc.get_append, Assoc.get_cons, Assoc.get_nil]
    split
    · next hk =>
      rw [← hk, Assoc.get_eq_none_iff.2 fun hm => h (Assoc.any_key.2 hm)]; rfl
    · rw [Option.or_none]

theorem trig_fold (F : SetMap Sym Look) : ∀ (l : List Pfl.Prod) (m : SetMap Sym Sym) (k t : Sym),
    t ∈ getD (l.foldl (trigStep F) m) k ↔
      t ∈ getD m k ∨ ∃ p ∈ l, k = .var p.1 ∧ SufAll (getD F) p.2 t := by
  intro l
  induction l with
  | nil => intro m k t; simp
  | cons p l ih =>
    intro m k t
    rw [List.foldl_cons, ih]
    unfold trigStep
    rw [trig_go, getD_ensure]
    constructor
    · rintro ((h | h) | ⟨q, hq, h⟩)
      · exact Or.inl h
      · exact Or.inr ⟨p, List.mem_cons_self, h⟩
      · exact Or.inr ⟨q, List.mem_cons_of_mem _ hq, h⟩
    · rintro (h | ⟨q, hq, h⟩)
      · exact Or.inl (Or.inl h)
      · rcases List.mem_cons.mp hq with rfl | hq
        · exact Or.inl (Or.inr h)
        · exact Or.inr ⟨q, hq, h⟩

theorem mem_followTriggers (G : CFG) (F : SetMap Sym Look) (k t : Sym) :
    t ∈ getD (followTriggers G F) k ↔ ∃ p ∈ G.prods, k = .var p.1 ∧ SufAll (getD F) p.2 t := by
  show t ∈ getD (G.prods.foldl (trigStep F) []) k ↔ _
  rw [trig_fold]
  simp [getD_nil]

theorem add_spec (F : SetMap Sym Look) (x : Sym) : ∀ (rest : List Sym) (m : SetMap (Option Sym) Look),
    (∀ k a, a ∈ getD (followInit.go.add F x m rest) k ↔
      a ∈ getD m k ∨ (k = some x ∧ Reach (getD F) rest a)) ∧
    ((∀ k, (getD m k).Nodup) → ∀ k, (getD (followInit.go.add F x m rest) k).Nodup) := by
  intro rest
  induction rest with
  | nil => intro m; rw [followInit.go.add]; exact ⟨fun k a => by simp [Reach], id⟩
  | cons y ys ih =>
    intro m
    have h' : (∀ k, (getD m k).Nodup) →
        ∀ k, (getD (setKey m (some x) (union (getD m (some x)) (getD F y))) k).Nodup := by
      intro h k
      rw [getD_setKey]
      split
      · exact union_nodup _ _ (h _)
      · exact h k
    rw [followInit.go.add]
    by_cases he : Look.eps ∈ getD F y
    · rw [if_pos he]
      refine ⟨fun k a => ?_, fun h => (ih _).2 (h' h)⟩
      show _ ↔ (_ ∨ (_ ∧ (_ ∨ _ ∧ _)))
      rw [(ih _).1, mem_setKey_union, or_assoc, ← and_or_left, and_iff_right he]
    · rw [if_neg he]
      refine ⟨fun k a => ?_, h'⟩
      show _ ↔ (_ ∨ (_ ∧ (_ ∨ _ ∧ _)))
      rw [mem_setKey_union, or_iff_left fun h : _ ∧ _ => he h.1]

/-- `follow[x].remove(epsilon)` -/
def filt (x : Sym) (m1 : SetMap (Option Sym) Look) : SetMap (Option Sym) Look :=
  if Look.eps ∈ getD m1 (some x) then
    setKey m1 (some x) ((getD m1 (some x)).filter (· ≠ Look.eps)) else m1

/-- the treatment of one occurrence `x` with the rest of the body behind it -/
def istep (F : SetMap Sym Look) (x : Sym) (rest : List Sym)
    (st : SetMap (Option Sym) Look × List (Option Sym)) :
    SetMap (Option Sym) Look × List (Option Sym) :=
  (filt x (followInit.go.add F x st.1 rest),
    if (getD (filt x (followInit.go.add F x st.1 rest)) (some x)).isEmpty then st.2
    else qpush st.2 (some x))

theorem initGo_cons (F : SetMap Sym Look) (st : SetMap (Option Sym) Look × List (Option Sym))
    (x : Sym) (rest : List Sym) :
    followInit.go F st (x :: rest) = followInit.go F (istep F x rest st) rest := by
  rw [followInit.go]; rfl

/-- the invariant of the initialisation: exact contents `S`, no repetition, and the queue as the
loop expects it (a key is the one reader of its set) -/
structure IInv (Q : Option Sym → Prop) (S : Option Sym → Look → Prop)
    (st : SetMap (Option Sym) Look × List (Option Sym)) : Prop where
  rep : ∀ k a, a ∈ getD st.1 k ↔ S k a
  nodup : ∀ k, (getD st.1 k).Nodup
  entry : AtEntry (fun k => [k]) Q st

theorem IInv.congr {Q : Option Sym → Prop} {S S' : Option Sym → Look → Prop}
    {st : SetMap (Option Sym) Look × List (Option Sym)}
    (h : IInv Q S st) (hS : ∀ k a, S k a ↔ S' k a) : IInv Q S' st :=
  ⟨fun k a => (h.rep k a).trans (hS k a), h.nodup, h.entry⟩

theorem mem_filt (x : Sym) (m1 : SetMap (Option Sym) Look) (S : Option Sym → Look → Prop)
    (R : Look → Prop) (hS : ∀ k, ¬ S k Look.eps)
    (hm1 : ∀ k a, a ∈ getD m1 k ↔ S k a ∨ (k = some x ∧ R a)) (k : Option Sym) (a : Look) :
    a ∈ getD (filt x m1) k ↔ S k a ∨ (k = some x ∧ a ≠ Look.eps ∧ R a) := by
  unfold filt
  split
  · rw [getD_setKey]
    split
    · next hk =>
      subst hk
      simp only [List.mem_filter, decide_eq_true_eq, hm1, true_and]
      constructor
      · rintro ⟨h1 | h1, h2⟩
        · exact Or.inl h1
        · exact Or.inr ⟨h2, h1⟩
      · rintro (h1 | ⟨h1, h2⟩)
        · exact ⟨Or.inl h1, fun e => hS _ (e ▸ h1)⟩
        · exact ⟨Or.inr h2, h1⟩
    · next hk => rw [hm1]; simp [hk]
  · next he =>
    rw [hm1]
    constructor
    · rintro (h1 | ⟨h1, h2⟩)
      · exact Or.inl h1
      · refine Or.inr ⟨h1, ?_, h2⟩
        rintro rfl
        exact he ((hm1 _ _).mpr (Or.inr ⟨rfl, h2⟩))
    · rintro (h1 | ⟨h1, _, h2⟩)
      · exact Or.inl h1
      · exact Or.inr ⟨h1, h2⟩

theorem filt_nodup (x : Sym) (m1 : SetMap (Option Sym) Look) (hn1 : ∀ k, (getD m1 k).Nodup)
    (k : Option Sym) : (getD (filt x m1) k).Nodup := by
  unfold filt
  split
  · rw [getD_setKey]
    split
    · exact (hn1 _).filter _
    · exact hn1 k
  · exact hn1 k

theorem istep_inv (F : SetMap Sym Look) (x : Sym) (rest : List Sym) {Q : Option Sym → Prop}
    (hx : Q (some x)) (S : Option Sym → Look → Prop) (hS : ∀ k, ¬ S k Look.eps)
    (st : SetMap (Option Sym) Look × List (Option Sym)) (h : IInv Q S st) :
    IInv Q (fun k a => S k a ∨ (k = some x ∧ a ≠ Look.eps ∧ Reach (getD F) rest a))
      (istep F x rest st) := by
  have hm1 : ∀ k a, a ∈ getD (followInit.go.add F x st.1 rest) k ↔
      S k a ∨ (k = some x ∧ Reach (getD F) rest a) := by
    intro k a; rw [(add_spec F x rest st.1).1, h.rep]
  have hn1 := (add_spec F x rest st.1).2 h.nodup
  unfold istep
  generalize followInit.go.add F x st.1 rest = m1 at hm1 hn1
  have hm2 := mem_filt x m1 S (Reach (getD F) rest) hS hm1
  have hn2 := filt_nodup x m1 hn1
  generalize filt x m1 = m2 at hm2 hn2
  -- away from `x` the sets have the members they had
  refine ⟨hm2, hn2, h.entry.write (some x) m2 _
    (fun k hk a ha => (h.rep k a).mpr (((hm2 k a).mp ha).resolve_right fun h1 => hk h1.1)) ?_
    fun o ho => List.mem_singleton.mp ho ▸ hx⟩
  by_cases he : (getD m2 (some x)).isEmpty
  · exact Or.inr ⟨List.isEmpty_iff.mp he, if_pos he⟩
  · exact Or.inl (if_neg he)

/-- contribution of a body: for every occurrence, the non-ε members reached in what follows -/
def Contrib (f : Sym → List Look) (body : List Sym) (k : Option Sym) (a : Look) : Prop :=
  ∃ pre x rest, body = pre ++ x :: rest ∧ k = some x ∧ a ≠ Look.eps ∧ Reach f rest a

theorem contrib_nil (f : Sym → List Look) (k : Option Sym) (a : Look) : ¬ Contrib f [] k a := by
  rintro ⟨pre, x, rest, h, _⟩
  cases pre <;> simp at h

theorem contrib_cons (f : Sym → List Look) (x : Sym) (body : List Sym) (k : Option Sym) (a : Look) :
    Contrib f (x :: body) k a ↔ (k = some x ∧ a ≠ Look.eps ∧ Reach f body a) ∨ Contrib f body k a := by
  constructor
  · rintro ⟨pre, y, rest, h, hr⟩
    cases pre with
    | nil =>
      simp only [List.nil_append, List.cons.injEq] at h
      obtain ⟨rfl, rfl⟩ := h
      exact Or.inl hr
    | cons z pre =>
      simp only [List.cons_append, List.cons.injEq] at h
      exact Or.inr ⟨pre, y, rest, h.2, hr⟩
  · rintro (hr | ⟨pre, y, rest, h, hr⟩)
    · exact ⟨[], x, body, rfl, hr⟩
    · exact ⟨x :: pre, y, rest, by rw [h]; rfl, hr⟩

theorem initGo_inv (F : SetMap Sym Look) {Q : Option Sym → Prop} : ∀ (body : List Sym)
    (_ : ∀ x ∈ body, Q (some x)) (S : Option Sym → Look → Prop)
    (_ : ∀ k, ¬ S k Look.eps) (st : SetMap (Option Sym) Look × List (Option Sym)) (_ : IInv Q S st),
    IInv Q (fun k a => S k a ∨ Contrib (getD F) body k a) (followInit.go F st body) := by
  intro body
  induction body with
  | nil =>
    intro _ S _ st h
    rw [followInit.go]
    exact h.congr (fun k a => by simp [contrib_nil])
  | cons x rest ih =>
    intro hQ S hS st h
    rw [initGo_cons]
    have h1 := istep_inv F x rest (hQ x List.mem_cons_self) S hS st h
    have h2 := ih (fun y hy => hQ y (List.mem_cons_of_mem _ hy)) _ (by
      rintro k (hk | ⟨_, hk, _⟩)
      · exact hS k hk
      · exact hk rfl) _ h1
    refine h2.congr (fun k a => ?_)
    rw [contrib_cons, or_assoc]

/-- the exact contents of the FOLLOW dictionary after initialisation -/
def Src (G : CFG) (f : Sym → List Look) (start : Option String) (k : Option Sym) (a : Look) : Prop :=
  (k = start.map Sym.var ∧ a = Look.eof) ∨ ∃ p ∈ G.prods, Contrib f p.2 k a

theorem src_noeps (G : CFG) (f : Sym → List Look) (start : Option String) (k : Option Sym) :
    ¬ Src G f start k Look.eps := by
  rintro (⟨_, h⟩ | ⟨p, _, pre, x, rest, _, _, h, _⟩)
  · cases h
  · exact h rfl

theorem initFold_inv (F : SetMap Sym Look) {Q : Option Sym → Prop} : ∀ (l : List Pfl.Prod)
    (_ : ∀ p ∈ l, ∀ x ∈ p.2, Q (some x)) (S : Option Sym → Look → Prop)
    (_ : ∀ k, ¬ S k Look.eps) (st : SetMap (Option Sym) Look × List (Option Sym)) (_ : IInv Q S st),
    IInv Q (fun k a => S k a ∨ ∃ p ∈ l, Contrib (getD F) p.2 k a)
      (l.foldl (fun st p => followInit.go F st p.2) st) := by
  intro l
  induction l with
  | nil => intro _ S _ st h; exact h.congr (fun k a => by simp)
  | cons p l ih =>
    intro hQ S hS st h
    rw [List.foldl_cons]
    have h1 := initGo_inv F p.2 (hQ p List.mem_cons_self) S hS st h
    have h2 := ih (fun q hq => hQ q (List.mem_cons_of_mem _ hq)) _ (by
      rintro k (hk | ⟨_, _, _, _, _, hk, _⟩)
      · exact hS k hk
      · exact hk rfl) _ h1
    refine h2.congr (fun k a => ?_)
    simp only [List.mem_cons, exists_eq_or_imp, or_assoc]

/-- the keys that get queued: the start key and the symbols of the bodies -/
def QKey (G : CFG) (start : Option String) (k : Option Sym) : Prop :=
  k = start.map Sym.var ∨ ∃ p ∈ G.prods, ∃ x ∈ p.2, k = some x

theorem followInit_inv (G : CFG) (F : SetMap Sym Look) (start : Option String) :
    IInv (QKey G start) (Src G (getD F) start) (followInit G F start) := by
  have h0 : IInv (QKey G start) (fun k a => k = start.map Sym.var ∧ a = Look.eof)
      (([(start.map Sym.var, [Look.eof])], [start.map Sym.var]) :
        SetMap (Option Sym) Look × List (Option Sym)) := by
    refine ⟨?_, ?_, ?_, List.pairwise_singleton _ _, fun k hk => Or.inl (List.mem_singleton.mp hk)⟩
    · intro k a
      rw [getD_cons, getD_nil]
      by_cases hk : start.map Sym.var = k
      · subst hk; simp
      · have hk' : ¬ k = start.map Sym.var := fun e => hk e.symm
        simp [hk, hk']
    · intro k
      rw [getD_cons, getD_nil]
      split <;> simp
    · intro k hk o ho
      cases List.mem_singleton.mp ho
      rw [getD_cons, getD_nil] at hk
      split at hk
      · next e => exact List.mem_singleton.mpr e.symm
      · exact absurd rfl hk
  exact initFold_inv F G.prods (fun p hp x hx => Or.inr ⟨p, hp, x, hx, rfl⟩) _
    (by rintro k ⟨_, h⟩; cases h) _ h0

def trigd (Tr : SetMap Sym Sym) : Option Sym → List Sym
  | some c => getD Tr c
  | none => []

/-- the FOLLOW worklist: popping `cur` copies its set along the trigger edges `cur → t` -/
def followW (Tr : SetMap Sym Sym) : Worklist (Option Sym) Look (Option Sym) (Option Sym × Sym) where
  items cur := (trigd Tr cur).map (cur, ·)
  key i := some i.2
  val Fo i := getD Fo i.1
  readers k := [k]

theorem mem_followW_items {Tr : SetMap Sym Sym} {cur : Option Sym} {i : Option Sym × Sym} :
    i ∈ (followW Tr).items cur ↔ i.1 = cur ∧ i.2 ∈ trigd Tr cur := by
  show i ∈ List.map _ _ ↔ _
  rw [List.mem_map]
  exact ⟨fun ⟨t, ht, e⟩ => e ▸ ⟨rfl, ht⟩, fun ⟨e, ht⟩ => ⟨i.2, ht, by rw [← e]⟩⟩

theorem followLoop_eq (Tr : SetMap Sym Sym) :
    ∀ fuel Fo q, followLoop Tr fuel Fo q = (followW Tr).run fuel Fo q := by
  intro fuel
  induction fuel with
  | zero => intro Fo q; cases q <;> rfl
  | succ fuel ih =>
    intro Fo q
    cases q with
    | nil => rfl
    | cons x q' =>
      have hl := List.getLast?_eq_some_getLast (List.cons_ne_nil x q')
      rw [Worklist.run_succ _ _ _ _ _ hl, ← ih]
      show (match (x :: q').getLast? with
        | none => some Fo
        | some cur => _) = _
      rw [hl]
      exact congrArg (fun st : SetMap (Option Sym) Look × List (Option Sym) =>
        followLoop Tr fuel st.1 st.2)
        (List.foldl_map (f := fun t => ((x :: q').getLast _, t)) (g := (followW Tr).step)).symm

theorem followSet_run (G : CFG) (fuel : Nat) (Fo : SetMap (Option Sym) Look)
    (h : followSet G fuel = some Fo) : ∃ F, firstSet G fuel = some F ∧
      (followW (followTriggers G F)).run fuel (followInit G F G.start).1 (followInit G F G.start).2 =
        some Fo := by
  unfold followSet at h
  split at h
  · cases h
  · next F hFs => exact ⟨F, hFs, (followLoop_eq _ fuel _ _).symm.trans h⟩

/-- what the FOLLOW worklist leaves: members are `Good` (any predicate that holds of the initial
contents and flows along the trigger edges), the initial contents `Src` are kept, no repetition, and
nothing is missing along a trigger edge -/
structure FollowRes (G : CFG) (F : SetMap Sym Look) (Good : Option Sym → Look → Prop)
    (Fo : SetMap (Option Sym) Look) : Prop where
  sound : ∀ k a, a ∈ getD Fo k → Good k a
  base : ∀ k a, Src G (getD F) G.start k a → a ∈ getD Fo k
  nodup : ∀ k, (getD Fo k).Nodup
  edge : ∀ c t, t ∈ getD (followTriggers G F) c → ∀ a, a ∈ getD Fo (some c) → a ∈ getD Fo (some t)

theorem followRun_res (G : CFG) (F : SetMap Sym Look) (Good : Option Sym → Look → Prop)
    (hsrc : ∀ k a, Src G (getD F) G.start k a → Good k a)
    (hflow : ∀ c t, t ∈ getD (followTriggers G F) c → ∀ a, Good (some c) a → Good (some t) a)
    (fuel : Nat) (Fo : SetMap (Option Sym) Look)
    (h : (followW (followTriggers G F)).run fuel (followInit G F G.start).1
      (followInit G F G.start).2 = some Fo) : FollowRes G F Good Fo := by
  have hi := followInit_inv G F G.start
  refine ⟨fun k a ha => ?_, fun k a ha => ?_, ?_, fun c t ht a ha => ?_⟩
  · refine (followW _).run_dict (fun Fo => ∀ k a, a ∈ getD Fo k → Good k a) ?_
      fuel _ _ Fo (fun k a ha => hsrc k a ((hi.rep _ _).mp ha)) h k a ha
    rintro st cur ⟨c, t⟩ hi hst
    obtain ⟨rfl, ht⟩ := mem_followW_items.mp hi
    refine upd_forall _ _ _ st _ hst fun a ha => ?_
    cases c with
    | none => cases ht
    | some c => exact hflow c _ ht a (hst _ a ha)
  · exact (followW _).run_dict (fun Fo => a ∈ getD Fo k) (fun _ _ _ _ h => mem_upd_mono _ _ _ _ h)
      fuel _ _ Fo ((hi.rep _ _).mpr ha) h
  · exact (followW _).run_dict (fun Fo => ∀ k, (getD Fo k).Nodup)
      (fun _ _ _ _ h => upd_nodup _ _ _ _ h) fuel _ _ Fo hi.nodup h
  · -- the constraint of the edge `c → t` reads the set of `c`, and `c` is queued when that grows
    exact (followW (followTriggers G F)).run_sat (fun f a => a ∈ f (some c)) (· = some c) (some t)
      (some c) (fun f f' hm a ha => hm _ rfl ▸ ha) (fun _ => List.not_mem_nil)
      (fun k e => List.mem_singleton.mpr e.symm)
      ⟨(some c, t), List.mem_map.mpr ⟨t, ht, rfl⟩, rfl, fun _ _ ha => ha⟩ fuel _ _ Fo hi.entry h a ha

/-- the symbols of `b` generate and its terminals are registered -/
def Valid (G : CFG) (b : List Sym) : Prop :=
  (∀ s ∈ b, ∃ w, G.Gen s w) ∧ (∀ t, Sym.ter t ∈ b → t ∈ G.ters)

theorem Valid.suffix {G : CFG} {pre b : List Sym} (h : Valid G (pre ++ b)) : Valid G b :=
  ⟨fun s hs => h.1 s (List.mem_append_right _ hs), fun t ht => h.2 t (List.mem_append_right _ ht)⟩

theorem ters_rest {G : CFG} (hG : G.WF) {p : Pfl.Prod} (hp : p ∈ G.prods) {pre rest : List Sym}
    {x : Sym} (hb : p.2 = pre ++ x :: rest) (t : String) (ht : Sym.ter t ∈ rest) : t ∈ G.ters :=
  hG.ter_mem p hp t (by rw [hb]; simp [ht])

/-- `firstOfString` over the reference's sets scans a body as `firstProd` does over the dictionary:
`FRule` is its graph (`mem_fos_iff`), and `FRule` and the scan translate into each other as they do
for FIRST itself -/
theorem fos_ref {G : CFG} {f : Sym → List Look} (hf : FRef G f) (b : List Sym)
    (hb : ∀ t, Sym.ter t ∈ b → t ∈ G.ters) :
    ((G.firstOfString G.firstSets G.nullable b).2 = true ↔ ∀ y ∈ b, Look.eps ∈ f y) ∧
    ∀ t, t ∈ (G.firstOfString G.firstSets G.nullable b).1 ↔ Reach f b (Look.ter t) := by
  refine ⟨?_, fun t => (LL1.mem_fos_iff G _ _ "" t b).trans ⟨fun hr => ?_, fun hr => ?_⟩⟩
  · rw [LL1.fos_nul_iff, genList_nil_iff_forall]
    exact forall₂_congr fun y _ => (mem_nullable G y).symm.trans (hf.nul_iff y)
  · exact (frule_reach hf.ters hf.nul hf.first hr hb).2
  · obtain ⟨α, Z, β, e, h1, h2⟩ := reach_iff_split.mp hr
    exact e ▸ frule_of_split (hf.sound _ _ h2) α fun s hs => hf.sound _ _ (h1 s hs)

theorem FRef.no_eof {G : CFG} {f : Sym → List Look} (hf : FRef G f) {b : List Sym} :
    ¬ Reach f b Look.eof := fun h =>
  let ⟨x, _, hax⟩ := reach_mem h; hf.sound x _ hax

def lookOf : Option String → Look
  | some t => .ter t
  | none => .eof

/-- what an entry of the FOLLOW dictionary claims (nothing for terminals) -/
def Good (G : CFG) (k : Option Sym) (a : Look) : Prop :=
  ∀ v, k = some (Sym.var v) → ∃ x, a = lookOf x ∧ (v, x) ∈ G.followSets

theorem followSets_closed (G : CFG) (hG : G.WF) (p : Pfl.Prod) (hp : p ∈ G.prods) (pre b : List Sym)
    (hb : p.2 = pre ++ b) (x : LL1.OPair)
    (hr : LL1.WRule (G.firstOfString G.firstSets G.nullable) G.followSets p.1 b x) : x ∈ G.followSets :=
  (LL1.followSets_least G hG).closed x ⟨p, hp, hb ▸ hr.prepend pre⟩

theorem src_good (G : CFG) (hG : G.WF) (F : SetMap Sym Look) (hF : FRef G (getD F)) (k : Option Sym)
    (a : Look) (h : Src G (getD F) G.start k a) : Good G k a := by
  intro v hk
  subst hk
  rcases h with ⟨h1, rfl⟩ | ⟨p, hp, pre, x, rest, hb, hk, hne, hr⟩
  · refine ⟨none, rfl, (LL1.followSets_least G hG).seed _ ((LL1.mem_followInit G _).mpr ⟨v, ?_, rfl⟩)⟩
    cases hs : G.start with
    | none => rw [hs] at h1; cases h1
    | some s => rw [hs] at h1; cases h1; rfl
  · cases hk
    cases a with
    | ter t =>
      exact ⟨some t, rfl, followSets_closed G hG p hp pre _ hb _
        (.first v t rest (((fos_ref hF rest (ters_rest hG hp hb)).2 t).mpr hr))⟩
    | eps => exact absurd rfl hne
    | eof => exact absurd hr hF.no_eof

theorem flow_good (G : CFG) (hG : G.WF) (F : SetMap Sym Look) (hF : FRef G (getD F)) (c t : Sym)
    (ht : t ∈ getD (followTriggers G F) c) (a : Look) (ha : Good G (some c) a) :
    Good G (some t) a := by
  intro v hk
  cases hk
  obtain ⟨p, hp, rfl, pre, rest, hb, hall⟩ := (mem_followTriggers G F _ _).mp ht
  obtain ⟨x, rfl, hx⟩ := ha p.1 rfl
  exact ⟨x, rfl, followSets_closed G hG p hp pre _ hb _
    (.last v x rest ((fos_ref hF rest (ters_rest hG hp hb)).1.mpr hall) hx)⟩

theorem followSet_res (G : CFG) (hG : G.WF) (fuel : Nat) (Fo : SetMap (Option Sym) Look)
    (h : followSet G fuel = some Fo) :
    ∃ F, firstSet G fuel = some F ∧ FRef G (getD F) ∧ FollowRes G F (Good G) Fo := by
  obtain ⟨F, hFs, hrun⟩ := followSet_run G fuel Fo h
  have hF := firstSet_ref G hG fuel F hFs
  exact ⟨F, hFs, hF, followRun_res G F (Good G) (src_good G hG F hF) (flow_good G hG F hF) fuel Fo hrun⟩

theorem followSets_sub (G : CFG) (hG : G.WF) (F : SetMap Sym Look) (hF : FRef G (getD F))
    (Fo : SetMap (Option Sym) Look) (hI : FollowRes G F (Good G) Fo) :
    ∀ y ∈ G.followSets, lookOf y.2 ∈ getD Fo (some (.var y.1)) := by
  refine (LL1.followSets_least G hG).ind (fun y => lookOf y.2 ∈ getD Fo (some (.var y.1))) ?_ ?_
  · rintro Fo' x hFo' ⟨p, hp, hr⟩
    obtain ⟨pre, rest, hb, h⟩ := hr.occ
    obtain ⟨f1, f2⟩ := fos_ref hF rest (ters_rest hG hp hb)
    rcases h with ⟨t, ht, e⟩ | ⟨hn, hm⟩
    · rw [e]
      exact hI.base _ _ (Or.inr ⟨p, hp, pre, _, rest, hb, rfl, (by intro e; cases e), (f2 t).mp ht⟩)
    · exact hI.edge _ _ ((mem_followTriggers G F _ _).mpr ⟨p, hp, rfl, pre, rest, hb, f1.mp hn⟩) _
        (hFo' _ hm)
  · intro y hy
    obtain ⟨s, hs, rfl⟩ := (LL1.mem_followInit G y).mp hy
    exact hI.base _ _ (Or.inl ⟨by rw [hs]; rfl, rfl⟩)

/-- FOLLOW of a variable, as the worklist leaves it, is the reference FOLLOW, for every well-formed
grammar: each of the two is the least family closed under its rules, and closed under the other's -/
theorem followSet_ref (G : CFG) (hG : G.WF) (fuel : Nat) (Fo : SetMap (Option Sym) Look)
    (h : followSet G fuel = some Fo) (v : String) :
    (∀ x, lookOf x ∈ getD Fo (some (.var v)) ↔ (v, x) ∈ G.followSets) ∧
    Look.eps ∉ getD Fo (some (.var v)) := by
  obtain ⟨F, _, hF, hI⟩ := followSet_res G hG fuel Fo h
  refine ⟨fun x => ⟨fun hx => ?_, followSets_sub G hG F hF Fo hI (v, x)⟩, fun he => ?_⟩
  · obtain ⟨x', e, hx'⟩ := hI.sound _ _ hx v rfl
    have : x = x' := by
      cases x <;> cases x' <;> simp [lookOf] at e ⊢
      exact e
    rw [this]; exact hx'
  · obtain ⟨x', e, _⟩ := hI.sound _ _ he v rfl
    cases x' <;> cases e

end Lem
end LL1Lib
end Pfl
