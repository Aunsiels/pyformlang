/-
The front on a rendered pattern (`front`: one induction on the pattern gives what the ASCII guard and the
first three passes make of the text, that this is a `Pat`, and its language);
`PythonRegex` followed by the reader yields a tree with the language of the desugared pattern, for patterns
over printable literals, `.`, `\d \s \w` and character sets.
-/
import Pfl.Proofs.PyRxFrontPasses
import Pfl.Props.C07_Desugar
namespace Pfl.PyRx.E2E.S3
open Pfl.RegexReader Pfl.Rx Pfl.PyPass

def Frag4 : P → Prop
  | .lit c => c ∈ printables
  | .dot => True
  | .short k => k = 'd' ∨ k = 's' ∨ k = 'w'
  | .cat a b => Frag4 a ∧ Frag4 b
  | .alt a b => Frag4 a ∧ Frag4 b
  | .star a => Frag4 a
  | .plus a => Frag4 a
  | .opt a => Frag4 a
  | .rep a m n => Frag4 a ∧ m ≤ n
  | .set neg items => items ≠ [] ∧ ∀ it ∈ items, GoodIt neg it

theorem Frag4.wellFormed : ∀ p, Frag4 p → WellFormed p
  | .lit _, _ => trivial
  | .dot, _ => trivial
  | .short _, _ => trivial
  | .set _ _, _ => trivial
  | .cat a b, h => ⟨Frag4.wellFormed a h.1, Frag4.wellFormed b h.2⟩
  | .alt a b, h => ⟨Frag4.wellFormed a h.1, Frag4.wellFormed b h.2⟩
  | .star a, h => Frag4.wellFormed a h
  | .plus a, h => Frag4.wellFormed a h
  | .opt a, h => Frag4.wellFormed a h
  | .rep a _ _, h => ⟨Frag4.wellFormed a h.1, h.2⟩

/-- the level at which `render` writes a pattern in a context -/
def lvOf (p : P) : Ctx → Nat
  | .top => 2
  | .cat => 1
  | .q => if isQuantified p then 1 else 0

theorem lvOf_pos (p : P) (ctx : Ctx) (h : isQuantified p = true) : ∃ k, lvOf p ctx = k + 1 := by
  cases ctx <;> simp [lvOf, h]

theorem Pat.operand {a : P} {l : List Tok} {r : Rx} (h : Pat true true true (lvOf a .q) l r) :
    Pat true true true 0 (parenT (isQuantified a) l) r := by
  by_cases hq : isQuantified a = true
  · rw [show lvOf a .q = 1 by simp [lvOf, hq]] at h
    simpa [parenT, hq] using Pat.grp (l := 0) (h.mono (Nat.le_succ 1))
  · rw [show lvOf a .q = 0 by simp [lvOf, hq]] at h
    simpa [parenT, hq] using h

theorem dot_eqv : Eqv (tkRx ['.']) (desugar printables .dot) := by
  have := altc_anyOf escapedPrintables (printables.filter (· ≠ '\n')) escapedPrintables_ne (fun t ht => by
    obtain ⟨c, _, hn, rfl⟩ := (mem_escapedPrintables t).mp ht
    exact (wr_transf c hn).leaf) fun c => by
      simp only [mem_escapedPrintables, List.mem_filter, decide_eq_true_eq]
      constructor
      · rintro ⟨_, ⟨d, hd, hn, rfl⟩, rfl⟩
        rw [transf_char d hn]
        exact ⟨hd, hn⟩
      · rintro ⟨hc, hn⟩
        exact ⟨_, ⟨c, hc, hn, rfl⟩, transf_char c hn⟩
  simpa [tkRx, desugar] using this

/-- The front on a rendered pattern: the text is mapped to tokens `l` that are a pattern of the level `render`
wrote it at, with the language of the desugared pattern.  Each clause follows the clause of `render`: the sons
in the same contexts, parentheses (`parenT`) under the same condition. -/
theorem front : ∀ p ctx, Frag4 p → ∃ l, Front false (render p ctx) l ∧
    Pat true true true (lvOf p ctx) l (desugar printables p)
  | .lit c, ctx, h => lit_front c h (lvOf (.lit c) ctx)
  | .dot, _, _ => ⟨_, Front.ch '.' (by decide),
      .eqv (.tk (Or.inr (Or.inr (Or.inl rfl)))) dot_eqv⟩
  | .short k, ctx, h => short_front k h _
  | .set neg items, ctx, h => set_front h.1 h.2 _ ctx _ fun _ => Iff.rfl
  | .cat a b, ctx, h => by
    obtain ⟨la, fa, pa⟩ := front a .cat h.1
    obtain ⟨lb, fb, pb⟩ := front b .cat h.2
    have hs := fun l => Pat.seq (l := l) pa pb
    refine ⟨_, (fa.append fb).parenT (ctx = .q), ?_⟩
    cases ctx
    · exact hs 1
    · exact hs 0
    · exact .grp (hs 1)
  | .alt a b, ctx, h => by
    obtain ⟨la, fa, pa⟩ := front a .top h.1
    obtain ⟨lb, fb, pb⟩ := front b .top h.2
    have hs := Pat.bar (l := 0) pa pb
    have f := fa.append ((Front.ch '|' (by decide)).append fb)
    rw [← List.append_assoc (render a .top)] at f
    refine ⟨_, f.parenT (ctx ≠ .top), ?_⟩
    cases ctx
    · exact hs
    · exact .grp hs
    · exact .grp hs
  | .star a, ctx, h => by
    obtain ⟨la, fa, pa⟩ := front a .q h
    obtain ⟨k, hk⟩ := lvOf_pos (.star a) ctx rfl
    exact ⟨_, (fa.parenT (isQuantified a)).append (Front.ch '*' (by decide)), hk ▸ .star pa.operand⟩
  | .plus a, ctx, h => by
    obtain ⟨la, fa, pa⟩ := front a .q h
    obtain ⟨k, hk⟩ := lvOf_pos (.plus a) ctx rfl
    exact ⟨_, (fa.parenT (isQuantified a)).append (Front.ch '+' (by decide)),
      hk ▸ .plus rfl pa.operand⟩
  | .opt a, ctx, h => by
    obtain ⟨la, fa, pa⟩ := front a .q h
    obtain ⟨k, hk⟩ := lvOf_pos (.opt a) ctx rfl
    exact ⟨_, (fa.parenT (isQuantified a)).append (Front.ch '?' (by decide)),
      hk ▸ .opt rfl pa.operand⟩
  | .rep a m n, ctx, h => by
    obtain ⟨la, fa, pa⟩ := front a .q h.1
    obtain ⟨k, hk⟩ := lvOf_pos (.rep a m n) ctx rfl
    exact ⟨_, (fa.parenT (isQuantified a)).append (Front.sing _ (braces_ordinary m n)),
      hk ▸ .rep rfl pa.operand h.2⟩

theorem stage4_eqv (p : P) (h : Frag4 p) : ∃ t fuel r, transform (render p .top) = .ok t ∧
    parse fuel t = .ok r ∧ Eqv r (desugar printables p) := by
  obtain ⟨l, hf, hp⟩ := front p .top h
  obtain ⟨s4, s5, s6, fuel, r, h4, h5, h6, hr, hE⟩ := backend hp
  exact ⟨_, fuel, r, hf.run h4 h5 h6, hr, hE⟩

theorem stage4 (p : P) (h : Frag4 p) : ∃ t fuel r, transform (render p .top) = .ok t ∧
    parse fuel t = .ok r ∧ ∀ w : List Char, Denote r (word w) ↔ Matches printables p w := by
  obtain ⟨t, fuel, r, ht, hr, hE⟩ := stage4_eqv p h
  exact ⟨t, fuel, r, ht, hr, fun w =>
    (hE (word w)).trans (desugar_denote printables p (Frag4.wellFormed p h) w)⟩

end Pfl.PyRx.E2E.S3
