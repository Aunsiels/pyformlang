/- The automaton object model (C19, `Pfl/Props/C19_FAObject.lean`), mutators: the tables as association
lists (`Pfl.Assoc`), the table invariant `TInv` under the updates of one entry, the table mutators as
such updates, the inversion of `step` (a table part, `addTab`/`remTab`, and the calls that only move
marks), and the refinement of `absStep`/`absRun` by `step`/`run`. -/
import Pfl.Spec.FAObject
import Mathlib.Data.List.Nodup
import Pfl.Proofs.Assoc
namespace Pfl
namespace FAObj
namespace P

section Assoc
variable {α β : Type} [DecidableEq α]

def aset (l : List (α × β)) (k : α) (v : β) : List (α × β) :=
  if l.any (·.1 = k) then l.map fun e => if e.1 = k then (k, v) else e else l ++ [(k, v)]

theorem aset_eq (l : List (α × β)) (k : α) (v : β) : aset l k v = Assoc.set l k v := rfl

theorem mem_aset_iff {l : List (α × β)} {k : α} {v : β} (hn : (l.map (·.1)).Nodup) (k' : α) (v' : β) :
    (k', v') ∈ aset l k v ↔ if k' = k then v' = v else (k', v') ∈ l := by
  rw [aset_eq, ← Assoc.get_eq_some_iff (Assoc.keys_set_nodup k v hn), Assoc.get_set]
  by_cases h : k' = k
  · simp only [h, if_true, Option.some.injEq]; exact eq_comm
  · simp only [h, if_false]; exact Assoc.get_eq_some_iff hn

end Assoc

theorem rowGet_eq (row : List (Option Nat × List Nat)) (a : Option Nat) : rowGet row a = Assoc.get row a := rfl
theorem tabGet_eq (T : Table) (q : Nat) : tabGet T q = Assoc.get T q := rfl
theorem tabSet_eq (T : Table) (q : Nat) (row : List (Option Nat × List Nat)) :
    tabSet T q row = Assoc.set T q row := rfl

section Keyed
variable {α β : Type} {P : α × β → Prop} {l : List (α × β)} {k : α} {v : β}

/-- a dict: distinct keys, and every item has the property `P` -/
def Keyed (P : α × β → Prop) (l : List (α × β)) : Prop := (l.map (·.1)).Nodup ∧ ∀ e ∈ l, P e

theorem Keyed.nil : Keyed P [] := ⟨List.nodup_nil, fun _ h => nomatch h⟩

theorem Keyed.set [DecidableEq α] (h : Keyed P l) (hv : P (k, v)) : Keyed P (Assoc.set l k v) :=
  ⟨Assoc.keys_set_nodup k v h.1, Assoc.forall_mem_set hv h.2⟩

theorem Keyed.filter (h : Keyed P l) (p : α × β → Bool) : Keyed P (l.filter p) :=
  ⟨Assoc.keys_filter_nodup p h.1, fun e he => h.2 e (List.mem_filter.1 he).1⟩

end Keyed

/-- the part of `TInv` that speaks of one entry -/
def EntOK (det : Bool) (f : Option Nat × List Nat) : Prop :=
  f.2.Nodup ∧ (det = true → f.1 ≠ none ∧ ∃ r, f.2 = [r])

/-- the part of `TInv` that speaks of one row -/
abbrev RowOK (det : Bool) : List (Option Nat × List Nat) → Prop := Keyed (EntOK det)

theorem tinv_iff {det : Bool} {T : Table} : TInv det T ↔ Keyed (fun e => RowOK det e.2) T := by
  unfold TInv
  constructor
  · rintro ⟨h1, h2, h3, h4⟩
    exact ⟨h1, fun e he => ⟨h2 e he, fun f hf => ⟨h3 e he f hf, fun hd => h4 hd e he f hf⟩⟩⟩
  · rintro ⟨h1, h2⟩
    exact ⟨h1, fun e he => (h2 e he).1, fun e he f hf => ((h2 e he).2 f hf).1,
      fun hd e he f hf => ((h2 e he).2 f hf).2 hd⟩

theorem tinv_nil (det : Bool) : TInv det [] := tinv_iff.2 Keyed.nil

theorem lookup_eq (T : Table) (q : Nat) (a : Option Nat) :
    lookup T q a = (tabGet T q).bind fun row => rowGet row a := by
  unfold lookup; cases tabGet T q <;> rfl

theorem lookup_tabSet (T : Table) (q : Nat) (row : List (Option Nat × List Nat)) (q' : Nat)
    (a' : Option Nat) :
    lookup (tabSet T q row) q' a' = if q' = q then rowGet row a' else lookup T q' a' := by
  rw [lookup_eq, lookup_eq, tabSet_eq, tabGet_eq, tabGet_eq, Assoc.get_set]
  by_cases h : q' = q <;> simp [h]

def rowOf (T : Table) (q : Nat) : List (Option Nat × List Nat) := (tabGet T q).getD []

/-- `T[q][a] = ts`, the inner dict being created when `q` has none -/
def setEntry (T : Table) (q : Nat) (a : Option Nat) (ts : List Nat) : Table :=
  tabSet T q (rowSet (rowOf T q) a ts)

/-- `del T[q][a]` -/
def delEntry (T : Table) (q : Nat) (a : Option Nat) : Table :=
  tabSet T q ((rowOf T q).filter fun e => !(e.1 = a))

theorem lookup_rowOf (T : Table) (q : Nat) (a : Option Nat) : lookup T q a = Assoc.get (rowOf T q) a := by
  unfold lookup rowOf; cases tabGet T q <;> rfl

theorem rowOK_rowOf {det : Bool} {T : Table} (h : TInv det T) (q : Nat) : RowOK det (rowOf T q) := by
  unfold rowOf
  cases hg : tabGet T q with
  | none => exact Keyed.nil
  | some row => exact (tinv_iff.1 h).2 _ (Assoc.mem_of_get hg)

theorem lookup_eq_some_iff {det : Bool} {T : Table} (h : TInv det T) (q : Nat) (a : Option Nat)
    (ts : List Nat) :
    lookup T q a = some ts ↔ ∃ row, (q, row) ∈ T ∧ (a, ts) ∈ row := by
  rw [lookup_eq, Option.bind_eq_some_iff]
  constructor
  · rintro ⟨row, h1, h2⟩
    exact ⟨row, Assoc.mem_of_get h1, Assoc.mem_of_get h2⟩
  · rintro ⟨row, h1, h2⟩
    have hr : RowOK det row := (tinv_iff.1 h).2 _ h1
    exact ⟨row, (Assoc.get_eq_some_iff (tinv_iff.1 h).1).2 h1, (Assoc.get_eq_some_iff hr.1).2 h2⟩

theorem mem_edges_raw (T : Table) (q : Nat) (a : Option Nat) (r : Nat) :
    (q, a, r) ∈ edges T ↔ ∃ row, (q, row) ∈ T ∧ ∃ ts, (a, ts) ∈ row ∧ r ∈ ts := by
  simp only [edges, List.mem_flatMap, List.mem_map, Prod.mk.injEq]
  constructor
  · rintro ⟨⟨e1, e2⟩, he, ⟨f1, f2⟩, hf, r', hr, rfl, rfl, rfl⟩
    exact ⟨e2, he, f2, hf, hr⟩
  · rintro ⟨row, he, ts, hf, hr⟩
    exact ⟨(q, row), he, (a, ts), hf, r, hr, rfl, rfl, rfl⟩

theorem mem_edges_iff {det : Bool} {T : Table} (h : TInv det T) (q : Nat) (a : Option Nat) (r : Nat) :
    (q, a, r) ∈ edges T ↔ ∃ ts, lookup T q a = some ts ∧ r ∈ ts := by
  rw [mem_edges_raw]
  constructor
  · rintro ⟨row, he, ts, hf, hr⟩
    exact ⟨ts, (lookup_eq_some_iff h q a ts).2 ⟨row, he, hf⟩, hr⟩
  · rintro ⟨ts, hl, hr⟩
    obtain ⟨row, he, hf⟩ := (lookup_eq_some_iff h q a ts).1 hl
    exact ⟨row, he, ts, hf, hr⟩

theorem edges_nodup {det : Bool} {T : Table} (h : TInv det T) : (edges T).Nodup := by
  rw [tinv_iff] at h
  unfold edges
  refine nodup_flatMap_of_keys (·.1) (·.1) h.1 (fun e he => ?_) (fun e t ht => ?_)
  · refine nodup_flatMap_of_keys (·.1) (·.2.1) (h.2 e he).1 (fun f hf => ?_) (fun f t ht => ?_)
    · refine ((h.2 e he).2 f hf).1.map fun x y hxy => ?_
      simpa using hxy
    · obtain ⟨r, _, rfl⟩ := List.mem_map.1 ht
      rfl
  · obtain ⟨f, _, ht⟩ := List.mem_flatMap.1 ht
    obtain ⟨r, _, rfl⟩ := List.mem_map.1 ht
    rfl

theorem mem_call {det : Bool} {T : Table} (h : TInv det T) {q r : Nat} {a : Option Nat} :
    r ∈ call T q a ↔ (q, a, r) ∈ edges T := by
  rw [mem_edges_iff h, call]
  cases lookup T q a <;> simp

theorem entOK_of_lookup {det : Bool} {T : Table} (h : TInv det T) {q : Nat} {a : Option Nat} {ts : List Nat}
    (hl : lookup T q a = some ts) : EntOK det (a, ts) :=
  (rowOK_rowOf h q).2 _ (Assoc.mem_of_get (lookup_rowOf T q a ▸ hl))

theorem call_nodup {det : Bool} {T : Table} (h : TInv det T) (q : Nat) (a : Option Nat) :
    (call T q a).Nodup := by
  unfold call
  cases hl : lookup T q a with
  | none => exact List.nodup_nil
  | some ts => exact (entOK_of_lookup h hl).1

/-- `E'` is `E` with the targets of `(q, a)` replaced by `ts` -/
def EntryIs (E E' : List (Nat × Option Nat × Nat)) (q : Nat) (a : Option Nat) (ts : List Nat) : Prop :=
  ∀ q' a' r', (q', a', r') ∈ E' ↔ if q' = q ∧ a' = a then r' ∈ ts else (q', a', r') ∈ E

theorem edges_tabSet {det : Bool} {T : Table} (h : TInv det T) {q : Nat} {a : Option Nat}
    {row : List (Option Nat × List Nat)} (hr : RowOK det row) {X : Option (List Nat)}
    (hx : ∀ a', Assoc.get row a' = if a' = a then X else Assoc.get (rowOf T q) a') :
    TInv det (tabSet T q row) ∧ EntryIs (edges T) (edges (tabSet T q row)) q a (X.getD []) := by
  have h' : TInv det (tabSet T q row) := tinv_iff.2 ((tinv_iff.1 h).set hr)
  refine ⟨h', fun q' a' r' => ?_⟩
  rw [mem_edges_iff h', mem_edges_iff h, lookup_tabSet]
  by_cases hq : q' = q
  · subst hq
    rw [if_pos rfl, rowGet_eq, hx, lookup_rowOf]
    by_cases ha : a' = a
    · simp only [ha, and_self, if_true]
      cases X <;> simp
    · simp only [ha, and_false, if_false]
  · simp only [hq, false_and, if_false]

theorem edges_setEntry {det : Bool} {T : Table} (h : TInv det T) (q : Nat) {a : Option Nat} {ts : List Nat}
    (he : EntOK det (a, ts)) :
    TInv det (setEntry T q a ts) ∧ EntryIs (edges T) (edges (setEntry T q a ts)) q a ts :=
  edges_tabSet h ((rowOK_rowOf h q).set he) (X := some ts) fun a' => Assoc.get_set _ a ts a'

theorem edges_delEntry {det : Bool} {T : Table} (h : TInv det T) (q : Nat) (a : Option Nat) :
    TInv det (delEntry T q a) ∧ EntryIs (edges T) (edges (delEntry T q a)) q a [] :=
  edges_tabSet h ((rowOK_rowOf h q).filter _) (X := none) fun a' => Assoc.get_filter_ne _ a a'

theorem mem_ins {x y : Nat} {l : List Nat} : y ∈ ins x l ↔ y = x ∨ y ∈ l := mem_insert_end

theorem mem_insT {t x : Nat × Option Nat × Nat} {l : List (Nat × Option Nat × Nat)} :
    t ∈ insT x l ↔ t = x ∨ t ∈ l := mem_insert_end

section Entry
variable {E E' : List (Nat × Option Nat × Nat)} {q r : Nat} {a : Option Nat} {ts : List Nat}

theorem mem_of_entry_add (he : EntryIs E E' q a ts)
    (hts : ∀ r', r' ∈ ts ↔ r' = r ∨ (q, a, r') ∈ E) : ∀ t, t ∈ E' ↔ t = (q, a, r) ∨ t ∈ E := by
  rintro ⟨q', a', r'⟩
  rw [he q' a' r']
  by_cases hc : q' = q ∧ a' = a
  · obtain ⟨rfl, rfl⟩ := hc
    simp only [and_self, if_true, hts, Prod.mk.injEq, true_and]
  · rw [if_neg hc]
    refine ⟨Or.inr, fun h1 => h1.elim (fun e => ?_) id⟩
    simp only [Prod.mk.injEq] at e
    exact absurd ⟨e.1, e.2.1⟩ hc

theorem mem_of_entry_rem (he : EntryIs E E' q a ts)
    (hts : ∀ r', r' ∈ ts ↔ r' ≠ r ∧ (q, a, r') ∈ E) : ∀ t, t ∈ E' ↔ t ≠ (q, a, r) ∧ t ∈ E := by
  rintro ⟨q', a', r'⟩
  rw [he q' a' r']
  by_cases hc : q' = q ∧ a' = a
  · obtain ⟨rfl, rfl⟩ := hc
    simp only [and_self, if_true, hts, ne_eq, Prod.mk.injEq, true_and]
  · rw [if_neg hc]
    refine ⟨fun h1 => ⟨fun e => ?_, h1⟩, fun h1 => h1.2⟩
    simp only [Prod.mk.injEq] at e
    exact hc ⟨e.1, e.2.1⟩

end Entry

theorem addN_eq (T : Table) (q : Nat) (a : Option Nat) (r : Nat) :
    addN T q a r = setEntry T q a (ins r (call T q a)) := by
  unfold addN setEntry call lookup rowOf
  cases tabGet T q with
  | none => rfl
  | some row => dsimp only [Option.getD]; cases rowGet row a <;> rfl

theorem remN_eq (T : Table) (q : Nat) (a : Option Nat) (r : Nat) :
    remN T q a r =
      if r ∈ call T q a then (setEntry T q a ((call T q a).erase r), 1) else (T, 0) := by
  have h : remN T q a r =
      match lookup T q a with
      | some ts => if r ∈ ts then (setEntry T q a (ts.erase r), 1) else (T, 0)
      | none => (T, 0) := by
    unfold remN setEntry lookup rowOf
    cases tabGet T q with
    | none => rfl
    | some row => dsimp only [Option.getD]; cases rowGet row a <;> rfl
  rw [h, call]
  cases lookup T q a with
  | none => rfl
  | some ts => rfl

theorem addD_eq (T : Table) (q : Nat) (a : Option Nat) (r : Nat) :
    addD T q a r =
      if a = none then .error .epsilon else
      match lookup T q a with
      | some ts => if ts = [r] then .ok T else .error .duplicate
      | none => .ok (setEntry T q a [r]) := by
  unfold addD setEntry lookup rowOf
  cases tabGet T q with
  | none => rfl
  | some row => dsimp only [Option.getD]; cases rowGet row a <;> rfl

theorem remD_eq (T : Table) (q : Nat) (a : Option Nat) (r : Nat) :
    remD T q a r =
      match lookup T q a with
      | some ts => if ts = [r] then (delEntry T q a, 1) else (T, 0)
      | none => (T, 0) := by
  unfold remD delEntry lookup rowOf
  cases tabGet T q with
  | none => rfl
  | some row => dsimp only [Option.getD]; cases rowGet row a <;> rfl

theorem addN_spec {T : Table} (h : TInv false T) (q : Nat) (a : Option Nat) (r : Nat) :
    TInv false (addN T q a r) ∧ ∀ t, t ∈ edges (addN T q a r) ↔ t = (q, a, r) ∨ t ∈ edges T := by
  rw [addN_eq]
  obtain ⟨h', he⟩ := edges_setEntry h q (a := a) (ts := ins r (call T q a)) ⟨nodup_insert_end (call_nodup h q a), fun hd => nomatch hd⟩
  exact ⟨h', mem_of_entry_add he fun r' => by rw [mem_ins, mem_call h]⟩

/-- what `remove_transition` does on the table -/
def RemSpec (det : Bool) (T : Table) (q : Nat) (a : Option Nat) (r : Nat) (res : Table × Nat) : Prop :=
  TInv det res.1 ∧ (∀ t, t ∈ edges res.1 ↔ t ≠ (q, a, r) ∧ t ∈ edges T) ∧
    (res.2 = 1 ↔ (q, a, r) ∈ edges T) ∧ (res.2 = 0 ∨ res.2 = 1)

theorem remSpec_noop {det : Bool} {T : Table} (h : TInv det T) {q : Nat} {a : Option Nat} {r : Nat}
    (hn : (q, a, r) ∉ edges T) : RemSpec det T q a r (T, 0) := by
  refine ⟨h, fun t => ⟨fun ht => ⟨fun h1 => hn (h1 ▸ ht), ht⟩, fun h1 => h1.2⟩, ?_, Or.inl rfl⟩
  exact ⟨fun h0 => absurd h0 Nat.zero_ne_one, fun h1 => absurd h1 hn⟩

theorem remN_spec {T : Table} (h : TInv false T) (q : Nat) (a : Option Nat) (r : Nat) :
    RemSpec false T q a r (remN T q a r) := by
  rw [remN_eq]
  by_cases hm : r ∈ call T q a
  · rw [if_pos hm]
    have hnd := call_nodup h q a
    obtain ⟨h', he⟩ := edges_setEntry h q (a := a) ⟨hnd.erase r, fun hd => nomatch hd⟩
    exact ⟨h', mem_of_entry_rem he fun r' => by rw [hnd.mem_erase_iff, mem_call h],
      ⟨fun _ => (mem_call h).1 hm, fun _ => rfl⟩, Or.inr rfl⟩
  · rw [if_neg hm]
    exact remSpec_noop h fun hc => hm ((mem_call h).2 hc)

theorem mem_edges_det {T : Table} (h : TInv true T) {q : Nat} {a : Option Nat} {ts : List Nat}
    (hl : lookup T q a = some ts) : a ≠ none ∧ ∃ r₀, ts = [r₀] ∧ ∀ r, (q, a, r) ∈ edges T ↔ r = r₀ := by
  obtain ⟨ha, r₀, rfl⟩ := (entOK_of_lookup h hl).2 rfl
  refine ⟨ha, r₀, rfl, fun r => ?_⟩
  rw [← mem_call h, call, hl]
  exact List.mem_singleton

theorem not_mem_edges_of_lookup_none {det : Bool} {T : Table} (h : TInv det T) {q : Nat} {a : Option Nat}
    (hl : lookup T q a = none) (r : Nat) : (q, a, r) ∉ edges T := by
  rw [← mem_call h, call, hl]
  exact List.not_mem_nil

theorem remD_spec {T : Table} (h : TInv true T) (q : Nat) (a : Option Nat) (r : Nat) :
    RemSpec true T q a r (remD T q a r) := by
  rw [remD_eq]
  cases hl : lookup T q a with
  | none => exact remSpec_noop h (not_mem_edges_of_lookup_none h hl r)
  | some ts =>
    obtain ⟨_, r₀, rfl, hc⟩ := mem_edges_det h hl
    dsimp only
    by_cases hm : [r₀] = [r]
    · rw [if_pos hm]
      obtain rfl : r₀ = r := List.singleton_inj.1 hm
      obtain ⟨h', he⟩ := edges_delEntry h q a
      refine ⟨h', mem_of_entry_rem he fun r' => ?_, ⟨fun _ => (hc r₀).2 rfl, fun _ => rfl⟩, Or.inr rfl⟩
      rw [hc]
      exact ⟨fun h0 => absurd h0 List.not_mem_nil, fun h1 => absurd h1.2 h1.1⟩
    · rw [if_neg hm]
      exact remSpec_noop h fun hin => hm (by rw [(hc r).1 hin])

/-- the guard of `absStep` for `add_transition` -/
def Bad (d : List (Nat × Option Nat × Nat)) (q : Nat) (a : Option Nat) (r : Nat) : Prop :=
  a = none ∨ ∃ r', r' ≠ r ∧ (q, a, r') ∈ d

theorem bad_congr {d d' : List (Nat × Option Nat × Nat)} (h : ∀ t, t ∈ d ↔ t ∈ d') (q : Nat)
    (a : Option Nat) (r : Nat) : Bad d q a r ↔ Bad d' q a r := by
  unfold Bad; simp only [h]

/-- `self._transition_function.add_transition` -/
def addTab (det : Bool) (T : Table) (q : Nat) (a : Option Nat) (r : Nat) : Except Err Table :=
  if det then addD T q a r else .ok (addN T q a r)

/-- `self._transition_function.remove_transition` -/
def remTab (det : Bool) (T : Table) (q : Nat) (a : Option Nat) (r : Nat) : Table × Nat :=
  if det then remD T q a r else remN T q a r

/-- what `add_transition` does on the table: it adds the transition; on a deterministic table it raises
instead, exactly on an ε-move or a second target -/
def AddSpec (det : Bool) (T : Table) (q : Nat) (a : Option Nat) (r : Nat) : Except Err Table → Prop
  | .error _ => det = true ∧ Bad (edges T) q a r
  | .ok T' => (det = true → ¬ Bad (edges T) q a r) ∧ TInv det T' ∧
      ∀ t, t ∈ edges T' ↔ t = (q, a, r) ∨ t ∈ edges T

theorem addTab_spec {det : Bool} {T : Table} (h : TInv det T) (q : Nat) (a : Option Nat) (r : Nat) :
    AddSpec det T q a r (addTab det T q a r) := by
  cases det with
  | false => exact ⟨fun hd => (nomatch hd), addN_spec h q a r⟩
  | true =>
    show AddSpec true T q a r (addD T q a r)
    rw [addD_eq]
    by_cases ha : a = none
    · rw [if_pos ha]
      exact ⟨rfl, Or.inl ha⟩
    · rw [if_neg ha]
      cases hl : lookup T q a with
      | none =>
        have hn := not_mem_edges_of_lookup_none h hl
        obtain ⟨h', he⟩ := edges_setEntry h q ⟨List.nodup_singleton r, fun _ => ⟨ha, r, rfl⟩⟩
        refine ⟨fun _ hb => hb.elim ha fun ⟨r', _, hin⟩ => hn r' hin, h', mem_of_entry_add he fun r' => ?_⟩
        rw [List.mem_singleton]
        exact ⟨Or.inl, fun h1 => h1.elim id fun hin => absurd hin (hn r')⟩
      | some ts =>
        obtain ⟨_, r₀, rfl, hc⟩ := mem_edges_det h hl
        dsimp only
        by_cases hm : r₀ = r
        · subst hm
          rw [if_pos rfl]
          exact ⟨fun _ hb => hb.elim ha fun ⟨r', hne, hin⟩ => hne ((hc r').1 hin), h,
            fun t => ⟨Or.inr, fun h1 => h1.elim (fun e => e ▸ (hc r₀).2 rfl) id⟩⟩
        · rw [if_neg fun e => hm (List.singleton_inj.1 e)]
          exact ⟨rfl, Or.inr ⟨r₀, hm, (hc r₀).2 rfl⟩⟩

theorem remTab_spec {det : Bool} {T : Table} (h : TInv det T) (q : Nat) (a : Option Nat) (r : Nat) :
    RemSpec det T q a r (remTab det T q a r) := by
  cases det with
  | true => exact remD_spec h q a r
  | false => exact remN_spec h q a r

/-- the symbols after `add_transition` -/
def symsAdd (a : Option Nat) (l : List Nat) : List Nat :=
  match a with
  | some x => ins x l
  | none => l

/-- the calls that leave the transition table alone -/
def isMark : Op → Prop
  | .addT .. => False
  | .remT .. => False
  | _ => True

/-- the fields of the object other than the table, beside a set of transitions -/
def toAbs (o : Obj) (d : List (Nat × Option Nat × Nat)) : Abs := ⟨o.states, o.syms, o.starts, o.finals, d⟩

theorem step_addT (o : Obj) (q : Nat) (a : Option Nat) (r : Nat) :
    step o (.addT q a r) =
      match addTab o.det o.trans q a r with
      | .error e => .error e
      | .ok T => .ok ({ o with trans := T, states := ins r (ins q o.states), syms := symsAdd a o.syms }, 1) := by
  obtain ⟨det, st, sy, ss, fs, T⟩ := o
  cases det with
  | true => rfl
  | false => rfl

theorem step_remT (o : Obj) (q : Nat) (a : Option Nat) (r : Nat) :
    step o (.remT q a r) =
      .ok ({ o with trans := (remTab o.det o.trans q a r).1 }, (remTab o.det o.trans q a r).2) := rfl

theorem step_mark (o : Obj) {op : Op} (hop : isMark op) :
    ∃ o' n, step o op = .ok (o', n) ∧ o'.det = o.det ∧ o'.trans = o.trans ∧
      ∀ d, absStep o.det (toAbs o d) op = toAbs o' d := by
  obtain ⟨det, st, sy, ss, fs, T⟩ := o
  cases op with
  | addT q a r => exact hop.elim
  | remT q a r => exact hop.elim
  | addStart q => cases det <;> exact ⟨_, _, rfl, rfl, rfl, fun _ => rfl⟩
  | remStart q =>
    cases det with
    | true =>
      by_cases h : ss = [q]
      · exact ⟨_, _, if_pos h, rfl, rfl, fun _ => if_pos h⟩
      · exact ⟨_, _, if_neg h, rfl, rfl, fun _ => if_neg h⟩
    | false =>
      by_cases h : q ∈ ss
      · exact ⟨_, _, if_pos h, rfl, rfl, fun _ => rfl⟩
      · exact ⟨⟨false, st, sy, ss.erase q, fs, T⟩, 0, by rw [List.erase_of_not_mem h]; exact if_neg h, rfl,
          rfl, fun _ => rfl⟩
  | addFinal q => exact ⟨_, _, rfl, rfl, rfl, fun _ => rfl⟩
  | remFinal q =>
    by_cases h : q ∈ fs
    · exact ⟨_, _, if_pos h, rfl, rfl, fun _ => rfl⟩
    · exact ⟨⟨det, st, sy, ss, fs.erase q, T⟩, 0, by rw [List.erase_of_not_mem h]; exact if_neg h, rfl,
        rfl, fun _ => rfl⟩
  | addSym a => exact ⟨_, _, rfl, rfl, rfl, fun _ => rfl⟩

theorem guard_iff (d : List (Nat × Option Nat × Nat)) (q : Nat) (a : Option Nat) (r : Nat) :
    (decide (a = none) || d.any fun t => decide (t.1 = q ∧ t.2.1 = a ∧ t.2.2 ≠ r)) = true ↔
      Bad d q a r := by
  unfold Bad
  simp only [Bool.or_eq_true, decide_eq_true_eq, List.any_eq_true]
  refine or_congr Iff.rfl ⟨?_, fun ⟨r', h1, h2⟩ => ⟨(q, a, r'), h2, rfl, rfl, h1⟩⟩
  rintro ⟨⟨q', a', r'⟩, ht, rfl, rfl, h3⟩
  exact ⟨r', h3, ht⟩

theorem absStep_addT_bad {det : Bool} {s : Abs} {q : Nat} {a : Option Nat} {r : Nat} (hd : det = true)
    (hb : Bad s.delta q a r) : absStep det s (.addT q a r) = s :=
  if_pos (by rw [hd, Bool.true_and]; exact (guard_iff s.delta q a r).2 hb)

theorem absStep_addT_good {det : Bool} {s : Abs} {q : Nat} {a : Option Nat} {r : Nat}
    (hb : det = true → ¬ Bad s.delta q a r) :
    absStep det s (.addT q a r) =
      { s with delta := insT (q, a, r) s.delta, states := ins r (ins q s.states),
               syms := symsAdd a s.syms } :=
  if_neg fun h => hb (Bool.and_eq_true_iff.1 h).1 ((guard_iff s.delta q a r).1 (Bool.and_eq_true_iff.1 h).2)

theorem refines_iff {o : Obj} {s : Abs} :
    Refines o s ↔ ∃ d, s = toAbs o d ∧ (∀ t, t ∈ edges o.trans ↔ t ∈ d) ∧ (edges o.trans).Nodup ∧ d.Nodup := by
  obtain ⟨st, sy, ss, fs, d⟩ := s
  constructor
  · rintro ⟨h1, h2, h3, h4, h5⟩
    simp only at h1 h2 h3 h4
    exact ⟨d, by rw [toAbs, h1, h2, h3, h4], h5⟩
  · rintro ⟨d', h, h5⟩
    cases h
    exact ⟨rfl, rfl, rfl, rfl, h5⟩

theorem refines_self {o : Obj} (hi : TInv o.det o.trans) : Refines o (toAbs o (edges o.trans)) :=
  refines_iff.2 ⟨_, rfl, fun _ => Iff.rfl, edges_nodup hi, edges_nodup hi⟩

/-- `InvalidEpsilonTransition`, `DuplicateTransitionError`: only `add_transition` on a deterministic automaton raises -/
def Raises (det : Bool) (d : List (Nat × Option Nat × Nat)) (op : Op) : Prop :=
  ∃ q a r, op = .addT q a r ∧ det = true ∧ Bad d q a r

/-- what a call on an object that stands for `s` returns: it raises where the value refuses and changes
nothing, or the new object stands for the new value, and `remove_transition` says whether the transition
was there -/
def StepSpec (o : Obj) (s : Abs) (op : Op) : Except Err (Obj × Nat) → Prop
  | .error _ => Raises o.det s.delta op ∧ absStep o.det s op = s
  | .ok (o', n) => ¬ Raises o.det s.delta op ∧ o'.det = o.det ∧ TInv o'.det o'.trans ∧
      Refines o' (absStep o.det s op) ∧
      ∀ q a r, op = .remT q a r → (n = 1 ↔ (q, a, r) ∈ s.delta) ∧ (n = 0 ∨ n = 1)

theorem step_spec {o : Obj} {s : Abs} {op : Op} {res : Except Err (Obj × Nat)} (hi : TInv o.det o.trans)
    (hr : Refines o s) (hs : step o op = res) : StepSpec o s op res := by
  subst hs
  obtain ⟨d, rfl, h5, h6, h7⟩ := refines_iff.1 hr
  by_cases hop : isMark op
  · obtain ⟨o₁, n₁, h1, hd, ht, hf⟩ := step_mark o hop
    rw [h1]
    refine ⟨fun ⟨_, _, _, e, _⟩ => (e ▸ hop :), hd, hd ▸ ht ▸ hi, ?_, fun _ _ _ e => ((e ▸ hop :) : False).elim⟩
    rw [hf d]
    exact ⟨rfl, rfl, rfl, rfl, ht ▸ h5, ht ▸ h6, h7⟩
  cases op with
  | addT q a r =>
    have ha := addTab_spec hi q a r
    rw [step_addT]
    generalize addTab o.det o.trans q a r = res at ha ⊢
    cases res with
    | error e =>
      have hb := (bad_congr h5 q a r).1 ha.2
      exact ⟨⟨q, a, r, rfl, ha.1, hb⟩, absStep_addT_bad ha.1 hb⟩
    | ok T' =>
      obtain ⟨hnb, h', he⟩ := ha
      have hnb' : o.det = true → ¬ Bad d q a r := fun hd hb => hnb hd ((bad_congr h5 q a r).2 hb)
      refine ⟨fun ⟨_, _, _, e, hd, hb⟩ => by cases e; exact hnb' hd hb, rfl, h', ?_, fun _ _ _ e => nomatch e⟩
      rw [absStep_addT_good hnb']
      exact ⟨rfl, rfl, rfl, rfl, fun t => by rw [he, h5]; exact mem_insT.symm, edges_nodup h',
        nodup_insert_end h7⟩
  | remT q a r =>
    obtain ⟨h', he, hn⟩ := remTab_spec hi q a r
    rw [h5] at hn
    rw [step_remT]
    exact ⟨fun ⟨_, _, _, e, _⟩ => (nomatch e), rfl, h',
      ⟨rfl, rfl, rfl, rfl, fun t => by rw [he, h5]; exact h7.mem_erase_iff.symm, edges_nodup h', h7.erase _⟩,
      fun _ _ _ e => by cases e; exact hn⟩
  | _ => exact (hop trivial).elim

/-- a call raises exactly when the automaton is deterministic and the new transition is an ε-move
or gives the (state, symbol) pair a second target; the value is then unchanged as well -/
theorem step_error_iff {o : Obj} {s : Abs} (hi : TInv o.det o.trans) (hr : Refines o s) (op : Op) :
    (∃ e, step o op = .error e) ↔
      ∃ q a r, op = .addT q a r ∧ o.det = true ∧ (a = none ∨ ∃ r', r' ≠ r ∧ (q, a, r') ∈ s.delta) := by
  cases hs : step o op with
  | error e => exact ⟨fun _ => (step_spec hi hr hs).1, fun _ => ⟨e, rfl⟩⟩
  | ok res => exact ⟨fun ⟨_, h⟩ => (nomatch h), fun h => absurd h (step_spec hi hr hs).1⟩

theorem remT_result {o o' : Obj} {s : Abs} {q r n : Nat} {a : Option Nat} (hi : TInv o.det o.trans)
    (hr : Refines o s) (hs : step o (.remT q a r) = .ok (o', n)) :
    (n = 1 ↔ (q, a, r) ∈ s.delta) ∧ (n = 0 ∨ n = 1) :=
  (step_spec hi hr hs).2.2.2.2 q a r rfl

theorem run_refines_gen (ops : List Op) : ∀ (o : Obj) (s : Abs), TInv o.det o.trans → Refines o s →
    Refines (run o ops) (absRun o.det s ops) ∧ TInv o.det (run o ops).trans ∧
      (run o ops).det = o.det := by
  induction ops with
  | nil => intro o s hi hr; exact ⟨hr, hi, rfl⟩
  | cons op ops ih =>
    intro o s hi hr
    show Refines (run o (op :: ops)) (absRun o.det (absStep o.det s op) ops) ∧ _
    unfold run
    cases hs : step o op with
    | error e =>
      rw [(step_spec hi hr hs).2]
      exact ih o s hi hr
    | ok res =>
      obtain ⟨_, hd, hi', hr', _⟩ := step_spec hi hr hs
      rw [← hd] at hr' ⊢
      exact ih res.1 _ hi' hr'

/-- refinement: after any history of mutator calls on a fresh object, the object stands for the
value obtained by plain set insertions and removals — the same states, symbols, start and final
states (in the same order), the same set of transitions, nothing repeated; empty entries left behind
by `remove_transition` never show -/
theorem run_refines (det : Bool) (ops : List Op) :
    Refines (run (new det) ops) (absRun det absNew ops) ∧
      TInv det (run (new det) ops).trans ∧ (run (new det) ops).det = det :=
  run_refines_gen ops (new det) absNew (tinv_nil det) (refines_self (o := new det) (tinv_nil det))

end P
end FAObj
end Pfl
