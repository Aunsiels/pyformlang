/-
Walks in a graph `next : α → List α` together with the states behind them: `Closes` (the walk can be
continued until it repeats a state) unfolds by one step (`closes_iff`); a walk that cannot close meets
new states only (`OpenWalk`).  Core Lean only.
-/
import Pfl.Core.Closure
namespace Pfl
variable {α : Type}

theorem Reach.cases_head {next : α → List α} {x y : α} (h : Reach next x y) :
    x = y ∨ ∃ z ∈ next x, Reach next z y := by
  induction h with
  | refl => exact Or.inl rfl
  | tail _ hz ih =>
    rcases ih with rfl | ⟨z', hz', hr⟩
    · exact Or.inr ⟨_, hz, Reach.refl _⟩
    · exact Or.inr ⟨z', hz', Reach.tail hr hz⟩

/-- the walk that came to `q` through the states `vis` can be continued until it repeats a state:
it reaches a state of `vis`, or a state that lies on a cycle.  This is what `is_acyclic` looks for
(`ENFA.acyclicLoop_spec`, with `next = A.outs`); where it fails, a walk visits new states only
(`OpenWalk`). -/
def Closes (next : α → List α) (q : α) (vis : List α) : Prop :=
  ∃ y, Reach next q y ∧ (y ∈ vis ∨ ∃ r ∈ next y, Reach next r y)

theorem closes_iff {next : α → List α} {q : α} {vis : List α} :
    Closes next q vis ↔ q ∈ vis ∨ ∃ r ∈ next q, Closes next r (q :: vis) := by
  constructor
  · rintro ⟨y, hqy, h⟩
    rcases Reach.cases_head hqy with rfl | ⟨r, hr, hry⟩
    · -- a cycle through `q` itself: after its first edge the walk comes back to `q`, now in the history
      exact h.imp_right fun ⟨r, hr, hrq⟩ => ⟨r, hr, q, hrq, Or.inl List.mem_cons_self⟩
    · exact Or.inr ⟨r, hr, y, hry, h.imp_left (List.mem_cons_of_mem _)⟩
  · rintro (h | ⟨r, hr, y, hry, h⟩)
    · exact ⟨q, Reach.refl q, Or.inl h⟩
    · rcases h with h | h
      · rcases List.mem_cons.mp h with rfl | h
        · exact ⟨y, Reach.refl y, Or.inr ⟨r, hr, hry⟩⟩
        · exact ⟨y, Reach.head hr hry, Or.inl h⟩
      · exact ⟨y, Reach.head hr hry, Or.inr h⟩

/-- the walk that came to `q` through `vis` has met distinct elements of `U` and cannot close: the
pigeonhole behind "no cycle, hence short" (`Term2.run_length_add_le`, `CFG.Words.acyclic_bound`) -/
structure OpenWalk (next : α → List α) (U : List α) (q : α) (vis : List α) : Prop where
  nodup : vis.Nodup
  sub : ∀ v ∈ vis, v ∈ U
  noClose : ¬ Closes next q vis

theorem OpenWalk.push {next : α → List α} {U : List α} {q r : α} {vis : List α}
    (h : OpenWalk next U q vis) (hq : q ∈ U) (hr : r ∈ next q) : OpenWalk next U r (q :: vis) := by
  have hc := fun c => h.noClose (closes_iff.mpr c)
  exact ⟨List.nodup_cons.mpr ⟨fun c => hc (Or.inl c), h.nodup⟩,
    fun v hv => (List.mem_cons.mp hv).elim (fun e => e ▸ hq) (h.sub v),
    fun c => hc (Or.inr ⟨r, hr, c⟩)⟩

theorem OpenWalk.nil {next : α → List α} {U : List α} {q : α}
    (h : ¬ ∃ y, Reach next q y ∧ ∃ r ∈ next y, Reach next r y) : OpenWalk next U q [] :=
  ⟨List.nodup_nil, fun _ hv => (nomatch hv),
    fun ⟨y, hy, hc⟩ => h ⟨y, hy, hc.resolve_left (nomatch ·)⟩⟩

end Pfl
