/-
Termination (fuel sufficiency) of the lock-step walk of `_is_equivalent_to_minimal`
(`ENFA.isoWalkLoop`), of the language-difference oracle `ENFA.langDiff` and of the steps built on
it (`sameRight`, `insertGroup`); `Props/C03_Termination.lean` draws the bounds for `isoWalk`,
`nerodeGroups` and `isReduced` from them.
-/
import Pfl.Proofs.FATermination
import Pfl.Proofs.FAIso
import Mathlib.Data.List.Sublists

namespace Pfl.Term2
open Pfl.ENFA

variable {σ τ : Type} [DecidableEq σ] [DecidableEq τ]

/-! ### the walk: a state of the first automaton is queued at most once -/

theorem walkZip_count (U : List σ) (l : List ((Nat × σ) × (Nat × τ))) :
    ∀ (todo m todo' m' : List (σ × τ)), walkZip l todo m = some (todo', m') →
      (m.map (·.1)).Nodup → (∀ x ∈ m, x.1 ∈ U) → (∀ e ∈ l, e.1.2 ∈ U) →
      (m'.map (·.1)).Nodup ∧ (∀ x ∈ m', x.1 ∈ U) ∧
        todo'.length + m.length = todo.length + m'.length := by
  intro todo m todo' m' h hnd hm hl
  obtain ⟨N, rfl, rfl, hN, -, hnd'⟩ := ENFA.walkZip_some l todo m todo' m' h
  refine ⟨hnd' hnd, fun x hx => ?_, ?_⟩
  · rcases List.mem_append.mp hx with hx | hx
    · obtain ⟨e, he, rfl⟩ := hN x hx
      exact hl e he
    · exact hm x hx
  · rw [List.length_append, List.length_append]
    omega

theorem isoWalkLoop_isSome_of (M1 : ENFA σ) (M2 : ENFA τ) (U : List σ)
    (hU : ∀ t ∈ M1.delta, t.2.2 ∈ U) :
    ∀ fuel (todo m : List (σ × τ)), (m.map (·.1)).Nodup → (∀ x ∈ m, x.1 ∈ U) →
      todo.length + U.length < fuel + m.length + 1 → (isoWalkLoop M1 M2 fuel todo m).isSome := by
  intro fuel todo m
  fun_induction isoWalkLoop M1 M2 fuel todo m with
  | case1 | case3 | case4 | case5 => exact fun _ _ _ => rfl
  | case2 pq todo m =>
    intro hnd hm hlt
    have hle : (m.map (·.1)).length ≤ U.length :=
      hnd.length_le_of_subset (by
        intro k hk; obtain ⟨x, hx, rfl⟩ := List.mem_map.mp hk; exact hm x hx)
    simp only [List.length_map, List.length_cons] at hle hlt
    omega
  | case6 fuel p q todo m _ _ _ _ todo' m' hw ih =>
    intro hnd hm hlt
    obtain ⟨h1, h2, h3⟩ := walkZip_count U _ _ _ _ _ hw hnd hm (fun e he =>
      hU _ ((ENFA.mem_outEdges M1 p e.1.2 e.1.1).mp (List.of_mem_zip he).1))
    apply ih h1 h2
    simp only [List.length_cons] at hlt
    omega

/-! ### the language-difference oracle: the keys are pairs of sub-lists of the state lists -/

theorem canonS_mem_sublists (A : ENFA σ) (S : List σ) : A.canonS S ∈ A.states.sublists :=
  List.mem_sublists.mpr List.filter_sublist

theorem langDiff_isSome (A : ENFA σ) (B : ENFA τ) (fuel : Nat)
    (hf : 2 ^ A.states.length * 2 ^ B.states.length ≤ fuel) : (A.langDiff B fuel).isSome := by
  unfold langDiff
  simp only [Option.isSome_map]
  refine bfsK_isSome (·.1) (diffNext A B) (ENFA.prod A.states.sublists B.states.sublists)
    (fun x y hy => ?_) fuel _ ?_
    (by rw [length_prod, List.length_sublists, List.length_sublists]; exact hf)
  · unfold diffNext at hy
    obtain ⟨a, _, rfl⟩ := List.mem_map.mp hy
    exact (mem_prod _ _ _ _).mpr ⟨canonS_mem_sublists A _, canonS_mem_sublists B _⟩
  · exact (mem_prod _ _ _ _).mpr ⟨canonS_mem_sublists A _, canonS_mem_sublists B _⟩

theorem sameRight_isSome (A : ENFA σ) (fuel : Nat) (hf : 4 ^ A.states.length ≤ fuel)
    (p q : Option σ) : (A.sameRight fuel p q).isSome := by
  unfold sameRight
  rw [Option.isSome_map]
  apply langDiff_isSome
  show 2 ^ A.states.length * 2 ^ A.states.length ≤ fuel
  rw [← Nat.mul_pow]
  exact hf

theorem insertGroup_isSome (A : ENFA σ) (fuel : Nat) (hf : 4 ^ A.states.length ≤ fuel)
    (x : Option σ) : ∀ gs, (A.insertGroup fuel x gs).isSome := by
  intro gs
  fun_induction insertGroup A fuel x gs with
  | case1 | case4 => rfl
  | case2 gs ih => rwa [Option.isSome_map]
  | case3 r g gs hsr => exact absurd (hsr ▸ sameRight_isSome A fuel hf r x) nofun
  | case5 r g gs hsr ih => rwa [Option.isSome_map]

theorem foldlM_isSome {α β : Type} (f : β → α → Option β) (h : ∀ b a, (f b a).isSome) :
    ∀ (l : List α) (b : β), (l.foldlM f b).isSome := by
  intro l
  induction l with
  | nil => intro b; rfl
  | cons a l ih =>
    intro b
    obtain ⟨b', hb'⟩ := Option.isSome_iff_exists.mp (h b a)
    simp only [List.foldlM_cons, hb', Option.bind_eq_bind, Option.bind_some]
    exact ih b'

end Pfl.Term2
