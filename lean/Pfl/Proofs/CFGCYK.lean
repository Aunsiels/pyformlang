/-
Derivations of a grammar in Chomsky normal form (one step, induction over the trees) and the CYK table:
tables built row by row under keys `(length, position)` (`CYKT.rows`; `rows_rel` is the induction over
them, a cell from the two cells of each of its splits: also used for the table of trees), and every cell
of `cykTable` holds exactly the variables generating its piece of the word.
-/
import Pfl.Proofs.CFGBase
import Pfl.Proofs.Assoc
namespace Pfl
namespace CFG

theorem isNormalForm_iff (N : CFG) :
    N.isNormalForm = true ↔ ∀ p ∈ N.prods, prodIsNormal p = true := by
  simp [isNormalForm, List.all_eq_true]

theorem prodIsNormal_iff (p : Prod) :
    prodIsNormal p = true ↔ (∃ b c, p.2 = [.var b, .var c]) ∨ (∃ t, p.2 = [.ter t]) := by
  unfold prodIsNormal
  split <;> simp_all

theorem cnf_body {N : CFG} (hN : N.isNormalForm = true) {x : String} {body : List Sym}
    (hp : (x, body) ∈ N.prods) : (∃ b c, body = [.var b, .var c]) ∨ ∃ t, body = [.ter t] :=
  (prodIsNormal_iff _).1 ((isNormalForm_iff N).1 hN _ hp)

theorem cnf_gen_var_iff (N : CFG) (hN : N.isNormalForm = true) (x : String) (u : List String) :
    N.Gen (.var x) u ↔
      (∃ t, u = [t] ∧ (x, [Sym.ter t]) ∈ N.prods) ∨
      (∃ b c u₁ u₂, (x, [Sym.var b, Sym.var c]) ∈ N.prods ∧ u = u₁ ++ u₂ ∧
        N.Gen (.var b) u₁ ∧ N.Gen (.var c) u₂) := by
  rw [gen_var_iff]
  constructor
  · rintro ⟨body, hp, hb⟩
    rcases cnf_body hN hp with ⟨b, c, rfl⟩ | ⟨t, rfl⟩
    · obtain ⟨w₁, w₂, rfl, h₁, h₂⟩ := genList_pair_iff.1 hb
      exact Or.inr ⟨b, c, w₁, w₂, hp, rfl, h₁, h₂⟩
    · rw [genList_singleton, gen_ter_iff] at hb
      exact Or.inl ⟨t, hb, hp⟩
  · rintro (⟨t, rfl, hp⟩ | ⟨b, c, u₁, u₂, hp, rfl, h₁, h₂⟩)
    · exact ⟨_, hp, genList_singleton.2 (Gen.ter t)⟩
    · exact ⟨_, hp, genList_pair_iff.2 ⟨_, _, rfl, h₁, h₂⟩⟩

theorem cnf_gen_len_pos {N : CFG} (hN : N.isNormalForm = true) {s : Sym} {w : List String}
    (h : N.Gen s w) : 1 ≤ w.length := by
  refine List.length_pos_iff.2 ((Clean.gen_ne_nil fun p hp => ?_).1 s w h)
  rcases cnf_body hN (x := p.1) (body := p.2) hp with ⟨b, c, e⟩ | ⟨t, e⟩ <;> simp [e]

theorem cnf_gen_ind {N : CFG} (hN : N.isNormalForm = true) {P : String → List String → Prop}
    (hter : ∀ x t, (x, [Sym.ter t]) ∈ N.prods → P x [t])
    (hbin : ∀ x b c u₁ u₂, (x, [Sym.var b, Sym.var c]) ∈ N.prods → N.Gen (.var b) u₁ →
      N.Gen (.var c) u₂ → P b u₁ → P c u₂ → P x (u₁ ++ u₂)) :
    ∀ x u, N.Gen (.var x) u → P x u := by
  refine fun x u h => (gen_least (P := fun s u => N.Gen s u ∧ ∀ x, s = .var x → P x u)
    (fun t => ⟨.ter t, nofun⟩) (fun x body u hp hb ih => ⟨.var hp hb, ?_⟩) h).2 x rfl
  rintro _ ⟨⟩
  rcases cnf_body hN hp with ⟨b, c, rfl⟩ | ⟨t, rfl⟩
  · obtain ⟨u₁, _, rfl, ⟨g₁, p₁⟩, u₂, _, rfl, ⟨g₂, p₂⟩, rfl⟩ := ih
    rw [List.append_nil]
    exact hbin x b c u₁ u₂ hp g₁ g₂ (p₁ b rfl) (p₂ c rfl)
  · cases gen_ter_iff.1 (genList_singleton.1 hb)
    exact hter x t hp

theorem cnf_gen_letters (N : CFG) (hN : N.isNormalForm = true) {x : String} {u : List String}
    (h : N.Gen (.var x) u) : ∀ t ∈ u, ∃ p ∈ N.prods, p.2 = [Sym.ter t] := by
  refine cnf_gen_ind hN (P := fun _ u => ∀ t ∈ u, ∃ p ∈ N.prods, p.2 = [Sym.ter t]) ?_ ?_ x u h
  · intro x t hp t' ht'
    rw [List.mem_singleton.1 ht']
    exact ⟨_, hp, rfl⟩
  · intro _ _ _ _ _ _ _ _ i₁ i₂ t ht
    exact (List.mem_append.1 ht).elim (i₁ t) (i₂ t)

def GenLen (N : CFG) (len : Nat) (x : String) (u : List String) : Prop :=
  u.length = len ∧ N.Gen (.var x) u

theorem genLen_one {N : CFG} (hN : N.isNormalForm = true) (x : String) (u : List String) :
    GenLen N 1 x u ↔ ∃ t, u = [t] ∧ (x, [Sym.ter t]) ∈ N.prods := by
  constructor
  · rintro ⟨hl, hg⟩
    rcases (cnf_gen_var_iff N hN x u).1 hg with ⟨t, rfl, hp⟩ | ⟨b, c, u₁, u₂, _, rfl, h₁, h₂⟩
    · exact ⟨t, rfl, hp⟩
    · -- two non-empty words do not make one letter
      have n₁ := cnf_gen_len_pos hN h₁
      have n₂ := cnf_gen_len_pos hN h₂
      rw [List.length_append] at hl
      omega
  · rintro ⟨t, rfl, hp⟩
    exact ⟨rfl, (cnf_gen_var_iff N hN _ _).2 (Or.inl ⟨t, rfl, hp⟩)⟩

theorem split_of_index {cur k : Nat} (hk : k < cur - 1) :
    k + 1 < cur ∧ cur - (k + 1) < cur ∧ k + 1 + (cur - (k + 1)) = cur :=
  have h1 : k + 1 < cur := Nat.add_lt_of_lt_sub hk
  ⟨h1, Nat.sub_lt (Nat.zero_lt_of_lt h1) (Nat.succ_pos k), Nat.add_sub_cancel' (Nat.le_of_lt h1)⟩

theorem index_of_split {cur a b : Nat} (h : a + b = cur) (ha : 1 ≤ a) (hb : 1 ≤ b) :
    a - 1 < cur - 1 ∧ a - 1 + 1 = a ∧ cur - (a - 1 + 1) = b := by
  subst h
  have e : a - 1 + 1 = a := Nat.sub_add_cancel ha
  exact ⟨Nat.sub_lt_sub_right ha (Nat.lt_add_of_pos_right hb), e,
    by rw [e, Nat.add_sub_cancel_left]⟩

/-- The recurrence that both tables over a normal form compute, CYK by window and `get_words` by
variable: the split runs over `k < cur - 1` with the lengths `k + 1` and `cur - (k + 1)`, as the two
loops do. -/
theorem genLen_split {N : CFG} (hN : N.isNormalForm = true) {cur : Nat} (hcur : 2 ≤ cur)
    (x : String) (u : List String) :
    GenLen N cur x u ↔ ∃ k, k < cur - 1 ∧ ∃ b c, (x, [Sym.var b, Sym.var c]) ∈ N.prods ∧
      ∃ u₁ u₂, u = u₁ ++ u₂ ∧ GenLen N (k + 1) b u₁ ∧ GenLen N (cur - (k + 1)) c u₂ := by
  constructor
  · rintro ⟨hl, hg⟩
    rcases (cnf_gen_var_iff N hN x u).1 hg with ⟨t, rfl, _⟩ | ⟨b, c, u₁, u₂, hp, rfl, h₁, h₂⟩
    · subst hl; exact absurd hcur (Nat.not_succ_le_self 1)
    · rw [List.length_append] at hl
      obtain ⟨s1, s2, s3⟩ := index_of_split hl (cnf_gen_len_pos hN h₁) (cnf_gen_len_pos hN h₂)
      exact ⟨u₁.length - 1, s1, b, c, hp, u₁, u₂, rfl, ⟨s2.symm, h₁⟩, ⟨s3.symm, h₂⟩⟩
  · rintro ⟨k, hk, b, c, hp, u₁, u₂, rfl, ⟨l₁, h₁⟩, ⟨l₂, h₂⟩⟩
    exact ⟨by rw [List.length_append, l₁, l₂, (split_of_index hk).2.2],
      (cnf_gen_var_iff N hN _ _).2 (Or.inr ⟨b, c, u₁, u₂, hp, rfl, h₁, h₂⟩)⟩

theorem mem_cykCell (N : CFG) (tbl : Nat → Nat → List String) (i len : Nat) (x : String) :
    x ∈ cykCell N tbl i len ↔ ∃ k, k < len - 1 ∧ ∃ b c, (x, [Sym.var b, Sym.var c]) ∈ N.prods ∧
      b ∈ tbl i (k + 1) ∧ c ∈ tbl (i + (k + 1)) (len - (k + 1)) := by
  unfold cykCell
  simp only [List.mem_eraseDups, List.mem_flatMap, List.mem_range, List.mem_filterMap]
  constructor
  · rintro ⟨k, hk, p, hp, hx⟩
    refine ⟨k, hk, ?_⟩
    split at hx
    · rename_i b c h2
      split at hx
      · rename_i h3
        simp only [Option.some.injEq] at hx
        subst hx
        refine ⟨b, c, ?_, h3.1, h3.2⟩
        rw [← h2]; exact hp
      · simp at hx
    · simp at hx
  · rintro ⟨k, hk, b, c, hp, hb, hc⟩
    exact ⟨k, hk, _, hp, by simp [hb, hc]⟩

theorem mem_cykRow1 (N : CFG) (w : List String) (i : Nat) (x : String) :
    x ∈ cykRow1 N w i ↔ ∃ t, w[i]? = some t ∧ (x, [Sym.ter t]) ∈ N.prods := by
  unfold cykRow1
  split
  · rename_i h
    simp [h]
  · rename_i t ht
    simp only [ht, Option.some.injEq, exists_eq_left', List.mem_eraseDups, List.mem_filterMap,
      Option.ite_none_right_eq_some]
    constructor
    · rintro ⟨⟨_, _⟩, hp, rfl, rfl⟩
      exact hp
    · exact fun hp => ⟨_, hp, rfl, rfl⟩

namespace CYKT

section Rows
variable {β γ : Type}

def look (tbl : List ((Nat × Nat) × List β)) (i l : Nat) : List β :=
  ((tbl.find? fun e => e.1 = (l, i)).map (·.2)).getD []

/-- Rows `1..k` of a CYK table for a word of length `n`: row 1 is `r`, the cell `(len, i)` of a later
row is `c f i len` for the lookup `f` in the rows before. -/
def rows (n : Nat) (r : Nat → List β) (c : (Nat → Nat → List β) → Nat → Nat → List β) (k : Nat) :
    List ((Nat × Nat) × List β) :=
  (List.range k).foldl (fun tbl k =>
    tbl ++ (List.range (n - (k + 1) + 1)).map fun i =>
      ((k + 1, i), if k + 1 = 1 then r i else c (look tbl) i (k + 1))) []

theorem get_row (len : Nat) (g : Nat → List β) (m i l : Nat) :
    Assoc.get ((List.range m).map fun j => ((len, j), g j)) (l, i) =
      if l = len ∧ i < m then some (g i) else none := by
  by_cases hl : l = len
  · rw [hl, Assoc.get_map_mk (fun j => (len, j)) fun _ _ h => (Prod.mk.inj h).2]
    simp only [List.mem_range, true_and]
  · rw [if_neg fun h => hl h.1, Assoc.get_eq_none_iff]
    intro h
    obtain ⟨_, he, hk⟩ := List.mem_map.1 h
    obtain ⟨j, _, rfl⟩ := List.mem_map.1 he
    exact hl (congrArg Prod.fst hk).symm

variable (n : Nat) (r : Nat → List β) (c : (Nat → Nat → List β) → Nat → Nat → List β)

theorem rows_succ (k : Nat) :
    rows n r c (k + 1) = rows n r c k ++ (List.range (n - (k + 1) + 1)).map fun i =>
      ((k + 1, i), if k + 1 = 1 then r i else c (look (rows n r c k)) i (k + 1)) := by
  unfold rows
  rw [List.range_succ, List.foldl_append]
  rfl

/-- The table in closed form: a cell `(l, i)` of the word is written once, in row `l`, computed from the
table of the rows before it.  Only for cells of the word: for `k ≥ n` the truncated `n - (k + 1) + 1` of
the model writes a cell `(k + 1, 0)`. -/
theorem get_rows {i l : Nat} (h1 : 1 ≤ l) (h3 : i + l ≤ n) (k : Nat) :
    Assoc.get (rows n r c k) (l, i) =
      if l ≤ k then some (if l = 1 then r i else c (look (rows n r c (l - 1))) i l) else none := by
  induction k with
  | zero => exact (if_neg fun h => absurd (Nat.le_trans h1 h) (Nat.not_succ_le_zero 0)).symm
  | succ k ih =>
    rw [rows_succ, Assoc.get_append, ih, get_row]
    by_cases hk : l ≤ k
    · rw [if_pos hk, if_pos (Nat.le_succ_of_le hk)]; rfl
    · rw [if_neg hk, Option.none_or]
      by_cases hl : l = k + 1
      · subst hl
        rw [if_pos ⟨rfl, Nat.lt_succ_of_le (Nat.le_sub_of_add_le h3)⟩, if_pos (Nat.le_refl _)]; rfl
      · rw [if_neg fun h => hl h.1,
          if_neg fun h => hl (Nat.le_antisymm h (Nat.lt_of_not_le hk))]

theorem look_rows {k i l : Nat} (h1 : 1 ≤ l) (h2 : l ≤ k) (h3 : i + l ≤ n) :
    look (rows n r c k) i l = if l = 1 then r i else c (look (rows n r c (l - 1))) i l := by
  show (Assoc.get (rows n r c k) (l, i)).getD [] = _
  rw [get_rows n r c h1 h3, if_pos h2]; rfl

/-- Induction over a CYK table, for a relation `P len i` between the cells `(len, i)` of two tables: it
holds of the first rows, and of a later cell whenever it holds of the two cells of each of its splits
(`k < len - 1` with the lengths `k + 1` and `len - (k + 1)`, as the loop runs).  The cell functions get an
arbitrary lookup: they read nothing else. -/
theorem rows_rel (s : Nat → List γ) (d : (Nat → Nat → List γ) → Nat → Nat → List γ)
    (P : Nat → Nat → List β → List γ → Prop) (hrow : ∀ i, i + 1 ≤ n → P 1 i (r i) (s i))
    (hcell : ∀ f g i len, 2 ≤ len → i + len ≤ n →
      (∀ k, k < len - 1 → P (k + 1) i (f i (k + 1)) (g i (k + 1)) ∧
        P (len - (k + 1)) (i + (k + 1)) (f (i + (k + 1)) (len - (k + 1)))
          (g (i + (k + 1)) (len - (k + 1)))) →
      P len i (c f i len) (d g i len)) (k : Nat) :
    ∀ l i, 1 ≤ l → l ≤ k → i + l ≤ n →
      P l i (look (rows n r c k) i l) (look (rows n s d k) i l) := by
  intro l
  induction l using Nat.strongRecOn generalizing k with
  | _ l ih =>
    intro i h1 h2 h3
    rw [look_rows n r c h1 h2 h3, look_rows n s d h1 h2 h3]
    by_cases hl : l = 1
    · rw [if_pos hl, if_pos hl, hl]; exact hrow i (hl ▸ h3)
    · rw [if_neg hl, if_neg hl]
      -- the cells of a split lie in the table of the `l - 1` rows before
      refine hcell _ _ i l (Nat.lt_of_le_of_ne h1 (Ne.symm hl)) h3 fun j hj => ?_
      obtain ⟨j1, j2, j3⟩ := split_of_index hj
      exact ⟨ih _ j1 _ i (Nat.succ_pos j) (Nat.le_sub_one_of_lt j1)
          (Nat.le_trans (Nat.add_le_add_left (Nat.le_of_lt j1) i) h3),
        ih _ j2 _ _ (Nat.sub_pos_of_lt j1) (Nat.le_sub_one_of_lt j2)
          (by rw [Nat.add_assoc, j3]; exact h3)⟩

end Rows

theorem cykTable_eq_rows (N : CFG) (w : List String) :
    cykTable N w = rows w.length (cykRow1 N w) (cykCell N) w.length := rfl

end CYKT

/-- the cell holds exactly the variables generating a piece of length `l` at position `i` -/
def Cell (N : CFG) (w : List String) (l i : Nat) (a : List String) : Prop :=
  ∀ x, x ∈ a ↔ ∃ u, C08.At w i u ∧ GenLen N l x u

theorem cell_row1 (N : CFG) (hN : N.isNormalForm = true) (w : List String) (i : Nat) :
    Cell N w 1 i (cykRow1 N w i) := by
  intro x
  simp only [genLen_one hN, mem_cykRow1]
  constructor
  · rintro ⟨t, ht, hp⟩
    exact ⟨[t], C08.at_singleton.2 ht, t, rfl, hp⟩
  · rintro ⟨_, hu, t, rfl, hp⟩
    exact ⟨t, C08.at_singleton.1 hu, hp⟩

theorem cell_step (N : CFG) (hN : N.isNormalForm = true) (w : List String)
    (f : Nat → Nat → List String) (i len : Nat) (hlen : 2 ≤ len)
    (ih : ∀ k, k < len - 1 → Cell N w (k + 1) i (f i (k + 1)) ∧
      Cell N w (len - (k + 1)) (i + (k + 1)) (f (i + (k + 1)) (len - (k + 1)))) :
    Cell N w len i (cykCell N f i len) := by
  intro x
  simp only [genLen_split hN hlen, mem_cykCell]
  constructor
  · rintro ⟨k, hk, b, c, hp, hb, hc⟩
    obtain ⟨u₁, a₁, g₁⟩ := ((ih k hk).1 b).1 hb
    obtain ⟨u₂, a₂, g₂⟩ := ((ih k hk).2 c).1 hc
    exact ⟨u₁ ++ u₂, C08.at_append a₁ (g₁.1 ▸ a₂), k, hk, b, c, hp, u₁, u₂, rfl, g₁, g₂⟩
  · rintro ⟨_, hu, k, hk, b, c, hp, u₁, u₂, rfl, g₁, g₂⟩
    obtain ⟨a₁, a₂⟩ := C08.at_split hu
    rw [g₁.1] at a₂
    exact ⟨k, hk, b, c, hp, ((ih k hk).1 b).2 ⟨u₁, a₁, g₁⟩, ((ih k hk).2 c).2 ⟨u₂, a₂, g₂⟩⟩

/-- every cell of the CYK table is right: row 1 by `genLen_one`, a longer piece by its splits into two
shorter ones (`genLen_split`), cut out of `w` by `at_split` and put back by `at_append` -/
theorem cykTable_cell (N : CFG) (hN : N.isNormalForm = true) (w : List String) :
    ∀ l i, 1 ≤ l → l ≤ w.length → i + l ≤ w.length → Cell N w l i (CYKT.look (cykTable N w) i l) :=
  CYKT.rows_rel w.length (cykRow1 N w) (cykCell N) (cykRow1 N w) (cykCell N)
    (fun l i a _ => Cell N w l i a) (fun i _ => cell_row1 N hN w i)
    (fun f _ i len hlen _ => cell_step N hN w f i len hlen) w.length

theorem cyk_iff_gen (N : CFG) (hN : N.isNormalForm = true) (w : List String) (hw : w ≠ []) :
    N.cyk w = true ↔ ∃ s, N.start = some s ∧ N.Gen (.var s) w := by
  have hlen : 0 < w.length := List.length_pos_iff.2 hw
  have key : ∀ s, s ∈ CYKT.look (cykTable N w) 0 w.length ↔ N.Gen (.var s) w := fun s =>
    (cykTable_cell N hN w w.length 0 hlen (Nat.le_refl _) (Nat.le_of_eq (Nat.zero_add _)) s).trans
      ⟨fun ⟨u, hu, hl, hg⟩ => C08.at_zero_full hu hl ▸ hg, fun hg => ⟨w, C08.at_full w, rfl, hg⟩⟩
  unfold CYKT.look at key
  unfold cyk
  cases hs : N.start with
  | none => simp
  | some s =>
    simp only [Option.some.injEq, exists_eq_left']
    split
    · rename_i hguard
      simp only [Bool.false_eq_true, false_iff]
      intro hg
      have := cnf_gen_letters N hN hg
      simp only [Bool.not_eq_true', List.all_eq_false] at hguard
      obtain ⟨t, ht, hno⟩ := hguard
      obtain ⟨p, hp, hp2⟩ := this t ht
      apply hno
      simp only [List.any_eq_true, decide_eq_true_eq]
      exact ⟨p, hp, hp2⟩
    · simp only [decide_eq_true_eq]
      exact key s

end CFG
end Pfl
