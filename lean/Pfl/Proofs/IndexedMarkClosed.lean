/-
C17 (library loop), completeness half: a pass that reports `was_modified = False` and does not stop
left the table unchanged, and the table is closed under the inferences of every rule of the pass (in
the sense of `Lem.ClosedR`: up to inclusion).  Each call says so of its own rule
(`ruleProcess_did`, read for the property that holds of every set).
-/
import Pfl.Proofs.IndexedMarkSound

namespace Pfl.IG.LibP
open Pfl.IG.Lib Pfl.IG.Lem

theorem ruleP_true (G : IG) (r : IRule) : RuleP (fun _ _ => True) G r := by
  cases r with
  | dup a b c => exact fun _ _ _ _ => trivial
  | prod a b f => exact ⟨fun _ _ _ _ _ => trivial, fun _ _ _ _ _ => trivial, fun _ => trivial⟩
  | end_ a t => trivial
  | cons f a b => trivial

theorem pass_clean {ord : List SetS → List SetS} (hord : OrdOK ord) (G : IG) (rs : List IRule) :
    ∀ (T : Table) (mod : Bool), (pass ord G rs T mod).2.1 = false →
      (pass ord G rs T mod).2.2 = false →
      mod = false ∧ (pass ord G rs T mod).1 = T ∧ ∀ r ∈ rs, RuleClosed G (Marked T) r := by
  intro T mod
  fun_induction pass ord G rs T mod with
  | case1 => exact fun hm _ => ⟨hm, rfl, fun _ h => absurd h List.not_mem_nil⟩
  | case2 => exact fun _ hs => nomatch hs
  | case3 r rs T mod res hc ih =>
    intro hm hs
    obtain ⟨h0, h3, h4⟩ := ih hm hs
    obtain ⟨hmod, hm1⟩ := Bool.or_eq_false_iff.mp h0
    obtain ⟨h1, h2⟩ := (ruleProcess_did hord G (ruleP_true G r) fun _ _ _ => trivial).clean
      ((Bool.or_eq_false_iff).mpr ⟨hm1, Bool.eq_false_iff.mpr hc⟩)
    have h1 : res.1 = T := congrArg Prod.fst h1
    rw [h1] at h4
    exact ⟨hmod, h3.trans h1, List.forall_mem_cons.mpr ⟨h2, h4⟩⟩

end Pfl.IG.LibP
