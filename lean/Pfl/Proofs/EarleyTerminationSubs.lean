/-
Termination of the Earley model (C18): the finite "pattern" of a state's feature record (sharing
of the symbol records, sharing of the leaves, values of the leaves): two records of rank 2 with
the same pattern subsume each other (`subsumesF_hom` on the relation `PatRel`).
-/
import Pfl.Proofs.EarleyCompleteOps
import Pfl.Proofs.EarleyLemmasBuild
import Mathlib.Data.List.Basic
import Mathlib.Data.Fintype.BigOperators
import Mathlib.Data.Fintype.Prod
namespace Pfl
namespace Earley
namespace Term
open FsDag Lem Cmp

/-- the class of the symbol record `lab j` -/
def slotOf (st : Store) (F j : Nat) : Option Nat := (byPath st F [lab j]).map (deref st)

/-- the class of the leaf below the symbol record `lab j` -/
def leafOf (st : Store) (F j : Nat) : Option Nat := (byPath st F [lab j, "n"]).map (deref st)

def valCode (vals : List String) : Option String → Nat
  | none => 0
  | some v => vals.idxOf v + 1

/-- `0`: no leaf; otherwise the code of the value of the leaf plus one -/
def leafCode (vals : List String) (st : Store) (F j : Nat) : Nat :=
  match leafOf st F j with
  | none => 0
  | some x => valCode vals (val st x) + 1

abbrev PatT (L m : Nat) := Fin (L + 1) → (Fin (L + 1) → Bool) × (Fin (L + 1) → Bool) × Fin (m + 3)

/-- the pattern: which symbol records coincide, which leaves coincide, the values of the leaves -/
noncomputable def pat (vals : List String) (L : Nat) (st : Store) (F : Nat) : PatT L vals.length :=
  fun i => (fun j => decide (∃ c, slotOf st F i = some c ∧ slotOf st F j = some c),
            fun j => decide (∃ x, leafOf st F i = some x ∧ leafOf st F j = some x),
            ⟨leafCode vals st F i % (vals.length + 3), Nat.mod_lt _ (by omega)⟩)

theorem card_patT (L m : Nat) :
    Fintype.card (PatT L m) = (2 ^ (L + 1) * (2 ^ (L + 1) * (m + 3))) ^ (L + 1) := by
  simp [PatT, Fintype.card_prod]

/-- the features of the record are among `head`, `0`, …, `L - 1` -/
def RootLab (st : Store) (F L : Nat) : Prop :=
  ∀ g x, (g, x) ∈ cont st (deref st F) → ∃ j, j ≤ L ∧ g = lab j

theorem valCode_le (vals : List String) (o : Option String) : valCode vals o ≤ vals.length + 1 := by
  cases o with
  | none => exact Nat.zero_le _
  | some v => exact Nat.succ_le_succ List.idxOf_le_length

theorem leafCode_lt (vals : List String) (st : Store) (F j : Nat) :
    leafCode vals st F j < vals.length + 3 := by
  unfold leafCode
  cases leafOf st F j with
  | none => exact Nat.succ_pos _
  | some x => exact Nat.succ_lt_succ (Nat.lt_succ_of_le (valCode_le vals _))

/-- what equality of patterns means; the proofs use `pat` through this only -/
theorem pat_eq_iff {vals : List String} {L : Nat} {st st' : Store} {a b : Nat} :
    pat vals L st a = pat vals L st' b ↔ ∀ i, i ≤ L →
      (∀ j, j ≤ L →
        ((∃ c, slotOf st a i = some c ∧ slotOf st a j = some c) ↔
          (∃ c, slotOf st' b i = some c ∧ slotOf st' b j = some c)) ∧
        ((∃ x, leafOf st a i = some x ∧ leafOf st a j = some x) ↔
          (∃ x, leafOf st' b i = some x ∧ leafOf st' b j = some x))) ∧
      leafCode vals st a i = leafCode vals st' b i := by
  constructor
  · intro h i hi
    have h1 := congrFun h ⟨i, Nat.lt_succ_of_le hi⟩
    simp only [pat, Prod.mk.injEq, Fin.mk.injEq] at h1
    obtain ⟨hs, hl, hc⟩ := h1
    rw [Nat.mod_eq_of_lt (leafCode_lt ..), Nat.mod_eq_of_lt (leafCode_lt ..)] at hc
    refine ⟨fun j hj => ⟨?_, ?_⟩, hc⟩
    · exact decide_eq_decide.1 (congrFun hs ⟨j, Nat.lt_succ_of_le hj⟩)
    · exact decide_eq_decide.1 (congrFun hl ⟨j, Nat.lt_succ_of_le hj⟩)
  · intro h
    funext i
    obtain ⟨hsl, hc⟩ := h i (Nat.le_of_lt_succ i.isLt)
    simp only [pat, Prod.mk.injEq, Fin.mk.injEq]
    refine ⟨funext fun j => ?_, funext fun j => ?_, by rw [hc]⟩
    · exact decide_eq_decide.2 (hsl j (Nat.le_of_lt_succ j.isLt)).1
    · exact decide_eq_decide.2 (hsl j (Nat.le_of_lt_succ j.isLt)).2

attribute [irreducible] pat

theorem valCode_inj {vals : List String} {o o' : Option String}
    (ho : ∀ v, o = some v → v ∈ vals) (h : valCode vals o = valCode vals o') : o = o' := by
  cases o with
  | none =>
    cases o' with
    | none => rfl
    | some v' => simp [valCode] at h
  | some v =>
    cases o' with
    | none => simp [valCode] at h
    | some v' =>
      simp only [valCode, Nat.add_right_cancel_iff] at h
      rw [(List.idxOf_inj (ho v rfl)).1 h]

theorem slotOf_some {st : Store} {F j u : Nat} (h : slotOf st F j = some u) :
    ∃ c, lookupC (lab j) (cont st (deref st F)) = some c ∧ deref st c = u := by
  unfold slotOf at h
  rw [byPath_one] at h
  simpa using h

theorem leafOf_some {st : Store} {F j u : Nat} (h : leafOf st F j = some u) :
    ∃ c x, lookupC (lab j) (cont st (deref st F)) = some c ∧
      lookupC "n" (cont st (deref st c)) = some x ∧ deref st x = u := by
  unfold leafOf at h
  rw [byPath_two] at h
  simp only [Option.map_eq_some_iff, Option.bind_eq_some_iff] at h
  obtain ⟨x, ⟨c, hc, hx⟩, hu⟩ := h
  exact ⟨c, x, hc, hx, hu⟩

theorem slotOf_of {st : Store} {F j c : Nat} (h : lookupC (lab j) (cont st (deref st F)) = some c) :
    slotOf st F j = some (deref st c) := by
  unfold slotOf; rw [byPath_one, h]; rfl

theorem leafOf_of {st : Store} {F j c x : Nat} (h : lookupC (lab j) (cont st (deref st F)) = some c)
    (hx : lookupC "n" (cont st (deref st c)) = some x) : leafOf st F j = some (deref st x) := by
  unfold leafOf; rw [byPath_two, h]; simp [hx]

theorem rk_slotOf {st : Store} {rk : Nat → Nat} (hI : InvR st rk) {F j u : Nat} (hF : rk F = 2)
    (h : slotOf st F j = some u) : rk u = 1 := by
  obtain ⟨c, hc, hu⟩ := slotOf_some h
  rw [← hu, rkR_deref hI]
  exact Nat.succ.inj ((rk_lookup hI hc).trans hF)

theorem rk_leafOf {st : Store} {rk : Nat → Nat} (hI : InvR st rk) {F j u : Nat} (hF : rk F = 2)
    (h : leafOf st F j = some u) : rk u = 0 := by
  obtain ⟨c, x, hc, hx, hu⟩ := leafOf_some h
  have hc1 : rk c = 1 := Nat.succ.inj ((rk_lookup hI hc).trans hF)
  rw [← hu, rkR_deref hI]
  exact Nat.succ.inj ((rk_lookup hI hx).trans hc1)

theorem val_none_of_rk {st : Store} {rk : Nat → Nat} (hI : InvR st rk) {u : Nat} (h : rk u ≠ 0) :
    val st u = none := by
  cases hv : val st u with
  | none => rfl
  | some v => exact absurd (hI.rkv u v hv) h

/-- the simulation of a record `a` of rank 2 by a record `b` with the same pattern, by the rank of
the left object: leaves under the same label, symbol records under the same label, the roots -/
def PatRel (st : Store) (L a b : Nat) : Nat → Nat → Nat → Prop
  | 0, u, v => ∃ i, i ≤ L ∧ leafOf st a i = some u ∧ leafOf st b i = some v
  | 1, u, v => ∃ i, i ≤ L ∧ slotOf st a i = some u ∧ slotOf st b i = some v
  | _ + 2, u, v => u = deref st a ∧ v = deref st b

theorem len2_of_child {st : Store} {rk : Nat → Nat} (hw : WFS st rk) {F r : Nat} {g : String}
    (hF : F < st.length) (h : byPath st F [g] = some r) : 2 ≤ st.length := by
  have h1 := byPath_lt hw.rng _ _ _ hF h
  have hne : r ≠ F := fun e => Nat.succ_ne_self _ (e ▸ rk_child hw h)
  rcases Nat.lt_or_gt_of_ne hne with hlt | hlt
  · exact (Nat.le_add_left 2 r).trans (Nat.lt_of_le_of_lt hlt hF)
  · exact (Nat.le_add_left 2 F).trans (Nat.lt_of_le_of_lt hlt h1)

theorem subsumes_of_pat {vals : List String} {L : Nat} {st : Store} {rk : Nat → Nat}
    (hw : WFS st rk) (hkf : KF st) (hn : AllN st rk)
    (hap : AP (· ∈ vals) st) (hlen : 2 ≤ st.length)
    {a b : Nat} (hra : rk a = 2) (hrb : rk b = 2) (hla : RootLab st a L)
    (hp : pat vals L st a = pat vals L st b) : subsumes st a b = true := by
  have hI := hw.inv
  have hP := pat_eq_iff.1 hp
  -- by the rank of `u`: the relation is functional (labels that lead to the same leaf or symbol record
  -- of `a` do so in `b`), keeps the value, and follows the features
  have key : ∀ u v, PatRel st L a b (rk u) u v →
      (∀ v', PatRel st L a b (rk u) u v' → v = v') ∧ val st u = val st v ∧
      ∀ g x, (g, x) ∈ cont st u → ∃ y, lookupC g (cont st v) = some y ∧
        PatRel st L a b (rk (deref st x)) (deref st x) (deref st y) := by
    intro u v
    generalize hk : rk u = k
    rcases k with _ | _ | n
    · rintro ⟨i, hi, ha1, hb1⟩
      refine ⟨?_, ?_, fun g x hx => ?_⟩
      · rintro v' ⟨i', hi', ha2, hb2⟩
        obtain ⟨c, hc1, hc2⟩ := ((hP i hi).1 i' hi').2.1 ⟨u, ha1, ha2⟩
        rw [hb1] at hc1; rw [hb2] at hc2
        rw [Option.some.inj hc1, Option.some.inj hc2]
      · have hc := (hP i hi).2
        unfold leafCode at hc
        rw [ha1, hb1] at hc
        exact valCode_inj (fun w hw' => hap u w hw') (Nat.succ.inj hc)
      · rw [cont_nil_of_rkR_zero hI hk] at hx
        cases hx
    · rintro ⟨i, hi, ha1, hb1⟩
      refine ⟨?_, ?_, fun g x hx => ?_⟩
      · rintro v' ⟨i', hi', ha2, hb2⟩
        obtain ⟨c, hc1, hc2⟩ := ((hP i hi).1 i' hi').1.1 ⟨u, ha1, ha2⟩
        rw [hb1] at hc1; rw [hb2] at hc2
        rw [Option.some.inj hc1, Option.some.inj hc2]
      · rw [val_none_of_rk hI (by rw [hk]; decide), val_none_of_rk hI (by rw [rk_slotOf hI hrb hb1]; decide)]
      · obtain ⟨ca, hca, hcu⟩ := slotOf_some ha1
        obtain ⟨cb', hcb, hcv⟩ := slotOf_some hb1
        obtain rfl : g = "n" := hn u g x hk hx
        have hl := hkf _ _ _ hx
        rw [← hcu] at hl
        have hla' := leafOf_of hca hl
        obtain ⟨c, hc1, _⟩ := ((hP i hi).1 i hi).2.1 ⟨_, hla', hla'⟩
        obtain ⟨c2, y, hc2, hy, hyc⟩ := leafOf_some hc1
        obtain rfl := Option.some.inj (hcb.symm.trans hc2)
        refine ⟨y, by rw [← hcv]; exact hy, ?_⟩
        rw [rk_leafOf hI hra hla']
        exact ⟨i, hi, hla', by rw [hc1, hyc]⟩
    · rintro ⟨rfl, rfl⟩
      refine ⟨?_, ?_, fun g x hx => ?_⟩
      · rintro v' ⟨_, hv'⟩
        rw [hv']
      · rw [val_none_of_rk hI (by rw [hk]; exact Nat.succ_ne_zero _),
          val_none_of_rk hI (by rw [rkR_deref hI, hrb]; decide)]
      · obtain ⟨j, hj, rfl⟩ := hla g x hx
        have hsa := slotOf_of (hkf _ _ _ hx)
        obtain ⟨c, hc1, _⟩ := ((hP j hj).1 j hj).1.1 ⟨_, hsa, hsa⟩
        obtain ⟨y, hy, hyc⟩ := slotOf_some hc1
        refine ⟨y, hy, ?_⟩
        rw [rk_slotOf hI hra hsa]
        exact ⟨j, hj, hsa, by rw [hc1, hyc]⟩
  obtain ⟨seen', hs, _⟩ := subsumesF_hom hI (fun u v => PatRel st L a b (rk u) u v)
    (fun u v v' h h' => (key u v h).1 v' h') (fun u v h => (key u v h).2.1)
    (fun u v h => (key u v h).2.2) (st.length + 1) [] a b
    (by show PatRel st L a b (rk (deref st a)) _ _; rw [rkR_deref hI, hra]; exact ⟨rfl, rfl⟩)
    (by simp) (by omega)
  unfold subsumes
  rw [hs]

theorem slotOf_fr {st st' : Store} (hf : Fr st st') (ha : Acyc st) (hr : Rng st) {F : Nat}
    (hF : F < st.length) (j : Nat) : slotOf st' F j = slotOf st F j :=
  derefPath_fr hf ha hr hF _

theorem leafOf_fr {st st' : Store} (hf : Fr st st') (ha : Acyc st) (hr : Rng st) {F : Nat}
    (hF : F < st.length) (j : Nat) : leafOf st' F j = leafOf st F j :=
  derefPath_fr hf ha hr hF _

theorem pat_fr {vals : List String} {L : Nat} {st st' : Store} (hf : Fr st st') (ha : Acyc st)
    (hr : Rng st) {F : Nat} (hF : F < st.length) : pat vals L st' F = pat vals L st F := by
  refine pat_eq_iff.2 fun i _ => ⟨fun j _ => ?_, ?_⟩
  · simp only [slotOf_fr hf ha hr hF, leafOf_fr hf ha hr hF, and_self]
  · unfold leafCode
    rw [leafOf_fr hf ha hr hF]
    cases hl : leafOf st F i with
    | none => rfl
    | some x =>
      simp only
      rw [val, hf.old x (derefPath_lt hr hF hl)]

theorem rootLab_fr {st st' : Store} (hf : Fr st st') (ha : Acyc st) (hr : Rng st) {F L : Nat}
    (hF : F < st.length) (h : RootLab st F L) : RootLab st' F L := by
  intro g x hx
  rw [hf.deref_eq ha hr hF, cont, hf.old _ (deref_lt hr hF)] at hx
  exact h g x hx

theorem rootLab_copy {st : Store} {F : Nat} {st1 : Store} {F' : Nat} {κ : Nat → Nat}
    {dom : Nat → Prop} {π : Nat → Nat} (hc : CopySpec st F st1 F' κ dom π) (hr : Rng st)
    (ha : Acyc st) {L : Nat} (h : RootLab st F L) : RootLab st1 F' L := by
  intro g x hx
  obtain ⟨hd, hdd⟩ := hc.deref_κ hr ha F hc.domF
  rw [hc.κF] at hd
  rw [hd, cont, hc.node _ hdd] at hx
  obtain ⟨e, hem, he⟩ := List.mem_map.1 hx
  rw [← (Prod.mk.inj he).1]
  exact h e.1 e.2 hem

theorem ext_root {st st' : Store} {rk rk' : Nat → Nat} {r : Nat} (he : Ext st rk st' rk' r)
    (hw : WFS st rk) {F : Nat} (hF : F < st.length) (hrk : r < rk F) :
    deref st' F = deref st F ∧ cont st' (deref st F) = cont st (deref st F) :=
  ⟨he.deref_high hw.rng hw.inv.toC hF hrk,
    by rw [cont, he.frame _ (deref_lt hw.rng hF) (by rw [rkR_deref hw.inv]; exact hrk)]⟩

theorem rootLab_ext {st st' : Store} {rk rk' : Nat → Nat} {r : Nat} (he : Ext st rk st' rk' r)
    (hw : WFS st rk) {F L : Nat} (hF : F < st.length) (hrk : r < rk F) (h : RootLab st F L) :
    RootLab st' F L := by
  intro g x hx
  rw [(ext_root he hw hF hrk).1, (ext_root he hw hF hrk).2] at hx
  exact h g x hx

end Term
end Earley
end Pfl
