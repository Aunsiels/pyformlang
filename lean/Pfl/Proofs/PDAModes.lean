/-
The proofs of C13_Modes (`Pfl/Props/C13_Modes.lean` only restates the results).
`Above P Q ns ne nb s z C`: `Q` is a copy of `P` run above a fresh bottom symbol, entered by one start
move and left by moves that pop one symbol into the state `ne`; `Above.reach` says what `Q` reaches
from its start.  `toFinalState` and `toEmptyStack` are the two instances, and their four language
inclusions are read off it.  For `ofCFG`, parse trees and runs (`Pops`) correspond.
-/
import Pfl.Proofs.PDARuns
import Pfl.Proofs.FreshName
import Pfl.Proofs.CFGClean
namespace Pfl
namespace PDA

namespace Modes

theorem nextFree_fresh (pre : String) (used : List String) : nextFree pre used ∉ used := by
  unfold nextFree
  split
  · assumption
  · obtain ⟨x, hx, hn⟩ :=
      find_fresh (fun i => pre ++ toString i) (fun _ _ => Fresh.suffix_inj pre) used
    simp only [List.find?_map, Option.map_eq_some_iff, Function.comp_def] at hx
    obtain ⟨i, hi, rfl⟩ := hx
    rw [hi]
    exact hn

theorem nextFree_prefix (pre : String) (used : List String) :
    ∃ s, nextFree pre used = pre ++ s := by
  unfold nextFree
  split
  · exact ⟨"", by simp⟩
  · split
    · exact ⟨_, rfl⟩
    · exact ⟨"", by simp⟩

theorem nextFree_ne {pre pre' : String} {c c' : Char} {r r' : List Char}
    (hp : pre = String.ofList ('#' :: c :: r)) (hp' : pre' = String.ofList ('#' :: c' :: r'))
    (hc : c ≠ c') (u u' : List String) : nextFree pre u ≠ nextFree pre' u' := by
  obtain ⟨s, hs⟩ := nextFree_prefix pre u
  obtain ⟨s', hs'⟩ := nextFree_prefix pre' u'
  intro h
  have := congrArg String.toList h
  rw [hs, hs', hp, hp', String.toList_append, String.toList_append, String.toList_ofList,
    String.toList_ofList] at this
  exact hc (List.cons.inj (List.cons.inj this).2).1

section General
variable {σ γ : Type}

theorem Steps.single {P : PDA σ γ} {a b : Config σ γ} (h : P.Step a b) : P.Steps a b :=
  PDA.Steps.single h

theorem mem_mk'_delta [DecidableEq σ] [DecidableEq γ] (states : List σ) (inputs : List String)
    (stack : List γ) (start : Option σ) (startStack : Option γ) (finals : List σ)
    (delta : List (σ × Option String × γ × σ × List γ)) (t : σ × Option String × γ × σ × List γ) :
    t ∈ (mk' states inputs stack start startStack finals delta).delta ↔ t ∈ delta := by
  simp only [mk', List.mem_eraseDups]

/-- `Q` runs `P` above a fresh bottom symbol `nb`: a start move out of the fresh state `ns` installs
`[z, nb]` in `P`'s start state, `P`'s own moves are kept, and every other move pops one symbol without
reading and leads into the fresh state `ne`; `C q x` says from which states and on which symbols -/
structure Above (P Q : PDA σ γ) (ns ne : σ) (nb : γ) (s : σ) (z : γ) (C : σ → γ → Prop) : Prop where
  wf : P.WF
  ns_fresh : ns ∉ P.states
  ne_fresh : ne ∉ P.states
  ns_ne : ns ≠ ne
  nb_fresh : nb ∉ P.stack
  start_mem : s ∈ P.states
  z_mem : z ∈ P.stack
  delta : ∀ t, t ∈ Q.delta ↔ t ∈ P.delta ∨ t = (ns, none, nb, s, [z, nb]) ∨
    ∃ q x, C q x ∧ t = (q, none, x, ne, [])
  exit_src : ∀ q x, C q x → q ∈ P.states ∨ q = ne

namespace Above
variable {P Q : PDA σ γ} {ns ne : σ} {nb : γ} {s : σ} {z : γ} {C : σ → γ → Prop}

theorem lift (h : Above P Q ns ne nb s z C) {w u : List String} {q : σ} {α : List γ}
    (hrun : P.Steps (s, w, [z]) (q, u, α)) : Q.Steps (ns, w, [nb]) (q, u, α ++ [nb]) :=
  .head (Step.of_mem (a := none) ((h.delta _).2 (.inr (.inl rfl))) w [])
    (Steps.above [nb] (hrun.mono fun t ht => (h.delta t).2 (.inl ht)))

theorem mem (h : Above P Q ns ne nb s z C) {w u : List String} {q : σ} {α : List γ}
    (hrun : P.Steps (s, w, [z]) (q, u, α)) : q ∈ P.states ∧ ∀ x ∈ α, x ∈ P.stack :=
  wf_steps h.wf hrun ⟨h.start_mem, by simpa using h.z_mem⟩

theorem exit (h : Above P Q ns ne nb s z C) {q : σ} {x : γ} (hc : C q x) (u : List String)
    (β : List γ) : Q.Step (q, u, x :: β) (ne, u, β) :=
  Step.eps (push := []) ((h.delta _).2 (.inr (.inr ⟨q, x, hc, rfl⟩)))

theorem drain (h : Above P Q ns ne nb s z C) (u : List String) :
    ∀ β : List γ, (∀ x ∈ β, C ne x) → Q.Steps (ne, u, β) (ne, u, [])
  | [], _ => .refl _
  | x :: β, hβ => .head (h.exit (hβ x List.mem_cons_self) u β)
      (drain h u β fun y hy => hβ y (List.mem_cons_of_mem _ hy))

/-- What `Q` reaches from its start: the start itself, a configuration of `P` above `nb`, or, once `P`
was left from such a configuration, the state `ne` with the input as it was then.  In each of the three
situations only one kind of move applies: the start move, a move of `P` or an exit, an exit out of `ne`. -/
theorem reach (h : Above P Q ns ne nb s z C) {w : List String} :
    ∀ c' : Config σ γ, Q.Steps (ns, w, [nb]) c' →
      c' = (ns, w, [nb]) ∨ ∃ q u α, P.Steps (s, w, [z]) (q, u, α) ∧
        (c' = (q, u, α ++ [nb]) ∨ c'.1 = ne ∧ c'.2.1 = u ∧ ∃ x β, C q x ∧ α ++ [nb] = x :: β) := by
  refine steps_inv (fun c c' hI hst => ?_) (.inl rfl)
  obtain ⟨t, ht, hby⟩ := step_iff.1 hst
  right
  rcases hI with rfl | ⟨q, u, α, hrun, rfl | ⟨h1, h2, hx⟩⟩
  · obtain ⟨β, u', h2, rfl⟩ := hby
    rcases (h.delta t).1 ht with ht | rfl | ⟨q, x, hc, rfl⟩
    · exact absurd ((Prod.mk.inj h2).1 ▸ h.wf.src t ht) h.ns_fresh
    · simp only [Prod.mk.injEq, Option.toList_none, List.nil_append, List.cons.injEq,
        true_and] at h2
      obtain ⟨rfl, rfl⟩ := h2
      exact ⟨s, w, [z], .refl _, .inl rfl⟩
    · cases (Prod.mk.inj h2).1
      exact ((h.exit_src _ x hc).elim h.ns_fresh h.ns_ne).elim
  · rcases (h.delta t).1 ht with ht | rfl | ⟨q', x, hc, rfl⟩
    · obtain ⟨q', u', α', rfl, hby'⟩ := hby.above (ne_of_mem_of_not_mem (h.wf.pop t ht) h.nb_fresh)
      exact ⟨q', u', α', hrun.tail (step_iff.2 ⟨t, ht, hby'⟩), .inl rfl⟩
    · obtain ⟨β, u', h1, -⟩ := hby
      have e : q = ns := (Prod.mk.inj h1).1
      exact absurd (e ▸ (h.mem hrun).1) h.ns_fresh
    · obtain ⟨β, u', h1, rfl⟩ := hby
      simp only [Prod.mk.injEq, Option.toList_none, List.nil_append] at h1
      obtain ⟨rfl, rfl, h3⟩ := h1
      exact ⟨q, u, α, hrun, .inr ⟨rfl, rfl, x, β, hc, h3⟩⟩
  · obtain ⟨β', u', rfl, rfl⟩ := hby
    have h1 : t.1 = ne := h1
    rcases (h.delta t).1 ht with ht | rfl | ⟨q', x', -, rfl⟩
    · exact absurd (h1 ▸ h.wf.src t ht) h.ne_fresh
    · exact absurd h1 h.ns_ne
    · exact ⟨q, u, α, hrun, .inr ⟨rfl, h2, hx⟩⟩

end Above

end General

section FinalState
variable (P : PDA String String)

def fsNs : String := nextFree "#STARTTOFINAL#" P.states
def fsNe : String := nextFree "#ENDTOFINAL#" P.states
def fsNb : String := nextFree "#BOTTOMTOFINAL#" P.stack

theorem fsNs_fresh : fsNs P ∉ P.states := nextFree_fresh _ _
theorem fsNe_fresh : fsNe P ∉ P.states := nextFree_fresh _ _
theorem fsNb_fresh : fsNb P ∉ P.stack := nextFree_fresh _ _
theorem fsNs_ne : fsNs P ≠ fsNe P := nextFree_ne (c := 'S') (c' := 'E') rfl rfl (by decide) _ _

variable {P}

theorem toFinalState_eq {s z : String} (hs : P.start = some s) (hz : P.startStack = some z) :
    P.toFinalState = mk' (P.states ++ [fsNs P, fsNe P]) P.inputs (P.stack ++ [fsNb P])
      (some (fsNs P)) (some (fsNb P)) [fsNe P]
      (P.delta ++ [(fsNs P, none, fsNb P, s, [z, fsNb P])] ++
        P.states.map fun q => (q, none, fsNb P, fsNe P, [])) := by
  unfold toFinalState
  simp only [hs, hz]
  rfl

theorem toFinalState_start {s0 : String} (h : P.toFinalState.start = some s0) :
    ∃ s z, P.start = some s ∧ P.startStack = some z := by
  unfold toFinalState at h
  split at h
  · exact ⟨_, _, ‹_›, ‹_›⟩
  · cases h

theorem fs_above (hP : P.WF) {s z : String} (hs : P.start = some s) (hz : P.startStack = some z) :
    Above P P.toFinalState (fsNs P) (fsNe P) (fsNb P) s z fun q x => q ∈ P.states ∧ x = fsNb P where
  wf := hP
  ns_fresh := fsNs_fresh P
  ne_fresh := fsNe_fresh P
  ns_ne := fsNs_ne P
  nb_fresh := fsNb_fresh P
  start_mem := hP.start s hs
  z_mem := hP.startStack z hz
  delta t := by
    rw [toFinalState_eq hs hz, mem_mk'_delta]
    simp only [List.mem_append, List.mem_singleton, List.mem_map, or_assoc, eq_comm (a := t),
      and_assoc, exists_and_left, exists_eq_left]
  exit_src _ _ h := .inl h.1

theorem toFinalState_sound (hP : P.WF) {w : List String} (h : P.toFinalState.AccFinal w) :
    P.AccEmpty w := by
  obtain ⟨s0, z0, f, β, hs0, hz0, hf, hrun⟩ := h
  obtain ⟨s, z, hs, hz⟩ := toFinalState_start hs0
  rw [toFinalState_eq hs hz] at hs0 hz0 hf
  simp only [mk', Option.some.injEq] at hs0 hz0
  subst hs0 hz0
  have hf : f = fsNe P := by simpa [mk'] using hf
  subst hf
  have A := fs_above hP hs hz
  rcases A.reach _ hrun with h0 | ⟨q, u, α, hr, h1 | ⟨-, rfl, x, β', ⟨-, rfl⟩, hx⟩⟩
  · exact absurd (Prod.mk.inj h0).1.symm (fsNs_ne P)
  · exact absurd ((Prod.mk.inj h1).1 ▸ (A.mem hr).1) (fsNe_fresh P)
  · -- the exit pops the bottom symbol, so `P` had emptied its stack
    cases α with
    | cons y α0 =>
      exact absurd ((List.cons.inj hx).1 ▸ (A.mem hr).2 y List.mem_cons_self) (fsNb_fresh P)
    | nil => exact ⟨s, z, q, hs, hz, hr⟩

theorem toFinalState_complete (hP : P.WF) {w : List String} (h : P.AccEmpty w) :
    P.toFinalState.AccFinal w := by
  obtain ⟨s, z, q, hs, hz, hrun⟩ := h
  have A := fs_above hP hs hz
  refine ⟨fsNs P, fsNb P, fsNe P, [], ?_, ?_, ?_,
    (A.lift hrun).tail (A.exit ⟨(A.mem hrun).1, rfl⟩ [] [])⟩
  · rw [toFinalState_eq hs hz]; rfl
  · rw [toFinalState_eq hs hz]; rfl
  · rw [toFinalState_eq hs hz]; simp [mk']

end FinalState

section EmptyStack
variable (P : PDA String String)

def esNs : String := nextFree "#STARTEMPTYS#" P.states
def esNe : String := nextFree "#ENDEMPTYS#" P.states
def esNb : String := nextFree "#BOTTOMEMPTYS#" P.stack
def esAlph : List String := (P.stack ++ [esNb P]).eraseDups

theorem esNs_fresh : esNs P ∉ P.states := nextFree_fresh _ _
theorem esNe_fresh : esNe P ∉ P.states := nextFree_fresh _ _
theorem esNb_fresh : esNb P ∉ P.stack := nextFree_fresh _ _
theorem esNs_ne : esNs P ≠ esNe P := nextFree_ne (c := 'S') (c' := 'E') rfl rfl (by decide) _ _

theorem mem_esAlph (x : String) : x ∈ esAlph P ↔ x ∈ P.stack ∨ x = esNb P := by
  simp only [esAlph, List.mem_eraseDups, List.mem_append, List.mem_singleton]

variable {P}

theorem toEmptyStack_eq {s z : String} (hs : P.start = some s) (hz : P.startStack = some z) :
    P.toEmptyStack = mk' (P.states ++ [esNs P, esNe P]) P.inputs (esAlph P)
      (some (esNs P)) (some (esNb P)) []
      (P.delta ++ [(esNs P, none, esNb P, s, [z, esNb P])] ++
        (P.finals.flatMap fun f => (esAlph P).map fun x => (f, none, x, esNe P, [])) ++
        (esAlph P).map fun x => (esNe P, none, x, esNe P, [])) := by
  unfold toEmptyStack
  simp only [hs, hz]
  rfl

theorem toEmptyStack_start {s0 : String} (h : P.toEmptyStack.start = some s0) :
    ∃ s z, P.start = some s ∧ P.startStack = some z := by
  unfold toEmptyStack at h
  split at h
  · exact ⟨_, _, ‹_›, ‹_›⟩
  · cases h

theorem es_above (hP : P.WF) {s z : String} (hs : P.start = some s) (hz : P.startStack = some z) :
    Above P P.toEmptyStack (esNs P) (esNe P) (esNb P) s z
      fun q x => (q ∈ P.finals ∨ q = esNe P) ∧ x ∈ esAlph P where
  wf := hP
  ns_fresh := esNs_fresh P
  ne_fresh := esNe_fresh P
  ns_ne := esNs_ne P
  nb_fresh := esNb_fresh P
  start_mem := hP.start s hs
  z_mem := hP.startStack z hz
  delta t := by
    rw [toEmptyStack_eq hs hz, mem_mk'_delta]
    simp only [List.mem_append, List.mem_singleton, List.mem_map, List.mem_flatMap, or_assoc,
      eq_comm (a := t), or_and_right, exists_or, and_assoc, exists_and_left, exists_eq_left]
  exit_src _ _ h := h.1.imp (hP.finals _) id

theorem toEmptyStack_sound (hP : P.WF) {w : List String} (h : P.toEmptyStack.AccEmpty w) :
    P.AccFinal w := by
  obtain ⟨s0, z0, qe, hs0, hz0, hrun⟩ := h
  obtain ⟨s, z, hs, hz⟩ := toEmptyStack_start hs0
  rw [toEmptyStack_eq hs hz] at hs0 hz0
  simp only [mk', Option.some.injEq] at hs0 hz0
  subst hs0 hz0
  have A := es_above hP hs hz
  rcases A.reach _ hrun with h0 | ⟨q, u, α, hr, h1 | ⟨-, rfl, x, β', ⟨hf | rfl, -⟩, -⟩⟩
  · exact absurd (Prod.mk.inj (Prod.mk.inj h0).2).2 (List.cons_ne_nil _ _).symm
  · exact absurd (Prod.mk.inj (Prod.mk.inj h1).2).2.symm (by simp)
  · -- `P` was left from a final state, with the input already consumed
    exact ⟨s, z, q, α, hs, hz, hf, hr⟩
  · exact absurd (A.mem hr).1 (esNe_fresh P)

theorem toEmptyStack_complete (hP : P.WF) {w : List String} (h : P.AccFinal w) :
    P.toEmptyStack.AccEmpty w := by
  obtain ⟨s, z, f, β, hs, hz, hf, hrun⟩ := h
  have A := es_above hP hs hz
  have hall : ∀ x ∈ β ++ [esNb P], x ∈ esAlph P := by
    intro x hx
    rw [mem_esAlph]
    simp only [List.mem_append, List.mem_singleton] at hx
    exact hx.imp ((A.mem hrun).2 x) id
  have h2 := A.lift hrun
  obtain ⟨x, rest, hxr⟩ : ∃ x rest, β ++ [esNb P] = x :: rest := by
    cases β <;> exact ⟨_, _, rfl⟩
  rw [hxr] at h2 hall
  refine ⟨esNs P, esNb P, esNe P, ?_, ?_, (h2.tail
    (A.exit ⟨.inl hf, hall x List.mem_cons_self⟩ [] rest)).trans
    (A.drain [] rest fun y hy => ⟨.inr rfl, hall y (List.mem_cons_of_mem _ hy)⟩)⟩
  · rw [toEmptyStack_eq hs hz]; rfl
  · rw [toEmptyStack_eq hs hz]; rfl

end EmptyStack

section OfCFG
open CFG

/-- the stack symbol of a grammar symbol -/
def ss : Sym → String
  | .var v => v
  | .ter t => "#TERM#" ++ t

def SymOK (G : CFG) : Sym → Prop
  | .var v => v ∈ G.vars
  | .ter t => t ∈ G.ters

theorem ofCFG_eq (G : CFG) : ofCFG G =
    mk' ["q"] G.ters ((G.ters.map fun t => "#TERM#" ++ t) ++ G.vars) (some "q") G.start []
      ((G.prods.map fun p => ("q", none, p.1, "q", p.2.map ss)) ++
        G.ters.map fun t => ("q", some t, "#TERM#" ++ t, "q", [])) := by
  rfl

theorem ofCFG_delta (G : CFG) (t : String × Option String × String × String × List String) :
    t ∈ (ofCFG G).delta ↔ (∃ p ∈ G.prods, t = ("q", none, p.1, "q", p.2.map ss)) ∨
      ∃ a ∈ G.ters, t = ("q", some a, "#TERM#" ++ a, "q", []) := by
  rw [ofCFG_eq, mem_mk'_delta]
  simp only [List.mem_append, List.mem_map, eq_comm (a := t)]

theorem body_ok {G : CFG} (hG : G.WF) {h : String} {body : List Sym} (hp : (h, body) ∈ G.prods) :
    ∀ s ∈ body, SymOK G s := by
  intro s hs
  cases s with
  | var v => exact hG.var_mem _ hp v hs
  | ter t => exact hG.ter_mem _ hp t hs

theorem gen_genList_steps {G : CFG} (hG : G.WF) :
    (∀ s w, G.Gen s w → SymOK G s → ∀ (v : List String) (β : List String),
      (ofCFG G).Steps ("q", w ++ v, ss s :: β) ("q", v, β)) ∧
    (∀ u w, G.GenList u w → (∀ s ∈ u, SymOK G s) → ∀ (v : List String) (β : List String),
      (ofCFG G).Steps ("q", w ++ v, u.map ss ++ β) ("q", v, β)) := by
  apply Clean.gen_ind
  · intro t hok v β
    exact .single (Step.read (β := β) ((ofCFG_delta G _).2 (.inr ⟨t, hok, rfl⟩)))
  · intro h body w hp _ ih _ v β
    exact .head (Step.eps ((ofCFG_delta G _).2 (.inl ⟨(h, body), hp, rfl⟩)))
      (ih (body_ok hG hp) v β)
  · exact fun _ v β => .refl _
  · intro s u w₁ w₂ _ _ ih₁ ih₂ hok v β
    have h1 := ih₁ (hok s List.mem_cons_self) (w₂ ++ v) (u.map ss ++ β)
    have h2 := ih₂ (fun y hy => hok y (List.mem_cons_of_mem _ hy)) v β
    rw [List.append_assoc]
    exact h1.trans h2

theorem genList_steps {G : CFG} (hG : G.WF) : ∀ {u : List Sym} {w : List String}, G.GenList u w →
    (∀ s ∈ u, SymOK G s) → ∀ (v : List String) (β : List String),
      (ofCFG G).Steps ("q", w ++ v, u.map ss ++ β) ("q", v, β) :=
  fun h => (gen_genList_steps hG).2 _ _ h

theorem ss_inj {G : CFG} (hfresh : ∀ t ∈ G.ters, ("#TERM#" ++ t) ∉ G.vars) {s s' : Sym}
    (hs : SymOK G s) (hs' : SymOK G s') (h : ss s = ss s') : s = s' := by
  cases s with
  | var v =>
    cases s' with
    | var v' => exact congrArg Sym.var h
    | ter t' => exact absurd ((show v = "#TERM#" ++ t' from h) ▸ hs) (hfresh t' hs')
  | ter t =>
    cases s' with
    | var v' => exact absurd ((show v' = "#TERM#" ++ t from h.symm) ▸ hs') (hfresh t hs)
    | ter t' => exact congrArg Sym.ter (by simpa [ss] using h)

theorem pops_genList {G : CFG} (hG : G.WF)
    (hfresh : ∀ t ∈ G.ters, ("#TERM#" ++ t) ∉ G.vars) {q p : String} {w : List String}
    {α : List String} (h : Pops (ofCFG G) q w α p) :
    ∀ u : List Sym, α = u.map ss → (∀ s ∈ u, SymOK G s) → G.GenList u w := by
  induction h with
  | nil q =>
    intro u hu _
    cases List.map_eq_nil_iff.1 hu.symm
    exact .nil
  | @cons q q₁ m p a x push α u₁ v ht _ _ ih₁ ih₂ =>
    rintro (_ | ⟨sym, rest⟩) hu hok
    · cases hu
    · obtain ⟨hx, rfl⟩ := List.cons.inj hu
      have g₂ := ih₂ rest rfl fun y hy => hok y (List.mem_cons_of_mem _ hy)
      rcases (ofCFG_delta G _).1 ht with ⟨⟨hd, body⟩, hp, he⟩ | ⟨c, hc, he⟩
      · -- a production is applied to the variable on top
        cases he
        cases ss_inj hfresh (hok sym List.mem_cons_self) (s' := .var hd) (hG.head_mem _ hp) hx.symm
        exact .cons (.var hp (ih₁ body rfl (body_ok hG hp))) g₂
      · -- the terminal on top is read
        cases he
        cases ss_inj hfresh (hok sym List.mem_cons_self) (s' := .ter c) hc hx.symm
        cases ih₁ [] rfl nofun
        exact GenList.cons (w₁ := [c]) (.ter c) g₂

theorem ofCFG_lang (G : CFG) (hG : G.WF) (hfresh : ∀ t ∈ G.ters, ("#TERM#" ++ t) ∉ G.vars)
    (w : List String) : (ofCFG G).AccEmpty w ↔ G.Lang w := by
  rw [lang_iff_gen]
  have hss : (ofCFG G).startStack = G.start := rfl
  constructor
  · rintro ⟨s, z, q, hs, hz, hrun⟩
    rw [hss] at hz
    exact ⟨z, hz, genList_singleton.1 (pops_genList hG hfresh (pops_of_steps hrun rfl rfl) [.var z] rfl
      (List.forall_mem_singleton.2 (hG.start_mem z hz)))⟩
  · rintro ⟨z, hz, hg⟩
    refine ⟨"q", z, "q", rfl, hss.trans hz, ?_⟩
    have := (gen_genList_steps hG).1 _ _ hg (hG.start_mem z hz) [] []
    simpa [ss] using this

end OfCFG

end Modes
end PDA
end Pfl
