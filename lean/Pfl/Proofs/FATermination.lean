/-
Fuel under which the fuelled loops of the finite-automaton model always answer: the subset
construction (`ENFA.detSeen` / `toDet`), the product exploration of `get_intersection`, the path
search of `is_acyclic` and the queue loop of `get_accepted_words`.  The property theorems are in
`Pfl/Props/C01_Termination.lean` and `Pfl/Props/C03_Termination.lean`.
-/
import Pfl.Proofs.FADet
import Pfl.Proofs.FABool
import Pfl.Proofs.FAWords
import Pfl.Proofs.TerminationBase
import Mathlib.Data.List.Sublists
import Mathlib.Data.List.Permutation
import Mathlib.Data.List.ProdSigma

/-!
### The subset construction (`ENFA.detSeen` / `ENFA.toDet`, the worklist of `_to_deterministic_internal`)

The subsets handled by the model are duplicate-free lists of states (every `stepSet` ends with
`eraseDups`), but the *order* of a subset depends on the path by which it was reached.  The
worklist compares subsets by `key` (`to_single_state`).  Hence

* for a key that does not see the order (`KeyCongr`; the library's `mergeName` sorts the names, so
  it is one: `mergeName_keyCongr`), at most `2 ^ |Q|` keys exist and fuel `2 ^ |Q|` is enough;
* for an arbitrary key, at most `2 ^ |Q| * |Q|!` keys exist (arrangements of subsets), and that much
  fuel is enough; `2 ^ |Q|` is NOT enough in general (`Pfl/Props/C01_Termination.lean`,
  `detSeen_order_counterexample`).
-/

namespace Pfl.Term
open Pfl.ENFA

set_option linter.unusedSectionVars false
variable {σ κ : Type} [DecidableEq σ] [DecidableEq κ]

/-- the naming function does not see the order in which a (duplicate-free) subset is listed -/
def KeyCongr (A : ENFA σ) (key : List σ → κ) : Prop :=
  ∀ S T : List σ, S.Nodup → (∀ q ∈ S, q ∈ A.states) → S.Perm T → key S = key T

theorem total_of_isSome {α : Type} {o : Option α} {P : α → Prop} (h : o.isSome)
    (hP : ∀ x, o = some x → P x) : ∃ x, o = some x ∧ P x := by
  obtain ⟨x, hx⟩ := Option.isSome_iff_exists.mp h
  exact ⟨x, hx, hP x hx⟩

theorem length_flatMap_const {α β : Type} (l : List α) (f : α → List β) (b : Nat)
    (h : ∀ x ∈ l, (f x).length = b) : (l.flatMap f).length = l.length * b := by
  rw [List.length_flatMap]
  exact (sumOver_congr l (fun x => (f x).length) (fun _ => b) h).trans (sumOver_const l b)

theorem detStart_nodup (A : ENFA σ) (useE : Bool) : (A.detStart useE).Nodup := by
  unfold detStart ecloseL
  split <;> exact nodup_eraseDups _

theorem stepSet_nodup (A : ENFA σ) (useE : Bool) (S : List σ) (a : Nat) :
    (A.stepSet useE S a).Nodup := by
  unfold stepSet ecloseL nextL
  simp only []
  split <;> exact nodup_eraseDups _

theorem perm_sublist_of_nodup (L S : List σ) (hS : S.Nodup) (hL : ∀ q ∈ S, q ∈ L) :
    ∃ l ∈ L.eraseDups.sublists, S.Perm l := by
  refine ⟨L.eraseDups.filter (· ∈ S), List.mem_sublists.mpr List.filter_sublist, ?_⟩
  refine (List.perm_ext_iff_of_nodup hS ((nodup_eraseDups L).filter _)).mpr ?_
  intro q
  simp only [List.mem_filter, List.mem_eraseDups, decide_eq_true_eq]
  exact ⟨fun h => ⟨hL q h, h⟩, fun h => h.2⟩

theorem eraseDups_length_le (L : List σ) : L.eraseDups.length ≤ L.length :=
  (nodup_eraseDups L).length_le_of_subset (fun _ h => List.mem_eraseDups.mp h)

theorem length_sublists_eraseDups_le (L : List σ) : L.eraseDups.sublists.length ≤ 2 ^ L.length := by
  rw [List.length_sublists]
  exact Nat.pow_le_pow_right (by omega) (eraseDups_length_le L)

/-- general form: the worklist never holds two subsets with the same key, so `|U|` rounds are
enough when `U` lists the key of every duplicate-free list of states -/
theorem toDet_isSome_of (A : ENFA σ) (h : A.WF) (key : List σ → κ) (U : List κ)
    (hkey : ∀ S : List σ, S.Nodup → (∀ q ∈ S, q ∈ A.states) → key S ∈ U)
    (useE : Bool) (fuel : Nat) (hf : U.length ≤ fuel) : (A.toDet key useE fuel).isSome := by
  unfold toDet detSeen
  rw [Option.isSome_map]
  refine bfsK_isSome key (A.detNext useE) U (fun S T hT => ?_) fuel _
    (hkey _ (detStart_nodup A useE) (detStart_states A useE h)) hf
  obtain ⟨a, _, _, rfl⟩ := (mem_detNext_iff A useE S T).mp hT
  exact hkey _ (stepSet_nodup A useE S a) (stepSet_states A useE h S a)

end Pfl.Term

namespace Pfl.Term2
open Pfl.ENFA

set_option linter.unusedSectionVars false
variable {σ τ : Type} [DecidableEq σ] [DecidableEq τ]

theorem length_le_eraseDups {α : Type} [DecidableEq α] (l : List α) (h : l.Nodup) :
    l.length ≤ l.eraseDups.length :=
  h.length_le_of_subset (fun _ h => List.mem_eraseDups.mpr h)

theorem prod_eq_product (xs : List σ) (ys : List τ) : ENFA.prod xs ys = xs ×ˢ ys := rfl

theorem length_prod (xs : List σ) (ys : List τ) :
    (ENFA.prod xs ys).length = xs.length * ys.length := by
  rw [prod_eq_product, List.length_product]

theorem prod_nodup {xs : List σ} {ys : List τ} (hx : xs.Nodup) (hy : ys.Nodup) :
    (ENFA.prod xs ys).Nodup := by
  rw [prod_eq_product]; exact hx.product hy

theorem succs_states (A : ENFA σ) (hA : A.WF) (q : σ) (a : Option Nat) :
    ∀ r ∈ A.succs q a, r ∈ A.states := by
  intro r hr
  exact hA.delta_dst _ ((mem_succs A q r a).mp hr)

/-- the worklist of `get_intersection` holds pairs of states and never queues a pair twice:
`|Q_A| * |Q_B|` rounds are enough -/
theorem inter_bfs_isSome (A : ENFA σ) (B : ENFA τ) (hA : A.WF) (hB : B.WF) (fuel : Nat)
    (hf : A.states.length * B.states.length ≤ fuel) :
    (bfs (interNext A B) fuel (ENFA.prod (A.ecloseL A.starts) (B.ecloseL B.starts))).isSome := by
  have hnd : (ENFA.prod (A.ecloseL A.starts) (B.ecloseL B.starts)).Nodup :=
    prod_nodup (nodup_eraseDups _) (nodup_eraseDups _)
  obtain ⟨res, hres, -⟩ := bfs_total (interNext A B) (· ∈ ENFA.prod A.states B.states) _
    (fun x y _ hy => by
      obtain ⟨a, _, _, h1, h2⟩ := (mem_interNext A B x y).mp hy
      exact (mem_prod _ _ _ _).mpr
        ⟨ecloseL_states A hA _ (succs_states A hA _ _) _ h1,
         ecloseL_states B hB _ (succs_states B hB _ _) _ h2⟩)
    (fun _ h => h) _
    (fun z hz => by
      obtain ⟨h1, h2⟩ := (mem_prod _ _ _ _).mp hz
      exact (mem_prod _ _ _ _).mpr
        ⟨ecloseL_states A hA _ hA.starts_sub _ h1, ecloseL_states B hB _ hB.starts_sub _ h2⟩)
    fuel (by have := length_le_eraseDups _ hnd; rw [length_prod A.states B.states]; omega)
  rw [hres]; rfl

/-! ### `ENFA.acyclicLoop`

The stack holds pairs `(q, vis)`, `vis` being the path that led to `q`: the loop walks the tree of
all paths from the start states until a path closes.  A path never repeats a state, so the tree
has depth `≤ |U|` (`U` any list containing the start states and all targets), and every node has
at most `D` children (`D` a bound on the out-degree, parallel edges counted). -/

/-- number of nodes of the full `D`-ary tree of depth `k` -/
def treeW (D : Nat) : Nat → Nat
  | 0 => 1
  | k+1 => 1 + D * treeW D k

theorem treeW_pos (D k : Nat) : 0 < treeW D k := by
  cases k with
  | zero => simp [treeW]
  | succ k => simp only [treeW]; omega

theorem treeW_le_pow (D k : Nat) : treeW D k ≤ (D + 1) ^ k := by
  induction k with
  | zero => simp [treeW]
  | succ k ih =>
    show 1 + D * treeW D k ≤ (D + 1) ^ (k + 1)
    rw [Nat.pow_succ, Nat.mul_succ, Nat.add_comm _ ((D + 1) ^ k), Nat.mul_comm _ D]
    exact Nat.add_le_add (Nat.one_le_pow _ _ (Nat.succ_pos D)) (Nat.mul_le_mul_left D ih)

theorem treeW_sub (D : Nat) {n k : Nat} (h : k + 1 ≤ n) :
    treeW D (n - k) = 1 + D * treeW D (n - (k + 1)) := by
  rw [← Nat.succ_pred_eq_of_pos (Nat.sub_pos_of_lt h)]
  rfl

/-- weight of a stack: every entry may still unfold into a full tree below it -/
def stkW (D n : Nat) (stk : List (σ × List σ)) : Nat :=
  (stk.map fun e => treeW D (n - e.2.length)).sum

theorem stkW_cons (D n : Nat) (e : σ × List σ) (stk : List (σ × List σ)) :
    stkW D n (e :: stk) = treeW D (n - e.2.length) + stkW D n stk := by
  simp [stkW]

theorem stkW_append (D n : Nat) (s t : List (σ × List σ)) :
    stkW D n (s ++ t) = stkW D n s + stkW D n t := by
  simp [stkW]

theorem stkW_children (D n : Nat) (l : List σ) (vis : List σ) :
    stkW D n (l.map fun r => (r, vis)) = l.length * treeW D (n - vis.length) := by
  induction l with
  | nil => simp [stkW]
  | cons a l ih => rw [List.map_cons, stkW_cons, ih, List.length_cons, Nat.succ_mul]; simp only; omega

/-- stack entries are paths: no repetition, inside `U` -/
def StkOK (U : List σ) (stk : List (σ × List σ)) : Prop :=
  ∀ e ∈ stk, (∀ v ∈ e.1 :: e.2, v ∈ U) ∧ e.2.Nodup

theorem acyclicLoop_isSome_of (A : ENFA σ) (U : List σ) (D : Nat)
    (hU : ∀ q r, r ∈ A.outs q → r ∈ U) (hD : ∀ q ∈ U, (A.outs q).length ≤ D) :
    ∀ fuel stk, StkOK U stk → stkW D U.length stk ≤ fuel → (A.acyclicLoop fuel stk).isSome := by
  intro fuel stk
  fun_induction acyclicLoop A fuel stk with
  | case1 | case3 => exact fun _ _ => rfl  -- empty stack, or `q ∈ vis`: the loop answers
  | case2 e rest =>
    -- no fuel and an entry left: excluded by the weight of the entry
    intro _ hw
    rw [stkW_cons] at hw
    have := treeW_pos D (U.length - e.2.length)
    omega
  | case4 fuel q vis rest hq ih =>
    intro hok hw
    obtain ⟨hsub, hnd⟩ := hok (q, vis) List.mem_cons_self
    have hnd' : (q :: vis).Nodup := List.nodup_cons.mpr ⟨hq, hnd⟩
    have hlen : (q :: vis).length ≤ U.length := hnd'.length_le_of_subset hsub
    simp only [List.length_cons] at hlen
    apply ih
    · exact List.forall_mem_append.mpr ⟨List.forall_mem_map.mpr fun r hr =>
        ⟨List.forall_mem_cons.mpr ⟨hU q r (List.mem_reverse.mp hr), hsub⟩, hnd'⟩,
        (List.forall_mem_cons.mp hok).2⟩
    · -- the entry's tree is its root plus `D` subtrees, enough for its `≤ D` children
      rw [stkW_append, stkW_children, List.length_reverse, List.length_cons]
      rw [stkW_cons, treeW_sub D hlen] at hw
      have := Nat.mul_le_mul_right (treeW D (U.length - (vis.length + 1)))
        (hD q (hsub q List.mem_cons_self))
      omega

theorem outs_states (A : ENFA σ) (hA : A.WF) (q r : σ) (h : r ∈ A.outs q) : r ∈ A.states :=
  (hA.mem_outs.mp h).elim fun _ he => hA.delta_dst _ he

theorem length_succs_le (A : ENFA σ) (q : σ) (a : Option Nat) :
    (A.succs q a).length ≤ A.delta.length := by
  unfold succs; exact List.length_filterMap_le _ _

theorem length_outs_le (A : ENFA σ) (q : σ) :
    (A.outs q).length ≤ (A.syms.length + 1) * A.delta.length := by
  unfold outs
  rw [List.length_append, Nat.succ_mul]
  have h1 := length_flatMap_le A.syms (fun a => A.succs q (some a)) A.delta.length
    (fun a _ => length_succs_le A q (some a))
  have h2 := length_succs_le A q none
  omega

theorem flatMap_single {β γ : Type} [DecidableEq β] (L : List β) (hL : L.Nodup) (x : β) (c : γ) :
    (L.flatMap fun b => if x = b then [c] else []) = if x ∈ L then [c] else [] := by
  induction L with
  | nil => rfl
  | cons b L ih =>
    obtain ⟨hb, hL⟩ := List.nodup_cons.mp hL
    rw [List.flatMap_cons, ih hL]
    by_cases h : x = b
    · subst h; simp [hb]
    · simp [h]

theorem filterMap_cons_ite {α β : Type} (t : α) (l : List α) (P : α → Prop) [DecidablePred P]
    (v : α → β) :
    ((t :: l).filterMap fun t => if P t then some (v t) else none) =
      (if P t then [v t] else []) ++ l.filterMap fun t => if P t then some (v t) else none := by
  by_cases h : P t <;> simp [h]

/-- grouping a list by a key, along a duplicate-free list of keys, does not lengthen it -/
theorem length_flatMap_filterMap_le {α β γ : Type} [DecidableEq β] (L : List β) (hL : L.Nodup)
    (l : List α) (c : α → Prop) [DecidablePred c] (f : α → β) (v : α → γ) :
    (L.flatMap fun b => l.filterMap fun t => if c t ∧ f t = b then some (v t) else none).length
      ≤ l.length := by
  induction l with
  | nil => simp
  | cons t l ih =>
    -- `t` goes into the group of its key only, and `L` lists that key at most once
    simp only [filterMap_cons_ite t l]
    rw [← (List.flatMap_append_perm L _ _).length_eq, List.length_append, List.length_cons]
    refine Nat.add_comm _ _ ▸ Nat.add_le_add ih ?_
    by_cases hq : c t
    · simp only [hq, true_and, flatMap_single L hL]; split <;> simp
    · simp [hq]

theorem length_outs_le_of_nodup (A : ENFA σ) (hs : A.syms.Nodup) (q : σ) :
    (A.outs q).length ≤ A.delta.length := by
  -- `outs q` groups the edges from `q` by their label, along the duplicate-free list of all labels
  have hL : (A.syms.map some ++ [none]).Nodup :=
    List.nodup_append.mpr ⟨hs.map fun _ _ h => Option.some.inj h, List.nodup_singleton _,
      fun _ ha _ hb e => by
        obtain ⟨_, _, rfl⟩ := List.mem_map.mp ha
        cases List.mem_singleton.mp (e ▸ hb)⟩
  have h := length_flatMap_filterMap_le _ hL A.delta (·.1 = q) (·.2.1) (·.2.2)
  rwa [List.flatMap_append, List.flatMap_map, List.flatMap_singleton] at h

/-! ### `ENFA.wordsLoop` / `ENFA.acceptedWords`

Every round pops one queue entry.  An entry `(q, w)` is expanded at most once (the `wbs` test),
and only if `w` passes the length test; an expansion queues at most `|δ|` entries.  If the words
of the expanded entries have length `≤ n`, at most `|Q| * (1 + s + … + s ^ n)` entries are
expanded (`s` the number of symbols), and `|starts| + |Q| * (1 + s + … + s ^ n) * |δ|` rounds are
enough.  Without a length test the same holds when all accepted words have length `≤ n`, because
every expanded word is a prefix of an accepted word; this is the case (with `n = |Q|`) when the
part of the automaton between the start states and the final states has no cycle. -/

theorem length_newPairs_le (A : ENFA σ) (lead : List σ) (q : σ) (w : List Nat) :
    (A.newPairs lead q w).length ≤ A.delta.length := by
  unfold newPairs edgesFrom
  exact Nat.le_trans (List.length_filterMap_le _ _) (List.length_filterMap_le _ _)

/-- what is known about a queue entry: its word labels a run from a start state to its state, and
it was queued because its state leads to a final state (or it is initial) -/
def Entry (A : ENFA σ) (lead : List σ) (p : σ × List Nat) : Prop :=
  (∃ s ∈ A.starts, A.Run s p.2 p.1) ∧ (p.1 ∈ lead ∨ p.2 = [])

theorem entry_step (A : ENFA σ) (lead : List σ) (q : σ) (w : List Nat)
    (h : Entry A lead (q, w)) (p : σ × List Nat) (hp : p ∈ A.newPairs lead q w) :
    Entry A lead p := by
  obtain ⟨a, hd, hl, he⟩ := (mem_newPairs A lead q w p).mp hp
  obtain ⟨⟨s, hs, hr⟩, _⟩ := h
  exact ⟨⟨s, hs, he ▸ hr.extend hd⟩, Or.inl hl⟩

theorem wordsLoop_isSome_of (A : ENFA σ) (hA : A.WF) (lead : List σ) (maxLen : Option Nat) (n : Nat)
    (hlen : ∀ p, Entry A lead p → lenOK maxLen p.2 → p.2.length ≤ n) :
    ∀ fuel queue wbs out, (∀ p ∈ queue, Entry A lead p) →
      queue.length + A.delta.length * unseen (ENFA.prod A.states (wordsLE A.syms n)) wbs ≤ fuel →
      (A.wordsLoop lead maxLen fuel queue wbs out).isSome := by
  intro fuel queue wbs out
  fun_induction wordsLoop A lead maxLen fuel queue wbs out with
  | case1 => exact fun _ _ => rfl
  | case2 => exact fun _ hf => absurd hf (by simp)  -- no fuel and an entry left
  | case3 fuel q w queue wbs out _ ih | case4 fuel q w queue wbs out _ _ ih =>
    -- the entry is too long or was expanded before: it is dropped
    intro hq hf
    rw [List.length_cons] at hf
    exact ih (List.forall_mem_cons.mp hq).2 (by omega)
  | case5 fuel q w queue wbs out hlong hnew new out' ih =>
    -- `new` is `A.newPairs lead q w`; an expanded entry is a (state, word of length `≤ n`) not
    -- expanded before
    intro hq hf
    rw [List.length_cons] at hf
    obtain ⟨he, hq⟩ := List.forall_mem_cons.mp hq
    obtain ⟨s₀, hs₀, hr⟩ := he.1
    have hmem : (q, w) ∈ ENFA.prod A.states (wordsLE A.syms n) :=
      (mem_prod _ _ _ _).mpr ⟨Run.mem_states hA hr (hA.starts_sub s₀ hs₀),
        mem_wordsLE _ _ _ (hlen _ he ((lenOK_iff_test maxLen w).mpr hlong)) (hA.run_syms hr)⟩
    refine ih (List.forall_mem_append.mpr ⟨hq, entry_step A lead q w he⟩) ?_
    rw [List.length_append, Nat.add_comm queue.length]
    exact Term.fuel_expand hmem hnew (length_newPairs_le A lead q w) hf

def wordsFuel (A : ENFA σ) (n : Nat) : Nat :=
  A.starts.length + A.states.length * (A.syms.length + 1) ^ n * A.delta.length

theorem acceptedWords_isSome_of (A : ENFA σ) (hA : A.WF) (maxLen : Option Nat) (n : Nat)
    (hlen : ∀ p, Entry A A.leadingToFinal p → lenOK maxLen p.2 → p.2.length ≤ n)
    (fuel : Nat) (hf : wordsFuel A n ≤ fuel) : (A.acceptedWords maxLen fuel).isSome := by
  unfold acceptedWords
  apply wordsLoop_isSome_of A hA _ maxLen n hlen
  · intro p hp
    obtain ⟨s, hs, rfl⟩ := List.mem_map.mp hp
    exact ⟨⟨s, hs, Run.nil s⟩, Or.inr rfl⟩
  · have h0 := unseen_le (ENFA.prod A.states (wordsLE A.syms n)) []
    rw [length_prod] at h0
    have h1 := Nat.mul_le_mul_left A.states.length (length_wordsLE_le A.syms n)
    have h2 := Nat.mul_le_mul_left A.delta.length (Nat.le_trans h0 h1)
    rw [Nat.mul_comm _ (A.states.length * _)] at h2
    unfold wordsFuel at hf
    rw [List.length_map]
    omega

def ReachPlus {α : Type} (next : α → List α) (q y : α) : Prop := ∃ r ∈ next q, Reach next r y

/-- edges (any label) into states that lead to a final state -/
def trimNext (A : ENFA σ) (q : σ) : List σ :=
  (A.edgesFrom q).filterMap fun e => if e.2 ∈ A.leadingToFinal then some e.2 else none

theorem mem_trimNext (A : ENFA σ) (q r : σ) :
    r ∈ trimNext A q ↔ (∃ a, (q, a, r) ∈ A.delta) ∧ r ∈ A.leadingToFinal := by
  unfold trimNext
  simp only [mem_filterMap_ite, mem_edgesFrom]
  constructor
  · rintro ⟨e, he, hl, rfl⟩
    exact ⟨⟨e.1, he⟩, hl⟩
  · rintro ⟨⟨a, ha⟩, hl⟩
    exact ⟨(a, r), ha, hl, rfl⟩

/-- a state that is reachable from a start state and leads to a final state lies on a cycle of
such states -/
def HasTrimCycle (A : ENFA σ) : Prop :=
  ∃ s ∈ A.starts, ∃ q, Reach (trimNext A) s q ∧ ReachPlus (trimNext A) q q

theorem trimNext_sub_outs (A : ENFA σ) (hA : A.WF) (q r : σ) (h : r ∈ trimNext A q) :
    r ∈ A.outs q :=
  hA.mem_outs.mpr ((mem_trimNext A q r).mp h).1

theorem reach_mono {α : Type} {f g : α → List α} (h : ∀ q r, r ∈ f q → r ∈ g q) {x y : α}
    (hr : Reach f x y) : Reach g x y := by
  induction hr with
  | refl => exact Reach.refl _
  | tail _ hz ih => exact Reach.tail ih (h _ _ hz)

theorem trim_edge (A : ENFA σ) {q r f : σ} {l : Option Nat} {w : List Nat}
    (he : (q, l, r) ∈ A.delta) (hrun : A.Run r w f) (hf : f ∈ A.finals) : r ∈ trimNext A q :=
  (mem_trimNext A q r).mpr ⟨⟨l, he⟩, (mem_leadingToFinal_iff' A r).mpr ⟨w, f, hf, hrun⟩⟩

/-- pigeonhole: the states `vis` behind a run towards a final state and the states the run visits
are distinct states of `A` as long as the walk cannot close -/
theorem run_length_add_le (A : ENFA σ) (hA : A.WF) {q f : σ} {w : List Nat} (hr : A.Run q w f)
    (hf : f ∈ A.finals) :
    ∀ vis, OpenWalk (trimNext A) A.states q vis → w.length + vis.length ≤ A.states.length := by
  induction hr with
  | nil q => exact fun vis h => by simpa using h.nodup.length_le_of_subset h.sub
  | eps he hrun ih =>
    exact fun vis h =>
      Nat.le_of_succ_le (ih hf _ (h.push (hA.delta_src _ he) (trim_edge A he hrun hf)))
  | step he hrun ih =>
    intro vis h
    rw [List.length_cons, Nat.add_right_comm]
    exact ih hf _ (h.push (hA.delta_src _ he) (trim_edge A he hrun hf))

end Pfl.Term2
