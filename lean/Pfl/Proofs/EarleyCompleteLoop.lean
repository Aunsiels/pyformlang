/-
The worklist loop of the Earley model is complete: at the end every processed state is done and
the closure properties of the done states cover every ideal item.  The loop is walked by
`Pfl/Proofs/EarleyWalk.lean`; here is what one pop adds to the invariant `LI` of a column.
-/
import Pfl.Proofs.EarleyCompleteOps
import Pfl.Proofs.EarleyCompleteIdeal
namespace Pfl
namespace Earley
namespace Cmp
open Lem

theorem done_pop {T : Tables} {i : Nat} {s : EState} (hi : i < T.chart.length)
    (hl : (colGet T.chart i).getLast? = some s) {j : Nat} {s' : EState}
    (hd : Done (popT T i) j s') : Done T j s' ∨ (j = i ∧ s' = s) := by
  by_cases hin : s' ∈ colGet T.chart j
  · right
    have hj : j = i := Classical.byContradiction fun hj =>
      hd.2 (by unfold popT; rw [colGet_set_ne _ (Ne.symm hj)]; exact hin)
    subst hj
    exact ⟨rfl, (mem_dropLast_or _ _ hl _ hin).resolve_left
      fun h => hd.2 (by unfold popT; rw [colGet_set_self _ hi]; exact h)⟩
  · exact Or.inl ⟨hd.1, hin⟩

/-- the invariant of the loop of column `i` -/
structure LI (C : Ctx) (i : Nat) (T : Tables) : Prop where
  past : ∀ j, j < i → colGet T.chart j = []
  fut : ∀ j s, Done T j s → j ≤ i
  pred : ∀ j s v, Done T j s → nextSym C.G s = some (.var v) →
    ∀ k p env, C.G.prods[k]? = some p → p.head = v → C.okEnv k env → CovT C T ⟨k, env, j, j, 0⟩
  scan : ∀ j s t, Done T j s → nextSym C.G s = some (.ter t) → C.word[j]? = some t →
    ∀ env, Cov C T.store s.fs s.prod env → CovT C T ⟨s.prod, env, s.b, j + 1, s.dot + 1⟩
  comp : ∀ m e nx c, Done T m nx → Done T e c → c.b = m → incomplete C.G c = false →
    nextSym C.G nx = some (.var (prodOf C.G c.prod).head) →
    CompCov C T.store T nx c e
  init : CovT C T ⟨C.spec.length, [], 0, 0, 0⟩

theorem li_step {C : Ctx} {T T1 : Tables} {rk rk1 : Nat → Nat}
    {i : Nat} {s : EState} {L1 : List Act} (hB : Base C T rk)
    (hL : LI C i T) (hi : i < C.word.length + 1)
    (hl : (colGet T.chart i).getLast? = some s) (hop : CI C i (popT T i) T1 rk1 L1)
    (hdid : Did C.G C.word i s (popT T i) L1) : LI C i T1 := by
  have hilen : i < T.chart.length := by rw [hB.tab.lenc]; exact hi
  have hB0 : Base C (popT T i) rk := hB.pop i
  obtain ⟨_, htle, hpost⟩ := hop
  have hsfs : s.fs < T.store.length := (hB.c i s (List.mem_of_getLast? hl)).fs_lt
  -- `CovT` only looks at the processed states and the store, which `popT` leaves alone
  have up : ∀ it, CovT C T it → CovT C T1 it := fun it h =>
    CovT.mono (T := popT T i) hB0 htle h
  have back : ∀ j s' k env, s' ∈ procStates T j → Cov C T1.store s'.fs k env →
      Cov C T.store s'.fs k env := fun j s' k env hs h =>
    h.back htle.fr hB.tab.wf (hB.p j s' hs).fs_lt
  -- the done states of `T1`: those of `T`, and the popped one
  have dcases : ∀ j s', Done T1 j s' → s' ∈ procStates T j ∧ (Done T j s' ∨ (j = i ∧ s' = s)) :=
    fun j s' h => ⟨(htle.done h).1, done_pop hilen hl (htle.done h)⟩
  refine ⟨fun j hj => ?_, fun j s' h => ?_, ?_, ?_, ?_, up _ hL.init⟩
  · rw [htle.low j hj]; unfold popT; rw [colGet_set_ne _ (Nat.ne_of_gt hj)]; exact hL.past j hj
  · exact (dcases j s' h).2.elim (hL.fut j s') fun e => Nat.le_of_eq e.1
  · intro j s' v hdone hnext k p env h1 h2 h3
    rcases (dcases j s' hdone).2 with h | ⟨rfl, rfl⟩
    · exact up _ (hL.pred j s' v h hnext k p env h1 h2 h3)
    · exact hpost _ (hdid.pred v hnext k p h1 h2) env h3
  · intro j s' t hdone hnext hw' env henv
    obtain ⟨hp, hc⟩ := dcases j s' hdone
    have henv0 := back j s' _ env hp henv
    rcases hc with h | ⟨rfl, rfl⟩
    · exact up _ (hL.scan j s' t h hnext hw' env henv0)
    · exact hpost _ (hdid.scan t hnext hw') hsfs env henv0
  · intro m e nx c hdnx hdc hcb hcomp hnext env env' h1 h2 h3
    obtain ⟨hpnx, hcnx⟩ := dcases m nx hdnx
    obtain ⟨hpc, hcc⟩ := dcases e c hdc
    have h1' := back m nx _ env hpnx h1
    have h2' := back e c _ env' hpc h2
    rcases hcc with hc | ⟨rfl, rfl⟩
    · rcases hcnx with hn | ⟨rfl, rfl⟩
      · exact up _ (hL.comp m e nx c hn hc hcb hcomp hnext env env' h1' h2' h3)
      · -- the popped state waits for `c`, done earlier: in this column, since none later has done states
        have hcOK := hB.p e c hpc
        obtain rfl : e = m :=
          Nat.le_antisymm (hL.fut e c hc) (by rw [← hcb, ← hcOK.e_eq]; exact hcOK.ble)
        exact hpost _ (hdid.asNx _ hnext c hpc hcomp hcb rfl) hsfs hcOK.fs_lt env env' h1' h2' h3
    · -- the popped state is the completed one
      exact hpost _ (hdid.asC hcomp nx (by rw [hcb]; exact hpnx) hnext)
        (hB.p m nx hpnx).fs_lt hsfs env env' h1' h2' h3

theorem LI.next {C : Ctx} {i : Nat} {T : Tables} (h : LI C i T) (hc : colGet T.chart i = []) :
    LI C (i + 1) T :=
  ⟨fun j hj => by
      by_cases hji : j = i
      · rw [hji]; exact hc
      · exact h.past j (by omega),
    fun j s hs => Nat.le_succ_of_le (h.fut j s hs), h.pred, h.scan, h.comp, h.init⟩

theorem cols_spec {C : Ctx} (hC : CtxOK C) (fuel : Nat)
    (T T' : Tables) (rk : Nat → Nat) (hB : Base C T rk) (hL : LI C 0 T)
    (hr : contains.cols C.G C.word fuel (List.range' 0 (C.word.length + 1)) T = some T') :
    ∃ rk', Base C T' rk' ∧ LI C (C.word.length + 1) T' := by
  have h := cols_ind (fun i T => ∃ rk, Base C T rk ∧ LI C i T)
    (fun i T s ⟨rk, hB, hL⟩ hl => by
      have hsm := List.mem_of_getLast? hl
      -- a column beyond the word is empty
      have hi : i < C.word.length + 1 := Nat.lt_of_not_le fun h => by
        rw [colGet_ge (by rw [hB.tab.lenc]; exact h)] at hsm; cases hsm
      obtain ⟨rk1, L1, hop, hdid⟩ := walk_procOne (ci_walk hC hi (T0 := popT T i) hB.tab.wf)
        ⟨hB.pop i, TLe.refl _ _, fun _ h => nomatch h⟩ (hB.c i s hsm) (hB.c i s hsm).e_eq
      exact ⟨rk1, hop.1, li_step hB hL hi hl hop hdid⟩)
    (fun i T ⟨rk, hB, hL⟩ hc => ⟨rk, hB, hL.next hc⟩) (C.word.length + 1) 0 T T' ⟨rk, hB, hL⟩ hr
  rwa [Nat.zero_add] at h

theorem ideal_covered {C : Ctx} (hC : CtxOK C) {T : Tables} {rk : Nat → Nat}
    (hB : Base C T rk) (hL : LI C (C.word.length + 1) T) :
    ∀ it, Ideal C it → CovT C T it := by
  have hdone : ∀ j s, s ∈ procStates T j → Done T j s := by
    intro j s hs
    refine ⟨hs, ?_⟩
    by_cases hj : j < C.word.length + 1
    · rw [hL.past j hj]; simp
    · rw [colGet_ge (by rw [hB.tab.lenc]; omega)]; simp
  have hnextSym : ∀ (s : EState) (it : Sym × Feat), (prX C s.prod).2[s.dot]? = some it →
      nextSym C.G s = some it.1 := fun s it hit => by rw [nextSym_prX hC, hit]; rfl
  intro it hid
  induction hid with
  | init => exact hL.init
  | @predict k env b e dot X f k' pr' env' _ hit hk' hX hok' ih =>
    obtain ⟨s, hs, rfl, rfl, rfl, _⟩ := ih
    have hn := hnextSym s (Sym.var X, f) hit
    obtain ⟨hh, _, hp⟩ := prodOf_spec hC hk'
    exact hL.pred e s X (hdone e s hs) hn k' _ env' hp (by rw [hh]; exact hX) hok'
  | @scan k env b e dot t f _ hit hw ih =>
    obtain ⟨s, hs, rfl, rfl, rfl, h4⟩ := ih
    exact hL.scan e s t (hdone e s hs) (hnextSym s (Sym.ter t, f) hit) hw env h4
  | @complete k env b m dot X f k' pr' env' e _ hit hk' hX _ hag ih1 ih2 =>
    obtain ⟨nx, hnx, rfl, rfl, rfl, n4⟩ := ih1
    obtain ⟨c, hc, rfl, rfl, c3, c4⟩ := ih2
    have hn := hnextSym nx (Sym.var X, f) hit
    have hcomp : incomplete C.G c = false := by
      rw [incomplete_prX hC, prX_spec hk', c3]; exact decide_eq_false (Nat.lt_irrefl _)
    have hagree : Agree C nx.prod nx.dot env c.prod env' := by
      intro it' hit'
      cases hit.symm.trans hit'
      rw [prX_spec hk']; exact hag
    exact hL.comp c.b e nx c (hdone c.b nx hnx) (hdone e c hc) rfl hcomp
      (by rw [(prodOf_spec hC hk').1, hX]; exact hn) env env' n4 c4 hagree

end Cmp
end Earley
end Pfl
