/-
The triple construction PDA → CFG (`toCFG`, C13) and the product of a PDA with an automaton
(`PDA.inter`, C11).  For `toCFG`: a run that removes `α` from the stack has the shape of a parse tree
(`Pops`, in `PDARuns`); `genList_of_pops` goes from `Pops` to parse trees, `steps_of_gen` back.
-/
import Pfl.Props.C13_Modes
import Pfl.Proofs.CFGBase
import Pfl.Proofs.FABase
namespace Pfl.PDA.ToCFG
open Pfl.CFG
variable {σ γ τ : Type}

theorem Steps.single {P : PDA σ γ} {c c' : Config σ γ} (h : P.Step c c') : P.Steps c c' :=
  PDA.Steps.single h

theorem Steps.comp {P : PDA σ γ} {q m p : σ} {u₁ u₂ : List String} {α β : List γ}
    (h₁ : P.Steps (q, u₁, α) (m, [], [])) (h₂ : P.Steps (m, u₂, β) (p, [], [])) :
    P.Steps (q, u₁ ++ u₂, α ++ β) (p, [], []) := by
  have := h₁.frame u₂ β
  simp only [List.nil_append] at this
  exact Steps.trans this h₂

inductive StepsN (P : PDA σ γ) : Nat → Config σ γ → Config σ γ → Prop
  | refl (c : Config σ γ) : StepsN P 0 c c
  | head {n : Nat} {c c' c'' : Config σ γ} : P.Step c c' → StepsN P n c' c'' → StepsN P (n+1) c c''

theorem steps_iff_stepsN {P : PDA σ γ} {c c' : Config σ γ} :
    P.Steps c c' ↔ ∃ n, StepsN P n c c' := by
  constructor
  · intro h
    induction h with
    | refl _ => exact ⟨0, .refl _⟩
    | head hs _ ih => obtain ⟨n, hn⟩ := ih; exact ⟨n+1, .head hs hn⟩
  · rintro ⟨n, h⟩
    induction h with
    | refl _ => exact .refl _
    | head hs _ ih => exact .head hs ih

theorem stepsN_zero_iff {P : PDA σ γ} {c c' : Config σ γ} : StepsN P 0 c c' ↔ c = c' := by
  constructor
  · intro h; cases h; rfl
  · rintro rfl; exact .refl _

theorem stepsN_succ_iff {P : PDA σ γ} {n : Nat} {c c'' : Config σ γ} :
    StepsN P (n+1) c c'' ↔ ∃ c', P.Step c c' ∧ StepsN P n c' c'' := by
  constructor
  · intro h; cases h with
    | head hs hr => exact ⟨_, hs, hr⟩
  · rintro ⟨c', hs, hr⟩; exact .head hs hr

/-- what `bodiesOf` makes of one choice `mids` of intermediate states -/
def bodyOf (valid : σ → γ → Bool) (ns : σ → String) (ng : γ → String) (q : σ) (push : List γ)
    (p : σ) (mids : List σ) : Option (List Sym) :=
  if (((q :: mids).zip push).zip (mids ++ [p])).all fun t => valid t.1.1 t.1.2 then
    some ((((q :: mids).zip push).zip (mids ++ [p])).map fun t =>
      Sym.var (tripleName ns ng t.1.1 t.1.2 t.2))
  else none

theorem bodiesOf_cons_eq (P : PDA σ γ) (valid : σ → γ → Bool) (ns : σ → String) (ng : γ → String)
    (q p : σ) (x : γ) (α : List γ) :
    bodiesOf P valid ns ng q p (x :: α) =
      (tuples P.states α.length).filterMap (bodyOf valid ns ng q (x :: α) p) := rfl

theorem bodyOf_nil {valid : σ → γ → Bool} {ns : σ → String} {ng : γ → String} {q p : σ} {x : γ}
    {body : List Sym} :
    bodyOf valid ns ng q [x] p [] = some body ↔
      valid q x = true ∧ body = [Sym.var (tripleName ns ng q x p)] := by
  simp only [bodyOf, List.zip_cons_cons, List.nil_append, List.zip_nil_right, List.all_cons,
    List.all_nil, Bool.and_true, List.map_cons, List.map_nil, Option.ite_none_right_eq_some,
    Option.some.injEq]
  exact and_congr_right fun _ => eq_comm

theorem bodyOf_cons {valid : σ → γ → Bool} {ns : σ → String} {ng : γ → String} {q m p : σ} {x : γ}
    {α : List γ} {mids : List σ} {body : List Sym} :
    bodyOf valid ns ng q (x :: α) p (m :: mids) = some body ↔
      valid q x = true ∧ ∃ body', bodyOf valid ns ng m α p mids = some body' ∧
        body = Sym.var (tripleName ns ng q x m) :: body' := by
  simp only [bodyOf, List.zip_cons_cons, List.cons_append, List.all_cons, Bool.and_eq_true,
    List.map_cons, Option.ite_none_right_eq_some, Option.some.injEq]
  constructor
  · rintro ⟨⟨hv, hall⟩, rfl⟩
    exact ⟨hv, _, ⟨hall, rfl⟩, rfl⟩
  · rintro ⟨hv, _, ⟨hall, rfl⟩, rfl⟩
    exact ⟨⟨hv, hall⟩, rfl⟩

theorem mem_bodiesOf_single {P : PDA σ γ} {valid : σ → γ → Bool} {ns : σ → String}
    {ng : γ → String} {q p : σ} {x : γ} {body : List Sym} :
    body ∈ bodiesOf P valid ns ng q p [x] ↔
      valid q x = true ∧ body = [Sym.var (tripleName ns ng q x p)] := by
  rw [bodiesOf_cons_eq, List.mem_filterMap]
  simp only [List.length_nil, tuples, List.mem_singleton, exists_eq_left, bodyOf_nil]

theorem mem_bodiesOf_cons {P : PDA σ γ} {valid : σ → γ → Bool} {ns : σ → String}
    {ng : γ → String} {q p : σ} {x y : γ} {α : List γ} {body : List Sym} :
    body ∈ bodiesOf P valid ns ng q p (x :: y :: α) ↔ valid q x = true ∧ ∃ m ∈ P.states,
      ∃ body' ∈ bodiesOf P valid ns ng m p (y :: α),
        body = Sym.var (tripleName ns ng q x m) :: body' := by
  simp only [bodiesOf_cons_eq, List.length_cons, tuples, List.mem_filterMap, List.mem_flatMap,
    List.mem_map]
  constructor
  · rintro ⟨_, ⟨m, hm, mids, hmids, rfl⟩, hb⟩
    obtain ⟨hv, body', hb', rfl⟩ := bodyOf_cons.1 hb
    exact ⟨hv, m, hm, body', ⟨mids, hmids, hb'⟩, rfl⟩
  · rintro ⟨hv, m, hm, body', ⟨mids, hmids, hb'⟩, rfl⟩
    exact ⟨m :: mids, ⟨m, hm, mids, hmids, rfl⟩, bodyOf_cons.2 ⟨hv, body', hb', rfl⟩⟩

/-- `body` is one of the bodies `toCFG` gives to the productions of a move into `q` that pushes
`push`, the triple to be completed ending in `p` -/
def Body (P : PDA σ γ) (valid : σ → γ → Bool) (ns : σ → String) (ng : γ → String) (q p : σ)
    (push : List γ) (body : List Sym) : Prop :=
  (push = [] → p = q) ∧ body ∈ bodiesOf P valid ns ng q p push

theorem body_nil {P : PDA σ γ} {valid : σ → γ → Bool} {ns : σ → String} {ng : γ → String}
    {q p : σ} {body : List Sym} : Body P valid ns ng q p [] body ↔ p = q ∧ body = [] := by
  simp only [Body, bodiesOf, List.mem_singleton, forall_const]

theorem body_cons {P : PDA σ γ} {valid : σ → γ → Bool} {ns : σ → String} {ng : γ → String}
    {q p : σ} (hp : p ∈ P.states) {x : γ} {α : List γ} {body : List Sym} :
    Body P valid ns ng q p (x :: α) body ↔ valid q x = true ∧ ∃ m ∈ P.states, ∃ body',
      Body P valid ns ng m p α body' ∧ body = Sym.var (tripleName ns ng q x m) :: body' := by
  cases α with
  | nil =>
    constructor
    · rintro ⟨_, hb⟩
      obtain ⟨hv, rfl⟩ := mem_bodiesOf_single.1 hb
      exact ⟨hv, p, hp, [], body_nil.2 ⟨rfl, rfl⟩, rfl⟩
    · rintro ⟨hv, m, _, body', hb, rfl⟩
      obtain ⟨rfl, rfl⟩ := body_nil.1 hb
      exact ⟨nofun, mem_bodiesOf_single.2 ⟨hv, rfl⟩⟩
  | cons y α =>
    constructor
    · rintro ⟨_, hb⟩
      obtain ⟨hv, m, hm, body', hb', rfl⟩ := mem_bodiesOf_cons.1 hb
      exact ⟨hv, m, hm, body', ⟨nofun, hb'⟩, rfl⟩
    · rintro ⟨hv, m, hm, body', ⟨_, hb'⟩, rfl⟩
      exact ⟨nofun, mem_bodiesOf_cons.2 ⟨hv, m, hm, body', hb', rfl⟩⟩

section grammar
variable [DecidableEq σ] [DecidableEq γ]

/-- "`(q, x)` is the source of some transition" -/
def validB (P : PDA σ γ) (q : σ) (x : γ) : Bool := P.delta.any fun t => t.1 = q ∧ t.2.2.1 = x

theorem validB_of_mem {P : PDA σ γ} {q q' : σ} {a : Option String} {x : γ} {push : List γ}
    (ht : (q, a, x, q', push) ∈ P.delta) : validB P q x = true :=
  List.any_eq_true.2 ⟨_, ht, by simp⟩

theorem toCFG_start {P : PDA σ γ} {ns : σ → String} {ng : γ → String} {C : CFG}
    (h : P.toCFG ns ng = some C) : C.start = some "#StartCFG#" := by
  unfold toCFG at h
  split at h
  · simp only [Option.some.injEq] at h
    subst h; rfl
  · cases h

theorem mem_toCFG_prods {P : PDA σ γ} {ns : σ → String} {ng : γ → String} {C : CFG}
    (h : P.toCFG ns ng = some C) (pr : Prod) :
    pr ∈ C.prods ↔
      (∃ s z p, P.start = some s ∧ P.startStack = some z ∧ p ∈ P.states ∧
        pr = ("#StartCFG#", [Sym.var (tripleName ns ng s z p)])) ∨
      (∃ q a x q₁ push p body, (q, a, x, q₁, push) ∈ P.delta ∧ p ∈ P.states ∧
        Body P (validB P) ns ng q₁ p push body ∧
        pr = (tripleName ns ng q x p, a.toList.map Sym.ter ++ body)) := by
  unfold toCFG at h
  split at h
  · rename_i s z hs hz
    cases h
    simp only [CFG.mk', List.mem_append, List.mem_map, List.mem_flatMap, List.mem_ite_nil_left,
      List.isEmpty_iff, not_and, not_not]
    constructor
    · rintro (⟨p, hp, rfl⟩ | ⟨⟨q, a, x, q₁, push⟩, ht, p, hp, hc, body, hb, rfl⟩)
      · exact .inl ⟨s, z, p, hs, hz, hp, rfl⟩
      · exact .inr ⟨q, a, x, q₁, push, p, body, ht, hp, ⟨hc, hb⟩, by cases a <;> rfl⟩
    · rintro (⟨s', z', p, hs', hz', hp, rfl⟩ | ⟨q, a, x, q₁, push, p, body, ht, hp, ⟨hc, hb⟩, rfl⟩)
      · cases hs.symm.trans hs'
        cases hz.symm.trans hz'
        exact .inl ⟨p, hp, rfl⟩
      · exact .inr ⟨(q, a, x, q₁, push), ht, p, hp, hc, body, hb, by cases a <;> rfl⟩
  · cases h

/-- a run removing `α` gives parse trees for one of the bodies built for `α`: each move is a
production whose body comes from the run that removes what the move pushed -/
theorem genList_of_pops {P : PDA σ γ} (hP : P.WF) {ns : σ → String} {ng : γ → String} {C : CFG}
    (h : P.toCFG ns ng = some C) {q p : σ} {u : List String} {α : List γ} (hr : Pops P q u α p) :
    ∃ body, Body P (validB P) ns ng q p α body ∧ C.GenList body u := by
  induction hr with
  | nil q => exact ⟨[], body_nil.2 ⟨rfl, rfl⟩, .nil⟩
  | @cons q q₁ m p a x push α u v ht h₁ h₂ ih₁ ih₂ =>
    obtain ⟨body₁, hb₁, hg₁⟩ := ih₁
    obtain ⟨body₂, hb₂, hg₂⟩ := ih₂
    have hm : m ∈ P.states := pops_end hP h₁ (hP.dst _ ht)
    have hp : p ∈ P.states := pops_end hP h₂ hm
    have hg : C.Gen (.var (tripleName ns ng q x m)) (a.toList ++ u) :=
      .var ((mem_toCFG_prods h _).2 (.inr ⟨q, a, x, q₁, push, m, body₁, ht, hm, hb₁, rfl⟩))
        (genList_append (genList_map_ter C _) hg₁)
    exact ⟨_, (body_cons hp).2 ⟨validB_of_mem ht, m, hm, body₂, hb₂, rfl⟩,
      .cons hg hg₂⟩

theorem gen_of_pops {P : PDA σ γ} (hP : P.WF) {ns : σ → String} {ng : γ → String} {C : CFG}
    (h : P.toCFG ns ng = some C) {q p : σ} (hp : p ∈ P.states) {x : γ} {u : List String}
    (hr : Pops P q u [x] p) : C.GenList [.var (tripleName ns ng q x p)] u := by
  obtain ⟨body, hb, hg⟩ := genList_of_pops hP h hr
  obtain ⟨_, m, _, body', hb', rfl⟩ := (body_cons hp).1 hb
  obtain ⟨rfl, rfl⟩ := body_nil.1 hb'
  exact hg

/-- what a symbol of `toCFG P` generates: a triple `[q x p]` generates the inputs of the runs from `q`
that remove `x` and end in `p` -/
def Runs (P : PDA σ γ) (ns : σ → String) (ng : γ → String) : Sym → List String → Prop
  | .ter t, w => w = [t]
  | .var v, w => ∀ q x p, q ∈ P.states → x ∈ P.stack → p ∈ P.states →
      v = tripleName ns ng q x p → P.Steps (q, w, [x]) (p, [], [])

theorem steps_of_body {P : PDA σ γ} {ns : σ → String} {ng : γ → String} {p : σ}
    (hp : p ∈ P.states) {push : List γ} (hpu : ∀ x ∈ push, x ∈ P.stack) {q : σ} (hq : q ∈ P.states)
    {body : List Sym} {w : List String} (hb : Body P (validB P) ns ng q p push body)
    (hf : GenBy (Runs P ns ng) body w) : P.Steps (q, w, push) (p, [], []) := by
  induction push generalizing q body w with
  | nil =>
    obtain ⟨rfl, rfl⟩ := body_nil.1 hb
    cases hf
    exact .refl _
  | cons x push ih =>
    obtain ⟨_, m, hm, body', hb', rfl⟩ := (body_cons hp).1 hb
    obtain ⟨_, _, rfl, h1, hf⟩ := hf
    exact Steps.comp (α := [x]) (h1 q x m hq (hpu x List.mem_cons_self) hm rfl)
      (ih (fun y hy => hpu y (List.mem_cons_of_mem _ hy)) hm hb' hf)

/-- A parse tree of a triple `[q x p]` is a run from `q` that removes `x` and ends in `p`: every
symbol generates only what `Runs` says.  A production of the triple comes from one move (`hinj`
identifies it, `hstart` excludes the start production); the pieces generated by its body are the
symbol read by the move, then runs that `steps_of_body` composes. -/
theorem steps_of_gen {P : PDA σ γ} (hP : P.WF) {ns : σ → String} {ng : γ → String}
    (hinj : ∀ q x p q' x' p', q ∈ P.states → p ∈ P.states → q' ∈ P.states → p' ∈ P.states →
      x ∈ P.stack → x' ∈ P.stack →
      tripleName ns ng q x p = tripleName ns ng q' x' p' → q = q' ∧ x = x' ∧ p = p')
    (hstart : ∀ q ∈ P.states, ∀ x ∈ P.stack, ∀ p ∈ P.states, tripleName ns ng q x p ≠ "#StartCFG#")
    {C : CFG} (h : P.toCFG ns ng = some C) {s : Sym} {w : List String} (hg : C.Gen s w) :
    Runs P ns ng s w := by
  refine gen_least (fun _ => rfl) ?_ hg
  rintro hd body w hp - hf q x p hq hx hpp rfl
  rcases (mem_toCFG_prods h _).1 hp with ⟨s, z, p', _, _, _, he⟩ |
    ⟨q', a, x', q₁, push, p', body', ht, hp', hb, he⟩
  · exact absurd (Prod.mk.inj he).1 (hstart q hq x hx p hpp)
  · obtain ⟨hn, rfl⟩ := Prod.mk.inj he
    obtain ⟨rfl, rfl, rfl⟩ := hinj _ _ _ _ _ _ hq hpp (hP.src _ ht) hp' hx (hP.pop _ ht) hn
    have hrun := fun w => steps_of_body (w := w) hpp (hP.push _ ht) (hP.dst _ ht) hb
    cases a with
    | none => exact .head (List.append_nil push ▸ Step.of_mem ht _ []) (hrun w hf)
    | some c =>
      obtain ⟨_, _, rfl, rfl, hf⟩ := hf
      exact .head (List.append_nil push ▸ Step.of_mem ht _ []) (hrun _ hf)

end grammar

section product
variable {P : PDA σ γ} {D : ENFA τ} {symOf : String → Option Nat} {a : Option String} {d d' d'' : τ}
  {u : List String}

/-- the move of `D` that goes with a move of `P` labelled `a`: none on `ε`, one transition on the
number of a declared input symbol -/
def DMove (P : PDA σ γ) (D : ENFA τ) (symOf : String → Option Nat) (a : Option String) (d d' : τ) :
    Prop :=
  (a = none ∧ d' = d) ∨
    ∃ c k, a = some c ∧ c ∈ P.inputs ∧ symOf c = some k ∧ (d, some k, d') ∈ D.delta

theorem DMove.run (h : DMove P D symOf a d d') (hr : D.RunOn symOf d' u d'') :
    D.RunOn symOf d (a.toList ++ u) d'' := by
  obtain ⟨ks, hks, hr⟩ := hr
  rcases h with ⟨rfl, rfl⟩ | ⟨c, k, rfl, _, hk, hd⟩
  · exact ⟨ks, hks, hr⟩
  · exact ⟨k :: ks, mapM_cons_some.2 ⟨k, ks, hk, hks, rfl⟩, .step hd hr⟩

theorem DMove.of_run (eD : D.EpsFree) (ha : ∀ c, a = some c → c ∈ P.inputs)
    (hr : D.RunOn symOf d (a.toList ++ u) d'') :
    ∃ d', DMove P D symOf a d d' ∧ D.RunOn symOf d' u d'' := by
  cases a with
  | none => exact ⟨d, .inl ⟨rfl, rfl⟩, hr⟩
  | some c =>
    obtain ⟨k, r, hk, hdr, hr'⟩ := (ENFA.runOn_cons_iff eD).1 hr
    exact ⟨r, .inr ⟨c, k, rfl, ha c rfl, hk, hdr⟩, hr'⟩

/-- what `inter` returns: the product of `P` and `D` over the pairs `seen`, which hold the start pair
and the target of every transition kept -/
structure IsInter (P : PDA σ γ) (D : ENFA τ) (symOf : String → Option Nat) (Q : PDA (σ × τ) γ)
    (s : σ) (d₀ : τ) (seen : List (σ × τ)) : Prop where
  start : Q.start = some (s, d₀)
  startStack : Q.startStack = P.startStack
  finals : ∀ f, f ∈ Q.finals ↔ f ∈ seen ∧ f.1 ∈ P.finals ∧ f.2 ∈ D.finals
  delta : ∀ q d a x q' d' push, ((q, d), a, x, (q', d'), push) ∈ Q.delta ↔
    (q, d) ∈ seen ∧ (q, a, x, q', push) ∈ P.delta ∧ x ∈ P.stack ∧ DMove P D symOf a d d'
  seen_start : (s, d₀) ∈ seen
  seen_dst : ∀ e ∈ Q.delta, e.2.2.2.1 ∈ seen

theorem inter_steps_sound {Q : PDA (σ × τ) γ} {s : σ} {d₀ : τ} {seen : List (σ × τ)}
    (hQ : IsInter P D symOf Q s d₀ seen) {c c' : Config (σ × τ) γ} (h : Q.Steps c c') : c'.2.1 = [] →
      P.Steps (c.1.1, c.2.1, c.2.2) (c'.1.1, [], c'.2.2) ∧ D.RunOn symOf c.1.2 c.2.1 c'.1.2 := by
  induction h with
  | refl c =>
    intro he
    rw [he]
    exact ⟨Steps.refl _, [], rfl, ENFA.Run.nil _⟩
  | head hs _ ih =>
    intro he
    obtain ⟨h1, hr⟩ := ih he
    obtain ⟨⟨⟨q, d⟩, a, x, ⟨q', d'⟩, push⟩, ht, β, u, rfl, rfl⟩ := step_iff.1 hs
    obtain ⟨_, ht, _, hm⟩ := (hQ.delta ..).1 ht
    exact ⟨.head (Step.of_mem ht u β) h1, hm.run hr⟩

theorem inter_steps_complete (hP : P.WF) (eD : D.EpsFree) {Q : PDA (σ × τ) γ} {s : σ} {d₀ : τ}
    {seen : List (σ × τ)} (hQ : IsInter P D symOf Q s d₀ seen) {c c' : Config σ γ} (h : P.Steps c c') :
    c'.2.1 = [] → ∀ d d', (c.1, d) ∈ seen → D.RunOn symOf d c.2.1 d' →
      (c'.1, d') ∈ seen ∧ Q.Steps ((c.1, d), c.2.1, c.2.2) ((c'.1, d'), [], c'.2.2) := by
  induction h with
  | refl c =>
    intro he d d' hs hr
    rw [he] at hr ⊢
    cases (ENFA.runOn_nil_iff eD).1 hr
    exact ⟨hs, Steps.refl _⟩
  | head hs _ ih =>
    intro he d d' hsn hr
    obtain ⟨⟨q, a, x, q', push⟩, ht, β, u, rfl, rfl⟩ := step_iff.1 hs
    -- `D` moves along with the letter read, and the pair reached has been explored
    obtain ⟨r, hm, hr'⟩ := DMove.of_run eD (hP.inp _ ht) hr
    have hedge : ((q, d), a, x, (q', r), push) ∈ Q.delta :=
      (hQ.delta ..).2 ⟨hsn, ht, hP.pop _ ht, hm⟩
    obtain ⟨h1, h2⟩ := ih he r d' (hQ.seen_dst _ hedge) hr'
    exact ⟨h1, .head (Step.of_mem hedge u β) h2⟩

end product

section inter
variable [DecidableEq σ] [DecidableEq γ] [DecidableEq τ]

omit [DecidableEq τ] in
theorem mem_interBody (P : PDA σ γ) (pq : σ × τ) (a : Option String) (nextD : List τ)
    (e : (σ × τ) × Option String × γ × (σ × τ) × List γ) :
    e ∈ (if nextD.isEmpty = true then [] else
          P.stack.flatMap fun x =>
            (P.delta.filter fun (t : σ × Option String × γ × σ × List γ) =>
              t.1 = pq.1 ∧ t.2.1 = a ∧ t.2.2.1 = x).flatMap
            fun (t : σ × Option String × γ × σ × List γ) =>
              nextD.map fun d => (pq, a, x, (t.2.2.2.1, d), t.2.2.2.2)) ↔
      ∃ x q' push d', d' ∈ nextD ∧ e = (pq, a, x, (q', d'), push) ∧
        (pq.1, a, x, q', push) ∈ P.delta ∧ x ∈ P.stack := by
  simp only [List.mem_ite_nil_left, List.mem_flatMap, List.mem_filter, List.mem_map,
    decide_eq_true_eq]
  constructor
  · rintro ⟨_, x, hx, ⟨q₀, a₀, x₀, q', push⟩, ⟨ht, rfl, rfl, rfl⟩, d', hd', rfl⟩
    exact ⟨_, q', push, d', hd', rfl, ht, hx⟩
  · rintro ⟨x, q', push, d', hd', rfl, ht, hx⟩
    refine ⟨?_, x, hx, (pq.1, a, x, q', push), ⟨ht, rfl, rfl, rfl⟩, d', hd', rfl⟩
    rw [List.isEmpty_iff]
    exact List.ne_nil_of_mem hd'

theorem mem_interNext (P : PDA σ γ) (D : ENFA τ) (symOf : String → Option Nat) (pq : σ × τ)
    (q : σ) (d : τ) (a : Option String) (x : γ) (q' : σ) (d' : τ) (push : List γ) :
    ((q, d), a, x, (q', d'), push) ∈ interNext P D symOf pq ↔
      pq = (q, d) ∧ (q, a, x, q', push) ∈ P.delta ∧ x ∈ P.stack ∧ DMove P D symOf a d d' := by
  unfold interNext
  simp only [List.mem_flatMap, mem_interBody]
  constructor
  · rintro ⟨a, ha, x, q', push, d', hd', he, ht, hx⟩
    cases he
    refine ⟨rfl, ht, hx, ?_⟩
    cases a with
    | none => exact .inl ⟨rfl, List.mem_singleton.1 hd'⟩
    | some c =>
      have hc : c ∈ P.inputs := by simpa using ha
      cases hk : symOf c with
      | none => simp only [hk, List.not_mem_nil] at hd'
      | some k =>
        simp only [hk, List.mem_eraseDups, ENFA.mem_succs] at hd'
        exact .inr ⟨c, k, rfl, hc, hk, hd'⟩
  · rintro ⟨rfl, ht, hx, ⟨rfl, rfl⟩ | ⟨c, k, rfl, hc, hk, hdd⟩⟩
    · exact ⟨none, by simp, x, q', push, _, List.mem_singleton_self _, rfl, ht, hx⟩
    · refine ⟨some c, by simp [hc], x, q', push, d', ?_, rfl, ht, hx⟩
      simp only [hk, List.mem_eraseDups, ENFA.mem_succs]
      exact hdd

theorem inter_spec {P : PDA σ γ} {D : ENFA τ} {symOf : String → Option Nat} {fuel : Nat}
    {Q : PDA (σ × τ) γ} (h : P.inter D symOf fuel = some Q) :
    ∃ s d seen, P.start = some s ∧ D.starts.head? = some d ∧ IsInter P D symOf Q s d seen := by
  unfold inter at h
  split at h
  · rename_i s d hs hd
    simp only [Option.map_eq_some_iff] at h
    obtain ⟨seen, hb, rfl⟩ := h
    have hmem := mem_bfs_iff _ _ _ _ hb
    refine ⟨s, d, seen, hs, hd, rfl, rfl, fun f => ?_, fun q d a x q' d' push => ?_,
      (hmem _).2 ⟨_, by simp, Reach.refl _⟩, fun e he => ?_⟩
    · simp only [mk', List.mem_eraseDups, List.mem_filter, decide_eq_true_eq]
    · simp only [mk', List.mem_eraseDups, List.mem_flatMap, mem_interNext]
      exact ⟨fun ⟨_, hpq, e, h⟩ => e ▸ ⟨hpq, h⟩, fun ⟨hpq, h⟩ => ⟨_, hpq, rfl, h⟩⟩
    · -- a transition was found from an explored pair, so its target has been explored
      simp only [mk', List.mem_eraseDups, List.mem_flatMap] at he
      obtain ⟨pq, hpq, he⟩ := he
      obtain ⟨s₀, hs₀, hr⟩ := (hmem pq).1 hpq
      exact (hmem _).2 ⟨s₀, hs₀, Reach.tail hr (List.mem_map.2 ⟨e, he, rfl⟩)⟩
  · cases h

end inter

end Pfl.PDA.ToCFG
