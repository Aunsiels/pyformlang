/-
Character sets through the first three passes: the text of a set is collected into a list of tokens,
one per character (escaped where a pass or the renderer escapes it) and `-` for a range; the loop of
`_preprocess_brackets_content` fills in the ranges, `_preprocess_negation` takes the complement (`InSet`,
`mem_negation`, `set_front`).
-/
import Pfl.Proofs.PyRxPassRelations
namespace Pfl.PyRx.E2E.S3
open Pfl.PyPass

/-- does the renderer escape the character inside a set -/
def rEsc (c : Char) (first : Bool) : Bool :=
  decide (c ∈ ['[', ']', '\\']) || (c == '^' && first) || c == '-'

theorem rEsc_iff {c : Char} {first : Bool} :
    rEsc c first = true ↔ c ∈ ['[', ']', '\\'] ∨ (c = '^' ∧ first = true) ∨ c = '-' := by
  simp only [rEsc, Bool.or_eq_true, decide_eq_true_eq, Bool.and_eq_true, beq_iff_eq, or_assoc]

theorem escItem_eq (c : Char) (first : Bool) :
    escItem c first = if rEsc c first then ['\\', c] else [c] := by
  simp only [escItem, rEsc_iff]

/-- the text of the character after `_replace_shortcuts` (`l1`: as that pass cuts it into tokens) -/
def c1 (c : Char) (first : Bool) : List Char :=
  if rEsc c first then ['\\', c] else if c = ' ' then ['\\', ' '] else [c]

def l1 (c : Char) (first : Bool) : List Tok :=
  if rEsc c first then [['\\'], [c]] else if c = ' ' then [['\\', ' ']] else [[c]]

theorem c12_flatten (c : Char) (f : Bool) : (l1 c f).flatten = c1 c f := by
  unfold l1 c1; split
  · rfl
  · split <;> rfl

theorem rEsc_facts (c : Char) (first : Bool) (h : rEsc c first = true) :
    c ≠ ' ' ∧ c.isAlphanum = false := by
  simp only [rEsc_iff, List.mem_cons, List.not_mem_nil, or_false] at h
  rcases h with (rfl | rfl | rfl) | ⟨rfl, _⟩ | rfl <;> exact ⟨by decide, by decide⟩

theorem not_rEsc_facts (c : Char) (first : Bool) (h : rEsc c first = false) :
    c ≠ '\\' ∧ c ≠ '[' ∧ c ≠ ']' ∧ c ≠ '-' ∧ (first = true → c ≠ '^') := by
  have hn : ∀ d, d ∈ ['[', ']', '\\'] ∨ (d = '^' ∧ first = true) ∨ d = '-' → c ≠ d := by
    rintro d hd rfl
    rw [rEsc_iff.mpr hd] at h
    cases h
  exact ⟨hn _ (by simp), hn _ (by simp), hn _ (by simp), hn _ (by simp), fun hf => hn _ (by simp [hf])⟩

theorem Wr.last {d : Char} {t : Tok} (h : Wr d t) : lastOrd t = .ok d.toNat := by
  rcases h with ⟨rfl, _⟩ | ⟨rfl, _⟩ <;> rfl

theorem Wr.ne_bs {d : Char} {t : Tok} (h : Wr d t) : t ≠ ['\\'] := by
  rcases h with ⟨rfl, _⟩ | ⟨rfl, h⟩
  · simp
  · intro e
    simp only [List.cons.injEq, and_true] at e
    exact h (by rw [e]; decide)

theorem Wr.facts {d : Char} {t : Tok} (h : Wr d t) (hd : d ∈ printables) :
    UTok true t ∧ recombine? t = none := by
  rcases h with ⟨rfl, h⟩ | ⟨rfl, h⟩
  · exact ⟨utok_esc d h, recombine_esc d h⟩
  · exact ⟨utok_plain d h (printable_ne_backspace d hd), recombine_plain d⟩

theorem mustEsc_not_alnum : ∀ c ∈ mustEsc, c.isAlphanum = false := by decide

theorem wr_transf (d : Char) (hn : d ≠ '\n') : Wr d (transf d) := by
  rcases transf_cases d hn with h | h
  · exact Or.inl ⟨h.1, mustEsc_not_alnum d h.2⟩
  · exact Or.inr h

theorem Wr.transf {d : Char} {t : Tok} (h : Wr d t) (hn : d ≠ '\n') : t = transf d ∨ t = ['\\', d] := by
  rcases h with h | ⟨rfl, h⟩
  · exact Or.inr h.1
  · rcases transf_cases d hn with h' | h'
    · exact absurd h'.2 h
    · exact Or.inl h'.1.symm

theorem mustEsc_sub : ∀ c ∈ mustEsc, c = ' ' ∨ c = '|' ∨ c = '\\' ∨ c ∈ toEscapeInBrackets := by decide

theorem toEscape_not_alnum : ∀ c ∈ toEscapeInBrackets, c.isAlphanum = false := by decide

theorem transf_char (c : Char) (hn : c ≠ '\n') : tokChar (transf c) = c := (wr_transf c hn).tokChar

theorem transf_ne_bs (c : Char) : transf c ≠ ['\\'] := by
  by_cases hn : c = '\n'
  · subst hn; decide
  · exact (wr_transf c hn).ne_bs

/-- A character of a set as the renderer writes it, through the front: one token that stands for the
character, is no `-` (which the loop over the collected tokens would read as a range sign) and, in first
position, no `^`. -/
theorem ch_front (c : Char) (f : Bool) (h0 : c.toNat < 128) :
    ∃ t, Front true (escItem c f) [t] ∧ Wr c t ∧ t ≠ ['-'] ∧ (f = true → t ≠ ['^']) := by
  rw [escItem_eq]
  cases h : rEsc c f with
  | true =>
    have hf := rEsc_facts c f h
    exact ⟨_, Front.esc true c h0 hf, Or.inl ⟨rfl, hf.2⟩, by simp, by simp⟩
  | false =>
    have hf := not_rEsc_facts c f h
    by_cases hb : c = ' '
    · subst hb; exact ⟨_, Front.blank true, Or.inl ⟨rfl, by decide⟩, by simp, by simp⟩
    have hi := Front.inSet c h0 hb hf.1 hf.2.1 hf.2.2.1
    by_cases he : c ∈ toEscapeInBrackets
    · rw [if_pos he] at hi
      exact ⟨_, hi, Or.inl ⟨rfl, toEscape_not_alnum c he⟩, by simp, by simp⟩
    rw [if_neg he] at hi
    by_cases hbar : c = '|'
    · rw [if_pos hbar] at hi
      exact ⟨_, hi, Or.inl ⟨by rw [hbar], by rw [hbar]; decide⟩, by simp, by simp⟩
    rw [if_neg hbar] at hi
    refine ⟨_, hi, Or.inr ⟨rfl, fun hm => ?_⟩, by simpa using hf.2.2.2.1, by simpa using hf.2.2.2.2⟩
    rcases mustEsc_sub c hm with e | e | e | e
    · exact hb e
    · exact hbar e
    · exact hf.1 e
    · exact he e

theorem rangeToks_ne_bs (lo hi : Nat) : ∀ t ∈ rangeToks lo hi, t ≠ ['\\'] := by
  intro t ht
  simp only [rangeToks, List.mem_map] at ht
  obtain ⟨j, _, rfl⟩ := ht
  exact transf_ne_bs _

theorem loop_sym (prev : Option Tok) (sym : Tok) (rest : List Tok) (temp : RToks) (valid : Bool)
    (h1 : sym ≠ ['-']) (h2 : escNext temp = false) :
    bracketsContentLoop prev (sym :: rest) temp valid =
      bracketsContentLoop (some sym) rest (sym :: temp) (!(prev == some ['-'] && !valid)) := by
  conv => lhs; unfold bracketsContentLoop
  simp [beq_tok_false h1, pushTok_of temp sym h2]

theorem loop_dash (p : Tok) (nxt : Tok) (rest : List Tok) (temp : RToks) (h2 : escNext temp = false) :
    bracketsContentLoop (some p) (['-'] :: nxt :: rest) temp true = (do
      let lo ← lastOrd p
      let hi ← lastOrd nxt
      bracketsContentLoop (some ['-']) (nxt :: rest) ((rangeToks lo hi).reverse ++ temp) false) := by
  conv => lhs; unfold bracketsContentLoop
  simp [h2]

theorem range_char (j : Nat) (h1 : 33 ≤ j) (h2 : j ≤ 126) :
    Char.ofNat j ∈ printables ∧ Char.ofNat j ≠ '\n' := by
  have hj : j ∈ printables.map Char.toNat := by
    simp only [printables_toNat, List.mem_append, List.mem_range'_1]
    omega
  obtain ⟨c, hc, rfl⟩ := List.mem_map.mp hj
  rw [Char.ofNat_toNat]
  exact ⟨hc, by rintro rfl; exact absurd h1 (by decide)⟩

theorem visible_char (c : Char) (h1 : 33 ≤ c.toNat) (h2 : c.toNat ≤ 126) : c ∈ printables := by
  have := (range_char c.toNat h1 h2).1
  rwa [Char.ofNat_toNat] at this

theorem newline_printable : '\n' ∈ printables :=
  (mem_printables _).mpr (Or.inr (Or.inr (Or.inr (Or.inr (by decide)))))

/-- The items of a set the proof covers; `neg` is the sign of the set.  The library fills a range with the
characters of all codes strictly between its ends, whatever they are: `33 ≤ lo` and `hi ≤ 126` (`!` to `~`,
the visible ASCII characters) is the interval in which every code belongs to a printable character other
than the newline (`range_char`), so the filled-in set stays inside the alphabet.  A negated set has no
newline among its members: the library excludes members by comparing token texts (`mem_negation`), and the
newline is what shows that something is left (`union_spec`). -/
def GoodIt (neg : Bool) : Item → Prop
  | .ch c => c ∈ printables ∧ (neg = true → c ≠ '\n')
  | .range lo hi => 33 ≤ lo.toNat ∧ lo.toNat ≤ hi.toNat ∧ hi.toNat ≤ 126
  | .short _ => False

def MemTok (neg : Bool) (t : Tok) : Prop := ∃ d ∈ printables, (neg = true → d ≠ '\n') ∧ Wr d t

theorem MemTok.facts {neg : Bool} {t : Tok} (h : MemTok neg t) :
    E.leaf t = PyRx.sym (tokChar t) ∧ UTok true t ∧ recombine? t = none ∧ (neg = true → tokChar t ≠ '\n') := by
  obtain ⟨d, hd, hn, hw⟩ := h
  exact ⟨hw.leaf, (hw.facts hd).1, (hw.facts hd).2, hw.tokChar ▸ hn⟩

theorem mem_rangeToks (lo hi : Nat) (t : Tok) :
    t ∈ rangeToks lo hi ↔ ∃ j, lo < j ∧ j < hi ∧ t = transf (Char.ofNat j) := by
  simp only [rangeToks, List.mem_map, List.mem_range'_1]
  constructor
  · rintro ⟨j, ⟨h1, h2⟩, rfl⟩
    exact ⟨j, by omega, by omega, rfl⟩
  · rintro ⟨j, h1, h2, rfl⟩
    exact ⟨j, ⟨by omega, by omega⟩, rfl⟩

theorem mem_itemChars_range (lo hi c : Char) :
    c ∈ itemChars (.range lo hi) ↔ ∃ j, lo.toNat ≤ j ∧ j ≤ hi.toNat ∧ c = Char.ofNat j := by
  simp only [itemChars, List.mem_map, List.mem_range]
  constructor
  · rintro ⟨i, hi', rfl⟩
    exact ⟨lo.toNat + i, by omega, by omega, rfl⟩
  · rintro ⟨j, h1, h2, rfl⟩
    exact ⟨j - lo.toNat, by omega, by rw [show lo.toNat + (j - lo.toNat) = j by omega]⟩

/-- Part of the body of a set: the front collects the text `s` as tokens `bc`, of which the loop of
`_preprocess_brackets_content` (started anywhere but behind a range sign) makes `ex`: members of a set of
sign `neg` that stand for the characters `cs`.  Closed under `++` like `Front`. -/
def InSet (neg : Bool) (s : List Char) (ex : List Tok) (cs : List Char) : Prop :=
  (∀ t ∈ ex, MemTok neg t) ∧ (∀ c, (∃ t ∈ ex, tokChar t = c) ↔ c ∈ cs) ∧
  ∃ bc, Front true s bc ∧ ∀ prev tail temp valid, prev ≠ some ['-'] → escNext temp = false →
    ∃ prev' valid', prev' ≠ some ['-'] ∧ bracketsContentLoop prev (bc ++ tail) temp valid =
      bracketsContentLoop prev' tail (ex.reverse ++ temp) valid'

theorem MemTok.noBs {neg : Bool} {ex : List Tok} (h : ∀ t ∈ ex, MemTok neg t) : NoBsT ex := fun t ht => by
  obtain ⟨_, _, _, hw⟩ := h t ht
  exact hw.ne_bs

theorem InSet.nil (neg : Bool) : InSet neg [] [] [] :=
  ⟨fun _ h => (nomatch h), fun c => by simp, [], Front.nil true,
    fun prev _ _ valid hp _ => ⟨prev, valid, hp, rfl⟩⟩

theorem InSet.append {neg : Bool} {s s' : List Char} {ex ex' : List Tok} {cs cs' : List Char} (h : InSet neg s ex cs)
    (h' : InSet neg s' ex' cs') : InSet neg (s ++ s') (ex ++ ex') (cs ++ cs') := by
  obtain ⟨m, c, bc, f, l⟩ := h
  obtain ⟨m', c', bc', f', l'⟩ := h'
  refine ⟨fun t ht => (List.mem_append.mp ht).elim (m t) (m' t), fun d => ?_, bc ++ bc', f.append f',
    fun prev tail temp valid hp ht => ?_⟩
  · rw [List.mem_append, ← c d, ← c' d]
    simp only [List.mem_append, or_and_right, exists_or]
  · obtain ⟨p1, v1, hp1, e1⟩ := l prev (bc' ++ tail) temp valid hp ht
    obtain ⟨p2, v2, hp2, e2⟩ := l' p1 tail _ v1 hp1 (escNext_toks _ (MemTok.noBs m) temp ht)
    exact ⟨p2, v2, hp2, by rw [List.append_assoc, e1, e2]; simp⟩

theorem InSet.ch {neg : Bool} (c : Char) (f : Bool) (h : GoodIt neg (.ch c)) :
    ∃ t, InSet neg (escItem c f) [t] [c] ∧ (f = true → t ≠ ['^']) := by
  obtain ⟨t, hf, hw, hd, hc⟩ := ch_front c f (printable_ascii c h.1)
  refine ⟨t, ⟨fun x hx => ?_, fun d => by simp [hw.tokChar, eq_comm], [t], hf, fun prev tail temp valid _ ht =>
    ⟨some t, _, by simpa using hd, loop_sym prev t tail temp valid hd ht⟩⟩, hc⟩
  rw [List.mem_singleton.mp hx]
  exact ⟨c, h.1, h.2, hw⟩

theorem InSet.range {neg : Bool} (lo hi : Char) (f : Bool) (h : GoodIt neg (.range lo hi)) :
    ∃ t r, InSet neg (renderItem (.range lo hi) f) (t :: r) (itemChars (.range lo hi)) ∧
      (f = true → t ≠ ['^']) := by
  obtain ⟨h1, h2, h3⟩ := h
  have vis : ∀ j, lo.toNat ≤ j → j ≤ hi.toNat → Char.ofNat j ∈ printables ∧ Char.ofNat j ≠ '\n' :=
    fun j a b => range_char j (by omega) (by omega)
  have hlo := vis _ (Nat.le_refl _) h2
  have hhi := vis _ h2 (Nat.le_refl _)
  rw [Char.ofNat_toNat] at hlo hhi
  obtain ⟨a, fa, wa, da, ca⟩ := ch_front lo f (by omega)
  obtain ⟨b, fb, wb, db, _⟩ := ch_front hi false (by omega)
  have hmem : ∀ t, t ∈ a :: (rangeToks lo.toNat hi.toNat ++ [b]) ↔ t = a ∨
      (∃ j, lo.toNat < j ∧ j < hi.toNat ∧ t = transf (Char.ofNat j)) ∨ t = b := fun t => by
    simp only [List.mem_cons, List.mem_append, List.not_mem_nil, or_false, mem_rangeToks]
  refine ⟨a, rangeToks lo.toNat hi.toNat ++ [b], ⟨fun t ht => ?_, fun c => ?_, [a, ['-'], b],
    (fa.append (Front.inSet '-' (by decide) (by decide) (by decide) (by decide) (by decide))).append fb,
    fun prev tail temp valid hp ht => ⟨some b, false, by simpa using db, ?_⟩⟩, ca⟩
  · rcases (hmem t).mp ht with rfl | ⟨j, p, q, rfl⟩ | rfl
    · exact ⟨lo, hlo.1, fun _ => hlo.2, wa⟩
    · have hj := vis j (by omega) (by omega)
      exact ⟨_, hj.1, fun _ => hj.2, wr_transf _ hj.2⟩
    · exact ⟨hi, hhi.1, fun _ => hhi.2, wb⟩
  · rw [mem_itemChars_range]
    constructor
    · rintro ⟨t, ht, rfl⟩
      rcases (hmem t).mp ht with rfl | ⟨j, p, q, rfl⟩ | rfl
      · exact ⟨lo.toNat, Nat.le_refl _, h2, by rw [wa.tokChar, Char.ofNat_toNat]⟩
      · exact ⟨j, by omega, by omega, transf_char _ (vis j (by omega) (by omega)).2⟩
      · exact ⟨hi.toNat, h2, Nat.le_refl _, by rw [wb.tokChar, Char.ofNat_toNat]⟩
    · rintro ⟨j, p, q, rfl⟩
      by_cases e1 : j = lo.toNat
      · exact ⟨_, (hmem _).mpr (Or.inl rfl), by rw [wa.tokChar, e1, Char.ofNat_toNat]⟩
      by_cases e2 : j = hi.toNat
      · exact ⟨_, (hmem _).mpr (Or.inr (Or.inr rfl)), by rw [wb.tokChar, e2, Char.ofNat_toNat]⟩
      exact ⟨_, (hmem _).mpr (Or.inr (Or.inl ⟨j, by omega, by omega, rfl⟩)), transf_char _ (vis j p q).2⟩
  · have hpv : (prev == some ['-']) = false := by
      cases prev with
      | none => rfl
      | some q => simpa using fun e => hp (by rw [e])
    have e1 : escNext (a :: temp) = false := escNext_cons _ temp wa.ne_bs
    have e2 : escNext ((rangeToks lo.toNat hi.toNat).reverse ++ a :: temp) = false :=
      escNext_toks _ (rangeToks_ne_bs _ _) _ e1
    show bracketsContentLoop prev (a :: ['-'] :: b :: tail) temp valid = _
    rw [loop_sym prev _ _ temp valid da ht]
    simp only [hpv, Bool.false_and, Bool.not_false]
    rw [loop_dash _ _ _ _ e1, wa.last, wb.last]
    simp only [bind, Except.bind]
    rw [loop_sym _ _ _ _ _ db e2]
    simp

theorem items_inSet {neg : Bool} : ∀ (items : List Item) (f : Bool), (∀ it ∈ items, GoodIt neg it) →
    ∃ ex, InSet neg (renderItems items f) ex (members items) ∧
      (items ≠ [] → ∃ t r, ex = t :: r ∧ (f = true → t ≠ ['^']))
  | [], _, _ => ⟨[], InSet.nil neg, fun h => absurd rfl h⟩
  | it :: rest, f, h => by
    obtain ⟨ex', i', _⟩ := items_inSet rest false (fun x hx => h x (by simp [hx]))
    have hg := h it (by simp)
    cases it with
    | short k => exact absurd hg (by simp [GoodIt])
    | ch c =>
      obtain ⟨t, i, hc⟩ := InSet.ch c f hg
      exact ⟨_, i.append i', fun _ => ⟨t, _, rfl, hc⟩⟩
    | range lo hi =>
      obtain ⟨t, r, i, hc⟩ := InSet.range lo hi f hg
      exact ⟨_, i.append i', fun _ => ⟨t, _, rfl, hc⟩⟩

def caretT (neg : Bool) : List Tok := if neg then [['^']] else []

/-- the token a negated set writes for a printable character it keeps -/
def cand (c : Char) : Tok := if c = '\n' then ['\n'] else transf c

theorem wr_cand (c : Char) : Wr c (cand c) := by
  unfold cand
  split
  · rename_i h; subst h; exact Or.inr ⟨rfl, by decide⟩
  · rename_i h; exact wr_transf c h

theorem mem_candidates (t : Tok) :
    (t ∈ escapedPrintables ∨ t = ['\n']) ↔ ∃ c ∈ printables, t = cand c := by
  constructor
  · rintro (ht | rfl)
    · obtain ⟨c, hc, hn, rfl⟩ := (mem_escapedPrintables t).mp ht
      exact ⟨c, hc, by rw [cand, if_neg hn]⟩
    · exact ⟨'\n', newline_printable, rfl⟩
  · rintro ⟨c, hc, rfl⟩
    by_cases hn : c = '\n'
    · exact Or.inr (by rw [cand, if_pos hn])
    · exact Or.inl ((mem_escapedPrintables _).mpr ⟨c, hc, hn, by rw [cand, if_neg hn]⟩)

/-- A negated set keeps the printable characters that no member stands for.  The library excludes by
comparing token texts, and a character can be written plain or with a backslash (`Wr`), so it adds to
the members the `transf` form of every escaped member (`extra`, characterised by `hextra`).  With that,
"not among the excluded texts" is "no member with the same character". -/
theorem mem_negation (M : List Tok) (hM : ∀ m ∈ M, MemTok true m) (t : Tok) :
    t ∈ preprocessNegation (['^'] :: M) ↔
      ∃ c ∈ printables, t = cand c ∧ ¬ ∃ m ∈ M, tokChar m = c := by
  have hextra : ∀ x, x ∈ M.filterMap (fun s =>
      match recombine? s with
      | some r => some r
      | none =>
        match s with
        | ['\\', c] => some (transf c)
        | _ => none) ↔ ∃ d, ['\\', d] ∈ M ∧ x = transf d := by
    intro x
    rw [List.mem_filterMap]
    constructor
    · rintro ⟨m, hm, hx⟩
      rw [(hM m hm).facts.2.2.1] at hx
      simp only at hx
      split at hx
      · rename_i d
        simp only [Option.some.injEq] at hx
        exact ⟨d, hm, hx.symm⟩
      · simp at hx
    · rintro ⟨d, hd, rfl⟩
      refine ⟨_, hd, ?_⟩
      rw [(hM _ hd).facts.2.2.1]
      rfl
  rw [preprocessNegation]
  simp only [bne_self_eq_false, Bool.false_eq_true, if_false, List.mem_filter, List.mem_append,
    List.mem_cons, List.not_mem_nil, or_false, Bool.not_eq_true', List.contains_eq_mem,
    decide_eq_false_iff_not, mem_candidates]
  constructor
  · rintro ⟨⟨c, hc, rfl⟩, h2⟩
    refine ⟨c, hc, rfl, ?_⟩
    rintro ⟨m, hm, rfl⟩
    obtain ⟨d, _, hdn, hw⟩ := hM m hm
    rw [hw.tokChar] at h2
    have hn := hdn rfl
    rw [cand, if_neg hn] at h2
    rcases hw.transf hn with e | e
    · exact h2 (Or.inl (e ▸ hm))
    · exact h2 (Or.inr ((hextra _).mpr ⟨d, e ▸ hm, rfl⟩))
  · rintro ⟨c, hc, rfl, h2⟩
    refine ⟨⟨c, hc, rfl⟩, ?_⟩
    rintro (hm | hx)
    · exact h2 ⟨_, hm, (wr_cand c).tokChar⟩
    · obtain ⟨d, hd, e⟩ := (hextra _).mp hx
      have hn : d ≠ '\n' := (hM _ hd).facts.2.2.2 rfl
      refine h2 ⟨_, hd, ?_⟩
      rw [← (wr_cand c).tokChar, e, transf_char d hn]
      rfl

/-- what `_preprocess_negation` and the removal of duplicates leave of the tokens `ex` of a set -/
def unionOf (neg : Bool) (ex : List Tok) : List Tok := (preprocessNegation (caretT neg ++ ex)).eraseDups

theorem union_spec {neg : Bool} {ex : List Tok} {cs : List Char} (hm : ∀ t ∈ ex, MemTok neg t)
    (hc : ∀ c, (∃ t ∈ ex, tokChar t = c) ↔ c ∈ cs) (hex : ∃ t r, ex = t :: r ∧ t ≠ ['^']) :
    (∃ t, t ∈ unionOf neg ex) ∧
    (∀ t ∈ unionOf neg ex, E.leaf t = PyRx.sym (tokChar t) ∧ UTok true t) ∧
      ∀ c, (∃ t ∈ unionOf neg ex, tokChar t = c) ↔
        (neg = true ∧ c ∈ printables ∧ c ∉ cs) ∨ (neg = false ∧ c ∈ cs) := by
  cases neg with
  | false =>
    obtain ⟨t, r, rfl, ht⟩ := hex
    have e : preprocessNegation (caretT false ++ t :: r) = t :: r := by
      simp [caretT, preprocessNegation, ht]
    simp only [unionOf, e, List.mem_eraseDups, hc, Bool.false_eq_true, false_and, true_and, false_or]
    exact ⟨⟨t, by simp⟩, fun x hx => ⟨(hm x hx).facts.1, (hm x hx).facts.2.1⟩, fun _ => trivial⟩
  | true =>
    simp only [unionOf, caretT, if_true, List.singleton_append, List.mem_eraseDups, mem_negation _ hm, hc, true_and,
      Bool.true_eq_false, false_and, or_false]
    refine ⟨⟨_, '\n', newline_printable, rfl, fun h => ?_⟩, ?_, fun c => ⟨?_, fun h => ?_⟩⟩
    · obtain ⟨t, ht, e⟩ := (hc _).mpr h
      exact (hm t ht).facts.2.2.2 rfl e
    · rintro _ ⟨c, hp, rfl, _⟩
      exact ⟨(wr_cand c).leaf, ((wr_cand c).facts hp).1⟩
    · rintro ⟨_, ⟨d, hd, rfl, hn⟩, rfl⟩
      rw [(wr_cand d).tokChar]
      exact ⟨hd, hn⟩
    · exact ⟨_, ⟨c, h.1, rfl, h.2⟩, (wr_cand c).tokChar⟩

theorem InSet.run {neg : Bool} {s : List Char} {ex : List Tok} {cs : List Char} (h : InSet neg s ex cs) : ∃ bc,
    Front true ((if neg then ['^'] else []) ++ s) bc ∧
      bracketsContentLoop none bc [] false = .ok (caretT neg ++ ex).reverse := by
  obtain ⟨_, _, bc, hf, hl⟩ := h
  have hrun : ∀ prev temp valid, prev ≠ some ['-'] → escNext temp = false →
      bracketsContentLoop prev bc temp valid = .ok (ex.reverse ++ temp) := fun prev temp valid hp ht => by
    obtain ⟨_, _, _, e⟩ := hl prev [] temp valid hp ht
    rw [List.append_nil] at e
    rw [e, bracketsContentLoop]
  cases neg with
  | false => exact ⟨bc, hf, by simpa [caretT] using hrun none [] false (by simp) rfl⟩
  | true =>
    refine ⟨['^'] :: bc,
      (Front.inSet '^' (by decide) (by decide) (by decide) (by decide) (by decide)).append hf, ?_⟩
    rw [loop_sym none ['^'] bc [] false (by simp) rfl, hrun _ _ _ (by simp) (by simp [escNext])]
    simp [caretT]

/-- A set as rendered, through the front: it becomes the union, in parentheses, of tokens that stand for its
characters (`cs`: any list with the members of `setChars`). -/
theorem set_front {neg : Bool} {items : List Item} (hne : items ≠ []) (h : ∀ it ∈ items, GoodIt neg it)
    (lv : Nat) (ctx : Ctx) (cs : List Char) (hcs : ∀ c, c ∈ setChars printables neg items ↔ c ∈ cs) :
    ∃ l, Front false (render (.set neg items) ctx) l ∧ Pat true true true lv l (anyOf cs) := by
  obtain ⟨ex, hi, hex⟩ := items_inSet items true h
  obtain ⟨t, r, e, ht⟩ := hex hne
  obtain ⟨⟨t0, h0⟩, hts, hch⟩ := union_spec hi.1 hi.2.1 ⟨t, r, e, ht rfl⟩
  obtain ⟨bc, hf, hloop⟩ := hi.run
  have ha := alts_insertOr _ (List.ne_nil_of_mem h0) fun t ht => (hts t ht).2
  have hfin : ∀ t ∈ insertOr (unionOf neg ex), FinTok t :=
    ha.all (fun _ hu => hu.plain.mono (by decide)) (fin_ch _ (by decide))
  have hcont : preprocessBracketsContent bc = .ok (insertOr (unionOf neg ex)) := by
    simp only [unionOf, preprocessBracketsContent, hloop, bind, Except.bind, List.reverse_reverse]
    exact recombine_fin _ hfin
  exact ⟨_, Front.set hf hcont fun t ht => (hfin t ht).ne (by decide),
    .eqv (.set ha) (altc_anyOf _ _ (List.ne_nil_of_mem h0) (fun t ht => (hts t ht).1) fun c =>
      ((hch c).trans (Lem.mem_setChars _ _ _ c).symm).trans (hcs c))⟩

end Pfl.PyRx.E2E.S3
