/-
Python dicts are modelled as association lists in insertion order, and each model spells its own lookup
and update.  The spellings are few: `get` (first entry with the key), `set` (`d[k] = v`, an existing key
keeps its place), `mapAt` (`d[k] = f (d[k])` at a key that is there), `upsert` (the same, or `d[k] = v`
as a new entry at the end).  A model function is bridged to one of them by `rfl` or by a case split on
its `find?`, and then reads its facts here.  Core Lean only.
-/
import Pfl.Proofs.ListBasics

namespace Pfl
namespace Assoc
variable {α β : Type} [DecidableEq α]

/-- `d.get(k)` -/
def get (l : List (α × β)) (k : α) : Option β := (l.find? (·.1 = k)).map (·.2)

/-- `d[k] = v` -/
def set (l : List (α × β)) (k : α) (v : β) : List (α × β) :=
  if l.any (·.1 = k) then l.map fun e => if e.1 = k then (k, v) else e else l ++ [(k, v)]

/-- `d[k] = f (d[k])` where `k` is a key, nothing otherwise -/
def mapAt (l : List (α × β)) (k : α) (f : β → β) : List (α × β) :=
  l.map fun e => if e.1 = k then (e.1, f e.2) else e

/-- `d[k] = f (d[k])` where `k` is a key, `d[k] = v` otherwise -/
def upsert (l : List (α × β)) (k : α) (f : β → β) (v : β) : List (α × β) :=
  if l.any (·.1 = k) then mapAt l k f else l ++ [(k, v)]

theorem get_nil (k : α) : get ([] : List (α × β)) k = none := rfl

theorem get_cons (e : α × β) (l : List (α × β)) (k : α) :
    get (e :: l) k = if e.1 = k then some e.2 else get l k := by
  unfold get
  rw [List.find?_cons]
  by_cases h : e.1 = k
  · rw [if_pos h, decide_eq_true h]; rfl
  · rw [if_neg h, decide_eq_false h]

theorem get_append (l₁ l₂ : List (α × β)) (k : α) : get (l₁ ++ l₂) k = (get l₁ k).or (get l₂ k) := by
  unfold get
  rw [List.find?_append]
  cases l₁.find? (·.1 = k) <;> rfl

theorem find_eq_none_iff {l : List (α × β)} {k : α} :
    l.find? (·.1 = k) = none ↔ k ∉ l.map (·.1) := by
  simp only [List.find?_eq_none, decide_eq_true_eq, List.mem_map, not_exists, not_and]

theorem get_eq_none_iff {l : List (α × β)} {k : α} : get l k = none ↔ k ∉ l.map (·.1) :=
  Option.map_eq_none_iff.trans find_eq_none_iff

/-- the test `k in d`, which the models spell with `any` -/
theorem any_eq (l : List (α × β)) (k : α) : l.any (·.1 = k) = (get l k).isSome := by
  rw [get, Option.isSome_map, Bool.eq_iff_iff, List.find?_isSome, List.any_eq_true]

theorem any_key {l : List (α × β)} {k : α} : l.any (·.1 = k) = true ↔ k ∈ l.map (·.1) := by
  rw [any_eq, Option.isSome_iff_ne_none]
  exact (not_congr get_eq_none_iff).trans Decidable.not_not

theorem mem_of_get {l : List (α × β)} {k : α} {v : β} (h : get l k = some v) : (k, v) ∈ l := by
  obtain ⟨e, he, rfl⟩ := Option.map_eq_some_iff.1 h
  have hk : e.1 = k := by simpa using List.find?_some he
  exact hk ▸ List.mem_of_find?_eq_some he

theorem key_of_get {l : List (α × β)} {k : α} {v : β} (h : get l k = some v) : k ∈ l.map (·.1) :=
  List.mem_map.2 ⟨_, mem_of_get h, rfl⟩

theorem get_eq_some_iff {l : List (α × β)} {k : α} {v : β} (hn : (l.map (·.1)).Nodup) :
    get l k = some v ↔ (k, v) ∈ l := by
  refine ⟨mem_of_get, fun hm => ?_⟩
  cases h : get l k with
  | none => exact absurd (List.mem_map.2 ⟨_, hm, rfl⟩) (get_eq_none_iff.1 h)
  | some w => rw [(Prod.mk.inj (key_inj_of_nodup (·.1) hn _ (mem_of_get h) _ hm rfl)).2]

/-- `del d[k]`, spelt as a filter -/
theorem get_filter_ne (l : List (α × β)) (k k' : α) :
    get (l.filter fun e => !(e.1 = k)) k' = if k' = k then none else get l k' := by
  unfold get
  rw [List.find?_filter]
  by_cases h : k' = k
  · subst h
    rw [if_pos rfl, List.find?_eq_none.2 (by simp)]
    rfl
  · rw [if_neg h]
    congr 2
    funext e
    by_cases h1 : e.1 = k'
    · simp [h1, h]
    · simp [h1]

omit [DecidableEq α] in
theorem keys_filter_nodup {l : List (α × β)} (p : α × β → Bool) (hn : (l.map (·.1)).Nodup) :
    ((l.filter p).map (·.1)).Nodup :=
  hn.sublist (List.filter_sublist.map _)

theorem get_map_mk {ι : Type} [DecidableEq ι] (κ : ι → α) (hκ : ∀ i j, κ i = κ j → i = j) (g : ι → β)
    (L : List ι) (i : ι) : get (L.map fun j => (κ j, g j)) (κ i) = if i ∈ L then some (g i) else none := by
  induction L with
  | nil => rfl
  | cons a L ih =>
    rw [List.map_cons, get_cons, ih]
    by_cases h : κ a = κ i
    · rw [if_pos h, hκ a i h, if_pos List.mem_cons_self]
    · rw [if_neg h]
      have : i ≠ a := fun e => h (e ▸ rfl)
      simp only [List.mem_cons, this, false_or]

theorem mapAt_cons (e : α × β) (l : List (α × β)) (k : α) (f : β → β) :
    mapAt (e :: l) k f = (if e.1 = k then (e.1, f e.2) else e) :: mapAt l k f := rfl

theorem keys_mapAt (l : List (α × β)) (k : α) (f : β → β) : (mapAt l k f).map (·.1) = l.map (·.1) := by
  unfold mapAt
  rw [List.map_map]
  exact List.map_congr_left fun e _ => by simp only [Function.comp]; split <;> rfl

theorem get_mapAt (l : List (α × β)) (k : α) (f : β → β) (k' : α) :
    get (mapAt l k f) k' = if k' = k then (get l k').map f else get l k' := by
  induction l with
  | nil => exact (ite_self _).symm
  | cons e l ih =>
    unfold mapAt at ih ⊢
    rw [List.map_cons, get_cons, get_cons, ih]
    by_cases h1 : e.1 = k
    · by_cases h2 : k' = k
      · subst h2; simp [h1]
      · have h3 : ¬ k = k' := fun h => h2 h.symm
        simp [h1, h2, h3]
    · by_cases h2 : k' = k
      · subst h2; simp [h1]
      · simp [h1, h2]

theorem getD_mapAt (l : List (α × β)) (k : α) (f : β → β) {d : β} (hd : f d = d) (k' : α) :
    (get (mapAt l k f) k').getD d = if k' = k then f ((get l k).getD d) else (get l k').getD d := by
  rw [get_mapAt]
  split
  · next h =>
    rw [h]
    cases get l k with
    | none => exact hd.symm
    | some b => rfl
  · rfl

theorem mapAt_of_not_mem {l : List (α × β)} {k : α} (f : β → β) (h : k ∉ l.map (·.1)) : mapAt l k f = l := by
  unfold mapAt
  refine (List.map_congr_left fun e he => ?_).trans (List.map_id' l)
  exact if_neg fun h1 => h (List.mem_map.2 ⟨e, he, h1⟩)

theorem mem_mapAt {l : List (α × β)} {k : α} {f : β → β} {e : α × β} (h : e ∈ mapAt l k f) :
    (e ∈ l ∧ e.1 ≠ k) ∨ ∃ b, (k, b) ∈ l ∧ e = (k, f b) := by
  obtain ⟨e', he', rfl⟩ := List.mem_map.1 h
  by_cases hk : e'.1 = k
  · rw [if_pos hk]; exact Or.inr ⟨e'.2, hk ▸ he', by rw [hk]⟩
  · rw [if_neg hk]; exact Or.inl ⟨he', hk⟩

theorem upsert_of_mem {l : List (α × β)} {k : α} (f : β → β) (v : β) (h : k ∈ l.map (·.1)) :
    upsert l k f v = mapAt l k f := if_pos (any_key.2 h)

theorem upsert_of_not_mem {l : List (α × β)} {k : α} (f : β → β) (v : β) (h : k ∉ l.map (·.1)) :
    upsert l k f v = l ++ [(k, v)] := if_neg fun h1 => h (any_key.1 h1)

theorem keys_upsert (l : List (α × β)) (k : α) (f : β → β) (v : β) :
    (upsert l k f v).map (·.1) = if k ∈ l.map (·.1) then l.map (·.1) else l.map (·.1) ++ [k] := by
  by_cases h : k ∈ l.map (·.1)
  · rw [upsert_of_mem f v h, if_pos h, keys_mapAt]
  · rw [upsert_of_not_mem f v h, if_neg h, List.map_append]; rfl

theorem keys_upsert_nodup {l : List (α × β)} (k : α) (f : β → β) (v : β) (hn : (l.map (·.1)).Nodup) :
    ((upsert l k f v).map (·.1)).Nodup := by
  rw [keys_upsert]
  exact nodup_insert_end hn

theorem get_upsert (l : List (α × β)) (k : α) (f : β → β) (v : β) (k' : α) :
    get (upsert l k f v) k' = if k' = k then some ((get l k).elim v f) else get l k' := by
  cases hg : get l k with
  | none =>
    rw [upsert_of_not_mem f v (get_eq_none_iff.1 hg), get_append, get_cons, get_nil]
    by_cases h : k' = k
    · rw [if_pos h, if_pos h.symm, h, hg]; rfl
    · rw [if_neg h, if_neg fun h1 => h h1.symm, Option.or_none]
  | some b =>
    rw [upsert_of_mem f v (key_of_get hg), get_mapAt]
    by_cases h : k' = k
    · rw [if_pos h, if_pos h, h, hg]; rfl
    · rw [if_neg h, if_neg h]

theorem getD_upsert (l : List (α × β)) (k : α) (f : β → β) (d : β) (k' : α) :
    (get (upsert l k f (f d)) k').getD d = if k' = k then f ((get l k).getD d) else (get l k').getD d := by
  rw [get_upsert]
  split
  · cases get l k <;> rfl
  · rfl

theorem mem_upsert {l : List (α × β)} {k : α} {f : β → β} {v : β} {e : α × β} (h : e ∈ upsert l k f v) :
    (e ∈ l ∧ e.1 ≠ k) ∨ (∃ b, (k, b) ∈ l ∧ e = (k, f b)) ∨ (k ∉ l.map (·.1) ∧ e = (k, v)) := by
  by_cases hk : k ∈ l.map (·.1)
  · rw [upsert_of_mem f v hk] at h
    exact (mem_mapAt h).imp_right Or.inl
  · rw [upsert_of_not_mem f v hk] at h
    rcases List.mem_append.1 h with h | h
    · exact Or.inl ⟨h, fun he => hk (he ▸ List.mem_map.2 ⟨e, h, rfl⟩)⟩
    · exact Or.inr (Or.inr ⟨hk, List.mem_singleton.1 h⟩)

theorem set_eq_upsert (l : List (α × β)) (k : α) (v : β) : set l k v = upsert l k (fun _ => v) v := by
  unfold set upsert mapAt
  congr 1
  refine List.map_congr_left fun e _ => ?_
  by_cases h : e.1 = k
  · rw [if_pos h, if_pos h, h]
  · rw [if_neg h, if_neg h]

theorem get_set (l : List (α × β)) (k : α) (v : β) (k' : α) :
    get (set l k v) k' = if k' = k then some v else get l k' := by
  rw [set_eq_upsert, get_upsert]
  cases get l k <;> rfl

theorem keys_set_nodup {l : List (α × β)} (k : α) (v : β) (hn : (l.map (·.1)).Nodup) :
    ((set l k v).map (·.1)).Nodup :=
  set_eq_upsert l k v ▸ keys_upsert_nodup k _ v hn

theorem forall_mem_set {l : List (α × β)} {k : α} {v : β} {P : α × β → Prop} (hv : P (k, v))
    (hl : ∀ e ∈ l, P e) : ∀ e ∈ set l k v, P e := by
  intro e h
  rw [set_eq_upsert] at h
  rcases mem_upsert h with h | ⟨_, _, rfl⟩ | ⟨_, rfl⟩
  · exact hl e h.1
  · exact hv
  · exact hv

end Assoc
end Pfl
