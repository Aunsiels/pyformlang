/-
The proofs of C05 (`Pfl/Props/C05_Regex.lean` restates them): inversion of `Denote`, the derivative matcher, and the Thompson
construction (state ranges, completeness by path building, soundness by giving every state a set
of words that the edges respect: an inductive invariant, so that runs are walked once, in `ENFA.Bound.run`).
-/
import Pfl.Spec.Regex
import Pfl.Spec.FA
import Pfl.Proofs.FABase
import Pfl.Proofs.FAEpsCopy
import Pfl.Proofs.FARef
namespace Pfl
namespace Rx
namespace Lem

theorem empty_denote (w : List String) : ¬ Denote .empty w := by
  intro h; cases h

theorem eps_denote (w : List String) : Denote .eps w ↔ w = [] := by
  constructor
  · intro h; cases h; rfl
  · rintro rfl; exact .eps

theorem sym_denote (s : String) (w : List String) : Denote (.sym s) w ↔ w = [s] := by
  constructor
  · intro h; cases h; rfl
  · rintro rfl; exact .sym s

theorem alt_denote (a b : Rx) (w : List String) :
    Denote (.alt a b) w ↔ Denote a w ∨ Denote b w := by
  constructor
  · intro h
    cases h with
    | altL h => exact Or.inl h
    | altR h => exact Or.inr h
  · rintro (h | h)
    · exact .altL h
    · exact .altR h

theorem cat_denote (a b : Rx) (w : List String) :
    Denote (.cat a b) w ↔ ∃ u v, w = u ++ v ∧ Denote a u ∧ Denote b v := by
  constructor
  · intro h
    cases h with
    | cat h1 h2 => exact ⟨_, _, rfl, h1, h2⟩
  · rintro ⟨u, v, rfl, h1, h2⟩
    exact .cat h1 h2

theorem star_denote (a : Rx) (w : List String) :
    Denote (.star a) w ↔ ∃ ws : List (List String), w = ws.flatten ∧ ∀ x ∈ ws, Denote a x := by
  constructor
  · intro h
    generalize hr : Rx.star a = r at h
    induction h with
    | starNil => exact ⟨[], rfl, nofun⟩
    | @starCons a' u v h1 _ _ ih2 =>
      cases hr
      obtain ⟨ws, rfl, hws⟩ := ih2 rfl
      exact ⟨u :: ws, List.flatten_cons.symm, List.forall_mem_cons.2 ⟨h1, hws⟩⟩
    | _ => cases hr
  · rintro ⟨ws, rfl, hws⟩
    induction ws with
    | nil => exact .starNil
    | cons x ws ih =>
      rw [List.flatten_cons]
      exact .starCons (hws x List.mem_cons_self) (ih (fun y hy => hws y (List.mem_cons_of_mem _ hy)))

theorem star_cons_inv {a : Rx} {c : String} {w : List String} (h : Denote (.star a) (c :: w)) :
    ∃ u v, w = u ++ v ∧ Denote a (c :: u) ∧ Denote (.star a) v := by
  obtain ⟨ws, hw, hws⟩ := (star_denote a _).mp h
  induction ws with
  | nil => cases hw
  | cons x ws ih =>
    obtain ⟨hx, hr⟩ := List.forall_mem_cons.1 hws
    cases x with
    | nil => exact ih hw hr
    | cons d u =>
      cases hw
      exact ⟨u, _, rfl, hx, (star_denote a _).mpr ⟨ws, rfl, hr⟩⟩

theorem nullable_iff (r : Rx) : r.nullable = true ↔ Denote r [] := by
  induction r with
  | empty => simp [nullable, empty_denote]
  | eps => simp [nullable, eps_denote]
  | sym s => simp [nullable, sym_denote]
  | cat a b iha ihb =>
    simp only [nullable, Bool.and_eq_true, iha, ihb, cat_denote]
    constructor
    · rintro ⟨h1, h2⟩; exact ⟨[], [], rfl, h1, h2⟩
    · rintro ⟨u, v, h, h1, h2⟩
      have : u = [] ∧ v = [] := by simpa using h.symm
      obtain ⟨rfl, rfl⟩ := this
      exact ⟨h1, h2⟩
  | alt a b iha ihb =>
    simp only [nullable, Bool.or_eq_true, iha, ihb, alt_denote]
  | star a _ =>
    simp only [nullable, true_iff]
    exact .starNil

theorem cat_cons (a b : Rx) (c : String) (w : List String) : Denote (.cat a b) (c :: w) ↔
    (∃ u v, w = u ++ v ∧ Denote a (c :: u) ∧ Denote b v) ∨ (Denote a [] ∧ Denote b (c :: w)) := by
  rw [cat_denote]
  constructor
  · rintro ⟨u, v, h, h1, h2⟩
    cases u with
    | nil => cases h; exact .inr ⟨h1, h2⟩
    | cons d u' => cases h; exact .inl ⟨u', v, rfl, h1, h2⟩
  · rintro (⟨u, v, rfl, h1, h2⟩ | ⟨h1, h2⟩)
    · exact ⟨c :: u, v, rfl, h1, h2⟩
    · exact ⟨[], c :: w, rfl, h1, h2⟩

theorem deriv_iff (c : String) (r : Rx) : ∀ (w : List String),
    Denote (deriv c r) w ↔ Denote r (c :: w) := by
  induction r with
  | empty => intro w; simp [deriv, empty_denote]
  | eps => intro w; simp [deriv, empty_denote, eps_denote]
  | sym s =>
    intro w
    rw [deriv, sym_denote]
    by_cases h : s = c
    · rw [if_pos h, eps_denote, h, List.cons.injEq, eq_self, true_and]
    · rw [if_neg h, List.cons.injEq]
      exact ⟨fun h' => absurd h' (empty_denote w), fun h' => absurd h'.1.symm h⟩
  | cat a b iha ihb =>
    intro w
    rw [deriv, cat_cons, ← nullable_iff]
    by_cases hn : a.nullable = true
    · rw [if_pos hn, alt_denote, cat_denote, ihb]
      simp only [iha, hn, true_and]
    · rw [if_neg hn, cat_denote]
      simp only [iha, hn, Bool.false_eq_true, false_and, or_false]
  | alt a b iha ihb =>
    intro w
    simp only [deriv, alt_denote, iha, ihb]
  | star a iha =>
    intro w
    simp only [deriv, cat_denote, iha]
    exact ⟨fun ⟨u, v, hw, h1, h2⟩ => hw ▸ .starCons h1 h2, star_cons_inv⟩

theorem matches_iff (r : Rx) (w : List String) : r.matches w = true ↔ Denote r w := by
  induction w generalizing r with
  | nil => simp only [«matches», nullable_iff]
  | cons c w ih => simp only [«matches», ih, deriv_iff]



abbrev Edge := Nat × Option Nat × Nat

section Fragments
variable {code : String → Nat} {a b : Rx} {f t c c' : Nat} {E : List Edge}

/-- the composite fragments: the sons' fragments, and the edges of the fragment `E` given by what
it takes for a property to hold of all of them -/
theorem aux_cat_eq (h : thompsonAux code (.cat a b) f t c = (E, c')) :
    ∃ Ea c1 Eb, thompsonAux code a f c (c + 2) = (Ea, c1) ∧
      thompsonAux code b (c + 1) t c1 = (Eb, c') ∧ ∀ P : Edge → Prop, (∀ e ∈ E, P e) ↔
        P (c, none, c + 1) ∧ (∀ e ∈ Ea, P e) ∧ ∀ e ∈ Eb, P e := by
  cases h
  exact ⟨_, _, _, rfl, rfl, fun P => by
    simp only [List.cons_append, List.forall_mem_cons, List.forall_mem_append]⟩

theorem aux_alt_eq (h : thompsonAux code (.alt a b) f t c = (E, c')) :
    ∃ Ea c1 Eb, thompsonAux code a c (c + 1) (c + 2) = (Ea, c1) ∧
      thompsonAux code b c1 (c1 + 1) (c1 + 2) = (Eb, c') ∧ ∀ P : Edge → Prop, (∀ e ∈ E, P e) ↔
        P (f, none, c) ∧ P (c + 1, none, t) ∧ (∀ e ∈ Ea, P e) ∧
          P (f, none, c1) ∧ P (c1 + 1, none, t) ∧ ∀ e ∈ Eb, P e := by
  cases h
  exact ⟨_, _, _, rfl, rfl, fun P => by
    simp only [List.cons_append, List.forall_mem_cons, List.forall_mem_append]⟩

theorem aux_star_eq (h : thompsonAux code (.star a) f t c = (E, c')) :
    ∃ Ea, thompsonAux code a c (c + 1) (c + 2) = (Ea, c') ∧ ∀ P : Edge → Prop, (∀ e ∈ E, P e) ↔
      P (c + 1, none, c) ∧ P (f, none, t) ∧ P (f, none, c) ∧ P (c + 1, none, t) ∧ ∀ e ∈ Ea, P e := by
  cases h
  exact ⟨_, rfl, fun P => by simp only [List.forall_mem_cons]⟩

/-- the states of a fragment: its entry, its exit and the fresh ones -/
abbrev Own (f t c c' q : Nat) : Prop := q = f ∨ q = t ∨ (c ≤ q ∧ q < c')

def Within (f t c c' : Nat) (E : List Edge) : Prop :=
  ∀ e ∈ E, Own f t c c' e.1 ∧ Own f t c c' e.2.2

theorem Own.sub {f₁ t₁ c₁ c₁' p : Nat} (h : Own f₁ t₁ c₁ c₁' p) (hf : Own f t c c' f₁)
    (ht : Own f t c c' t₁) (hc : c ≤ c₁) (hc' : c₁' ≤ c') : Own f t c c' p :=
  h.elim (· ▸ hf) fun h => h.elim (· ▸ ht) fun h =>
    .inr (.inr ⟨Nat.le_trans hc h.1, Nat.lt_of_lt_of_le h.2 hc'⟩)

theorem Within.mono {f₁ t₁ c₁ c₁' : Nat} (h : Within f₁ t₁ c₁ c₁' E) (hf : Own f t c c' f₁)
    (ht : Own f t c c' t₁) (hc : c ≤ c₁) (hc' : c₁' ≤ c') : Within f t c c' E :=
  fun e he => ⟨(h e he).1.sub hf ht hc hc', (h e he).2.sub hf ht hc hc'⟩

end Fragments

theorem aux_range (code : String → Nat) {r : Rx} {f t c : Nat} {E : List Edge} {c' : Nat}
    (h : thompsonAux code r f t c = (E, c')) : c ≤ c' ∧ Within f t c c' E := by
  induction r generalizing f t c E c' with
  | empty =>
    cases h
    exact ⟨Nat.le_refl _, fun _ he => absurd he List.not_mem_nil⟩
  | eps | sym _ =>
    cases h
    exact ⟨Nat.le_refl _, List.forall_mem_singleton.2 ⟨.inl rfl, .inr (.inl rfl)⟩⟩
  | cat a b iha ihb =>
    obtain ⟨Ea, c1, Eb, hea, heb, hE⟩ := aux_cat_eq h
    obtain ⟨ha1, ha2⟩ := iha hea
    obtain ⟨hb1, hb2⟩ := ihb heb
    have h0 : Own f t c c' c := .inr (.inr (by omega))
    have h1 : Own f t c c' (c + 1) := .inr (.inr (by omega))
    exact ⟨by omega, (hE _).2 ⟨⟨h0, h1⟩, ha2.mono (.inl rfl) h0 (Nat.le_add_right c 2) hb1,
      hb2.mono h1 (.inr (.inl rfl)) (by omega) (Nat.le_refl _)⟩⟩
  | alt a b iha ihb =>
    obtain ⟨Ea, c1, Eb, hea, heb, hE⟩ := aux_alt_eq h
    obtain ⟨ha1, ha2⟩ := iha hea
    obtain ⟨hb1, hb2⟩ := ihb heb
    have hf : Own f t c c' f := .inl rfl
    have ht : Own f t c c' t := .inr (.inl rfl)
    have h0 : Own f t c c' c := .inr (.inr (by omega))
    have h1 : Own f t c c' (c + 1) := .inr (.inr (by omega))
    have h2 : Own f t c c' c1 := .inr (.inr (by omega))
    have h3 : Own f t c c' (c1 + 1) := .inr (.inr (by omega))
    exact ⟨by omega, (hE _).2 ⟨⟨hf, h0⟩, ⟨h1, ht⟩, ha2.mono h0 h1 (Nat.le_add_right c 2) (by omega),
      ⟨hf, h2⟩, ⟨h3, ht⟩, hb2.mono h2 h3 (by omega) (Nat.le_refl _)⟩⟩
  | star a iha =>
    obtain ⟨Ea, hea, hE⟩ := aux_star_eq h
    obtain ⟨ha1, ha2⟩ := iha hea
    have hf : Own f t c c' f := .inl rfl
    have ht : Own f t c c' t := .inr (.inl rfl)
    have h0 : Own f t c c' c := .inr (.inr (by omega))
    have h1 : Own f t c c' (c + 1) := .inr (.inr (by omega))
    exact ⟨by omega, (hE _).2 ⟨⟨h1, h0⟩, ⟨hf, ht⟩, ⟨hf, h0⟩, ⟨h1, ht⟩,
      ha2.mono h0 h1 (Nat.le_add_right c 2) (Nat.le_refl _)⟩⟩


/-- the bare automaton on an edge list -/
def EA (D : List Edge) : ENFA Nat := ⟨[], [], [], [], D⟩

theorem complete_in (code : String → Nat) {r : Rx} {f t c : Nat} {E : List Edge} {c' : Nat}
    (h : thompsonAux code r f t c = (E, c')) {D : List Edge} (hD : ∀ e ∈ E, e ∈ D)
    {w : List String} (hw : Denote r w) : (EA D).Run f (w.map code) t := by
  induction r generalizing f t c E c' w with
  | empty => cases hw
  | eps =>
    cases h
    cases hw
    exact .eps (r := t) (hD _ List.mem_cons_self) (.nil t)
  | sym s =>
    cases h
    cases hw
    exact .step (r := t) (hD _ List.mem_cons_self) (.nil t)
  | cat a b iha ihb =>
    obtain ⟨Ea, c1, Eb, hea, heb, hE⟩ := aux_cat_eq h
    obtain ⟨h1, ha, hb⟩ := (hE _).1 hD
    obtain ⟨u, v, rfl, hu, hv⟩ := (cat_denote a b w).mp hw
    rw [List.map_append]
    exact ENFA.Run.append (ENFA.Run.snoc_eps (iha hea ha hu) h1)
      (ihb heb hb hv)
  | alt a b iha ihb =>
    obtain ⟨Ea, c1, Eb, hea, heb, hE⟩ := aux_alt_eq h
    obtain ⟨h1, h2, ha, h3, h4, hb⟩ := (hE _).1 hD
    rcases (alt_denote a b w).mp hw with hw | hw
    · exact .eps h1 (ENFA.Run.snoc_eps (iha hea ha hw) h2)
    · exact .eps h3 (ENFA.Run.snoc_eps (ihb heb hb hw) h4)
  | star a iha =>
    obtain ⟨Ea, hea, hE⟩ := aux_star_eq h
    obtain ⟨hback, hskip, hin, hout, ha⟩ := (hE _).1 hD
    obtain ⟨ws, rfl, hws⟩ := (star_denote a w).mp hw
    -- the entry and the son's exit have the same moves (to the son's entry, to the exit), so
    -- whatever chunks are left, both reach the exit
    suffices (EA D).Run f (ws.flatten.map code) t ∧ (EA D).Run (c + 1) (ws.flatten.map code) t from
      this.1
    clear hw
    induction ws with
    | nil => exact ⟨.eps hskip (.nil t), .eps hout (.nil t)⟩
    | cons x ws ih =>
      obtain ⟨hx, hws⟩ := List.forall_mem_cons.1 hws
      rw [List.flatten_cons, List.map_append]
      have hr := ENFA.Run.append (iha hea ha hx) (ih hws).2
      exact ⟨.eps hin hr, .eps hback hr⟩

theorem complete (code : String → Nat) : ∀ (r : Rx) (f t c : Nat) (E : List Edge) (c' : Nat),
    thompsonAux code r f t c = (E, c') → ∀ w, Denote r w → (EA E).Run f (w.map code) t :=
  fun _ _ _ _ _ _ h _ hw => complete_in code h (fun _ he => he) hw


theorem bound_congr {D : List Edge} {ρ ρ' : Nat → List Nat → Prop} (h : (EA D).Bound ρ')
    {f t c c' : Nat} (hW : Within f t c c' D) (hρ : ∀ q, Own f t c c' q → ρ q = ρ' q) :
    (EA D).Bound ρ := fun e he w => by
  rw [hρ _ (hW e he).1, hρ _ (hW e he).2]
  exact h e he w

theorem eps_edge {ρ : Nat → List Nat → Prop} {q r : Nat} {X Y : List Nat → Prop} (hq : ρ q = X)
    (hr : ρ r = Y) (h : ∀ w, Y w → X w) (w : List Nat) (hw : ρ r w) : ρ q w :=
  hq ▸ h w (hr ▸ hw)

/-- the words of `r` followed by a word of `K` -/
def Lk (code : String → Nat) (r : Rx) (K : List Nat → Prop) (ks : List Nat) : Prop :=
  ∃ w v, Denote r w ∧ K v ∧ ks = w.map code ++ v

section
variable {code : String → Nat} {a b r : Rx} {K : List Nat → Prop} {ks : List Nat}

theorem Lk.unit (h : Denote r []) (hk : K ks) : Lk code r K ks := ⟨[], ks, h, hk, rfl⟩

theorem Lk.mono (h : ∀ u, Denote a u → Denote r u) (hk : Lk code a K ks) : Lk code r K ks := by
  obtain ⟨u, v, hu, hv, rfl⟩ := hk
  exact ⟨u, v, h u hu, hv, rfl⟩

theorem Lk.bind (h : ∀ u v, Denote a u → Denote b v → Denote r (u ++ v))
    (hk : Lk code a (Lk code b K) ks) : Lk code r K ks := by
  obtain ⟨u, _, hu, ⟨v, x, hv, hx, rfl⟩, rfl⟩ := hk
  exact ⟨u ++ v, x, h u v hu hv, hx, by rw [List.map_append, List.append_assoc]⟩

end

/-- the statement proved by induction on the regex: whatever set `K` of words the context allows
after the exit state, the states of the fragment can be given sets of words that the edges
respect, the entry state no more than the words of `r` followed by a word of `K` -/
def Sound (code : String → Nat) (r : Rx) : Prop :=
  ∀ (f t c : Nat) (E : List Edge) (c' : Nat), thompsonAux code r f t c = (E, c') →
    f < c ∧ t < c ∧ f ≠ t → ∀ K : List Nat → Prop, ∃ ρ : Nat → List Nat → Prop,
      (EA E).Bound ρ ∧ (∀ w, ρ f w → Lk code r K w) ∧ ∀ w, K w → ρ t w

/-- the heads without sons: parallel edges from the entry to the exit, each spelling a word of `r` -/
theorem sound_leaf {code : String → Nat} {r : Rx} (xs : List (Option Nat))
    (h : ∀ f t c, thompsonAux code r f t c = (xs.map fun x => (f, x, t), c))
    (hx : ∀ x ∈ xs, ∀ K w, K w → Lk code r K (x.toList ++ w)) : Sound code r := by
  intro f t c E c' he ho K
  cases (h f t c).symm.trans he
  let ρ := fun q => if q = f then Lk code r K else K
  have hF : ρ f = Lk code r K := if_pos rfl
  have hT : ρ t = K := if_neg (Ne.symm ho.2.2)
  refine ⟨ρ, fun e he w hw => ?_, fun w hw => hF ▸ hw, fun w hw => hT ▸ hw⟩
  obtain ⟨x, hxs, rfl⟩ := List.mem_map.1 he
  exact hF ▸ hx x hxs K w (hT ▸ hw)

theorem sound_cat (code : String → Nat) (a b : Rx) (iha : Sound code a) (ihb : Sound code b) :
    Sound code (.cat a b) := by
  intro f t c E c' h ho K
  obtain ⟨Ea, c1, Eb, hea, heb, hE⟩ := aux_cat_eq h
  obtain ⟨ha1, ha2⟩ := aux_range code hea
  obtain ⟨hb1, hb2⟩ := aux_range code heb
  obtain ⟨ρa, ba, fa, ta⟩ := iha _ _ _ _ _ hea (by omega) (Lk code b K)
  obtain ⟨ρb, bb, fb, tb⟩ := ihb _ _ _ _ _ heb (by omega) K
  let ρ := fun q => if Own f c (c + 2) c1 q then ρa q else ρb q
  have hA : ∀ q, Own f c (c + 2) c1 q → ρ q = ρa q := fun q h => if_pos h
  have hB : ∀ q, Own (c + 1) t c1 c' q → ρ q = ρb q := fun q h => if_neg (by omega)
  exact ⟨ρ, (hE _).2 ⟨eps_edge (hA _ (.inr (.inl rfl))) (hB _ (.inl rfl)) fun w hw => ta _ (fb _ hw),
      bound_congr ba ha2 hA, bound_congr bb hb2 hB⟩,
    fun w hw => Lk.bind (fun _ _ => .cat) (fa _ (hA _ (.inl rfl) ▸ hw)),
    fun w hw => hB _ (.inr (.inl rfl)) ▸ tb _ hw⟩

theorem sound_alt (code : String → Nat) (a b : Rx) (iha : Sound code a) (ihb : Sound code b) :
    Sound code (.alt a b) := by
  intro f t c E c' h ho K
  obtain ⟨Ea, c1, Eb, hea, heb, hE⟩ := aux_alt_eq h
  obtain ⟨ha1, ha2⟩ := aux_range code hea
  obtain ⟨hb1, hb2⟩ := aux_range code heb
  obtain ⟨ρa, ba, fa, ta⟩ := iha _ _ _ _ _ hea (by omega) K
  obtain ⟨ρb, bb, fb, tb⟩ := ihb _ _ _ _ _ heb (by omega) K
  let ρ := fun q => if Own c (c + 1) (c + 2) c1 q then ρa q else
    if Own c1 (c1 + 1) (c1 + 2) c' q then ρb q else if q = f then Lk code (.alt a b) K else K
  have hA : ∀ q, Own c (c + 1) (c + 2) c1 q → ρ q = ρa q := fun q h => if_pos h
  have hB : ∀ q, Own c1 (c1 + 1) (c1 + 2) c' q → ρ q = ρb q := fun q h =>
    (if_neg (by omega)).trans (if_pos h)
  have hF : ρ f = Lk code (.alt a b) K :=
    (if_neg (by omega)).trans ((if_neg (by omega)).trans (if_pos rfl))
  have hT : ρ t = K :=
    (if_neg (by omega)).trans ((if_neg (by omega)).trans (if_neg (Ne.symm ho.2.2)))
  exact ⟨ρ, (hE _).2 ⟨eps_edge hF (hA _ (.inl rfl)) fun w hw => (fa _ hw).mono fun _ => .altL,
      eps_edge (hA _ (.inr (.inl rfl))) hT ta, bound_congr ba ha2 hA,
      eps_edge hF (hB _ (.inl rfl)) fun w hw => (fb _ hw).mono fun _ => .altR,
      eps_edge (hB _ (.inr (.inl rfl))) hT tb, bound_congr bb hb2 hB⟩,
    fun w hw => hF ▸ hw, fun w hw => hT ▸ hw⟩

theorem sound_star (code : String → Nat) (a : Rx) (iha : Sound code a) : Sound code (.star a) := by
  intro f t c E c' h ho K
  obtain ⟨Ea, hea, hE⟩ := aux_star_eq h
  obtain ⟨ha1, ha2⟩ := aux_range code hea
  obtain ⟨ρa, ba, fa, ta⟩ := iha _ _ _ _ _ hea (by omega) (Lk code (.star a) K)
  let ρ := fun q => if Own c (c + 1) (c + 2) c' q then ρa q else
    if q = f then Lk code (.star a) K else K
  have hA : ∀ q, Own c (c + 1) (c + 2) c' q → ρ q = ρa q := fun q h => if_pos h
  have hF : ρ f = Lk code (.star a) K := (if_neg (by omega)).trans (if_pos rfl)
  have hT : ρ t = K := (if_neg (by omega)).trans (if_neg (Ne.symm ho.2.2))
  -- no induction for the loop: the son's entry holds at most `a` followed by `a*K`, which is
  -- within `a*K`, the set its exit holds at least
  have hc : ∀ w, ρa c w → Lk code (.star a) K w := fun w hw =>
    Lk.bind (fun _ _ => .starCons) (fa _ hw)
  have hk : ∀ w, K w → Lk code (.star a) K w := fun w => Lk.unit .starNil
  exact ⟨ρ, (hE _).2 ⟨eps_edge (hA _ (.inr (.inl rfl))) (hA _ (.inl rfl)) fun w hw => ta _ (hc _ hw),
      eps_edge hF hT hk, eps_edge hF (hA _ (.inl rfl)) hc,
      eps_edge (hA _ (.inr (.inl rfl))) hT fun w hw => ta _ (hk _ hw), bound_congr ba ha2 hA⟩,
    fun w hw => hF ▸ hw, fun w hw => hT ▸ hw⟩

theorem sound (code : String → Nat) (r : Rx) : Sound code r := by
  induction r with
  | empty => exact sound_leaf [] (fun _ _ _ => rfl) fun _ h => nomatch h
  | eps =>
    exact sound_leaf [none] (fun _ _ _ => rfl)
      (List.forall_mem_singleton.2 fun _ _ => Lk.unit .eps)
  | sym s =>
    exact sound_leaf [some (code s)] (fun _ _ _ => rfl)
      (List.forall_mem_singleton.2 fun _ w hw => ⟨[s], w, .sym s, hw, rfl⟩)
  | cat a b iha ihb => exact sound_cat code a b iha ihb
  | alt a b iha ihb => exact sound_alt code a b iha ihb
  | star a iha => exact sound_star code a iha

theorem thompson_eq (code : String → Nat) (r : Rx) (c : Nat) :
    r.thompson code c =
      (ENFA.ofParts [c] [c + 1] (thompsonAux code r c (c + 1) (c + 2)).1,
        (thompsonAux code r c (c + 1) (c + 2)).2) := rfl

theorem thompson_lang (code : String → Nat) (r : Rx) (c : Nat) (ks : List Nat) :
    (r.thompson code c).1.Lang ks ↔ ∃ w, Denote r w ∧ w.map code = ks := by
  rw [thompson_eq]
  rcases he : thompsonAux code r c (c + 1) (c + 2) with ⟨E, c'⟩
  simp only
  constructor
  · rintro ⟨s, hs, f, hf, hr⟩
    rw [ENFA.mem_ofParts_starts, List.mem_singleton] at hs
    rw [ENFA.mem_ofParts_finals, List.mem_singleton] at hf
    subst hs hf
    obtain ⟨ρ, hρ, hs, hf⟩ := sound code r _ _ _ _ _ he (by omega) (· = [])
    obtain ⟨w, _, hw, rfl, h⟩ := hs _ (hρ.run
      (ENFA.Run.mono (B := EA E) (fun e he => (ENFA.mem_ofParts_delta _ _ _ e).mp he) hr) (hf _ rfl))
    exact ⟨w, hw, (h.trans (List.append_nil _)).symm⟩
  · rintro ⟨w, hw, rfl⟩
    refine ⟨c, (ENFA.mem_ofParts_starts _ _ _ _).mpr (by simp), c + 1,
      (ENFA.mem_ofParts_finals _ _ _ _).mpr (by simp), ?_⟩
    exact ENFA.Run.mono (A := EA E) (fun e he => (ENFA.mem_ofParts_delta _ _ _ e).mpr he)
      (complete_in code he (fun _ h => h) hw)

theorem coded_iff {code : String → Nat} (hcode : Function.Injective code) (r : Rx) (w : List String) :
    (∃ w', Denote r w' ∧ w'.map code = w.map code) ↔ Denote r w :=
  ⟨fun ⟨_, hd, e⟩ => (List.map_inj_right fun _ _ h => hcode h).1 e ▸ hd, fun h => ⟨w, h, rfl⟩⟩

/-- `Regex.accepts(word)`: the Thompson automaton run on the coded word -/
theorem thompson_accepts (code : String → Nat) (r : Rx) (c : Nat) (w : List String) :
    (r.thompson code c).1.acceptsE (w.map fun s => some (code s)) = true ↔
      ∃ w', Denote r w' ∧ w'.map code = w.map code := by
  have e : (w.map fun s => some (code s)).filterMap id = w.map code :=
    List.filterMap_map .. ▸ congrFun List.filterMap_eq_map w
  rw [ENFA.acceptsE_iff_lang, e, thompson_lang]

theorem thompson_counter (code : String → Nat) (r : Rx) (c : Nat) :
    c + 2 ≤ (r.thompson code c).2 ∧
    ∀ q ∈ (r.thompson code c).1.states, c ≤ q ∧ q < (r.thompson code c).2 := by
  rw [thompson_eq]
  rcases he : thompsonAux code r c (c + 1) (c + 2) with ⟨E, c'⟩
  obtain ⟨h1, h2⟩ := aux_range code he
  have own : ∀ q, Own c (c + 1) (c + 2) c' q → c ≤ q ∧ q < c' := fun q h => by omega
  refine ⟨h1, fun q hq => ?_⟩
  rw [ENFA.mem_ofParts_states] at hq
  simp only [List.mem_singleton] at hq
  rcases hq with rfl | rfl | ⟨e, hE, rfl | rfl⟩
  · exact own _ (.inl rfl)
  · exact own _ (.inr (.inl rfl))
  · exact own _ (h2 e hE).1
  · exact own _ (h2 e hE).2

theorem thompson_wf (code : String → Nat) (r : Rx) (c : Nat) : (r.thompson code c).1.WF := by
  rw [thompson_eq]
  exact ENFA.ofParts_wf _ _ _

end Lem
end Rx
end Pfl
