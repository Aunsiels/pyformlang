/-
Termination (fuel sufficiency) of `PDA.intersection` (`PDA.inter`) and of `CFG.intersection`
(`CFG.interD`).
-/
import Pfl.Proofs.FATermination
import Pfl.Proofs.PDAToCFG
import Pfl.Model.BarHillel
import Pfl.Props.C09_Termination

namespace Pfl.Term2
open Pfl.ENFA

section PDAInter
variable {σ γ τ : Type} [DecidableEq σ] [DecidableEq γ] [DecidableEq τ]

theorem pda_interNext_states (P : PDA σ γ) (hP : P.WF) (D : ENFA τ) (hD : D.WF)
    (symOf : String → Option Nat) (pq y : σ × τ) (hpq : pq ∈ ENFA.prod P.states D.states)
    (hy : y ∈ (PDA.interNext P D symOf pq).map (·.2.2.2.1)) :
    y ∈ ENFA.prod P.states D.states := by
  obtain ⟨p, q⟩ := pq
  obtain ⟨_, hq⟩ := (mem_prod _ _ _ _).mp hpq
  obtain ⟨⟨⟨p₀, q₀⟩, a, x, ⟨q', d'⟩, push⟩, he, rfl⟩ := List.mem_map.mp hy
  obtain ⟨e, ht, _, hd⟩ := (PDA.ToCFG.mem_interNext ..).mp he
  cases e
  refine (mem_prod _ _ _ _).mpr ⟨hP.dst _ ht, ?_⟩
  rcases hd with ⟨_, rfl⟩ | ⟨c, k, _, _, _, hdd⟩
  · exact hq
  · exact hD.delta_dst _ hdd

theorem pda_inter_bfs_isSome (P : PDA σ γ) (hP : P.WF) (D : ENFA τ) (hD : D.WF)
    (symOf : String → Option Nat) (s : σ) (d : τ) (hs : s ∈ P.states) (hd : d ∈ D.states)
    (fuel : Nat) (hf : P.states.length * D.states.length ≤ fuel) :
    (bfs (fun pq => (PDA.interNext P D symOf pq).map (·.2.2.2.1)) fuel [(s, d)]).isSome := by
  obtain ⟨res, hres, -⟩ := bfs_total _ (· ∈ ENFA.prod P.states D.states) _
    (pda_interNext_states P hP D hD symOf) (fun _ h => h) [(s, d)]
    (List.forall_mem_singleton.2 ((mem_prod _ _ _ _).mpr ⟨hs, hd⟩)) fuel
    (by simp [length_prod, List.eraseDups_cons]; omega)
  rw [hres]; rfl

end PDAInter

section InterD
variable {τ : Type} [DecidableEq τ]

/-- the only fuelled part of `CFG.intersection` is the normal form: two rounds -/
theorem interD_isSome (G : CFG) (D : ENFA τ) (symOf : String → Option Nat) (nm : τ → String)
    (fuel : Nat) (hf : 2 ≤ fuel) : (G.interD D symOf nm fuel).isSome := by
  unfold CFG.interD
  split
  · rfl
  · obtain ⟨N, hN⟩ := Option.isSome_iff_exists.mp (CFG.toNormalForm_isSome G fuel hf)
    rw [hN]
    rfl

end InterD

end Pfl.Term2
