/-
The FST object model (`Pfl/Model/FSTObject.lean`): the table invariant `TInv`, what `addT` does to the
list of transitions (`edges`, with multiplicities: `run_edges`), and that every mutator call keeps
`FST.WF` and a repetition-free state list (`step_wf`, `run_wf`, `api_wf`).
-/
import Pfl.Model.FSTObject
import Pfl.Proofs.FSTLemmas
import Pfl.Proofs.Assoc
namespace Pfl
namespace FSTObj

/-- keys of `_delta` are unique -/
def TInv (T : Table) : Prop := (T.map (·.1)).Nodup

namespace P

theorem edges_nil : edges [] = [] := rfl

theorem edges_cons (e : Key × List (String × List String)) (T : Table) :
    edges (e :: T) = (e.2.map fun out => (e.1.1, e.1.2, out.1, out.2)) ++ edges T := by
  simp [edges]

theorem edges_append (T U : Table) : edges (T ++ U) = edges T ++ edges U := by
  simp [edges]

theorem addT_eq (T : Table) (k : Key) (o : String × List String) :
    addT T k o = Assoc.upsert T k (· ++ [o]) [o] := rfl

theorem upd_in {T : Table} {k : Key} (o : String × List String) (hn : (T.map (·.1)).Nodup)
    (hk : k ∈ T.map (·.1)) :
    (edges (Assoc.mapAt T k (· ++ [o]))).Perm ((k.1, k.2, o.1, o.2) :: edges T) := by
  induction T with
  | nil => cases hk
  | cons e T ih =>
    rw [List.map_cons, List.nodup_cons] at hn
    rw [Assoc.mapAt_cons]
    by_cases he : e.1 = k
    · rw [if_pos he]
      have hk' : k ∉ T.map (·.1) := by rw [← he]; exact hn.1
      rw [Assoc.mapAt_of_not_mem _ hk', edges_cons, edges_cons]
      simp only [List.map_append, List.map_cons, List.map_nil, List.append_assoc,
        List.singleton_append]
      rw [he]
      exact List.perm_middle
    · rw [if_neg he]
      have hk' : k ∈ T.map (·.1) := by
        rw [List.map_cons, List.mem_cons] at hk
        rcases hk with h | h
        · exact absurd h.symm he
        · exact h
      rw [edges_cons, edges_cons]
      exact ((ih hn.2 hk').append_left _).trans List.perm_middle

theorem addT_spec {T : Table} (hi : TInv T) (k : Key) (out : String × List String) :
    TInv (addT T k out) ∧ (edges (addT T k out)).Perm ((k.1, k.2, out.1, out.2) :: edges T) := by
  rw [addT_eq]
  refine ⟨Assoc.keys_upsert_nodup k _ _ hi, ?_⟩
  by_cases hk : k ∈ T.map (·.1)
  · rw [Assoc.upsert_of_mem _ _ hk]
    exact upd_in out hi hk
  · rw [Assoc.upsert_of_not_mem _ _ hk, edges_append, edges_cons, edges_nil]
    simp only [List.map_cons, List.map_nil, List.append_nil]
    exact List.perm_append_singleton _ _

theorem run_cons (o : Obj) (op : Op) (ops : List Op) : run o (op :: ops) = run (step o op) ops := rfl

theorem run_edges (o : Obj) (ops : List Op) (hi : TInv o.delta) :
    TInv (run o ops).delta ∧ (edges (run o ops).delta).Perm (edges o.delta ++ added ops) := by
  induction ops generalizing o with
  | nil => exact ⟨hi, by simp [run, added]⟩
  | cons op ops ih =>
    rw [run_cons]
    cases op with
    | addT q a r out =>
      have hs := addT_spec hi (q, a) (r, out)
      have hd : (step o (.addT q a r out)).delta = addT o.delta (q, a) (r, out) := rfl
      obtain ⟨h1, h2⟩ := ih (step o (.addT q a r out)) (by rw [hd]; exact hs.1)
      refine ⟨h1, ?_⟩
      rw [hd] at h2
      refine h2.trans ?_
      simp only [added]
      exact (hs.2.append_right _).trans List.perm_middle.symm
    | addStart q => exact ih _ hi
    | addFinal q => exact ih _ hi

theorem numTransitions_eq (T : Table) : numTransitions T = (edges T).length := by
  induction T with
  | nil => rfl
  | cons e T ih =>
    rw [edges_cons, List.length_append, List.length_map, ← ih]
    simp [numTransitions]

theorem mem_ins {x y : String} {l : List String} : y ∈ ins x l ↔ y = x ∨ y ∈ l := mem_insert_end

theorem mem_ins_self {x : String} {l : List String} : x ∈ ins x l := mem_ins.2 (.inl rfl)

theorem mem_ins_of_mem {x y : String} {l : List String} (h : y ∈ l) : y ∈ ins x l :=
  mem_ins.2 (.inr h)

theorem ins_nodup {x : String} {l : List String} (hn : l.Nodup) : (ins x l).Nodup :=
  nodup_insert_end hn

-- with `ins` reducible the unifier unfolds it before it looks at the record the set sits in
attribute [local irreducible] ins insAll in
theorem step_wf {o : Obj} (op : Op) (hi : TInv o.delta) (hwf : (toFST o).WF) (hn : o.states.Nodup) :
    (toFST (step o op)).WF ∧ TInv (step o op).delta ∧ (step o op).states.Nodup := by
  cases op with
  | addT q a r out =>
    have hs := addT_spec hi (q, a) (r, out)
    refine ⟨hwf.grow (fun _ h => mem_ins_of_mem (mem_ins_of_mem h)) (fun _ => .inl) (fun _ => .inl) ?_,
      hs.1, ins_nodup (ins_nodup hn)⟩
    intro t ht
    rcases List.mem_cons.1 (hs.2.mem_iff.1 ht) with rfl | h
    · exact .inr ⟨mem_ins_of_mem mem_ins_self, mem_ins_self⟩
    · exact .inl h
  | addStart q =>
    refine ⟨hwf.grow (fun _ => mem_ins_of_mem) ?_ (fun _ => .inl) (fun _ => .inl), hi, ins_nodup hn⟩
    intro s hs
    exact (mem_ins.1 hs).elim (fun e => .inr (e ▸ mem_ins_self)) .inl
  | addFinal q =>
    refine ⟨hwf.grow (fun _ => mem_ins_of_mem) (fun _ => .inl) ?_ (fun _ => .inl), hi, ins_nodup hn⟩
    intro s hs
    exact (mem_ins.1 hs).elim (fun e => .inr (e ▸ mem_ins_self)) .inl

theorem run_wf (o : Obj) (ops : List Op) (hi : TInv o.delta) (hwf : (toFST o).WF) (hn : o.states.Nodup) :
    (toFST (run o ops)).WF ∧ TInv (run o ops).delta ∧ (run o ops).states.Nodup :=
  List.foldlRecOn (motive := fun o => (toFST o).WF ∧ TInv o.delta ∧ o.states.Nodup) ops step
    ⟨hwf, hi, hn⟩ fun _ h op _ => step_wf op h.2.1 h.1 h.2.2

theorem api_wf (ops : List Op) : (toFST (run new ops)).WF ∧ (toFST (run new ops)).states.Nodup := by
  have hwf : (toFST new).WF :=
    ⟨fun _ h => absurd h List.not_mem_nil, fun _ h => absurd h List.not_mem_nil,
      fun _ h => absurd h List.not_mem_nil, fun _ h => absurd h List.not_mem_nil⟩
  obtain ⟨h1, _, h3⟩ := run_wf new ops (by simp [TInv, new]) hwf (by simp [new])
  exact ⟨h1, h3⟩

end P
end FSTObj
end Pfl
