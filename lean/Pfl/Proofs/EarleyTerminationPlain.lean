/-
Termination of the Earley model (C18): feature-free grammars.  Every symbol record is empty
and stays so: `advance` only links two empty records.  No state has a leaf, so all states under a
key have the same leaf values and at most one of them is accepted: a column has at most
`(|spec|+1)·(|w|+1)·(L+1)` processed states.
-/
import Pfl.Proofs.EarleyTerminationFeat
namespace Pfl
namespace Earley
namespace Term
open FsDag Lem Cmp

section
variable {C : Ctx} {vals : List String} {L : Nat}

theorem TF.acc_le_plain {st0 : Store} {T : Tables} {rk : Nat → Nat}
    (h : TF C vals L st0 T rk) (hp : PlainSt T.store) (j : Nat) :
    acc T j ≤ (C.spec.length + 1) * (C.word.length + 1) * (L + 1) := by
  have := (h.tab.col j).flen_le_card (fun _ => ()) fun e he o1 m1 o2 m2 _ =>
    h.pat_of_codes he m1 m2 fun i _ => by simp only [leafCode, leafOf_none_plain hp]
  rwa [Fintype.card_unit, Nat.mul_one] at this

theorem tp_chain (hC : CtxOK C) (hc : TC C vals L) (st0 : Store) :
    Chain C (fun st rk pr n => TFS C vals L st0 st rk pr n ∧ PlainSt st) (TFR C L st0)
      ((C.spec.length + 1) * (C.word.length + 1) * (L + 1)) :=
  (tf_chain hC hc st0).and
    (fun h hs hnx hi hcomp hnext =>
      (advance_tf hC hc h hs hnx hi hcomp hnext).elim fun _ h' => h'.2)
    fun h hp j => TF.acc_le_plain h hp j

theorem contains_total_plain (hC : CtxOK C) (hc : TC C vals L) {st0 : Store} {rk0 : Nat → Nat}
    (h0 : StartOK C L st0 rk0)
    (hsdo : ∀ k, TSh st0 (prodOf C.G k).feats (prodOf C.G k).feats)
    (hplain : PlainSt st0) {fuel : Nat}
    (hfuel : (C.spec.length + 1) * (C.word.length + 1) * (L + 1) + 1 ≤ fuel) :
    (contains C.G st0 C.word fuel).isSome = true :=
  chain_contains (tp_chain hC hc st0) (rk0 := rk0)
    (Lay.and_iff.2 ⟨tf_init hC hc h0 hsdo, by rw [initT_store]; exact hplain⟩) hfuel

end

section Build

theorem _root_.Pfl.Earley.Cmp.SInv.plainSt {Src : String → Prop} {st : Store} {rk : Nat → Nat}
    (h : SInv Src st rk) (hS : ∀ v, ¬ Src v) : PlainSt st := by
  intro i g x hx
  obtain ⟨_, ⟨_, _, _, _, v, ho⟩ | ⟨_, _, _, hrx⟩⟩ := (h.obj i).c g x hx
  · exact absurd ho (hS v)
  · -- an object of rank 1 has no pointer, and its features would be those of an occurrence
    have hp : ptr st x = none := by
      cases hp : ptr st x with
      | none => rfl
      | some j => exact nomatch ((h.obj x).p j hp).2.2.1.symm.trans hrx
    rw [deref_of_none hp]
    refine List.eq_nil_iff_forall_not_mem.2 fun ⟨g', y⟩ hy => ?_
    obtain ⟨_, ⟨_, _, _, _, v, ho⟩ | ⟨_, _, h2, _⟩⟩ := (h.obj x).c g' y hy
    · exact hS v ho
    · exact nomatch h2.symm.trans hrx

end Build

end Term
end Earley
end Pfl
