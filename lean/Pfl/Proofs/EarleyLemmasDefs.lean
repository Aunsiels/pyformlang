/-
Shared definitions of the proofs about the Earley model (C18: soundness, completeness, termination):
well-formed ranked stores, the specification of `copy` and the specification of `buildGrammar`.
-/
import Pfl.Model.Earley
import Pfl.Proofs.EarleyLemmasUnify
namespace Pfl
namespace Earley
namespace Lem
open FsDag FsDag.Lem

/-- well-formed store: references in range, ranked (`InvR`: a feature of an object of rank `r > 0` has
rank `r - 1`, atoms only at rank 0) and congruence closed (`CCat`) -/
structure WFS (st : Store) (rk : Nat → Nat) : Prop where
  rng : Rng st
  inv : InvR st rk
  cc : ∀ i, CCat st i

/-- `(st1, F')` is the result of copying the sub-structure of `st` reachable from `F`: `dom` is the set
of copied objects, `κ` maps an object to its copy, `π` is the inverse of `κ` on the new objects -/
structure CopySpec (st : Store) (F : Nat) (st1 : Store) (F' : Nat) (κ : Nat → Nat)
    (dom : Nat → Prop) (π : Nat → Nat) : Prop where
  ext : ∃ e, st1 = st ++ e
  domF : dom F
  κF : κ F = F'
  dom_lt : ∀ j, dom j → j < st.length
  dom_ptr : ∀ j p, dom j → ptr st j = some p → dom p
  dom_cont : ∀ j g x, dom j → (g, x) ∈ cont st j → dom x
  rng : ∀ j, dom j → st.length ≤ κ j ∧ κ j < st1.length
  node : ∀ j, dom j → get st1 (κ j) =
    { value := val st (deref st j),
      content := (cont st j).map (fun e => (e.1, κ e.2)),
      pointer := (ptr st j).map κ }
  inj : ∀ j j', dom j → dom j' → κ j = κ j' → j = j'
  surj : ∀ n, st.length ≤ n → n < st1.length → dom (π n) ∧ κ (π n) = n

/-- the leaf below the symbol record `name` of the production object `F` carries the feature `v`:
a constant is an atom, all occurrences of a variable share the class of the object `vn v` -/
def LeafAt (st : Store) (F : Nat) (name : String) (v : String) (vn : String → Nat) : Prop :=
  ∃ n, byPath st F [name, "n"] = some n ∧
    if v.startsWith "?" then deref st n = deref st (vn v) else val st (deref st n) = some v

/-- the object `F` represents the features of the production `pr` -/
def ProdOK (st : Store) (pr : (String × Feat) × List (Sym × Feat)) (F : Nat) : Prop :=
  ∃ vn : String → Nat,
    (∀ v, pr.1.2 = some v → LeafAt st F "head" v vn) ∧
    (∀ (j : Nat) (X v : String), pr.2[j]? = some (Sym.var X, some v) → LeafAt st F (toString j) v vn)

end Lem
end Earley
end Pfl
