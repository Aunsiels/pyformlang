/-
Helpers for `Pfl/Props/C19_Indexed.lean`: the loop of `Pfl/Model/IndexedObject.lean` (one call of
`is_empty()` that also hands back `self.marked`) returns the verdict of `Lib.loop`, only adds sets
to the table, and keeps it sound (`GoodT`) and well formed (`WFT`).
-/
import Pfl.Model.IndexedObject
import Pfl.Proofs.IndexedMarkSound
import Pfl.Proofs.TerminationIndexed

namespace Pfl.IG.Obj
open Pfl.IG.Lib

theorem loopT_succ (ord : List SetS → List SetS) (G : IG) (fuel : Nat) (T : Table) :
    loopT ord G (fuel + 1) T =
      if (pass ord G (libRules G) T false).2.2 = true then
        some (false, (pass ord G (libRules G) T false).1)
      else if (pass ord G (libRules G) T false).2.1 = true then
        loopT ord G fuel (pass ord G (libRules G) T false).1
      else some (!decide ([] ∈ get (pass ord G (libRules G) T false).1 G.start),
        (pass ord G (libRules G) T false).1) := rfl

theorem loopT_fst (ord : List SetS → List SetS) (G : IG) (fuel : Nat) (T : Table) :
    (loopT ord G fuel T).map (·.1) = loop ord G fuel T := by
  fun_induction loopT ord G fuel T with
  | case1 => rfl
  | case2 fuel T res hs => rw [loop, if_pos hs]; rfl
  | case3 fuel T res hs hm ih => rw [loop, if_neg hs, if_pos hm]; exact ih
  | case4 fuel T res hs hm => rw [loop, if_neg hs, if_neg hm]; rfl

end Pfl.IG.Obj

namespace Pfl.IG.ObjP
open Pfl.IG.Lib Pfl.IG.LibP Pfl.IG.Obj
open Pfl.Term (WFT total total_mono pass_prog loop_isSome)

theorem loop_of_loopT {ord : List SetS → List SetS} {G : IG} {fuel : Nat} {T T' : Table} {b : Bool}
    (h : loopT ord G fuel T = some (b, T')) : loop ord G fuel T = some b := by
  rw [← loopT_fst, h]; rfl

theorem loopT_isSome_iff (ord : List SetS → List SetS) (G : IG) (fuel : Nat) (T : Table) :
    (loopT ord G fuel T).isSome = (loop ord G fuel T).isSome := by
  rw [← loopT_fst, Option.isSome_map]

theorem loopT_inv {ord : List SetS → List SetS} {G : IG} {Q : Table → Prop}
    (hpass : ∀ T, Q T → Sub T (pass ord G (libRules G) T false).1 ∧
      Q (pass ord G (libRules G) T false).1) :
    ∀ (fuel : Nat) (T T' : Table) (b : Bool), Q T → loopT ord G fuel T = some (b, T') →
      Sub T T' ∧ Q T' := by
  intro fuel T
  fun_induction loopT ord G fuel T with
  | case1 => exact fun _ _ _ h => nomatch h
  | case2 fuel T res hs | case4 fuel T res hs hm =>
    -- the two exits: the table returned is that of the last pass
    rintro _ _ hT ⟨⟩
    exact hpass T hT
  | case3 fuel T res hs hm ih =>
    intro T' b hT h
    obtain ⟨hsub, hq⟩ := hpass T hT
    obtain ⟨h1, h2⟩ := ih T' b hq h
    exact ⟨hsub.trans h1, h2⟩

theorem loopT_sound {ord : List SetS → List SetS} (hord : OrdOK ord) (G : IG) (fuel : Nat)
    (T T' : Table) (b : Bool) : GoodT G T → loopT ord G fuel T = some (b, T') →
      Sub T T' ∧ GoodT G T' :=
  loopT_inv (fun T hT =>
    let h := pass_sound hord T hT
    ⟨h.1, h.2.1⟩) fuel T T' b

theorem loopT_wft {ord : List SetS → List SetS} (hord : OrdOK ord) (G : IG) (fuel : Nat)
    (T T' : Table) (b : Bool) : WFT G.nonTerminals T → loopT ord G fuel T = some (b, T') →
      Sub T T' ∧ WFT G.nonTerminals T' :=
  loopT_inv (fun T hT =>
    let h := pass_prog hord G T hT
    ⟨h.1, h.2.1⟩) fuel T T' b

theorem runCalls_eq (ord : List SetS → List SetS) (G : IG) (fuel : Nat) :
    ∀ (n : Nat) (T : Table),
      runCalls ord G fuel n T = runCallsO G fuel (List.replicate n ord) T := by
  intro n
  induction n with
  | zero => intro T; rfl
  | succ n ih =>
    intro T
    simp only [runCalls, List.replicate_succ, runCallsO, ih]

theorem ordOK_replicate {ord : List SetS → List SetS} (hord : OrdOK ord) (n : Nat) :
    ∀ o ∈ List.replicate n ord, OrdOK o :=
  fun _ ho => List.eq_of_mem_replicate ho ▸ hord

theorem runCallsO_isSome (G : IG) (fuel : Nat) :
    ∀ (ords : List (List SetS → List SetS)) (T : Table), (∀ ord ∈ ords, OrdOK ord) →
      WFT G.nonTerminals T →
      G.nonTerminals.length * 2 ^ G.nonTerminals.length < fuel + total G.nonTerminals T →
      (runCallsO G fuel ords T).isSome := by
  intro ords T
  fun_induction runCallsO G fuel ords T with
  | case1 | case4 => exact fun _ _ _ => rfl
  | case2 ord ords T h1 =>
    -- the first call gives no answer: excluded by `loop_isSome`
    intro hords hT hf
    have := loop_isSome (hords ord List.mem_cons_self) G fuel T hT hf
    rw [← loopT_isSome_iff, h1] at this
    cases this
  | case3 ord ords T b T' h1 h2 ih =>
    -- a later call gives no answer: excluded by `ih`, the table having only grown
    intro hords hT hf
    obtain ⟨hs, hw⟩ := loopT_wft (hords ord List.mem_cons_self) G fuel T T' b hT h1
    have := ih (fun o ho => hords o (List.mem_cons_of_mem _ ho)) hw
      (by have := total_mono (N := G.nonTerminals) hs; omega)
    rw [h2] at this
    cases this

end Pfl.IG.ObjP
