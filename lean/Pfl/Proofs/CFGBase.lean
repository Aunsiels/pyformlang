/-
Base lemmas about derivations, shared by all CFG proofs: composition of derivations, the tree-style
characterisation `Gen` of "symbol `s` generates the terminal word `w`" with its induction principle
(`Clean.gen_ind`, of which every other walk over a tree is an instance; `gen_least` where the claim
is about symbols alone), the inversion lemmas, the two production-wise simulations (`Clean.gen_sim`
on trees, `derives_sim` on sentential forms, which also carries `Occurs`, reachability from the
start symbol), and what a variable with a fixed handful of productions generates (`gen_alt_iff`,
`gen_cat_iff`, `gen_star_iff`).
-/
import Pfl.Spec.CFG
import Pfl.Proofs.ListBasics
namespace Pfl
namespace CFG

mutual
/-- `Gen G s w`: there is a parse tree with root `s` and yield `w` -/
inductive Gen (G : CFG) : Sym → List String → Prop
  | ter (t : String) : Gen G (.ter t) [t]
  | var {h : String} {body : List Sym} {w : List String} :
      (h, body) ∈ G.prods → GenList G body w → Gen G (.var h) w
/-- `GenList G u w`: the symbols of `u` generate consecutive pieces of `w` -/
inductive GenList (G : CFG) : List Sym → List String → Prop
  | nil : GenList G [] []
  | cons {s : Sym} {u : List Sym} {w₁ w₂ : List String} :
      Gen G s w₁ → GenList G u w₂ → GenList G (s :: u) (w₁ ++ w₂)
end

theorem Clean.gen_ind {G : CFG} {P : Sym → List String → Prop} {Q : List Sym → List String → Prop}
    (hter : ∀ t, P (.ter t) [t])
    (hvar : ∀ h body w, (h, body) ∈ G.prods → G.GenList body w → Q body w → P (.var h) w)
    (hnil : Q [] [])
    (hcons : ∀ s u w₁ w₂, G.Gen s w₁ → G.GenList u w₂ → P s w₁ → Q u w₂ → Q (s :: u) (w₁ ++ w₂)) :
    (∀ s w, G.Gen s w → P s w) ∧ (∀ u w, G.GenList u w → Q u w) :=
  ⟨fun _ _ h => Gen.rec (motive_1 := fun s w _ => P s w) (motive_2 := fun u w _ => Q u w)
      hter (fun hp hb ih => hvar _ _ _ hp hb ih) hnil
      (fun hs hu ih₁ ih₂ => hcons _ _ _ _ hs hu ih₁ ih₂) h,
   fun _ _ h => GenList.rec (motive_1 := fun s w _ => P s w) (motive_2 := fun u w _ => Q u w)
      hter (fun hp hb ih => hvar _ _ _ hp hb ih) hnil
      (fun hs hu ih₁ ih₂ => hcons _ _ _ _ hs hu ih₁ ih₂) h⟩

/-- `GenList` with `P` in place of `Gen`: the symbols of `u` yield, each as `P` allows, consecutive
pieces of `w` -/
def GenBy (P : Sym → List String → Prop) : List Sym → List String → Prop
  | [], w => w = []
  | s :: u, w => ∃ w₁ w₂, w = w₁ ++ w₂ ∧ P s w₁ ∧ GenBy P u w₂

/-- What a grammar generates is the least assignment of languages closed under its productions:
`Clean.gen_ind` for a claim about symbols alone, a body being read symbol by symbol. -/
theorem gen_least {G : CFG} {P : Sym → List String → Prop} (hter : ∀ t, P (.ter t) [t])
    (hvar : ∀ h body w, (h, body) ∈ G.prods → G.GenList body w → GenBy P body w → P (.var h) w)
    {s : Sym} {w : List String} (hg : G.Gen s w) : P s w :=
  (Clean.gen_ind (Q := GenBy P) hter hvar rfl
    (fun _ _ w₁ w₂ _ _ h₁ h₂ => ⟨w₁, w₂, rfl, h₁, h₂⟩)).1 s w hg

theorem GenBy.mono {P P' : Sym → List String → Prop} {u : List Sym} {w : List String}
    (hu : ∀ s ∈ u, ∀ w, P s w → P' s w) (h : GenBy P u w) : GenBy P' u w := by
  induction u generalizing w with
  | nil => exact h
  | cons s u ih =>
    obtain ⟨w₁, w₂, hw, h₁, h₂⟩ := h
    exact ⟨w₁, w₂, hw, hu s List.mem_cons_self _ h₁,
      ih (fun x hx => hu x (List.mem_cons_of_mem _ hx)) h₂⟩

theorem GenBy.genList {H : CFG} {u : List Sym} {w : List String} (h : GenBy H.Gen u w) :
    H.GenList u w := by
  induction u generalizing w with
  | nil => exact h ▸ GenList.nil
  | cons s u ih =>
    obtain ⟨_, _, rfl, h₁, h₂⟩ := h
    exact .cons h₁ (ih h₂)

theorem GenBy.map {P : Sym → List String → Prop} {f : Sym → Sym} {u : List Sym} {w : List String}
    (h : GenBy P (u.map f) w) : GenBy (fun s => P (f s)) u w := by
  induction u generalizing w with
  | nil => exact h
  | cons s u ih =>
    obtain ⟨w₁, w₂, hw, h₁, h₂⟩ := h
    exact ⟨w₁, w₂, hw, h₁, ih h₂⟩

theorem Derives.trans {G : CFG} {u v w : List Sym} (h₁ : G.Derives u v) (h₂ : G.Derives v w) :
    G.Derives u w := by
  induction h₁ with
  | refl _ => exact h₂
  | step hp _ ih => exact .step hp (ih h₂)

theorem Derives.context {G : CFG} {u v : List Sym} (x y : List Sym) (h : G.Derives u v) :
    G.Derives (x ++ u ++ y) (x ++ v ++ y) := by
  induction h with
  | refl _ => exact .refl _
  | @step u v body w h hp _ ih =>
    have e1 : x ++ (u ++ [Sym.var h] ++ v) ++ y = (x ++ u) ++ [Sym.var h] ++ (v ++ y) := by
      simp only [List.append_assoc]
    have e2 : x ++ (u ++ body ++ v) ++ y = (x ++ u) ++ body ++ (v ++ y) := by
      simp only [List.append_assoc]
    rw [e1]
    rw [e2] at ih
    exact .step hp ih

theorem Derives.append {G : CFG} {u u' v v' : List Sym} (h₁ : G.Derives u u') (h₂ : G.Derives v v') :
    G.Derives (u ++ v) (u' ++ v') := by
  have a := Derives.context [] v h₁
  have b := Derives.context u' [] h₂
  simp only [List.nil_append, List.append_nil] at a b
  exact a.trans b

theorem Derives.prod {G : CFG} {h : String} {body : List Sym} (hp : (h, body) ∈ G.prods) :
    G.Derives [.var h] body := by
  have := Derives.step (u := []) (v := []) hp (.refl _)
  simpa using this

theorem derives_inv (G : CFG) (P : List Sym → Prop)
    (hstep : ∀ u h body v, (h, body) ∈ G.prods → P (u ++ [Sym.var h] ++ v) → P (u ++ body ++ v))
    {a b : List Sym} (hd : G.Derives a b) : P a → P b := by
  induction hd with
  | refl _ => exact id
  | step hp _ ih => intro h; exact ih (hstep _ _ _ _ hp h)

theorem genList_append {G : CFG} {u v : List Sym} {w₁ w₂ : List String}
    (h₁ : G.GenList u w₁) (h₂ : G.GenList v w₂) : G.GenList (u ++ v) (w₁ ++ w₂) := by
  induction u generalizing w₁ with
  | nil => cases h₁; simpa using h₂
  | cons s u ih =>
    cases h₁ with
    | cons hs hu =>
      rw [List.cons_append, List.append_assoc]
      exact .cons hs (ih hu)

theorem genList_append_iff (G : CFG) (u v : List Sym) (w : List String) :
    G.GenList (u ++ v) w ↔ ∃ w₁ w₂, w = w₁ ++ w₂ ∧ G.GenList u w₁ ∧ G.GenList v w₂ := by
  constructor
  · intro h
    induction u generalizing w with
    | nil => exact ⟨[], w, rfl, .nil, by simpa using h⟩
    | cons s u ih =>
      rw [List.cons_append] at h
      cases h with
      | @cons _ _ a b hs hu =>
        obtain ⟨w₁, w₂, rfl, h1, h2⟩ := ih _ hu
        exact ⟨a ++ w₁, w₂, by simp, .cons hs h1, h2⟩
  · rintro ⟨w₁, w₂, rfl, h1, h2⟩
    exact genList_append h1 h2

theorem genList_singleton {G : CFG} {s : Sym} {w : List String} :
    G.GenList [s] w ↔ G.Gen s w := by
  constructor
  · intro h
    cases h with
    | cons hs hu => cases hu; simpa using hs
  · intro h
    have := GenList.cons h .nil
    simpa using this

theorem genList_cons_iff {G : CFG} {s : Sym} {u : List Sym} {w : List String} :
    G.GenList (s :: u) w ↔ ∃ w₁ w₂, w = w₁ ++ w₂ ∧ G.Gen s w₁ ∧ G.GenList u w₂ := by
  constructor
  · intro h
    cases h with
    | cons hs hu => exact ⟨_, _, rfl, hs, hu⟩
  · rintro ⟨w₁, w₂, rfl, h1, h2⟩
    exact .cons h1 h2

theorem genList_pair_iff {G : CFG} {s t : Sym} {w : List String} :
    G.GenList [s, t] w ↔ ∃ w₁ w₂, w = w₁ ++ w₂ ∧ G.Gen s w₁ ∧ G.Gen t w₂ := by
  rw [genList_cons_iff]
  simp only [genList_singleton]

theorem genList_nil_iff {G : CFG} {w : List String} : G.GenList [] w ↔ w = [] := by
  constructor
  · intro h; cases h; rfl
  · rintro rfl; exact .nil

theorem gen_ter_iff {G : CFG} {t : String} {w : List String} : G.Gen (.ter t) w ↔ w = [t] := by
  constructor
  · intro h; cases h; rfl
  · rintro rfl; exact .ter t

theorem gen_var_iff {G : CFG} {h : String} {w : List String} :
    G.Gen (.var h) w ↔ ∃ body, (h, body) ∈ G.prods ∧ G.GenList body w := by
  constructor
  · intro hg; cases hg with
    | var hp hl => exact ⟨_, hp, hl⟩
  · rintro ⟨body, hp, hl⟩; exact .var hp hl

theorem genList_map_ter (G : CFG) (w : List String) : G.GenList (w.map .ter) w := by
  induction w with
  | nil => exact .nil
  | cons a w ih => exact GenList.cons (w₁ := [a]) (.ter a) ih

theorem genList_map_ter_iff (G : CFG) (u w : List String) : G.GenList (u.map .ter) w ↔ u = w := by
  induction u generalizing w with
  | nil => exact genList_nil_iff.trans eq_comm
  | cons t u ih =>
    rw [List.map_cons, genList_cons_iff]
    constructor
    · rintro ⟨w₁, w₂, rfl, h1, h2⟩
      rw [gen_ter_iff.1 h1, (ih _).1 h2]; rfl
    · rintro rfl
      exact ⟨[t], u, rfl, .ter t, (ih _).2 rfl⟩

theorem genList_append_nil {G : CFG} {u v : List Sym} :
    G.GenList (u ++ v) [] ↔ G.GenList u [] ∧ G.GenList v [] := by
  rw [genList_append_iff]
  constructor
  · rintro ⟨w₁, w₂, e, h1, h2⟩
    obtain ⟨rfl, rfl⟩ := List.append_eq_nil_iff.mp e.symm
    exact ⟨h1, h2⟩
  · rintro ⟨h1, h2⟩
    exact ⟨[], [], rfl, h1, h2⟩

theorem genList_append_head {G : CFG} {u v : List Sym} {t : String} :
    (∃ w, G.GenList (u ++ v) (t :: w)) ↔
      ((∃ w, G.GenList u (t :: w)) ∧ ∃ w, G.GenList v w) ∨
        (G.GenList u [] ∧ ∃ w, G.GenList v (t :: w)) := by
  constructor
  · rintro ⟨w, h⟩
    obtain ⟨w₁, w₂, e, h1, h2⟩ := (genList_append_iff G u v _).mp h
    cases w₁ with
    | nil => exact Or.inr ⟨h1, w, e ▸ h2⟩
    | cons a w1 =>
      obtain ⟨rfl, _⟩ := List.cons.inj e
      exact Or.inl ⟨⟨w1, h1⟩, w₂, h2⟩
  · rintro (⟨⟨w₁, h1⟩, w₂, h2⟩ | ⟨h1, w, h2⟩)
    · exact ⟨w₁ ++ w₂, genList_append h1 h2⟩
    · exact ⟨w, genList_append h1 h2⟩

theorem genList_cons_nil {G : CFG} {s : Sym} {r : List Sym} :
    G.GenList (s :: r) [] ↔ G.Gen s [] ∧ G.GenList r [] := by
  rw [← genList_singleton]; exact genList_append_nil (u := [s])

theorem genList_cons_head {G : CFG} {s : Sym} {r : List Sym} {t : String} :
    (∃ w, G.GenList (s :: r) (t :: w)) ↔
      ((∃ w, G.Gen s (t :: w)) ∧ ∃ w, G.GenList r w) ∨ (G.Gen s [] ∧ ∃ w, G.GenList r (t :: w)) := by
  simp only [← genList_singleton (s := s)]; exact genList_append_head (u := [s])

theorem genList_nil_iff_forall (G : CFG) (b : List Sym) : G.GenList b [] ↔ ∀ y ∈ b, G.Gen y [] := by
  induction b with
  | nil => exact ⟨fun _ y hy => (by cases hy), fun _ => .nil⟩
  | cons x xs ih => rw [genList_cons_nil, ih, List.forall_mem_cons]

theorem gen_genList_derives {G : CFG} :
    (∀ s w, G.Gen s w → G.Derives [s] (w.map .ter)) ∧
    (∀ u w, G.GenList u w → G.Derives u (w.map .ter)) :=
  Clean.gen_ind (fun _ => .refl _) (fun _ _ _ hp _ ih => (Derives.prod hp).trans ih) (.refl _)
    fun _ _ _ _ _ _ ih₁ ih₂ => by simpa using Derives.append ih₁ ih₂

theorem gen_derives {G : CFG} : ∀ {s : Sym} {w : List String}, G.Gen s w → G.Derives [s] (w.map .ter) :=
  fun h => gen_genList_derives.1 _ _ h

theorem genList_derives {G : CFG} : ∀ {u : List Sym} {w : List String},
    G.GenList u w → G.Derives u (w.map .ter) :=
  fun h => gen_genList_derives.2 _ _ h

theorem genList_fold (G : CFG) {h : String} {body x z : List Sym} {w : List String}
    (hp : (h, body) ∈ G.prods) (hw : G.GenList (x ++ body ++ z) w) :
    G.GenList (x ++ [.var h] ++ z) w := by
  rw [genList_append_iff] at hw
  obtain ⟨w₁₂, w₃, rfl, h12, h3⟩ := hw
  rw [genList_append_iff] at h12
  obtain ⟨w₁, w₂, rfl, h1, h2⟩ := h12
  exact genList_append (genList_append h1 (genList_singleton.2 (.var hp h2))) h3

theorem derives_genList {G : CFG} {a b : List Sym} (h : G.Derives a b) :
    ∀ w : List String, b = w.map .ter → G.GenList a w := by
  induction h with
  | refl _ => rintro w rfl; exact genList_map_ter G w
  | step hp _ ih => exact fun w hw => genList_fold G hp (ih w hw)

theorem genList_iff_derives (G : CFG) (u : List Sym) (w : List String) :
    G.GenList u w ↔ G.Derives u (w.map .ter) :=
  ⟨genList_derives, fun h => derives_genList h w rfl⟩

theorem derives_append_ter (G : CFG) (u v : List Sym) (w : List String)
    (h : G.Derives (u ++ v) (w.map .ter)) :
    ∃ w₁ w₂, w = w₁ ++ w₂ ∧ G.Derives u (w₁.map .ter) ∧ G.Derives v (w₂.map .ter) := by
  rw [← genList_iff_derives, genList_append_iff] at h
  obtain ⟨w₁, w₂, e, h1, h2⟩ := h
  exact ⟨w₁, w₂, e, genList_derives h1, genList_derives h2⟩

theorem gen_iff_derives (G : CFG) (s : Sym) (w : List String) :
    G.Gen s w ↔ G.Derives [s] (w.map .ter) := by
  rw [← genList_iff_derives, genList_singleton]

theorem lang_iff_gen (G : CFG) (w : List String) :
    G.Lang w ↔ ∃ s, G.start = some s ∧ G.Gen (.var s) w := by
  unfold Lang
  simp only [gen_iff_derives]

theorem lang_of_start {G : CFG} {s : String} (h : G.start = some s) (w : List String) :
    G.Lang w ↔ G.Gen (.var s) w := by
  rw [lang_iff_gen, h]
  simp only [Option.some.injEq, exists_eq_left']

theorem Clean.gen_sim {R G : CFG}
    (h : ∀ hd body w, (hd, body) ∈ R.prods → G.GenList body w → G.Gen (.var hd) w) :
    (∀ s w, R.Gen s w → G.Gen s w) ∧ (∀ u w, R.GenList u w → G.GenList u w) :=
  Clean.gen_ind (fun t => Gen.ter t) (fun hd body w hp _ ih => h hd body w hp ih) GenList.nil
    (fun _ _ _ _ _ _ ih₁ ih₂ => GenList.cons ih₁ ih₂)

theorem gen_mono (G H : CFG) (hp : ∀ p, p ∈ G.prods → p ∈ H.prods) (s : Sym) (w : List String)
    (h : G.Gen s w) : H.Gen s w :=
  (Clean.gen_sim fun _ _ _ hm hb => .var (hp _ hm) hb).1 s w h

theorem genList_mono (G H : CFG) (hp : ∀ p, p ∈ G.prods → p ∈ H.prods) (u : List Sym)
    (w : List String) (h : G.GenList u w) : H.GenList u w :=
  (Clean.gen_sim fun _ _ _ hm hb => .var (hp _ hm) hb).2 u w h

theorem gen_congr (G H : CFG) (hp : ∀ p, p ∈ G.prods ↔ p ∈ H.prods) (s : Sym) (w : List String) :
    G.Gen s w ↔ H.Gen s w :=
  ⟨gen_mono G H (fun p => (hp p).1) s w, gen_mono H G (fun p => (hp p).2) s w⟩

theorem genList_congr (G H : CFG) (hp : ∀ p, p ∈ G.prods ↔ p ∈ H.prods) (u : List Sym)
    (w : List String) : G.GenList u w ↔ H.GenList u w :=
  ⟨genList_mono G H (fun p => (hp p).1) u w, genList_mono H G (fun p => (hp p).2) u w⟩

namespace C08

theorem gen_genList_ters {G : CFG} (hG : G.WF) :
    (∀ s v, G.Gen s v → (∀ t, s = .ter t → t ∈ G.ters) → ∀ a ∈ v, a ∈ G.ters) ∧
    (∀ u v, G.GenList u v → (∀ t, Sym.ter t ∈ u → t ∈ G.ters) → ∀ a ∈ v, a ∈ G.ters) := by
  apply Clean.gen_ind
  · intro t h a ha
    rw [List.mem_singleton.1 ha]
    exact h _ rfl
  · intro _ _ _ hp _ ih _
    exact ih (hG.ter_mem _ hp)
  · intro _ a ha; cases ha
  · intro s u w₁ w₂ _ _ ih₁ ih₂ h a ha
    rcases List.mem_append.mp ha with ha | ha
    · exact ih₁ (fun t ht => h t (by simp [ht])) a ha
    · exact ih₂ (fun t ht => h t (List.mem_cons_of_mem _ ht)) a ha

theorem gen_ters {G : CFG} (hG : G.WF) :
    ∀ {s : Sym} {v : List String}, G.Gen s v → (∀ t, s = .ter t → t ∈ G.ters) →
      ∀ a ∈ v, a ∈ G.ters :=
  fun h => (gen_genList_ters hG).1 _ _ h

theorem genList_ters {G : CFG} (hG : G.WF) :
    ∀ {u : List Sym} {v : List String}, G.GenList u v → (∀ t, Sym.ter t ∈ u → t ∈ G.ters) →
      ∀ a ∈ v, a ∈ G.ters :=
  fun h => (gen_genList_ters hG).2 _ _ h

end C08

theorem Clean.gen_ne_nil {G : CFG} (hG : ∀ p ∈ G.prods, p.2 ≠ []) :
    (∀ s w, G.Gen s w → w ≠ []) ∧ (∀ u w, G.GenList u w → u ≠ [] → w ≠ []) :=
  Clean.gen_ind (fun _ => List.cons_ne_nil _ _) (fun _ _ _ hm _ ih => ih (hG _ hm)) (fun h => absurd rfl h)
    (fun _ _ _ _ _ _ ih _ _ e => ih (List.append_eq_nil_iff.mp e).1)

/-- Production-wise simulation on sentential forms: if `N` derives the body of every production of
`G` from its head, every derivation of `G` is one of `N`.  It asks more than `Clean.gen_sim`, which
needs of a body only the words it yields, and gives more: what occurs in a sentential form
(reachability) is transferred too. -/
theorem derives_sim {G N : CFG}
    (h : ∀ hd body, (hd, body) ∈ G.prods → N.Derives [.var hd] body) {a b : List Sym}
    (hd : G.Derives a b) : N.Derives a b :=
  derives_inv G (N.Derives a) (fun u _ _ v hp ha => ha.trans ((h _ _ hp).context u v)) hd (.refl a)

theorem Derives.mono {G N : CFG} {a b : List Sym} (hd : G.Derives a b)
    (h : ∀ p ∈ G.prods, p ∈ N.prods) : N.Derives a b :=
  derives_sim (fun _ _ hp => Derives.prod (h _ hp)) hd

theorem Derives.cons {G : CFG} {h : String} {b x : Sym} {σ : List Sym}
    (hp : (h, [b, x]) ∈ G.prods) (hx : G.Derives [x] σ) : G.Derives [.var h] (b :: σ) :=
  (Derives.prod hp).trans (Derives.append (.refl [b]) hx)

theorem gen_of_derives {G : CFG} {s : Sym} {σ : List Sym} {w : List String}
    (hd : G.Derives [s] σ) (hg : G.GenList σ w) : G.Gen s w :=
  (gen_iff_derives G s w).2 (hd.trans (genList_derives hg))

theorem gen_of_derives_sim {G N : CFG}
    (h : ∀ hd body, (hd, body) ∈ G.prods → N.Derives [.var hd] body) {s : Sym} {w : List String}
    (hg : G.Gen s w) : N.Gen s w :=
  (Clean.gen_sim fun _ _ _ hp hb => gen_of_derives (h _ _ hp) hb).1 s w hg

theorem gen_alt_iff {G : CFG} {X : String} {s₀ s₁ : Sym} {A B : List String → Prop}
    (hA : ∀ w, G.Gen s₀ w ↔ A w) (hB : ∀ w, G.Gen s₁ w ↔ B w)
    (hX : ∀ body, (X, body) ∈ G.prods ↔ body = [s₀] ∨ body = [s₁]) (w : List String) :
    G.Gen (.var X) w ↔ A w ∨ B w := by
  simp only [gen_var_iff, hX, or_and_right, exists_or, exists_eq_left, genList_singleton, hA, hB]

theorem gen_cat_iff {G : CFG} {X : String} {s₀ s₁ : Sym} {A B : List String → Prop}
    (hA : ∀ w, G.Gen s₀ w ↔ A w) (hB : ∀ w, G.Gen s₁ w ↔ B w)
    (hX : ∀ body, (X, body) ∈ G.prods ↔ body = [s₀, s₁]) (w : List String) :
    G.Gen (.var X) w ↔ ∃ u v, w = u ++ v ∧ A u ∧ B v := by
  simp only [gen_var_iff, hX, exists_eq_left, genList_pair_iff, hA, hB]

theorem gen_star_iff {G : CFG} {X : String} {s₀ : Sym} {A : List String → Prop}
    (hA : ∀ w, G.Gen s₀ w ↔ A w)
    (hX : ∀ body, (X, body) ∈ G.prods ↔ body = [s₀] ∨ body = [.var X, .var X] ∨ body = [])
    (w : List String) :
    G.Gen (.var X) w ↔ ∃ ws : List (List String), w = ws.flatten ∧ ∀ x ∈ ws, A x := by
  constructor
  · -- a tree under `X` whose inner nodes are all `X`: its yield is cut at the `X → s₀` nodes
    refine fun h => gen_least
      (P := fun s w => s = .var X → ∃ ws : List (List String), w = ws.flatten ∧ ∀ x ∈ ws, A x)
      nofun (fun h body w hp hb ih e => ?_) h rfl
    cases e
    rcases (hX body).1 hp with rfl | rfl | rfl
    · exact ⟨[w], by simp, by simpa using (hA w).1 (genList_singleton.1 hb)⟩
    · obtain ⟨_, _, rfl, h₁, _, _, rfl, h₂, rfl⟩ := ih
      obtain ⟨us, rfl, h1⟩ := h₁ rfl
      obtain ⟨vs, rfl, h2⟩ := h₂ rfl
      exact ⟨us ++ vs, by simp, fun x hx => (List.mem_append.1 hx).elim (h1 x) (h2 x)⟩
    · exact ⟨[], ih, nofun⟩
  · rintro ⟨ws, rfl, hws⟩
    induction ws with
    | nil => exact .var ((hX _).2 (Or.inr (Or.inr rfl))) .nil
    | cons x ws ih =>
      have h1 : G.Gen (.var X) x :=
        .var ((hX _).2 (Or.inl rfl)) (genList_singleton.2 ((hA x).2 (hws x (by simp))))
      exact .var ((hX _).2 (Or.inr (Or.inl rfl)))
        (.cons h1 (genList_singleton.2 (ih fun y hy => hws y (by simp [hy]))))

/-- `s` occurs in a sentential form derivable from the start symbol (what `reachable` computes) -/
def Occurs (G : CFG) (s : Sym) : Prop :=
  ∃ st, G.start = some st ∧ ∃ u v, G.Derives [.var st] (u ++ [s] ++ v)

theorem Occurs.derives {G : CFG} {h : String} {s : Sym} {u v : List Sym}
    (ho : Occurs G (.var h)) (hd : G.Derives [.var h] (u ++ [s] ++ v)) : Occurs G s := by
  obtain ⟨st, hst, u', v', hd'⟩ := ho
  refine ⟨st, hst, u' ++ u, v ++ v', hd'.trans ?_⟩
  have := hd.context u' v'
  simpa [List.append_assoc] using this

theorem Occurs.step {G : CFG} {h : String} {body : List Sym} {s : Sym}
    (ho : Occurs G (.var h)) (hp : (h, body) ∈ G.prods) (hs : s ∈ body) : Occurs G s := by
  obtain ⟨u, v, rfl⟩ := List.append_of_mem hs
  exact ho.derives (u := u) (v := v) (by simpa using Derives.prod hp)

theorem Occurs.sim {G N : CFG} {s : Sym} (ho : Occurs G s) (hst : N.start = G.start)
    (h : ∀ hd body, (hd, body) ∈ G.prods → N.Derives [.var hd] body) : Occurs N s := by
  obtain ⟨st, hs, u, v, hd⟩ := ho
  exact ⟨st, hst ▸ hs, u, v, derives_sim h hd⟩

/-! Pieces of a word by position: the vocabulary in which both membership tables, the span oracle's
and CYK's, say what an entry means. -/
namespace C08

/-- `v` occurs in `w` starting at position `i` -/
def At (w : List String) (i : Nat) (v : List String) : Prop :=
  ∃ a b, w = a ++ v ++ b ∧ a.length = i

theorem at_nil {w : List String} {i : Nat} (h : i ≤ w.length) : At w i [] :=
  ⟨w.take i, w.drop i, by simp, by simp; omega⟩

theorem at_le {w : List String} {i : Nat} {v : List String} (h : At w i v) :
    i + v.length ≤ w.length := by
  obtain ⟨a, b, rfl, rfl⟩ := h
  simp only [List.length_append]; omega

theorem at_append {w : List String} {i : Nat} {v₁ v₂ : List String}
    (h₁ : At w i v₁) (h₂ : At w (i + v₁.length) v₂) : At w i (v₁ ++ v₂) := by
  obtain ⟨a, b, rfl, rfl⟩ := h₁
  obtain ⟨a', b', e, hl⟩ := h₂
  have e' : (a ++ v₁) ++ b = a' ++ (v₂ ++ b') := by rw [e]; simp
  obtain ⟨ha, hb⟩ := List.append_inj e' (by simp [hl])
  exact ⟨a, b', by simp [hb], rfl⟩

theorem at_split {w : List String} {i : Nat} {v₁ v₂ : List String}
    (h : At w i (v₁ ++ v₂)) : At w i v₁ ∧ At w (i + v₁.length) v₂ := by
  obtain ⟨a, b, rfl, rfl⟩ := h
  exact ⟨⟨a, v₂ ++ b, by simp, rfl⟩, ⟨a ++ v₁, b, by simp, by simp⟩⟩

theorem at_singleton {w : List String} {i : Nat} {t : String} :
    At w i [t] ↔ w[i]? = some t := by
  constructor
  · rintro ⟨a, b, rfl, rfl⟩
    simp
  · intro h
    obtain ⟨hi, ht⟩ := List.getElem?_eq_some_iff.mp h
    refine ⟨w.take i, w.drop (i + 1), ?_, by simp; omega⟩
    rw [List.append_assoc, List.singleton_append, ← ht, ← List.drop_eq_getElem_cons hi,
      List.take_append_drop]

theorem at_zero_full {w v : List String} (h : At w 0 v) (hl : v.length = w.length) : v = w := by
  obtain ⟨a, b, rfl, ha⟩ := h
  have : a = [] := List.length_eq_zero_iff.mp ha
  subst this
  have : b = [] := by
    apply List.length_eq_zero_iff.mp
    simp only [List.length_append, List.length_nil] at hl; omega
  subst this
  simp

theorem at_full (w : List String) : At w 0 w := ⟨[], [], by simp, rfl⟩

end C08

end CFG
end Pfl
