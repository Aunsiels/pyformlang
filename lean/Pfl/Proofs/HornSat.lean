/-
Saturation inside a finite universe, once.  `Iter`: a function that applies `f` a given number of
times (the model has two copies, `CFG.iter` and `IG.iterN`).  `Iter.saturates`: a round that only
adds elements of a finite list `U` either changes nothing or leaves fewer elements of `U` outside
(`unseen`), so `|U| + 1` rounds reach a fixed point.  `HornStep`: the round `rs.foldl f` over clauses
with a head and a body; what it reaches is the least set closed under the clauses (`iter_forall` is
its induction principle, `iter_closed` its closure).  `Pass`: a round whose clauses are computed
from the growing set: folds (`Pass.foldl`, `Pass.comp`) around `Pass.add`, itself a `HornStep` fold
over clauses without body; inside a finite universe it reaches the least set closed under its rule
(`Pass.least`; `Least R S T`: `T` is the least set containing `S` and closed under `R`, with its induction).  The fuelled variant that stops at the first round without growth answers with the
least closed set too (`Pass.untilFixed`).
-/
import Pfl.Proofs.ListBasics

namespace Pfl

/-- `it n` applies `f` to its argument `n` times -/
structure Iter {α : Type} (it : Nat → α → α) (f : α → α) : Prop where
  zero : ∀ x, it 0 x = x
  succ : ∀ n x, it (n + 1) x = it n (f x)

namespace Iter
variable {α : Type} {it : Nat → α → α} {f : α → α}

theorem inv (h : Iter it f) (Q : α → Prop) (hQ : ∀ x, Q x → Q (f x)) : ∀ n x, Q x → Q (it n x)
  | 0, x, hx => by rw [h.zero]; exact hx
  | n + 1, x, hx => by rw [h.succ]; exact inv h Q hQ n (f x) (hQ x hx)

theorem fix (h : Iter it f) {x : α} (hx : f x = x) : ∀ n, it n x = x
  | 0 => h.zero x
  | n + 1 => by rw [h.succ, hx, fix h hx n]

end Iter

theorem exists_new_of_prefix {α : Type} {F F' : List α} (hp : F <+: F') (hnd : F'.Nodup)
    (hne : F' ≠ F) : ∃ x ∈ F', x ∉ F := by
  obtain ⟨T, rfl⟩ := hp
  cases T with
  | nil => exact absurd (List.append_nil F) hne
  | cons x T =>
    exact ⟨x, List.mem_append_right _ List.mem_cons_self, fun hx =>
      (List.nodup_append.mp hnd).2.2 x hx x List.mem_cons_self rfl⟩

/-- saturation in a finite universe: rounds that, under an invariant, keep what is there and add
only new elements of `U` when they change anything reach a fixed point within `|U| + 1` rounds:
a round that changes something leaves fewer elements of `U` outside -/
theorem Iter.saturates {α : Type} [DecidableEq α] {it : Nat → List α → List α}
    {P : List α → List α} (h : Iter it P) (U : List α) (I : List α → Prop)
    (hP : ∀ F, I F → I (P F) ∧ (∀ x ∈ F, x ∈ P F) ∧ (P F ≠ F → ∃ x ∈ U, x ∉ F ∧ x ∈ P F)) :
    ∀ n F, I F → unseen U F < n → P (it n F) = it n F
  | 0, _, _, hn => absurd hn (Nat.not_lt_zero _)
  | n + 1, F, hF, hn => by
    rw [h.succ]
    by_cases heq : P F = F
    · rw [heq, h.fix heq n, heq]
    · obtain ⟨_, hU, hx, hx'⟩ := (hP F hF).2.2 heq
      exact saturates h U I hP n (P F) (hP F hF).1
        (Nat.lt_of_lt_of_le (unseen_lt (hP F hF).2.1 hU hx hx') (Nat.le_of_lt_succ hn))

/-- One step of a closure loop over clauses `r` with head `hd r` and body `bd r`: it appends the
head of a clause whose body is inside and whose head is not, and otherwise does nothing. -/
def HornStep {α ρ : Type} (f : List α → ρ → List α) (hd : ρ → α) (bd : ρ → List α) : Prop :=
  ∀ S r, (f S r = S ∧ ((∀ x ∈ bd r, x ∈ S) → hd r ∈ S)) ∨
    (f S r = S ++ [hd r] ∧ hd r ∉ S ∧ ∀ x ∈ bd r, x ∈ S)

namespace HornStep
variable {α ρ : Type} {f : List α → ρ → List α} {hd : ρ → α} {bd : ρ → List α}

/-- the shape in which the models write such a step -/
theorem of_ite {c : List α → ρ → Prop} [∀ S r, Decidable (c S r)]
    (hf : ∀ S r, f S r = if c S r then S ++ [hd r] else S)
    (hc : ∀ S r, c S r ↔ (∀ x ∈ bd r, x ∈ S) ∧ hd r ∉ S) : HornStep f hd bd := by
  intro S r
  rw [hf]
  by_cases h : c S r
  · rw [if_pos h]
    exact Or.inr ⟨rfl, ((hc S r).1 h).2, ((hc S r).1 h).1⟩
  · rw [if_neg h]
    exact Or.inl ⟨rfl, fun hb => Classical.not_not.1 fun hn => h ((hc S r).2 ⟨hb, hn⟩)⟩

theorem fold_prefix (hf : HornStep f hd bd) (rs : List ρ) (S : List α) : S <+: rs.foldl f S :=
  foldl_inv (S <+: ·) f rs (fun T r _ hT => hT.trans (by
    rcases hf T r with h | h <;> rw [h.1]
    · exact List.prefix_refl _
    · exact List.prefix_append _ _)) S (List.prefix_refl S)

theorem fold_forall (hf : HornStep f hd bd) (Q : α → Prop) (rs : List ρ)
    (hQ : ∀ r ∈ rs, (∀ x ∈ bd r, Q x) → Q (hd r)) (S : List α) (hS : ∀ x ∈ S, Q x) :
    ∀ x ∈ rs.foldl f S, Q x :=
  foldl_inv (∀ x ∈ ·, Q x) f rs (fun S r hr hS => by
    rcases hf S r with h | h <;> rw [h.1]
    · exact hS
    · exact List.forall_mem_append.2
        ⟨hS, List.forall_mem_singleton.2 (hQ r hr fun y hy => hS y (h.2.2 y hy))⟩) S hS

theorem fold_nodup (hf : HornStep f hd bd) (rs : List ρ) (S : List α) (hS : S.Nodup) :
    (rs.foldl f S).Nodup :=
  foldl_inv List.Nodup f rs (fun S r _ hS => by
    rcases hf S r with h | h <;> rw [h.1]
    · exact hS
    · exact nodup_append_singleton hS h.2.1) S hS

theorem fold_closed (hf : HornStep f hd bd) (rs : List ρ) : ∀ S, rs.foldl f S = S →
    ∀ r ∈ rs, (∀ x ∈ bd r, x ∈ S) → hd r ∈ S := by
  induction rs with
  | nil => intro S _ r hr; cases hr
  | cons r rs ih =>
    intro S hfix q hq
    rw [List.foldl_cons] at hfix
    rcases hf S r with h | h
    · rw [h.1] at hfix
      rcases List.mem_cons.mp hq with rfl | hq
      · exact h.2
      · exact ih S hfix q hq
    · have := (hf.fold_prefix rs (f S r)).length_le
      rw [hfix, h.1, List.length_append] at this
      exact absurd this (by simp)

theorem fold_new (hf : HornStep f hd bd) (rs : List ρ) : ∀ S, rs.foldl f S ≠ S →
    ∃ r ∈ rs, hd r ∉ S ∧ hd r ∈ rs.foldl f S := by
  induction rs with
  | nil => intro S h; exact absurd rfl h
  | cons r rs ih =>
    intro S hne
    rw [List.foldl_cons] at hne ⊢
    rcases hf S r with h | h
    · rw [h.1] at hne ⊢
      obtain ⟨q, hq, h1, h2⟩ := ih S hne
      exact ⟨q, List.mem_cons_of_mem _ hq, h1, h2⟩
    · refine ⟨r, List.mem_cons_self, h.2.1, (hf.fold_prefix rs (f S r)).subset ?_⟩
      rw [h.1]; exact List.mem_append_right _ List.mem_cons_self

variable {it : Nat → List α → List α} {rs : List ρ}

theorem iter_prefix (hf : HornStep f hd bd) (hi : Iter it (rs.foldl f)) (n : Nat) (S : List α) :
    S <+: it n S :=
  hi.inv (S <+: ·) (fun _ h => h.trans (hf.fold_prefix rs _)) n S (List.prefix_refl S)

theorem iter_forall (hf : HornStep f hd bd) (hi : Iter it (rs.foldl f)) (Q : α → Prop)
    (hQ : ∀ r ∈ rs, (∀ x ∈ bd r, Q x) → Q (hd r)) (n : Nat) (S : List α) (hS : ∀ x ∈ S, Q x) :
    ∀ x ∈ it n S, Q x :=
  hi.inv (∀ x ∈ ·, Q x) (hf.fold_forall Q rs hQ) n S hS

/-- every productive round leaves one clause less with a missing head, so after more than `|rs|`
rounds the set is closed under the clauses -/
theorem iter_closed [DecidableEq α] (hf : HornStep f hd bd) (hi : Iter it (rs.foldl f)) {n : Nat}
    (hn : rs.length < n) (S : List α) :
    ∀ r ∈ rs, (∀ x ∈ bd r, x ∈ it n S) → hd r ∈ it n S := by
  refine hf.fold_closed rs _ (hi.saturates (rs.map hd) (fun _ => True) (fun F _ => ⟨trivial,
    (hf.fold_prefix rs F).subset, fun hne => ?_⟩) n S trivial ?_)
  · obtain ⟨r, hr, h⟩ := hf.fold_new rs F hne
    exact ⟨hd r, List.mem_map.mpr ⟨r, hr, rfl⟩, h⟩
  · exact Nat.lt_of_le_of_lt (Nat.le_trans (unseen_le _ _) (Nat.le_of_eq (List.length_map hd))) hn

end HornStep

section Sat
variable {β ε π : Type}

theorem add_horn (g : ε → β) [∀ (F : List β) (e : ε), Decidable (g e ∈ F)] :
    HornStep (fun F e => if g e ∈ F then F else F ++ [g e]) g (fun _ => []) :=
  .of_ite (c := fun F e => g e ∉ F) (fun _ _ => (ite_not _ _ _).symm) fun _ _ => by simp

/-- a saturation pass `P` for the rule `R`: it only appends, without repetition, every appended
element follows by `R` from what is there at that moment, and a pass that appends nothing
certifies closure under `R` -/
structure Pass (R : List β → β → Prop) (P : List β → List β) : Prop where
  pre : ∀ F, F <+: P F
  nodup : ∀ F, F.Nodup → (P F).Nodup
  just : ∀ (Q : β → Prop) (F : List β),
    (∀ F' x, (∀ y ∈ F', Q y) → R F' x → Q x) → (∀ y ∈ F, Q y) → ∀ y ∈ P F, Q y
  closed : ∀ F x, R F x → P F = F → x ∈ F

theorem Pass.id : Pass (fun _ _ => False) (fun F : List β => F) :=
  ⟨fun F => List.prefix_refl F, fun _ h => h, fun _ _ _ h => h, fun _ _ h _ => h.elim⟩

theorem Pass.congr {R R' : List β → β → Prop} {P : List β → List β} (h : Pass R P)
    (hR : ∀ F x, R' F x ↔ R F x) : Pass R' P :=
  ⟨h.pre, h.nodup,
    fun Q F hQ hF => h.just Q F (fun F' x hF' hr => hQ F' x hF' ((hR F' x).mpr hr)) hF,
    fun F x hr hfix => h.closed F x ((hR F x).mp hr) hfix⟩

theorem Pass.of_eq {R : List β → β → Prop} {P P' : List β → List β} (h : Pass R P)
    (hP : ∀ F, P' F = P F) : Pass R P' := by
  rw [show P' = P from funext hP]; exact h

theorem Pass.comp {R1 R2 : List β → β → Prop} {P1 P2 : List β → List β} (h1 : Pass R1 P1)
    (h2 : Pass R2 P2) : Pass (fun F x => R1 F x ∨ R2 F x) (fun F => P2 (P1 F)) := by
  refine ⟨fun F => (h1.pre F).trans (h2.pre _), fun F hF => h2.nodup _ (h1.nodup F hF), ?_, ?_⟩
  · intro Q F hQ hF
    exact h2.just Q _ (fun F' x hF' hr => hQ F' x hF' (Or.inr hr))
      (h1.just Q F (fun F' x hF' hr => hQ F' x hF' (Or.inl hr)) hF)
  · intro F x hr hfix
    have h21 := h2.pre (P1 F)
    rw [hfix] at h21
    have e1 : P1 F = F := ((h1.pre F).eq_of_length_le h21.length_le).symm
    rw [e1] at hfix
    rcases hr with hr | hr
    · exact h1.closed F x hr e1
    · exact h2.closed F x hr hfix

theorem Pass.foldl (R : π → List β → β → Prop) (P : π → List β → List β) :
    ∀ ps : List π, (∀ p ∈ ps, Pass (R p) (P p)) →
      Pass (fun F x => ∃ p ∈ ps, R p F x) (fun F => ps.foldl (fun F p => P p F) F)
  | [], _ => Pass.id.congr (by simp)
  | p :: ps, h =>
    (((h p List.mem_cons_self).comp
        (Pass.foldl R P ps fun q hq => h q (List.mem_cons_of_mem _ hq))).congr
      (by simp only [List.mem_cons, exists_eq_or_imp, implies_true])).of_eq (fun _ => rfl)

theorem Pass.add (g : ε → β) (l : List β → List ε) [∀ (F : List β) (e : ε), Decidable (g e ∈ F)] :
    Pass (fun F x => ∃ e ∈ l F, x = g e)
      (fun F => (l F).foldl (fun F e => if g e ∈ F then F else F ++ [g e]) F) :=
  ⟨fun F => (add_horn g).fold_prefix _ F, fun F hF => (add_horn g).fold_nodup _ F hF,
    fun Q F hQ hF => (add_horn g).fold_forall Q _ (fun e he _ => hQ F _ hF ⟨e, he, rfl⟩) F hF,
    fun F _ ⟨e, he, hx⟩ hfix => hx ▸ (add_horn g).fold_closed _ F hfix e he fun _ h => nomatch h⟩

theorem Pass.addIf (c : List β → Prop) (x : β) [∀ F, Decidable (c F ∧ x ∉ F)] :
    Pass (fun F y => c F ∧ y = x) (fun F => if c F ∧ x ∉ F then F ++ [x] else F) := by
  refine ⟨fun F => ?_, fun F hF => ?_, fun Q F hQ hF y hy => ?_, ?_⟩
  · split
    · exact List.prefix_append F _
    · exact List.prefix_refl F
  · split
    · rename_i h
      exact nodup_append_singleton hF h.2
    · exact hF
  · split at hy
    · rename_i h
      rcases List.mem_append.mp hy with hy | hy
      · exact hF y hy
      · exact hQ F y hF ⟨h.1, List.mem_singleton.mp hy⟩
    · exact hF y hy
  · rintro F y ⟨hc, rfl⟩ hfix
    refine Classical.not_not.mp fun hm => ?_
    rw [if_pos ⟨hc, hm⟩] at hfix
    exact absurd (congrArg List.length hfix) (by simp)

/-- `T` is the least set that contains `S` and is closed under the rule `R` -/
structure Least (R : List β → β → Prop) (S T : List β) : Prop where
  seed : ∀ x ∈ S, x ∈ T
  closed : ∀ x, R T x → x ∈ T
  ind : ∀ Q : β → Prop, (∀ F x, (∀ y ∈ F, Q y) → R F x → Q x) → (∀ y ∈ S, Q y) → ∀ y ∈ T, Q y

theorem Pass.fixed [DecidableEq β] {R : List β → β → Prop} {P : List β → List β} (h : Pass R P)
    {it : Nat → List β → List β} (hi : Iter it P) (U : List β)
    (hU : ∀ F x, (∀ y ∈ F, y ∈ U) → R F x → x ∈ U) {S : List β} (hS : S.Nodup)
    (hSU : ∀ x ∈ S, x ∈ U) {n : Nat} (hn : U.length < n) : P (it n S) = it n S := by
  refine hi.saturates U (fun F => F.Nodup ∧ ∀ x ∈ F, x ∈ U) (fun F hI =>
    ⟨⟨h.nodup F hI.1, h.just (· ∈ U) F hU hI.2⟩, (h.pre F).subset, fun hne => ?_⟩) n S ⟨hS, hSU⟩
    (Nat.lt_of_le_of_lt (unseen_le U S) hn)
  obtain ⟨x, hx, hxF⟩ := exists_new_of_prefix (h.pre F) (h.nodup F hI.1) hne
  exact ⟨x, h.just (· ∈ U) F hU hI.2 x hx, hxF, hx⟩

theorem Pass.least [DecidableEq β] {R : List β → β → Prop} {P : List β → List β} (h : Pass R P)
    {it : Nat → List β → List β} (hi : Iter it P) (U : List β)
    (hU : ∀ F x, (∀ y ∈ F, y ∈ U) → R F x → x ∈ U) {S : List β} (hS : S.Nodup)
    (hSU : ∀ x ∈ S, x ∈ U) {n : Nat} (hn : U.length < n) : Least R S (it n S) :=
  ⟨(hi.inv (S <+: ·) (fun F hF => hF.trans (h.pre F)) n S (List.prefix_refl S)).subset,
    fun x hr => h.closed _ x hr (h.fixed hi U hU hS hSU hn),
    fun Q hQ hS' => hi.inv (fun F => ∀ y ∈ F, Q y) (fun F hF => h.just Q F hQ hF) n S hS'⟩

end Sat

/-- the fuelled variant: `sat` repeats `P` until a round leaves the length unchanged.  Over a pass it
answers with the least set closed under the rule of the pass: a round that leaves the length alone
changed nothing, so `S` is closed; otherwise the answer is least over `P S`, which `S` justifies -/
theorem Pass.untilFixed {β : Type} {R : List β → β → Prop} {P : List β → List β} (h : Pass R P)
    (sat : Nat → List β → Option (List β)) (h0 : ∀ S, sat 0 S = none)
    (hs : ∀ n S, sat (n + 1) S = if (P S).length = S.length then some S else sat n (P S)) :
    ∀ {fuel : Nat} {S S' : List β}, sat fuel S = some S' → Least R S S'
  | 0, S, _, hsat => by rw [h0] at hsat; cases hsat
  | n + 1, S, S', hsat => by
    rw [hs] at hsat
    split at hsat
    · rename_i hl
      cases hsat
      exact ⟨fun _ hx => hx, fun x hr => h.closed S x hr ((h.pre S).eq_of_length hl.symm).symm,
        fun _ _ hS => hS⟩
    · have ih := h.untilFixed sat h0 hs hsat
      exact ⟨fun x hx => ih.seed x ((h.pre S).subset hx), ih.closed,
        fun Q hQ hS => ih.ind Q hQ (h.just Q S hQ hS)⟩

end Pfl
