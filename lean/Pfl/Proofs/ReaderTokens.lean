/-
Token-level lemmas for the regex reader: parenthesis depths, first complete closing, stripping of
extreme parentheses, precedence computation, and one round of `parse` on the tokens of its text
(`parseT`, `parseT_passes`, `finish_at`).
-/
import Pfl.Proofs.ReaderChars
namespace Pfl.RegexReader.Lem

def bal (cs : List (List Char)) : Int := (cs.map parVal).sum

@[simp] theorem bal_nil : bal [] = 0 := rfl
@[simp] theorem bal_cons (c : List Char) (cs) : bal (c :: cs) = parVal c + bal cs := by
  simp [bal]
@[simp] theorem bal_append (a b : List (List Char)) : bal (a ++ b) = bal a + bal b := by
  simp [bal]

def depthsFrom (d : Int) : List (List Char) → List Int
  | [] => []
  | c :: cs => (d + parVal c) :: depthsFrom (d + parVal c) cs

@[simp] theorem depthsFrom_length (d : Int) (cs : List (List Char)) :
    (depthsFrom d cs).length = cs.length := by
  induction cs generalizing d with
  | nil => rfl
  | cons c cs ih => simp [depthsFrom, ih]

theorem depthsFrom_append (d : Int) (a b : List (List Char)) :
    depthsFrom d (a ++ b) = depthsFrom d a ++ depthsFrom (d + bal a) b := by
  induction a generalizing d with
  | nil => simp [depthsFrom]
  | cons c a ih => simp [depthsFrom, ih, Int.add_assoc]

theorem depths_eq (cs : List (List Char)) : depths cs = depthsFrom 0 cs := by
  unfold depths
  have : ∀ (acc : List Int) (d : Int),
      (cs.foldl (fun (acc : List Int × Int) c => let d := acc.2 + parVal c; (acc.1 ++ [d], d))
        (acc, d)).1 = acc ++ depthsFrom d cs := by
    induction cs with
    | nil => intro acc d; simp [depthsFrom]
    | cons c cs ih => intro acc d; simp [depthsFrom, ih]
  simpa using this [] 0

/-- index (relative) of the first position where the running depth, started at `d`, is 0 -/
def scan (d : Int) : List (List Char) → Option Nat
  | [] => none
  | c :: cs => if d + parVal c = 0 then some 0 else (scan (d + parVal c) cs).map (· + 1)

theorem find_depthsFrom (d : Int) (cs : List (List Char)) (s : Nat) :
    ((depthsFrom d cs).zip (List.range' s cs.length)).find? (fun e => e.1 = 0) =
      (scan d cs).map (fun j => ((0 : Int), s + j)) := by
  induction cs generalizing d s with
  | nil => rfl
  | cons c cs ih =>
    simp only [depthsFrom, List.length_cons, List.range'_succ, List.zip_cons_cons, scan]
    by_cases h : d + parVal c = 0
    · simp [h]
    · rw [List.find?_cons_of_neg (by simpa using h), ih, if_neg h]
      cases scan (d + parVal c) cs <;> simp <;> omega

theorem firstClosing_append (pre post : List (List Char)) :
    firstClosing (depths (pre ++ post)) pre.length =
      match scan (bal pre) post with
      | some j => ((pre.length + j : Nat) : Int)
      | none => -2 := by
  unfold firstClosing
  rw [depths_eq, depthsFrom_append, List.range_eq_range']
  have hlen : (depthsFrom 0 pre ++ depthsFrom (0 + bal pre) post).length
      = pre.length + post.length := by simp
  rw [hlen, ← List.range'_append_1 (s := 0)]
  rw [List.zip_append (by simp), List.drop_left' (by simp)]
  simp only [Int.zero_add, Nat.zero_add]
  rw [find_depthsFrom]
  cases scan (bal pre) post <;> simp

/-- a balanced segment: skipping it does not change a positive running depth, and the depth
never reaches 0 inside -/
def Inner (ts : List (List Char)) : Prop :=
  bal ts = 0 ∧ ∀ d : Int, 0 < d → ∀ rest, scan d (ts ++ rest) = (scan d rest).map (· + ts.length)

theorem Inner.nil : Inner [] := by
  refine ⟨rfl, fun d _ rest => ?_⟩
  simp

theorem Inner.single {x : List Char} (h : parVal x = 0) : Inner [x] := by
  refine ⟨by simp [h], fun d hd rest => ?_⟩
  have : d ≠ 0 := by omega
  simp [scan, h, this]

theorem Inner.append {a b : List (List Char)} (ha : Inner a) (hb : Inner b) : Inner (a ++ b) := by
  refine ⟨by simp [ha.1, hb.1], fun d hd rest => ?_⟩
  rw [List.append_assoc, ha.2 d hd, hb.2 d hd]
  cases scan d rest <;> simp <;> omega

theorem parVal_open : parVal ['('] = 1 := by decide
theorem parVal_close : parVal [')'] = -1 := by decide

theorem Inner.paren {ts : List (List Char)} (h : Inner ts) : Inner (['('] :: ts ++ [[')']]) := by
  refine ⟨by simp [h.1, parVal_open, parVal_close], fun d hd rest => ?_⟩
  have h1 : d + 1 ≠ 0 := by omega
  have h2 : d + 1 + -1 = d := by omega
  have h3 : d ≠ 0 := by omega
  simp only [List.cons_append, List.append_assoc, scan, parVal_open, h1, if_false]
  rw [h.2 (d + 1) (by omega)]
  simp only [List.nil_append, scan, parVal_close, h2, h3, if_false]
  cases scan d rest <;> simp <;> omega

/-- a group: one non-parenthesis token, or a parenthesised balanced segment -/
def Grp (g : List (List Char)) : Prop :=
  (∃ x, g = [x] ∧ x ≠ ['('] ∧ x ≠ [')']) ∨ (∃ ts, g = ['('] :: ts ++ [[')']] ∧ Inner ts)

theorem parVal_other {x : List Char} (h1 : x ≠ ['(']) (h2 : x ≠ [')']) : parVal x = 0 := by
  simp [parVal, h1, h2]

theorem Grp.inner {g : List (List Char)} (h : Grp g) : Inner g := by
  rcases h with ⟨x, rfl, h1, h2⟩ | ⟨ts, rfl, hts⟩
  · exact Inner.single (parVal_other h1 h2)
  · exact hts.paren

theorem Grp.length_pos {g : List (List Char)} (h : Grp g) : 0 < g.length := by
  rcases h with ⟨x, rfl, h1, h2⟩ | ⟨ts, rfl, hts⟩ <;> simp

theorem Grp.scan {g : List (List Char)} (h : Grp g) (rest : List (List Char)) :
    scan 0 (g ++ rest) = some (g.length - 1) := by
  rcases h with ⟨x, rfl, h1, h2⟩ | ⟨ts, rfl, hts⟩
  · simp [Lem.scan, parVal_other h1 h2]
  · simp only [List.cons_append, List.append_assoc, Lem.scan, parVal_open]
    rw [if_neg (by decide), hts.2 _ (by decide)]
    simp [Lem.scan, parVal_close]

theorem Grp.paren {ts : List (List Char)} (h : Inner ts) : Grp (['('] :: ts ++ [[')']]) :=
  Or.inr ⟨ts, rfl, h⟩

theorem firstClosing_grp (pre g rest : List (List Char)) (hpre : bal pre = 0) (hg : Grp g) :
    firstClosing (depths (pre ++ g ++ rest)) pre.length = ((pre.length + (g.length - 1) : Nat) : Int) := by
  rw [List.append_assoc, firstClosing_append, hpre, hg.scan]

theorem endFirstGroup_getElem? {cs : List (List Char)} {idx : Nat} {c : List Char}
    (h : cs[idx]? = some c) :
    endFirstGroup cs idx =
      if c = [')'] then .error .misformed
      else if c = ['('] then
        if firstClosing (depths cs) idx > 0 then .ok ((firstClosing (depths cs) idx).toNat + 1)
        else .error .misformed
      else .ok (idx + 1) := by
  have hlt : ¬ idx ≥ cs.length := by have := (List.getElem?_eq_some_iff.1 h).1; omega
  rw [endFirstGroup, if_neg hlt, h]

theorem endFirstGroup_grp (pre g rest : List (List Char)) (hpre : bal pre = 0) (hg : Grp g) :
    endFirstGroup (pre ++ g ++ rest) pre.length = .ok (pre.length + g.length) := by
  rcases hg with ⟨x, rfl, h1, h2⟩ | ⟨ts, rfl, hts⟩
  · rw [endFirstGroup_getElem? (c := x) (by simp), if_neg h2, if_neg h1]
    rfl
  · rw [endFirstGroup_getElem? (c := ['(']) (by simp), if_neg (by decide), if_pos rfl,
      firstClosing_grp pre _ rest hpre (Grp.paren hts), if_pos (by simp; omega)]
    simp; omega

theorem endFirstGroup_zero (g rest : List (List Char)) (hg : Grp g) :
    endFirstGroup (g ++ rest) 0 = .ok g.length := by
  simpa using endFirstGroup_grp [] g rest rfl hg

theorem isSurrounded_grp_rest (g rest : List (List Char)) (hg : Grp g) :
    isSurrounded (g ++ rest) = decide (rest = []) := by
  unfold isSurrounded
  rw [show firstClosing (depths (g ++ rest)) 0 = _ from firstClosing_grp [] g rest rfl hg]
  have := hg.length_pos
  cases rest with
  | nil => simp; omega
  | cons x rest => simp; omega

theorem stripParens_paren (f : Nat) (ts : List (List Char)) (h : Inner ts) :
    stripParens (f + 1) (['('] :: ts ++ [[')']]) = stripParens f ts := by
  have hs := isSurrounded_grp_rest _ [] (Grp.paren h)
  simp only [List.append_nil, decide_true] at hs
  rw [List.cons_append] at hs ⊢
  rw [stripParens, if_pos rfl, hs]
  simp

theorem stripParens_fuel : ∀ {f f' : Nat} {cs : List (List Char)}, cs.length < f → cs.length < f' →
    stripParens f cs = stripParens f' cs
  | _ + 1, _ + 1, [], _, _ => rfl
  | f + 1, f' + 1, c :: l, h, h' => by
    have hl : (List.drop 1 (c :: l)).dropLast.length ≤ l.length := by
      rw [List.length_dropLast]; exact Nat.sub_le _ _
    rw [stripParens, stripParens, stripParens_fuel (f := f) (f' := f')
      (Nat.lt_of_le_of_lt hl (Nat.lt_of_succ_lt_succ h)) (Nat.lt_of_le_of_lt hl (Nat.lt_of_succ_lt_succ h'))]

theorem stripParens_stop_tok (f : Nat) (x : List Char) (l : List (List Char)) (h : x ≠ ['(']) :
    stripParens (f + 1) (x :: l) = .ok (x :: l) := by
  rw [stripParens]
  simp [h]

theorem stripParens_stop_grp (f : Nat) (g rest : List (List Char)) (hg : Grp g)
    (hr : rest ≠ []) : stripParens (f + 1) (g ++ rest) = .ok (g ++ rest) := by
  have hs := isSurrounded_grp_rest g rest hg
  simp only [hr, decide_false] at hs
  have := hg.length_pos
  cases hgr : g ++ rest with
  | nil => simp at hgr; simp [hgr.1] at this
  | cons c l =>
    rw [hgr] at hs
    rw [stripParens]
    simp [hs]

theorem insertParens_zero (a b : List (List Char)) :
    insertParens (a ++ b) 0 a.length = ['('] :: a ++ [')'] :: b := by
  simp [insertParens, List.take_append, List.drop_append]

theorem toNode_star : toNode ['*'] = .nStar := by simp [toNode]
theorem toNode_dot : toNode ['.'] = .nConcat := by simp [toNode]
theorem toNode_bar : toNode ['|'] = .nUnion := by simp [toNode]

theorem insertParens_snoc (g : List (List Char)) (x : List Char) (rest : List (List Char)) :
    insertParens (g ++ x :: rest) 0 (g.length + 1) = ['('] :: g ++ x :: [')'] :: rest := by
  simpa using insertParens_zero (g ++ [x]) rest

theorem getElem?_mid (g : List (List Char)) (x : List Char) (rest : List (List Char)) :
    (g ++ x :: rest)[g.length]? = some x := by simp

theorem cp_done (f : Nat) (g : List (List Char)) (hg : Grp g) :
    computePrecedence (f + 1) g = .ok g := by
  have h := endFirstGroup_zero g [] hg
  rw [List.append_nil] at h
  rw [computePrecedence, h]
  by_cases hl : g.length ≤ 1
  · rw [if_pos hl]
  · rw [if_neg hl]
    exact if_pos rfl

theorem cp_at (f : Nat) (g rest : List (List Char)) (x : List Char) (hg : Grp g) :
    computePrecedence (f + 1) (g ++ x :: rest) =
      if toNode x = .nStar then computePrecedence f (['('] :: g ++ x :: [')'] :: rest)
      else if toNode x = .nUnion then .ok (g ++ x :: rest)
      else (do
        let (e, n) ← scanToUnion (g ++ x :: rest) ((g ++ x :: rest).length + 2) g.length (toNode x)
        if n = .nUnion then .ok (insertParens (g ++ x :: rest) 0 e) else .ok (g ++ x :: rest)) := by
  have hpos := hg.length_pos
  rw [computePrecedence, if_neg (by simp; omega), endFirstGroup_zero g _ hg, ← insertParens_snoc]
  simp only [bind, Except.bind]
  rw [if_neg (by simp), getElem?_mid]
  rfl

theorem cp_star (f : Nat) (g rest : List (List Char)) (hg : Grp g) :
    computePrecedence (f + 1) (g ++ ['*'] :: rest) =
      computePrecedence f (['('] :: g ++ ['*'] :: [')'] :: rest) := by
  rw [cp_at f g rest _ hg, toNode_star, if_pos rfl]

theorem cp_union (f : Nat) (g rest : List (List Char)) (hg : Grp g) :
    computePrecedence (f + 1) (g ++ ['|'] :: rest) = .ok (g ++ ['|'] :: rest) := by
  rw [cp_at f g rest _ hg, toNode_bar, if_neg (by decide), if_pos rfl]

theorem scan_step (cs : List (List Char)) (f endG e2 : Nat) (node : Node)
    (h1 : endG < cs.length) (h2 : node ≠ .nUnion)
    (h3 : endFirstGroup cs (if isOperatorNotStar node = true then endG + 1 else endG) = .ok e2) :
    scanToUnion cs (f + 1) endG node =
      scanToUnion cs f e2 (if e2 < cs.length then toNode (cs[e2]?.getD []) else node) := by
  rw [scanToUnion, if_pos ⟨h1, h2⟩]
  simp only [h3, bind, Except.bind]

theorem scan_stop (cs : List (List Char)) (f endG : Nat) (node : Node)
    (h1 : ¬ endG < cs.length) :
    scanToUnion cs (f + 1) endG node = .ok (endG, node) := by
  rw [scanToUnion, if_neg (fun h => h1 h.1)]

/-- one round of the scan: from the operator or position in front of a group to the end of that
group, reading the node of the token that follows, if any -/
theorem scan_grp (cs pre g post : List (List Char)) (hcs : cs = pre ++ g ++ post)
    (hpre : bal pre = 0) (hg : Grp g) (f endG : Nat) (node : Node) (hn : node ≠ .nUnion)
    (hidx : (if isOperatorNotStar node = true then endG + 1 else endG) = pre.length) :
    scanToUnion cs (f + 1) endG node =
      scanToUnion cs f (pre.length + g.length) ((post.head?.map toNode).getD node) := by
  subst hcs
  have hpos := hg.length_pos
  have hle : endG ≤ pre.length := by rw [← hidx]; split <;> omega
  rw [scan_step _ _ _ (pre.length + g.length) _ (by simp; omega) hn
    (by rw [hidx]; exact endFirstGroup_grp pre g post hpre hg)]
  congr 1
  rw [← List.length_append]
  cases post with
  | nil => simp
  | cons y p => rw [getElem?_mid]; simp

theorem IsPl.ne_sp {x : List Char} (h : IsPl x) {c : Char} (hc : isSpecialChar c = true) :
    x ≠ [c] := by
  rintro rfl
  have := (h.2 c (by simp)).2.2
  rw [hc] at this
  exact absurd this (by simp)

theorem toNode_pl {x : List Char} (h : IsPl x) (he : x ≠ "epsilon".toList) :
    toNode x = .nSym x := by
  unfold toNode
  have h0 : x.isEmpty = false := by simpa using h.1
  have h1 : x ≠ ['.'] := h.ne_sp (by decide)
  have h2 : x ≠ ['|'] := h.ne_sp (by decide)
  have h3 : x ≠ ['+'] := h.ne_sp (by decide)
  have h4 : x ≠ ['*'] := h.ne_sp (by decide)
  have h5 : x ≠ ['$'] := h.ne_sp (by decide)
  have h6 : x.head? ≠ some '\\' := by
    cases x with
    | nil => simp
    | cons c u => simpa using (h.2 c (by simp)).2.1
  simp only [h0, h1, h2, h3, h4, h5, h6, he, Bool.false_eq_true, if_false, or_self]

theorem PlainSym.toNode {s : String} (h : PlainSym s) : toNode s.toList = .nSym s.toList :=
  toNode_pl (PlainSym.isPl h) (fun e => h.2.2 (String.toList_inj.mp e))

/-- the operator case of `parse` -/
def finish2 (fuel : Nat) (cs : List (List Char)) : Except Err Rx := do
  let endG ← endFirstGroup cs 0
  match cs[endG]? with
  | none => .error .misformed
  | some c =>
    let next := toNode c
    if next = .nStar then do
      let son ← parse fuel (joinBlank (cs.take endG))
      .ok (.star son)
    else
      let isSym := match next with
        | .nSym _ => true | .nEps => true | .nEmpty => true | _ => false
      let begin2 := if isSym then endG else endG + 1
      let a ← parse fuel (joinBlank (cs.take endG))
      let b ← parse fuel (joinBlank (cs.drop begin2))
      if isSym then .ok (.cat a b)
      else if next = .nUnion then .ok (.alt a b) else .ok (.cat a b)

/-- what `parse (fuel + 1)` does with the token list once parentheses are stripped and precedence is
computed (`parse_succ`): the body of `parse` after its three passes, named so that it can be
rewritten with -/
def finish (fuel : Nat) (cs : List (List Char)) : Except Err Rx :=
  match cs with
  | [] => .ok .empty
  | [c] =>
    match toNode c with
    | .nSym v => .ok (.sym (String.ofList v))
    | .nEps => .ok .eps
    | .nEmpty => .ok .empty
    | _ => .error .misformed
  | _ => finish2 fuel cs

/-- `parse (fuel + 1)` on the tokens `cs` of its text -/
def parseT (fuel : Nat) (cs : List (List Char)) : Except Err Rx := do
  let cs ← stripParens (cs.length + 2) cs
  let cs ← computePrecedence (cs.length + 2) cs
  let cs ← stripParens (cs.length + 2) cs
  finish fuel cs

theorem parse_succ (fuel : Nat) (s : List Char) :
    parse (fuel + 1) s = parseT fuel (components (preProcess s)) := by
  rw [parse]
  rfl

theorem finish_two (fuel : Nat) (cs : List (List Char)) (h : 2 ≤ cs.length) :
    finish fuel cs = finish2 fuel cs := by
  match cs, h with
  | _ :: _ :: _, _ => rfl

theorem finish_at (fuel : Nat) (g rest : List (List Char)) (x : List Char) (hg : Grp g) :
    finish fuel (g ++ x :: rest) = (do
      let a ← parse fuel (joinBlank g)
      match toNode x with
      | .nStar => .ok (.star a)
      | .nUnion => do let b ← parse fuel (joinBlank rest); .ok (.alt a b)
      | .nConcat => do let b ← parse fuel (joinBlank rest); .ok (.cat a b)
      | _ => do let b ← parse fuel (joinBlank (x :: rest)); .ok (.cat a b)) := by
  have := hg.length_pos
  rw [finish_two _ _ (by simp; omega), finish2, endFirstGroup_zero g _ hg]
  simp only [bind, Except.bind]
  rw [getElem?_mid]
  cases h : toNode x <;> simp [h]

theorem parseT_paren (fuel : Nat) (ts : List (List Char)) (h : Inner ts) :
    parseT fuel (['('] :: ts ++ [[')']]) = parseT fuel ts := by
  rw [parseT, stripParens_paren _ ts h, stripParens_fuel (f' := ts.length + 2) (by simp; omega) (by omega)]
  rfl

theorem parseT_passes (fuel : Nat) (ts us vs : List (List Char))
    (hstop : stripParens (ts.length + 2) ts = .ok ts)
    (hcp : computePrecedence (ts.length + 2) ts = .ok us)
    (hstop' : stripParens (us.length + 2) us = .ok vs) :
    parseT fuel ts = finish fuel vs := by
  rw [parseT, hstop]
  simp only [bind, Except.bind]
  rw [hcp]
  simp only
  rw [hstop']

theorem parseT_single (fuel : Nat) (x : List Char) (h1 : x ≠ ['(']) (h2 : x ≠ [')']) :
    parseT fuel [x] = finish fuel [x] :=
  parseT_passes fuel [x] [x] [x] (stripParens_stop_tok _ x [] h1)
    (cp_done _ _ (Or.inl ⟨x, rfl, h1, h2⟩)) (stripParens_stop_tok _ x [] h1)

end Pfl.RegexReader.Lem
