/-
Helper lemmas for the naming layer: a merged name is decoded by `List.splitOn`, so it determines
the names that went into it; membership under `sortNames`.
-/
import Pfl.Model.Names
import Pfl.Proofs.ListBasics
import Mathlib.Data.List.Sort
namespace Pfl
namespace Names

theorem mem_sortNames (l : List (List Char)) (x : List Char) : x ∈ sortNames l ↔ x ∈ l :=
  (List.mergeSort_perm l _).mem_iff

theorem sortNames_eq_nil (l : List (List Char)) : sortNames l = [] ↔ l = [] := by
  constructor
  · intro h
    have := List.mergeSort_perm l (fun a b => decide (a ≤ b))
    unfold sortNames at h
    rw [h] at this
    exact List.perm_nil.mp this.symm
  · intro h; subst h; simp [sortNames]

/-- names without `;`, none of them empty, are read back from their merged name by
`List.splitOn ';'` (of the empty merged name it makes `[[]]`, hence `x ≠ []`) -/
theorem mem_of_join_sort_eq (l m : List (List Char)) (hl : ∀ x ∈ l, x ≠ [] ∧ ';' ∉ x)
    (hm : ∀ x ∈ m, x ≠ [] ∧ ';' ∉ x)
    (h : [';'].intercalate (sortNames l) = [';'].intercalate (sortNames m)) :
    ∀ x, x ∈ l ↔ x ∈ m := by
  have dec : ∀ l : List (List Char), (∀ x ∈ l, x ≠ [] ∧ ';' ∉ x) → ∀ x, x ∈ l ↔
      x ≠ [] ∧ x ∈ ([';'].intercalate (sortNames l)).splitOn ';' := by
    intro l hl x
    by_cases h0 : sortNames l = []
    · have : l = [] := (sortNames_eq_nil l).mp h0
      subst this
      simp [h0, List.intercalate]
    · rw [List.splitOn_intercalate ';' (fun y hy => (hl y ((mem_sortNames l y).mp hy)).2) h0,
        mem_sortNames]
      exact ⟨fun hx => ⟨(hl x hx).1, hx⟩, fun hx => hx.2⟩
  intro x
  rw [dec l hl, dec m hm, h]

theorem sortNames_eq_insertionSort (l : List (List Char)) :
    sortNames l = l.insertionSort (· ≤ ·) := by
  unfold sortNames
  exact List.mergeSort_eq_insertionSort (r := (· ≤ ·)) l

/-- `to_single_state` sorts the names: the merged name does not see the order of the subset -/
theorem mergeName_perm {σ : Type} (names : σ → List Char) {S T : List σ} (hp : S.Perm T) :
    mergeName names S = mergeName names T := by
  unfold mergeName
  rw [sortNames_eq_insertionSort, sortNames_eq_insertionSort]
  congr 1
  exact List.Perm.eq_of_pairwise' (r := (· ≤ ·))
    (List.pairwise_insertionSort _ _) (List.pairwise_insertionSort _ _)
    ((List.perm_insertionSort _ _).trans
      ((hp.map names).trans (List.perm_insertionSort _ _).symm))

/-- `mergeName` with insertion sort; structural, so closed instances reduce in the kernel -/
def mergeName' {σ : Type} (names : σ → List Char) (S : List σ) : List Char :=
  [';'].intercalate ((S.map names).insertionSort (· ≤ ·))

theorem mergeName_eq_mergeName' {σ : Type} : @mergeName σ = @mergeName' σ := by
  funext names S
  simp only [mergeName, mergeName', sortNames_eq_insertionSort]

end Names
end Pfl
