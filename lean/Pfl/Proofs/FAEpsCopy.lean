/-
Helper lemmas for ε-removal, copies, renaming and reversal (C01 / C03).
-/
import Pfl.Proofs.FABase
namespace Pfl
namespace ENFA
variable {σ τ : Type} [DecidableEq σ] [DecidableEq τ]

/-- `copyE` and `reverse` list the edges state by state and symbol by symbol; in a well-formed
automaton that reaches every edge -/
theorem mem_edges_by_state (A : ENFA σ) (hA : A.WF)
    (f : σ × Option Nat × σ → σ × Option Nat × σ) (t : σ × Option Nat × σ) :
    t ∈ (A.states.flatMap fun q =>
      (A.syms.flatMap fun a => (A.succs q (some a)).map fun r => f (q, some a, r))
        ++ (A.succs q none).map fun r => f (q, none, r)) ↔ ∃ e ∈ A.delta, f e = t := by
  simp only [List.mem_flatMap, List.mem_append, List.mem_map, mem_succs]
  constructor
  · rintro ⟨q, _, ⟨a, _, r, hr, heq⟩ | ⟨r, hr, heq⟩⟩
    · exact ⟨_, hr, heq⟩
    · exact ⟨_, hr, heq⟩
  · rintro ⟨⟨q, a, r⟩, he, heq⟩
    refine ⟨q, hA.delta_src _ he, ?_⟩
    cases a with
    | none => exact Or.inr ⟨r, he, heq⟩
    | some a => exact Or.inl ⟨a, hA.delta_sym _ he a rfl, r, he, heq⟩

theorem mem_copyE_delta (A : ENFA σ) (hA : A.WF) (t : σ × Option Nat × σ) :
    t ∈ A.copyE.delta ↔ t ∈ A.delta := by
  unfold copyE
  rw [mem_ofParts_delta]
  exact (mem_edges_by_state A hA id t).trans ⟨fun ⟨_, he, heq⟩ => heq ▸ he, fun h => ⟨t, h, rfl⟩⟩

theorem head?_eq_some_iff_mem {α : Type} {l : List α} (h : ∀ x ∈ l, ∀ y ∈ l, x = y) (r : α) :
    l.head? = some r ↔ r ∈ l := by
  constructor
  · exact List.mem_of_head?
  · intro hr
    cases l with
    | nil => cases hr
    | cons x xs => rw [List.head?_cons, h x List.mem_cons_self r hr]

theorem Deterministic.head?_succs_iff {A : ENFA σ} (hd : A.Deterministic) (q r : σ)
    (a : Option Nat) : (A.succs q a).head? = some r ↔ (q, a, r) ∈ A.delta :=
  (head?_eq_some_iff_mem (fun x hx y hy =>
    hd.2.1 q a x y ((mem_succs A q x a).mp hx) ((mem_succs A q y a).mp hy)) r).trans
    (mem_succs A q r a)

omit [DecidableEq σ] in
theorem Deterministic.head?_starts_iff {A : ENFA σ} (hd : A.Deterministic) (s : σ) :
    A.starts.head? = some s ↔ s ∈ A.starts :=
  head?_eq_some_iff_mem hd.1 s

theorem mem_copyD_delta (A : ENFA σ) (hA : A.WF) (hd : A.Deterministic) (he : A.EpsFree)
    (t : σ × Option Nat × σ) : t ∈ A.copyD.delta ↔ t ∈ A.delta := by
  obtain ⟨q, a, r⟩ := t
  unfold copyD
  rw [mem_ofParts_delta]
  simp only [List.mem_flatMap, List.mem_filterMap, Option.map_eq_some_iff]
  constructor
  · rintro ⟨q', _, a', _, r', hr', heq⟩
    cases heq
    exact (hd.head?_succs_iff _ _ _).mp hr'
  · intro ht
    cases a with
    | none => exact absurd rfl (he _ ht)
    | some a =>
      exact ⟨q, hA.delta_src _ ht, a, hA.delta_sym _ ht a rfl, r,
        (hd.head?_succs_iff q r _).mpr ht, rfl⟩

theorem mem_copyD_starts (A : ENFA σ) (hd : A.Deterministic) (q : σ) :
    q ∈ A.copyD.starts ↔ q ∈ A.starts := by
  unfold copyD
  rw [mem_ofParts_starts, Option.mem_toList]
  exact hd.head?_starts_iff q

theorem mem_removeEps_delta (A : ENFA σ) (t : σ × Option Nat × σ) :
    t ∈ A.removeEps.delta ↔
      t.1 ∈ A.states ∧ ∃ e a, A.EpsReach t.1 e ∧ a ∈ A.syms ∧ t.2.1 = some a ∧
        (e, some a, t.2.2) ∈ A.delta := by
  obtain ⟨q, l, r⟩ := t
  unfold removeEps
  rw [mem_ofParts_delta]
  simp only [List.mem_flatMap, List.mem_map, mem_succs, mem_eclose_iff]
  constructor
  · rintro ⟨q', hq', e, he, a, ha, r', hr', heq⟩
    cases heq
    exact ⟨hq', e, a, he, ha, rfl, hr'⟩
  · rintro ⟨hq, e, a, he, ha, hl, hr⟩
    subst hl
    exact ⟨q, hq, e, he, a, ha, r, hr, rfl⟩

theorem removeEps_epsFree' (A : ENFA σ) : A.removeEps.EpsFree := by
  intro t ht
  obtain ⟨_, e, a, _, _, hl, _⟩ := (mem_removeEps_delta A t).mp ht
  rw [hl]; exact Option.some_ne_none a

/-- `remove_epsilon_transitions` adds the start states and then their closure, which holds them -/
theorem mem_removeEps_starts (A : ENFA σ) (q : σ) :
    q ∈ A.removeEps.starts ↔ ∃ s ∈ A.starts, A.EpsReach s q := by
  unfold removeEps
  rw [mem_ofParts_starts, List.mem_append, mem_ecloseL_iff]
  exact or_iff_right_of_imp fun h => ⟨q, h, .nil q⟩

/-- likewise the final states are among the states whose closure meets them -/
theorem mem_removeEps_finals (A : ENFA σ) (hA : A.WF) (q : σ) :
    q ∈ A.removeEps.finals ↔ q ∈ A.states ∧ ∃ e, A.EpsReach q e ∧ e ∈ A.finals := by
  unfold removeEps
  rw [mem_ofParts_finals, List.mem_append, List.mem_filter]
  simp only [List.any_eq_true, decide_eq_true_eq, mem_eclose_iff]
  exact or_iff_right_of_imp fun h => ⟨hA.finals_sub q h, q, .nil q, h⟩

theorem removeEps_run_final (A : ENFA σ) (hA : A.WF) (w : List Nat) (q : σ) (hq : q ∈ A.states) :
    (∃ f ∈ A.removeEps.finals, A.removeEps.Run q w f) ↔ (∃ f ∈ A.finals, A.Run q w f) := by
  induction w generalizing q with
  | nil =>
    simp only [(removeEps_epsFree' A).run_nil_iff, exists_eq_right', mem_removeEps_finals A hA, hq,
      true_and]
    exact ⟨fun ⟨e, he, hf⟩ => ⟨e, hf, he⟩, fun ⟨f, hf, hr⟩ => ⟨f, hr, hf⟩⟩
  | cons a w ih =>
    constructor
    · rintro ⟨f, hf, hr⟩
      obtain ⟨r, hpr, hrf⟩ := ((removeEps_epsFree' A).run_cons_iff q f a w).mp hr
      obtain ⟨_, e, a', hqe, _, hl, her⟩ := (mem_removeEps_delta A _).mp hpr
      cases hl
      obtain ⟨f', hf', hrf'⟩ := (ih r (hA.delta_dst _ her)).mp ⟨f, hf, hrf⟩
      exact ⟨f', hf', (run_cons_iff A q f' a w).mpr ⟨e, r, hqe, her, hrf'⟩⟩
    · rintro ⟨f, hf, hr⟩
      obtain ⟨p, r, hqp, hpr, hrf⟩ := (run_cons_iff A q f a w).mp hr
      obtain ⟨f', hf', hrf'⟩ := (ih r (hA.delta_dst _ hpr)).mpr ⟨f, hf, hrf⟩
      exact ⟨f', hf', Run.step ((mem_removeEps_delta A _).mpr
        ⟨hq, p, a, hqp, hA.delta_sym _ hpr a rfl, rfl, hpr⟩) hrf'⟩

theorem Run.flip {A B : ENFA σ} (h : ∀ q a r, (q, a, r) ∈ A.delta → (r, a, q) ∈ B.delta)
    {q r : σ} {w : List Nat} (hr : A.Run q w r) : B.Run r w.reverse q := by
  induction hr with
  | nil q => exact Run.nil q
  | eps he _ ih => exact Run.snoc_eps ih (h _ _ _ he)
  | step he _ ih =>
    rw [List.reverse_cons]
    exact Run.snoc ih (h _ _ _ he)

theorem mem_reverse_delta (A : ENFA σ) (hA : A.WF) (q r : σ) (a : Option Nat) :
    (r, a, q) ∈ A.reverse.delta ↔ (q, a, r) ∈ A.delta := by
  unfold reverse
  rw [mem_ofParts_delta]
  refine (mem_edges_by_state A hA (fun e => (e.2.2, e.2.1, e.1)) _).trans ?_
  constructor
  · rintro ⟨⟨q', a', r'⟩, he, heq⟩
    cases heq; exact he
  · exact fun h => ⟨_, h, rfl⟩

theorem reverse_run (A : ENFA σ) (hA : A.WF) (q r : σ) (w : List Nat) :
    A.reverse.Run r w q ↔ A.Run q w.reverse r := by
  constructor
  · intro h
    exact Run.flip (fun q a r h => (mem_reverse_delta A hA r q a).mp h) h
  · intro h
    have := Run.flip (fun q a r h => (mem_reverse_delta A hA q r a).mpr h) h
    simpa using this

omit [DecidableEq σ] in
theorem mem_mapStates_delta (f : σ → τ) (A : ENFA σ) (t : τ × Option Nat × τ) :
    t ∈ (A.mapStates f).delta ↔ ∃ t' ∈ A.delta, (f t'.1, t'.2.1, f t'.2.2) = t :=
  List.mem_eraseDups.trans List.mem_map

omit [DecidableEq σ] in
theorem mem_mapStates_starts (f : σ → τ) (A : ENFA σ) (q : τ) :
    q ∈ (A.mapStates f).starts ↔ ∃ s ∈ A.starts, f s = q :=
  List.mem_eraseDups.trans List.mem_map

omit [DecidableEq σ] in
theorem mem_mapStates_finals (f : σ → τ) (A : ENFA σ) (q : τ) :
    q ∈ (A.mapStates f).finals ↔ ∃ s ∈ A.finals, f s = q :=
  List.mem_eraseDups.trans List.mem_map

end ENFA
end Pfl
