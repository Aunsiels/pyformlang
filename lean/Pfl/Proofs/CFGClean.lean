/-
The clean-up transformations of context-free grammars (C09), proved here in full: `mk'` is
well-formed; `removeUseless`, `removeEpsilon` (up to ε) and `elimUnit` keep the language and leave
no useless symbol / ε-production / unit production.  `Pfl/Props/C09_Clean.lean` restates the results.
Each step: membership in the new production list; new trees are old trees production by production
(`gen_sim`); old trees are rebuilt by one tree induction that says what the step does to a production
(`gen_removeUseless`: kept if the head is reached, `gen_elimUnit`: another head, both by `gen_least`;
`gen_removeEpsilon`: a sub-body, which is a claim about bodies, by `gen_ind`).  `unitPairs` is
characterised as reachability in `unitNext`.
-/
import Pfl.Proofs.CFGBase
import Pfl.Props.C12_Classes
import Mathlib.Data.List.ProdSigma
namespace Pfl
namespace CFG
namespace Clean

theorem mk'_prods_eq (vars ters : List String) (start : Option String) (prods : List Prod) :
    (mk' vars ters start prods).prods = prods := rfl

theorem mk'_start_eq (vars ters : List String) (start : Option String) (prods : List Prod) :
    (mk' vars ters start prods).start = start := rfl

theorem mem_mk'_vars {vars ters : List String} {start : Option String} {prods : List Prod}
    {v : String} : v ∈ (mk' vars ters start prods).vars ↔
      v ∈ vars ∨ start = some v ∨ ∃ p ∈ prods, Sym.var v ∈ Sym.var p.1 :: p.2 := by
  simp only [mk', List.mem_eraseDups, List.mem_append, List.mem_flatMap, List.mem_cons,
    List.mem_filterMap, Option.mem_toList, or_assoc, Sym.var.injEq]
  refine or_congr_right (or_congr_right (exists_congr fun p => and_congr_right fun _ =>
    or_congr_right ⟨?_, fun h => ⟨_, h, rfl⟩⟩))
  rintro ⟨s, hs, e⟩
  cases s <;> cases e
  exact hs

theorem mem_mk'_ters {vars ters : List String} {start : Option String} {prods : List Prod}
    {t : String} :
    t ∈ (mk' vars ters start prods).ters ↔ t ∈ ters ∨ ∃ p ∈ prods, Sym.ter t ∈ p.2 := by
  simp only [mk', List.mem_eraseDups, List.mem_append, List.mem_flatMap, List.mem_filterMap]
  refine or_congr_right (exists_congr fun p => and_congr_right fun _ => ⟨?_, fun h => ⟨_, h, rfl⟩⟩)
  rintro ⟨s, hs, e⟩
  cases s <;> cases e
  exact hs

theorem _root_.Pfl.CFG.mk'_wf (vars ters : List String) (start : Option String)
    (prods : List Prod) : (mk' vars ters start prods).WF :=
  ⟨fun p hp => mem_mk'_vars.2 (.inr (.inr ⟨p, hp, List.mem_cons_self⟩)),
   fun p hp _ hv => mem_mk'_vars.2 (.inr (.inr ⟨p, hp, List.mem_cons_of_mem _ hv⟩)),
   fun p hp _ ht => mem_mk'_ters.2 (.inr ⟨p, hp, ht⟩),
   fun _ hs => mem_mk'_vars.2 (.inr (.inl hs))⟩

/-- the intermediate grammar of `removeUseless` (non-generating symbols removed) -/
def usefulTmp (G : CFG) : CFG :=
  mk' (G.vars.filter fun v => .var v ∈ G.generating) (G.ters.filter fun t => .ter t ∈ G.generating)
    G.start (G.prods.filter fun p => .var p.1 ∈ G.generating ∧ p.2.all (· ∈ G.generating))

theorem removeUseless_prods_eq (G : CFG) :
    G.removeUseless.prods =
      (usefulTmp G).prods.filter fun p => .var p.1 ∈ (usefulTmp G).reachable := rfl

theorem removeUseless_start_eq (G : CFG) : G.removeUseless.start = G.start := rfl

theorem usefulTmp_start_eq (G : CFG) : (usefulTmp G).start = G.start := rfl

theorem mem_usefulTmp_prods (G : CFG) (p : Prod) :
    p ∈ (usefulTmp G).prods ↔
      p ∈ G.prods ∧ Sym.var p.1 ∈ G.generating ∧ ∀ s ∈ p.2, s ∈ G.generating := by
  simp [usefulTmp, mk', List.mem_filter, List.all_eq_true]

theorem mem_removeUseless_prods (G : CFG) (p : Prod) :
    p ∈ G.removeUseless.prods ↔
      p ∈ (usefulTmp G).prods ∧ Sym.var p.1 ∈ (usefulTmp G).reachable := by
  rw [removeUseless_prods_eq]; simp [List.mem_filter]

theorem removeUseless_wf (G : CFG) : G.removeUseless.WF := mk'_wf _ _ _ _

/-- a production whose body generates a word passes the first filter of `removeUseless`: the
subtrees are the witnesses -/
theorem mem_usefulTmp_of_gen {G : CFG} (hG : G.WF) {h : String} {body : List Sym} {w : List String}
    (hp : (h, body) ∈ G.prods) (hb : G.GenList body w) : (h, body) ∈ (usefulTmp G).prods := by
  refine (mem_usefulTmp_prods G _).mpr
    ⟨hp, mem_generating_of_gen hG (.var hp hb) nofun, fun s hs => ?_⟩
  obtain ⟨w', hw'⟩ := genList_mem hb hs
  exact mem_generating_of_gen hG hw' fun t e => hG.ter_mem _ hp t (e ▸ hs)

/-- one walk down a tree of `G` below a symbol that the intermediate grammar reaches: every
production met passes both filters, the first by its subtrees, the second by its head -/
theorem gen_removeUseless {G : CFG} (hG : G.WF) {s : Sym} {w : List String} (hg : G.Gen s w) :
    s ∈ (usefulTmp G).reachable → G.removeUseless.Gen s w := by
  refine gen_least (P := fun s w => s ∈ (usefulTmp G).reachable → G.removeUseless.Gen s w)
    (fun t _ => Gen.ter t) (fun h body w hp hb ih hr => ?_) hg
  have hp' := mem_usefulTmp_of_gen hG hp hb
  exact Gen.var ((mem_removeUseless_prods G _).mpr ⟨hp', hr⟩)
    (GenBy.genList (GenBy.mono (fun s hs _ h => h (reachable_step hp' hr hs)) ih))

/-- the second filter keeps every production whose head the search had reached -/
theorem reachable_removeUseless {G : CFG} {s : Sym} (hs : s ∈ (usefulTmp G).reachable) :
    s ∈ G.removeUseless.reachable :=
  reachable_ind (G := usefulTmp G) (Q := (· ∈ G.removeUseless.reachable))
    (fun _ hst => reachable_start hst)
    (fun _ _ hp hr ih _ hz => reachable_step ((mem_removeUseless_prods G _).mpr ⟨hp, hr⟩) ih hz) hs

theorem removeUseless_eq (G : CFG) : G.removeUseless =
    mk' ((G.vars.filter fun v => Sym.var v ∈ G.generating).filter fun v =>
          Sym.var v ∈ (usefulTmp G).reachable)
      ((G.ters.filter fun t => Sym.ter t ∈ G.generating).filter fun t =>
          Sym.ter t ∈ (usefulTmp G).reachable)
      G.start G.removeUseless.prods := rfl

/-- a symbol that generates in `G` and is reachable among the generating symbols is still both in
`G.removeUseless`: a variable by its tree, a terminal because the constructor is handed it -/
theorem useful_survives (G : CFG) (hG : G.WF) {s : Sym} (hg : s ∈ G.generating)
    (hr : s ∈ (usefulTmp G).reachable) :
    s ∈ G.removeUseless.generating ∧ s ∈ G.removeUseless.reachable := by
  refine ⟨?_, reachable_removeUseless hr⟩
  obtain ⟨w, hgen, hw⟩ := (mem_generating G s).mp hg
  refine mem_generating_of_gen (removeUseless_wf G) (gen_removeUseless hG hgen hr) fun t e => ?_
  subst e
  have ht : t ∈ G.ters := hw t (gen_ter_iff.1 hgen ▸ List.mem_singleton_self t)
  rw [removeUseless_eq]
  exact mem_mk'_ters.mpr (Or.inl (by simp [ht, hg, hr]))

theorem gen_removeUseless_iff {G : CFG} (hG : G.WF) {s : Sym} (hr : s ∈ (usefulTmp G).reachable)
    (w : List String) : G.removeUseless.Gen s w ↔ G.Gen s w :=
  ⟨gen_mono _ _ (fun p hp =>
      ((mem_usefulTmp_prods G p).mp ((mem_removeUseless_prods G p).mp hp).1).1) s w,
    fun h => gen_removeUseless hG h hr⟩

theorem removeUseless_lang (G : CFG) (hG : G.WF) (w : List String) :
    G.removeUseless.Lang w ↔ G.Lang w := by
  rw [lang_iff_gen, lang_iff_gen, removeUseless_start_eq]
  exact exists_congr fun s => and_congr_right fun hs =>
    gen_removeUseless_iff hG (reachable_start (G := usefulTmp G) hs) w

theorem mem_removeEpsilon_prods (G : CFG) (p : Prod) :
    p ∈ G.removeEpsilon.prods ↔
      ∃ body, (p.1, body) ∈ G.prods ∧ p.2 ∈ removeNullableSub G.nullable body ∧ p.2 ≠ [] := by
  obtain ⟨h, b⟩ := p
  simp only [removeEpsilon, mk', List.mem_flatMap, List.mem_map, List.mem_filter,
    decide_eq_true_eq, Prod.mk.injEq, Prod.exists]
  constructor
  · rintro ⟨h', body, hp, b', ⟨hb, hne⟩, rfl, rfl⟩
    exact ⟨body, hp, hb, hne⟩
  · rintro ⟨body, hp, hb, hne⟩
    exact ⟨h, body, hp, b, ⟨hb, hne⟩, rfl, rfl⟩

theorem removeEpsilon_start_eq (G : CFG) : G.removeEpsilon.start = G.start := rfl

theorem removeEpsilon_noEps (G : CFG) : ∀ p ∈ G.removeEpsilon.prods, p.2 ≠ [] := by
  intro p hp
  obtain ⟨_, _, _, h⟩ := (mem_removeEpsilon_prods G p).mp hp
  exact h

theorem removeEpsilon_wf (G : CFG) : G.removeEpsilon.WF := mk'_wf _ _ _ _

theorem mem_removeNullableSub_cons {nul : List Sym} {x : Sym} {rest b' : List Sym} :
    b' ∈ removeNullableSub nul (x :: rest) ↔
      (x ∈ nul ∧ b' ∈ removeNullableSub nul rest) ∨
        ∃ b ∈ removeNullableSub nul rest, b' = x :: b := by
  simp only [removeNullableSub, List.mem_flatMap, List.mem_append, List.mem_singleton]
  constructor
  · rintro ⟨b, hb, h | h⟩
    · by_cases hx : x ∈ nul
      · rw [if_pos hx, List.mem_singleton] at h
        exact Or.inl ⟨hx, h ▸ hb⟩
      · rw [if_neg hx] at h
        cases h
    · exact Or.inr ⟨b, hb, h⟩
  · rintro (⟨hx, hb⟩ | ⟨b, hb, rfl⟩)
    · exact ⟨b', hb, Or.inl (by rw [if_pos hx]; exact List.mem_singleton.2 rfl)⟩
    · exact ⟨b, hb, Or.inr rfl⟩

theorem genList_of_sub {G : CFG} :
    ∀ (body b' : List Sym) (w : List String), b' ∈ removeNullableSub G.nullable body →
      G.GenList b' w → G.GenList body w
  | [], b', w, hb, h => by
    simp [removeNullableSub] at hb; subst hb; exact h
  | x :: rest, b', w, hb, h => by
    rcases mem_removeNullableSub_cons.1 hb with ⟨hx, hb'⟩ | ⟨b, hb', rfl⟩
    · have := GenList.cons ((mem_nullable G x).mp hx) (genList_of_sub rest b' w hb' h)
      simpa using this
    · obtain ⟨w₁, w₂, rfl, h₁, h₂⟩ := genList_cons_iff.1 h
      exact GenList.cons h₁ (genList_of_sub rest b w₂ hb' h₂)

theorem gen_of_removeEpsilon (G : CFG) :
    (∀ s w, G.removeEpsilon.Gen s w → G.Gen s w) ∧
    (∀ u w, G.removeEpsilon.GenList u w → G.GenList u w) := by
  refine gen_sim fun h body w hp hb => ?_
  obtain ⟨body₀, hp₀, hsub, _⟩ := (mem_removeEpsilon_prods G (h, body)).mp hp
  exact Gen.var hp₀ (genList_of_sub body₀ body w hsub hb)

theorem gen_removeEpsilon (G : CFG) :
    (∀ s w, G.Gen s w → w ≠ [] → G.removeEpsilon.Gen s w) ∧
    (∀ u w, G.GenList u w →
      ∃ u' ∈ removeNullableSub G.nullable u, G.removeEpsilon.GenList u' w) := by
  apply gen_ind
  · intro t _; exact Gen.ter t
  · intro h body w hp _ ih hw
    obtain ⟨u', hu', hgen⟩ := ih
    have hne : u' ≠ [] := by
      rintro rfl
      exact hw (genList_nil_iff.1 hgen)
    exact Gen.var ((mem_removeEpsilon_prods G (h, u')).mpr ⟨body, hp, hu', hne⟩) hgen
  · exact ⟨[], by simp [removeNullableSub], GenList.nil⟩
  · intro s u w₁ w₂ hs _ ih₁ ih₂
    obtain ⟨u', hu', hgen⟩ := ih₂
    by_cases hw : w₁ = []
    · subst hw
      exact ⟨u', mem_removeNullableSub_cons.2 (Or.inl ⟨(mem_nullable G s).mpr hs, hu'⟩), hgen⟩
    · exact ⟨s :: u', mem_removeNullableSub_cons.2 (Or.inr ⟨u', hu', rfl⟩), GenList.cons (ih₁ hw) hgen⟩

theorem gen_removeEpsilon_iff (G : CFG) (s : Sym) (w : List String) :
    G.removeEpsilon.Gen s w ↔ G.Gen s w ∧ w ≠ [] :=
  ⟨fun h => ⟨(gen_of_removeEpsilon G).1 _ _ h, (gen_ne_nil (removeEpsilon_noEps G)).1 _ _ h⟩,
    fun h => (gen_removeEpsilon G).1 _ _ h.1 h.2⟩

theorem removeEpsilon_lang (G : CFG) (w : List String) :
    G.removeEpsilon.Lang w ↔ G.Lang w ∧ w ≠ [] := by
  simp only [lang_iff_gen, removeEpsilon_start_eq, gen_removeEpsilon_iff, ← and_assoc,
    exists_and_right]

theorem mem_unitTargets (G : CFG) (v c : String) :
    c ∈ G.unitTargets v ↔ (v, [Sym.var c]) ∈ G.prods := by
  simp only [unitTargets, List.mem_filterMap]
  constructor
  · rintro ⟨⟨h, b⟩, hp, hc⟩
    simp only at hc
    split at hc
    · rename_i hv
      subst hv
      split at hc
      · simp only [Option.some.injEq] at hc; subst hc; exact hp
      · cases hc
    · cases hc
  · intro hp
    exact ⟨(v, [Sym.var c]), hp, by simp⟩

theorem isUnit_iff (p : Prod) : isUnit p = true ↔ ∃ u, p.2 = [Sym.var u] := by
  unfold isUnit
  split
  · rename_i u h; simp [h]
  · rename_i h
    simp only [Bool.false_eq_true, false_iff, not_exists]
    intro u hu; exact h u hu

/-- the successor function of the unit-pair worklist -/
def unitNext (G : CFG) (ab : String × String) : List (String × String) :=
  (G.unitTargets ab.2).map fun c => (ab.1, c)

theorem unitPairs_eq (G : CFG) :
    G.unitPairs = (bfs (unitNext G)
      (G.vars.length * (G.vars.length + G.prods.length) + G.vars.length + 2)
      (G.vars.map fun v => (v, v))).getD [] := rfl

theorem mem_unitPairs_iff (G : CFG) (ab : String × String) :
    ab ∈ G.unitPairs ↔ ∃ v ∈ G.vars, Reach (unitNext G) (v, v) ab := by
  -- the second component of a pair is a variable or the body of a unit production
  obtain ⟨res, hres, h⟩ := bfs_total (unitNext G) (· ∈ G.vars ×ˢ
      (G.vars ++ G.prods.map fun p => match p.2 with | [.var u] => u | _ => p.1)) _
    (fun x y hx hy => by
      obtain ⟨c, hc, rfl⟩ := List.mem_map.mp hy
      exact List.mem_product.mpr ⟨(List.mem_product.mp hx).1, List.mem_append_right _
        (List.mem_map.mpr ⟨_, (mem_unitTargets G _ _).mp hc, rfl⟩)⟩)
    (fun _ h => h) (G.vars.map fun v => (v, v))
    (fun s hs => by
      obtain ⟨v, hv, rfl⟩ := List.mem_map.mp hs
      exact List.mem_product.mpr ⟨hv, List.mem_append_left _ hv⟩)
    (G.vars.length * (G.vars.length + G.prods.length) + G.vars.length + 2)
    (by simp only [List.length_map, List.length_product, List.length_append]; omega)
  rw [unitPairs_eq, hres, Option.getD_some, h]
  simp only [List.mem_map]
  constructor
  · rintro ⟨s, ⟨v, hv, rfl⟩, hr⟩; exact ⟨v, hv, hr⟩
  · rintro ⟨v, hv, hr⟩; exact ⟨_, ⟨v, hv, rfl⟩, hr⟩

theorem unitPairs_refl {G : CFG} {a : String} (ha : a ∈ G.vars) : (a, a) ∈ G.unitPairs :=
  (mem_unitPairs_iff G _).mpr ⟨a, ha, Reach.refl _⟩

theorem unitPairs_step {G : CFG} {a b c : String} (hab : (a, b) ∈ G.unitPairs)
    (hp : (b, [Sym.var c]) ∈ G.prods) : (a, c) ∈ G.unitPairs := by
  obtain ⟨v, hv, hr⟩ := (mem_unitPairs_iff G _).mp hab
  refine (mem_unitPairs_iff G _).mpr ⟨v, hv, Reach.tail hr ?_⟩
  simp only [unitNext, List.mem_map]
  exact ⟨c, (mem_unitTargets G _ _).mpr hp, rfl⟩

theorem unitPairs_gen {G : CFG} {ab : String × String} (hab : ab ∈ G.unitPairs)
    {w : List String} : G.Gen (.var ab.2) w → G.Gen (.var ab.1) w := by
  obtain ⟨v, _, hr⟩ := (mem_unitPairs_iff G _).mp hab
  clear hab
  induction hr with
  | refl => exact id
  | tail _ hz ih =>
    obtain ⟨c, hc, rfl⟩ := List.mem_map.mp hz
    exact fun h => ih (Gen.var ((mem_unitTargets G _ _).mp hc) (genList_singleton.2 h))

theorem elimUnit_start_eq (G : CFG) : G.elimUnit.start = G.start := rfl

theorem mem_elimUnit_prods (G : CFG) (p : Prod) :
    p ∈ G.elimUnit.prods ↔
      (p ∈ G.prods ∧ isUnit p = false) ∨
      ∃ b, (p.1, b) ∈ G.unitPairs ∧ (b, p.2) ∈ G.prods ∧ isUnit (b, p.2) = false := by
  obtain ⟨h, body⟩ := p
  simp only [elimUnit, mk', List.mem_append, List.mem_filter, List.mem_flatMap, List.mem_map,
    Bool.not_eq_true', decide_eq_true_eq, Prod.exists, Prod.mk.injEq]
  constructor
  · rintro (h₁ | ⟨a, b, hab, h', body', ⟨⟨hp, hu⟩, rfl⟩, rfl, rfl⟩)
    · exact Or.inl h₁
    · exact Or.inr ⟨h', hab, hp, hu⟩
  · rintro (h₁ | ⟨b, hab, hp, hu⟩)
    · exact Or.inl h₁
    · exact Or.inr ⟨h, b, hab, b, body, ⟨⟨hp, hu⟩, rfl⟩, rfl, rfl⟩

theorem elimUnit_noUnit (G : CFG) : ∀ p ∈ G.elimUnit.prods, isUnit p = false := by
  intro p hp
  rcases (mem_elimUnit_prods G p).mp hp with ⟨_, h⟩ | ⟨b, _, _, h⟩
  · exact h
  · simpa [isUnit] using h

theorem elimUnit_noEps (G : CFG) (h : ∀ p ∈ G.prods, p.2 ≠ []) : ∀ p ∈ G.elimUnit.prods, p.2 ≠ [] := by
  intro p hp
  rcases (mem_elimUnit_prods G p).mp hp with ⟨hp', _⟩ | ⟨b, _, hp', _⟩
  · exact h p hp'
  · exact h (b, p.2) hp'

theorem elimUnit_wf (G : CFG) : G.elimUnit.WF := mk'_wf _ _ _ _

theorem gen_of_elimUnit (G : CFG) :
    (∀ s w, G.elimUnit.Gen s w → G.Gen s w) ∧
    (∀ u w, G.elimUnit.GenList u w → G.GenList u w) := by
  refine gen_sim fun h body w hp hb => ?_
  rcases (mem_elimUnit_prods G (h, body)).mp hp with ⟨hp', _⟩ | ⟨b, hab, hp', _⟩
  · exact Gen.var hp' hb
  · exact unitPairs_gen (ab := (h, b)) hab (Gen.var hp' hb)

/-- what a symbol of `G` generates is generated in `G.elimUnit`, a variable's words under every name
that reaches it by unit productions -/
def UnitLift (G : CFG) : Sym → List String → Prop
  | .ter t, w => G.elimUnit.Gen (.ter t) w
  | .var b, w => ∀ a, (a, b) ∈ G.unitPairs → G.elimUnit.Gen (.var a) w

theorem gen_elimUnit (G : CFG) (hG : G.WF) {s : Sym} {w : List String} (hg : G.Gen s w) :
    UnitLift G s w := by
  refine gen_least (P := UnitLift G) (fun t => Gen.ter t) (fun b body w hp _ ih a hab => ?_) hg
  by_cases hu : isUnit (b, body) = true
  · obtain ⟨c, hc⟩ := (isUnit_iff _).mp hu
    simp only at hc
    subst hc
    obtain ⟨w₁, _, rfl, h₁, rfl⟩ := ih
    rw [List.append_nil]
    exact h₁ a (unitPairs_step hab hp)
  · have hu' : isUnit (b, body) = false := by simpa using hu
    refine Gen.var ((mem_elimUnit_prods G (a, body)).mpr (Or.inr ⟨b, hab, hp, hu'⟩))
      (GenBy.genList (GenBy.mono (fun s hs w h => ?_) ih))
    cases s with
    | ter t => exact h
    | var c => exact h c (unitPairs_refl (hG.var_mem _ hp c hs))

theorem gen_elimUnit_iff (G : CFG) (hG : G.WF) {v : String} (hv : v ∈ G.vars) (w : List String) :
    G.elimUnit.Gen (.var v) w ↔ G.Gen (.var v) w :=
  ⟨(gen_of_elimUnit G).1 _ _, fun h => gen_elimUnit G hG h v (unitPairs_refl hv)⟩

theorem elimUnit_lang (G : CFG) (hG : G.WF) (w : List String) : G.elimUnit.Lang w ↔ G.Lang w := by
  rw [lang_iff_gen, lang_iff_gen, elimUnit_start_eq]
  exact exists_congr fun s => and_congr_right fun hs => gen_elimUnit_iff G hG (hG.start_mem s hs) w

end Clean
end CFG
end Pfl
