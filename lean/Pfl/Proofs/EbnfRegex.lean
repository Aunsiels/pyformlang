/-
Helper lemmas for the regex side of `RecursiveAutomaton.from_ebnf` (C20): the bodies of one head,
joined by " | ", are the blank-joined tokens of the (right-nested) alternation of the expressions.
-/
import Pfl.Proofs.EbnfLemmas
import Pfl.Proofs.ReaderGrammar
import Pfl.Proofs.PyRxTokenText
import Pfl.Proofs.RegexLemmas
namespace Pfl.Ebnf.Lem
open Pfl Pfl.Ebnf Pfl.TextCodec Pfl.TextCodec.Lem Pfl.LabelCodec.Lem
open Pfl.PyRx.E2E Pfl.PyRx.E2E.E Pfl.RegexReader Pfl.RegexReader.Lem

/-- `a | c` where the alternatives of `a` are re-nested to the right: the text "a1 | a2 | c" is
the expression `alt a1 (alt a2 c)` -/
def altApp : E → E → E
  | .alt a b, c => .alt a (altApp b c)
  | .tok x, c => .alt (.tok x) c
  | .par e, c => .alt (.par e) c
  | .star e, c => .alt (.star e) c
  | .cat a b, c => .alt (.cat a b) c

/-- the alternation of a non-empty list of expressions -/
def altAll : List E → E
  | [] => .tok "epsilon".toList
  | [e] => e
  | e :: e' :: es => altApp e (altAll (e' :: es))

theorem flat_altApp (a c : E) : flat (altApp a c) = flat a ++ ['|'] :: flat c := by
  induction a with
  | alt a b _ ihb => simp [altApp, flat, ihb]
  | _ => rfl

theorem wf_altApp {A : List Char → Prop} (a c : E) (ha : WF A a) (hc : WF A c) :
    WF A (altApp a c) := by
  induction a with
  | alt a b _ ihb => exact ⟨ha.1, ihb ha.2.1, ha.2.2⟩
  | _ => exact ⟨ha, hc, by simp [lvl]⟩

theorem need_altApp (a c : E) : E.need (altApp a c) = E.need a + E.need c + 1 := by
  induction a with
  | alt a b _ ihb => simp only [altApp, E.need, ihb]; omega
  | _ => rfl

theorem denote_altApp (a c : E) (w : List String) :
    Rx.Denote (tree (altApp a c)) w ↔ Rx.Denote (tree a) w ∨ Rx.Denote (tree c) w := by
  induction a with
  | alt a b _ ihb =>
    simp only [altApp, tree, Rx.Lem.alt_denote, ihb, or_assoc]
  | _ => exact Rx.Lem.alt_denote _ _ _

theorem wf_altAll {A : List Char → Prop} : ∀ (es : List E), es ≠ [] → (∀ e ∈ es, WF A e) →
    WF A (altAll es)
  | [], h, _ => absurd rfl h
  | [e], _, h => h e (by simp)
  | e :: e' :: es, _, h =>
    wf_altApp e _ (h e (by simp)) (wf_altAll (e' :: es) (by simp) fun x hx => h x (List.mem_cons_of_mem _ hx))

theorem need_altAll : ∀ (es : List E), es ≠ [] →
    E.need (altAll es) + 1 = (es.map E.need).sum + es.length
  | [], h => absurd rfl h
  | [e], _ => by simp [altAll]
  | e :: e' :: es, _ => by
    have ih := need_altAll (e' :: es) (by simp)
    simp only [altAll, need_altApp, List.map_cons, List.sum_cons, List.length_cons] at ih ⊢
    omega

theorem denote_altAll : ∀ (es : List E) (w : List String), es ≠ [] →
    (Rx.Denote (tree (altAll es)) w ↔ ∃ e ∈ es, Rx.Denote (tree e) w)
  | [], _, h => absurd rfl h
  | [e], w, _ => by simp [altAll]
  | e :: e' :: es, w, _ => by
    have ih := denote_altAll (e' :: es) w (by simp)
    rw [altAll, denote_altApp, ih]
    simp

theorem joinBlank_eq_joinWith : ∀ l : List (List Char), joinBlank l = joinWith [' '] l
  | [] => rfl
  | [a] => by simp [joinBlank, List.intercalate, joinWith]
  | a :: b :: l => by
    rw [joinBlank_cons_cons, joinWith_cons_cons, joinBlank_eq_joinWith (b :: l)]; simp

theorem join_flat_altApp (a c : E) :
    joinWith [' '] (flat (altApp a c)) = joinWith [' '] (flat a) ++ sepBar ++ joinWith [' '] (flat c) := by
  obtain ⟨y, l, hy⟩ := List.exists_cons_of_ne_nil (flat_ne_nil c)
  rw [flat_altApp, joinWith_append _ _ _ (flat_ne_nil a) (by simp), hy]
  simp [joinWith_cons_cons, sepBar]

theorem joinWith_bar : ∀ (es : List E), es ≠ [] →
    joinWith sepBar (es.map fun e => joinWith [' '] (flat e)) = joinWith [' '] (flat (altAll es))
  | [], h => absurd rfl h
  | [e], _ => rfl
  | e :: e' :: es, _ => by
    have ih := joinWith_bar (e' :: es) (by simp)
    rw [altAll, join_flat_altApp, ← ih]
    rfl

/-- a token that survives the line reader: free of white space and of "->" -/
def Plain (x : List Char) : Prop := (∀ c ∈ x, isSpace c = false) ∧ ¬ ['-', '>'] <:+: x

theorem body_join (l : List (List Char)) (hne : ∀ x ∈ l, x ≠ []) (hp : ∀ x ∈ l, Plain x) :
    Body (joinWith [' '] l) :=
  have hw : Words l := fun x hx => ⟨hne x hx, (hp x hx).1⟩
  ⟨strip_join l hw, join_noBreak l hw, noArrow_join l fun x hx => (hp x hx).2⟩

/-! ### the token alphabet with the spelling "epsilon"

`A3` (the alphabet of `parse_grammar`) excludes the plain word "epsilon" — there every plain symbol is
a symbol leaf.  The reader itself takes it as any plain word (`components` returns it unchanged) and
`toNode` maps it to the ε node.  `A3e` is `A3` plus that word: all the reader's symbols (`IsSym`). -/

def A3e (x : List Char) : Prop := IsSp x ∨ IsPl x ∨ (∃ c, x = ['\\', c])

theorem A3e_iff (x : List Char) : A3e x ↔ A3 x ∨ x = "epsilon".toList := by
  constructor
  · rintro (h | h | h)
    · exact Or.inl (Or.inl h)
    · by_cases e : x = "epsilon".toList
      · exact Or.inr e
      · exact Or.inl (Or.inr (Or.inl ⟨h, e⟩))
    · exact Or.inl (Or.inr (Or.inr h))
  · rintro (h | rfl)
    · exact A3.isSym h
    · refine Or.inr (Or.inl ?_)
      unfold IsPl
      decide

theorem epsilon_not_A3 : ¬ A3 "epsilon".toList := by
  rintro (⟨c, hc, _⟩ | h | ⟨c, hc⟩)
  · have := congrArg List.length hc; simp at this
  · exact h.2 rfl
  · have := congrArg List.length hc; simp at this

theorem wf_mono {A B : List Char → Prop} (hAB : ∀ x, A x → B x) : ∀ e : E, WF A e → WF B e
  | .tok _, h => ⟨hAB _ h.1, h.2⟩
  | .par e, h => wf_mono hAB e h
  | .star e, h => ⟨wf_mono hAB e h.1, h.2⟩
  | .cat a b, h => ⟨wf_mono hAB a h.1, wf_mono hAB b h.2.1, h.2.2⟩
  | .alt a b, h => ⟨wf_mono hAB a h.1, wf_mono hAB b h.2.1, h.2.2⟩

theorem parse_grammar_e (e : E) (h : WF A3e e) (fuel : Nat) (hf : E.need e ≤ fuel) :
    parse fuel (joinBlank (flat e)) = .ok (tree e) :=
  parse_joinBlank (fun _ h => h) e h fuel hf

theorem a3e_ne_nil {x : List Char} (h : A3e x) : x ≠ [] := by
  rcases h with ⟨c, rfl, _⟩ | h | ⟨c, rfl⟩
  · simp
  · exact h.1
  · simp

theorem a3_ne_nil {x : List Char} (h : A3 x) : x ≠ [] :=
  a3e_ne_nil (A3.isSym h)

/-- the text written for a right-hand side (`none`: the empty right-hand side) -/
def bodyText : Option E → List Char
  | none => []
  | some e => joinBlank (flat e)

/-- the expression a right-hand side stands for -/
def exprOf : Option E → E
  | none => .tok "epsilon".toList
  | some e => e

def rawLines (rs : List (List Char × Option E)) : List (List Char × List Char) :=
  rs.map fun r => (r.1, bodyText r.2)

/-- the alternatives of head `h`, in order -/
def exprs (rs : List (List Char × Option E)) (h : List Char) : List E :=
  (rs.filter (·.1 = h)).map fun r => exprOf r.2

/-- a rule the line reader and the regex reader agree on -/
def RuleOK (r : List Char × Option E) : Prop :=
  Head r.1 ∧ ∀ e, r.2 = some e → WF A3e e ∧ ∀ x ∈ flat e, Plain x

theorem wf_epsilon : WF A3e (.tok "epsilon".toList) :=
  ⟨(A3e_iff _).mpr (Or.inr rfl), by decide, by decide, Or.inr (by decide)⟩

/-- the reader maps the spelling to the ε node, so the tree of an empty right-hand side is ε -/
theorem tree_epsilon : tree (.tok "epsilon".toList) = .eps := by decide

theorem wf_exprOf (r : List Char × Option E) (h : RuleOK r) : WF A3e (exprOf r.2) := by
  cases e : r.2 with
  | none => exact wf_epsilon
  | some e' => exact (h.2 e' e).1

theorem body_bodyText (r : List Char × Option E) (h : RuleOK r) : Body (bodyText r.2) := by
  cases e : r.2 with
  | none => exact ⟨rfl, by simp [bodyText], noArrow_nil⟩
  | some e' =>
    obtain ⟨hw, hp⟩ := h.2 e' e
    rw [bodyText, joinBlank_eq_joinWith]
    exact body_join _ (fun x hx => a3e_ne_nil (flat_sym (fun _ h => h) e' hw x hx)) hp

theorem epsBody_bodyText (r : List Char × Option E) (h : RuleOK r) :
    epsBody (bodyText r.2) = joinWith [' '] (flat (exprOf r.2)) := by
  cases e : r.2 with
  | none => rfl
  | some e' =>
    obtain ⟨hw, _⟩ := h.2 e' e
    have : joinWith [' '] (flat e') ≠ [] :=
      joinWith_ne_nil _ _ (flat_ne_nil e') (fun x hx => a3e_ne_nil (flat_sym (fun _ h => h) e' hw x hx))
    simp [epsBody, bodyText, exprOf, joinBlank_eq_joinWith, this]

theorem heads_rawLines (rs : List (List Char × Option E)) :
    heads (rawLines rs) = (rs.map (·.1)).eraseDups := by
  simp [heads, rawLines, List.map_map, Function.comp_def]

theorem alts_rawLines (rs : List (List Char × Option E)) (hok : ∀ r ∈ rs, RuleOK r) (h : List Char) :
    alts (rawLines rs) h = (exprs rs h).map fun e => joinWith [' '] (flat e) := by
  unfold alts rawLines exprs
  rw [List.filter_map, List.map_map, List.map_map]
  apply List.map_congr_left
  intro r hr
  exact epsBody_bodyText r (hok r (List.mem_filter.mp hr).1)

theorem exprs_ne_nil (rs : List (List Char × Option E)) (h : List Char)
    (hh : h ∈ heads (rawLines rs)) : exprs rs h ≠ [] := by
  -- `exprs rs h` and `alts (rawLines rs) h` are maps of the same filtered list
  intro hn
  refine (alts_eq_nil_iff (rawLines rs) h).1 ?_ hh
  rw [alts, rawLines, List.filter_map, List.map_map, List.map_eq_nil_iff]
  exact List.map_eq_nil_iff.mp hn

theorem mem_exprs (rs : List (List Char × Option E)) (h : List Char) (e : E) :
    e ∈ exprs rs h ↔ ∃ r ∈ rs, r.1 = h ∧ exprOf r.2 = e := by
  simp [exprs, List.mem_map, List.mem_filter, and_assoc]

theorem group_rawLines (rs : List (List Char × Option E)) (hok : ∀ r ∈ rs, RuleOK r) :
    group (rawLines rs) =
      (heads (rawLines rs)).map fun h => (h, joinBlank (flat (altAll (exprs rs h)))) := by
  rw [group_spec, groupSpec]
  apply List.map_congr_left
  intro h hh
  rw [alts_rawLines rs hok h, joinWith_bar _ (exprs_ne_nil rs h hh), joinBlank_eq_joinWith]

theorem rawLines_ok (rs : List (List Char × Option E)) (hok : ∀ r ∈ rs, RuleOK r) :
    ∀ l ∈ rawLines rs, Head l.1 ∧ Body l.2 := by
  intro l hl
  obtain ⟨r, hr, rfl⟩ := List.mem_map.mp hl
  exact ⟨(hok r hr).1, body_bodyText r (hok r hr)⟩

theorem head_char (c : Char) (h : (!isSpace c && c != '-') = true) : Head [c] := by
  simp only [Bool.and_eq_true, Bool.not_eq_true', bne_iff_ne, ne_eq] at h
  refine ⟨by simp, ?_, noArrow_of_no_dash _ ?_⟩
  · intro d hd; simp only [List.mem_cons, List.not_mem_nil, or_false] at hd; subst hd; exact h.1
  · intro d hd; simp only [List.mem_cons, List.not_mem_nil, or_false] at hd; subst hd; exact h.2

theorem plain_char (c : Char) (h : (!isSpace c && c != '-') = true) : Plain [c] :=
  let hh := head_char c h
  ⟨hh.2.1, hh.2.2⟩

theorem wf_tok_char (c : Char) (h : (c != ' ' && c != '\\' && !isSpecialChar c) = true) :
    WF A3e (.tok [c]) := by
  simp only [Bool.and_eq_true, Bool.not_eq_true', bne_iff_ne, ne_eq] at h
  obtain ⟨⟨h1, h2⟩, h3⟩ := h
  have hs := h3
  simp only [isSpecialChar, List.mem_cons, List.not_mem_nil, or_false, decide_eq_false_iff_not,
    not_or] at hs
  refine ⟨Or.inr (Or.inl ⟨by simp, ?_⟩), ?_, ?_, Or.inl ⟨[c], ?_⟩⟩
  · intro d hd; simp only [List.mem_cons, List.not_mem_nil, or_false] at hd; subst hd
    exact ⟨h1, h2, h3⟩
  · simp only [ne_eq, List.cons.injEq, and_true]; exact hs.2.2.2.2.2.1
  · simp only [ne_eq, List.cons.injEq, and_true]; exact hs.2.2.2.2.2.2
  · simp [toNode, hs.1, hs.2.1, hs.2.2.1, hs.2.2.2.1, hs.2.2.2.2.1, h2]

end Pfl.Ebnf.Lem
