/-
C18, the harness's side of the pointer-level model: `sat (read ..)` characterised by `RSat`
(`namespace Read`); the specification of `buildInto` (`BuildSpec`, `buildInto_spec`), walked once for an
interpretation of the objects in any ranked feature algebra in which the description has a solution (`Sol`):
the ranks give the well-formed store, ranks paired with path functions its models; and from `Desc` on the
three theorems about `unifySFS`, assembled from these and `unify_wf`.
-/
import Pfl.Proofs.FeatureDagLemmas
import Pfl.Proofs.FreshName
namespace Pfl
namespace FsDag
namespace Lem
open FsGround

/-- rank of the `g`-child of a record of rank `r` (root 2, "agr" record 1, leaves 0) -/
def cr (r : Nat) (g : String) : Nat := if r = 2 ∧ g = "agr" then 1 else 0

theorem cr_agr : cr 2 "agr" = 1 := if_pos ⟨rfl, rfl⟩

theorem cr_of_not {r : Nat} {g : String} (h : ¬ (r = 2 ∧ g = "agr")) : cr r g = 0 := if_neg h

theorem cr_lt (r : Nat) (g : String) (h : 0 < r) : cr r g < r := by
  by_cases hc : r = 2 ∧ g = "agr"
  · rw [hc.1, hc.2, cr_agr]; exact Nat.lt_succ_self 1
  · rw [cr_of_not hc]; exact h

namespace Read

theorem sat_iff (s : SFS) (asg : Asg) :
    sat s asg = true ↔
      (∀ p v, (p, Leaf.atom v) ∈ s → valOf asg p = some v) ∧
      (∀ p p' x, (p, Leaf.var x) ∈ s → (p', Leaf.var x) ∈ s → valOf asg p = valOf asg p') := by
  unfold sat
  rw [List.all_eq_true]
  constructor
  · intro h
    refine ⟨?_, ?_⟩
    · intro p v hm
      have := h _ hm
      simpa using this
    · intro p p' x hm hm'
      have := h _ hm
      simp only [List.all_eq_true] at this
      have := this _ hm'
      simpa using this
  · rintro ⟨h1, h2⟩ ⟨p, l⟩ hm
    cases l with
    | atom v => simpa using h1 p v hm
    | free => rfl
    | var x =>
      simp only [List.all_eq_true]
      rintro ⟨p', l'⟩ hm'
      cases l' with
      | atom v => rfl
      | free => rfl
      | var y =>
        by_cases hxy : x = y
        · subst hxy
          simpa using h2 p p' x hm hm'
        · simp [hxy]

theorem valOf_cons_self (p : List String) (v : String) (a : Asg) :
    valOf ((p, v) :: a) p = some v := by
  simp [valOf]

theorem valOf_cons_ne (p q : List String) (v : String) (a : Asg) (h : q ≠ p) :
    valOf ((q, v) :: a) p = valOf a p := by
  simp [valOf, h]

theorem valOf_allAsg (vals : List String) (paths : List (List String)) (asg : Asg)
    (h : asg ∈ allAsg vals paths) (p : List String) : valOf asg p ≠ none ↔ p ∈ paths := by
  induction paths generalizing asg with
  | nil =>
    rw [allAsg, List.mem_singleton] at h
    subst h
    exact ⟨fun hn => absurd rfl hn, fun hp => nomatch hp⟩
  | cons q qs ih =>
    simp only [allAsg, List.mem_flatMap, List.mem_map] at h
    obtain ⟨a, ha, v, _, rfl⟩ := h
    by_cases hq : q = p
    · subst hq
      rw [valOf_cons_self]
      exact ⟨fun _ => List.mem_cons_self, fun _ => Option.some_ne_none v⟩
    · rw [valOf_cons_ne _ _ _ _ hq, ih a ha, List.mem_cons]
      exact ⟨Or.inr, fun h => h.resolve_left (Ne.symm hq)⟩

/-- the name of the `k`-th sharing class -/
def cname (k : Nat) : String := "c" ++ toString k

theorem cname_inj {j k : Nat} (h : cname j = cname k) : j = k := Fresh.suffix_inj "c" h

/-- what an entry `(p, l)` of the accumulator means -/
def Good (st : Store) (r : Nat) (seen : List Nat) (p : List String) (l : Leaf) : Prop :=
  ∃ n, byPath st r p = some n ∧ (get st (deref st n)).content = [] ∧
    ((∃ v, (get st (deref st n)).value = some v ∧ l = Leaf.atom v) ∨
     ((get st (deref st n)).value = none ∧
        ∃ k, seen[k]? = some (deref st n) ∧ l = Leaf.var (cname k)))

theorem Good.mono {st : Store} {r : Nat} {seen : List Nat} {p : List String} {l : Leaf}
    (h : Good st r seen p l) (d : Nat) : Good st r (seen ++ [d]) p l := by
  obtain ⟨n, h1, h2, h3⟩ := h
  refine ⟨n, h1, h2, ?_⟩
  rcases h3 with h3 | ⟨h3, k, hk, hl⟩
  · exact Or.inl h3
  · refine Or.inr ⟨h3, k, ?_, hl⟩
    have hlt : k < seen.length := by
      rcases Nat.lt_or_ge k seen.length with h | h
      · exact h
      · rw [List.getElem?_eq_none h] at hk; cases hk
    rw [List.getElem?_append_left hlt]; exact hk

/-- invariant of the fold in `read` after the paths `proc`; the representatives `acc.2` name the
sharing classes by their index -/
structure Inv (st : Store) (r : Nat) (acc : SFS × List Nat) (proc : List (List String)) :
    Prop where
  nd : acc.2.Nodup
  sound : ∀ p l, (p, l) ∈ acc.1 → p ∈ proc ∧ Good st r acc.2 p l
  complete : ∀ p ∈ proc, ∀ n, byPath st r p = some n → (get st (deref st n)).content = [] →
    ∃ l, (p, l) ∈ acc.1

theorem Inv.init (st : Store) (r : Nat) : Inv st r ([], []) [] := by
  refine ⟨by simp, ?_, ?_⟩
  · intro p l h; cases h
  · intro p h; cases h

theorem Inv.skip {st : Store} {r : Nat} {acc : SFS × List Nat} {proc : List (List String)}
    (h : Inv st r acc proc) (p : List String)
    (hp : ∀ n, byPath st r p = some n → (get st (deref st n)).content ≠ []) :
    Inv st r acc (proc ++ [p]) := by
  refine ⟨h.nd, ?_, ?_⟩
  · intro q l hm
    obtain ⟨a, b⟩ := h.sound q l hm
    exact ⟨List.mem_append_left _ a, b⟩
  · intro q hq n hn hc
    rcases List.mem_append.1 hq with hq | hq
    · exact h.complete q hq n hn hc
    · rw [List.mem_singleton] at hq
      subst hq
      exact absurd hc (hp n hn)

theorem Inv.push {st : Store} {r : Nat} {acc : SFS × List Nat} {proc : List (List String)}
    (h : Inv st r acc proc) (p : List String) (l : Leaf)
    (hg : Good st r acc.2 p l) :
    Inv st r (acc.1 ++ [(p, l)], acc.2) (proc ++ [p]) := by
  refine ⟨h.nd, ?_, ?_⟩
  · intro q l' hm
    rcases List.mem_append.1 hm with hm | hm
    · obtain ⟨a, b⟩ := h.sound q l' hm
      exact ⟨List.mem_append_left _ a, b⟩
    · rw [List.mem_singleton] at hm
      cases hm
      exact ⟨List.mem_append_right _ (List.mem_singleton.2 rfl), hg⟩
  · intro q hq n hn hc
    rcases List.mem_append.1 hq with hq | hq
    · obtain ⟨l', hl'⟩ := h.complete q hq n hn hc
      exact ⟨l', List.mem_append_left _ hl'⟩
    · rw [List.mem_singleton] at hq
      subst hq
      exact ⟨l, List.mem_append_right _ (List.mem_singleton.2 rfl)⟩

theorem Inv.grow {st : Store} {r : Nat} {acc : SFS × List Nat} {proc : List (List String)}
    (h : Inv st r acc proc) (d : Nat) (hd : d ∉ acc.2) :
    Inv st r (acc.1, acc.2 ++ [d]) proc := by
  refine ⟨?_, ?_, h.complete⟩
  · exact nodup_append_singleton h.nd hd
  · intro q l hm
    obtain ⟨a, b⟩ := h.sound q l hm
    exact ⟨a, b.mono d⟩

theorem Inv.read (st : Store) (r : Nat) (paths : List (List String)) :
    ∃ seen, Inv st r (FsDag.read st r paths, seen) paths := by
  refine ⟨_, foldl_inv_prefix (Inv st r) _ paths (fun acc proc p _ _ h => ?_) _ (Inv.init st r)⟩
  dsimp only
  cases hb : byPath st r p with
  | none =>
    exact h.skip p (fun n hn => by rw [hb] at hn; cases hn)
  | some n =>
    dsimp only
    by_cases hc : (get st (deref st n)).content = []
    · rw [if_neg (by rw [hc]; exact Bool.false_ne_true)]
      cases hv : (get st (deref st n)).value with
      | some v =>
        exact h.push p _ ⟨n, hb, hc, Or.inl ⟨v, hv, rfl⟩⟩
      | none =>
        dsimp only
        cases hi : acc.2.idxOf? (deref st n) with
        | some k =>
          refine h.push p _ ⟨n, hb, hc, Or.inr ⟨hv, k, ?_, rfl⟩⟩
          obtain ⟨hlt, hk, _⟩ := List.idxOf?_eq_some_iff.1 hi
          rw [List.getElem?_eq_getElem hlt, hk]
        | none =>
          have hd : deref st n ∉ acc.2 := List.idxOf?_eq_none_iff.1 hi
          refine (h.grow (deref st n) hd).push p _ ⟨n, hb, hc, Or.inr ⟨hv, acc.2.length, ?_, rfl⟩⟩
          simp
    · rw [if_pos (by simpa using hc)]
      refine h.skip p (fun n' hn' => ?_)
      rw [hb] at hn'
      cases hn'
      exact hc

/-- pairwise characterisation of satisfaction of the structure read back from a store -/
def RSat (st : Store) (r : Nat) (paths : List (List String)) (asg : Asg) : Prop :=
  (∀ p ∈ paths, ∀ n, byPath st r p = some n → (get st (deref st n)).content = [] →
      ∀ v, (get st (deref st n)).value = some v → valOf asg p = some v) ∧
  (∀ p ∈ paths, ∀ p' ∈ paths, ∀ n n', byPath st r p = some n → byPath st r p' = some n' →
      (get st (deref st n)).content = [] → (get st (deref st n)).value = none →
      deref st n = deref st n' → valOf asg p = valOf asg p')

theorem read_sat (st : Store) (r : Nat) (paths : List (List String)) (asg : Asg) :
    sat (read st r paths) asg = true ↔ RSat st r paths asg := by
  rw [sat_iff]
  obtain ⟨seen, I⟩ := Inv.read st r paths
  generalize read st r paths = s at I ⊢
  constructor
  · rintro ⟨h1, h2⟩
    refine ⟨?_, ?_⟩
    · intro p hp n hn hc v hv
      obtain ⟨l, hl⟩ := I.complete p hp n hn hc
      obtain ⟨_, n', hn', _, hg⟩ := I.sound p l hl
      rw [hn] at hn'; cases hn'
      rcases hg with ⟨v', hv', rfl⟩ | ⟨hv', _⟩
      · rw [hv] at hv'; cases hv'
        exact h1 p v hl
      · rw [hv] at hv'; cases hv'
    · intro p hp p' hp' n n' hn hn' hc hv hd
      obtain ⟨l, hl⟩ := I.complete p hp n hn hc
      obtain ⟨l', hl'⟩ := I.complete p' hp' n' hn' (hd ▸ hc)
      obtain ⟨_, m, hm, _, hg⟩ := I.sound p l hl
      rw [hn] at hm; cases hm
      obtain ⟨_, m', hm', _, hg'⟩ := I.sound p' l' hl'
      rw [hn'] at hm'; cases hm'
      rcases hg with ⟨v, hv', _⟩ | ⟨_, k, hk, rfl⟩
      · rw [hv] at hv'; cases hv'
      rcases hg' with ⟨v, hv', _⟩ | ⟨_, k', hk', rfl⟩
      · rw [← hd, hv] at hv'; cases hv'
      rw [← hd] at hk'
      have := (List.getElem?_inj (List.getElem?_eq_some_iff.1 hk).1 I.nd).1 (hk.trans hk'.symm)
      subst this
      exact h2 p p' _ hl hl'
  · rintro ⟨h1, h2⟩
    refine ⟨?_, ?_⟩
    · intro p v hm
      obtain ⟨hp, n, hn, hc, hg⟩ := I.sound p _ hm
      rcases hg with ⟨v', hv', e⟩ | ⟨_, _, _, e⟩
      · cases e
        exact h1 p hp n hn hc v hv'
      · cases e
    · intro p p' x hm hm'
      obtain ⟨hp, n, hn, hc, hg⟩ := I.sound p _ hm
      obtain ⟨hp', n', hn', hc', hg'⟩ := I.sound p' _ hm'
      rcases hg with ⟨_, _, e⟩ | ⟨hv, k, hk, e⟩
      · cases e
      rcases hg' with ⟨_, _, e'⟩ | ⟨hv', k', hk', e'⟩
      · cases e'
      cases e
      have := cname_inj (Leaf.var.inj e')
      subst this
      rw [hk] at hk'
      exact h2 p hp p' hp' n n' hn hn' hc hv (Option.some.inj hk')

end Read
open Read

/-- the description `s` is laid out below `r0` -/
structure Built (st : Store) (rk : Nat → Nat) (r0 : Nat) (s : SFS) : Prop where
  paths : ∀ p l, (p, l) ∈ s → ∃ n, byPath st r0 p = some n ∧ n < st.length ∧ rk n = 0 ∧
    ∀ v, l = Leaf.atom v → val st (deref st n) = some v
  sameVar : ∀ p p' x n n', (p, Leaf.var x) ∈ s → (p', Leaf.var x) ∈ s →
    byPath st r0 p = some n → byPath st r0 p' = some n' → deref st n = deref st n'

theorem Built.frame {st st' : Store} {rk rk' : Nat → Nat} {r0 : Nat} {s : SFS} (h : Built st rk r0 s)
    (ha : Acyc st) (hr : Rng st) (hr0 : r0 < st.length) (hlen : st.length ≤ st'.length)
    (hold : ∀ i, i < st.length → get st' i = get st i) (hrk : ∀ i, i < st.length → rk' i = rk i) :
    Built st' rk' r0 s := by
  have hbp := byPath_frame ha hr hlen hold
  constructor
  · intro p l hpl
    obtain ⟨n, hn, hnlt, hrk0, hv⟩ := h.paths p l hpl
    refine ⟨n, (hbp p r0 hr0).trans hn, Nat.lt_of_lt_of_le hnlt hlen, (hrk n hnlt).trans hrk0,
      fun v hl => ?_⟩
    rw [deref_old ha hr hlen hold hnlt, val, hold _ (deref_lt hr hnlt)]
    exact hv v hl
  · intro p p' x n n' hp hp' hn hn'
    rw [hbp p r0 hr0] at hn
    rw [hbp p' r0 hr0] at hn'
    obtain ⟨m, hm, hmlt, _⟩ := h.paths p _ hp
    obtain ⟨m', hm', hmlt', _⟩ := h.paths p' _ hp'
    cases hm.symm.trans hn
    cases hm'.symm.trans hn'
    rw [deref_old ha hr hlen hold hmlt, deref_old ha hr hlen hold hmlt']
    exact h.sameVar p p' x _ _ hp hp' hn hn'

/-- the paths `buildInto` lays out -/
def TwoLevel (p : List String) : Prop := (∃ g, p = [g] ∧ g ≠ "agr") ∨ (∃ g, p = ["agr", g])

/-- the interpretation below the path `p` -/
def FAlg.childs {ch : Nat → String → Nat} (A : FAlg ch) (d : A.D) (p : List String) : A.D :=
  p.foldl A.child d

theorem childs_path {ch : Nat → String → Nat} (d : (pathAlg ch).D) (p : List String) :
    ((pathAlg ch).childs d p).2 = fun q => d.2 (p ++ q) := by
  induction p generalizing d with
  | nil => rfl
  | cons g p ih => exact ih _

/-- `d0`, of the rank of a root, solves the description `s` in the algebra `A` -/
structure Sol (A : FAlg cr) (s : SFS) (d0 : A.D) : Prop where
  rk : A.rank d0 = 2
  atom : ∀ p v, (p, Leaf.atom v) ∈ s → A.atom (A.childs d0 p) v
  var : ∀ p p' x, (p, Leaf.var x) ∈ s → (p', Leaf.var x) ∈ s → A.childs d0 p = A.childs d0 p'

theorem rank_childs {A : FAlg cr} {d0 : A.D} (h0 : A.rank d0 = 2) {p : List String} (hp : TwoLevel p) :
    A.rank (A.childs d0 p) = 0 := by
  rcases hp with ⟨g, rfl, hg⟩ | ⟨g, rfl⟩
  · show A.rank (A.child d0 g) = 0
    rw [A.rank_child, cr_of_not (fun e => hg e.2)]
  · show A.rank (A.child (A.child d0 "agr") g) = 0
    rw [A.rank_child, A.rank_child, h0, cr_agr, cr_of_not (fun e => absurd e.1 (by decide))]

theorem sol_rank {s : SFS} (hsh : ∀ e ∈ s, TwoLevel e.1) : Sol (rankAlg cr) s (2 : Nat) :=
  ⟨rfl, fun _ _ hp => rank_childs (A := rankAlg cr) rfl (hsh _ hp), fun _ _ _ hp hp' =>
    (rank_childs (A := rankAlg cr) rfl (hsh _ hp)).trans
      (rank_childs (A := rankAlg cr) rfl (hsh _ hp')).symm⟩

namespace Build

abbrev St := Store × List (String × Nat) × Option Nat

/-- the object shared by the occurrences of the variable `x`: the registered one, or a new empty
object that is registered -/
def varObj (st : Store) (vars : List (String × Nat)) (x : String) : Store × List (String × Nat) × Nat :=
  match lookupC x vars with
  | some vn => (st, vars, vn)
  | none => (st ++ [emptyNode], vars ++ [(x, st.length)], st.length)

def mkLeaf (st : Store) (vars : List (String × Nat)) : Leaf → Store × List (String × Nat) × Nat
  | .atom v => (st ++ [{ value := some v, content := [], pointer := none }], vars, st.length)
  | .free => (st ++ [emptyNode], vars, st.length)
  | .var x => ((varObj st vars x).1 ++ [{ value := none, content := [], pointer := some (varObj st vars x).2.2 }],
      (varObj st vars x).2.1, (varObj st vars x).1.length)

def attach (root : Nat) (st1 : Store) (vars1 : List (String × Nat)) (agr : Option Nat) (leaf : Nat) :
    List String → St
  | [g] => (addField st1 root g leaf, vars1, agr)
  | [_, g] =>
    match agr with
    | some a => (addField st1 a g leaf, vars1, some a)
    | none => (addField (addField (st1 ++ [emptyNode]) root "agr" st1.length) st1.length g leaf, vars1,
        some st1.length)
  | _ => (st1, vars1, agr)

/-- one entry of the description: make the leaf object, then attach it at the path -/
def bstep (root : Nat) (acc : St) (e : List String × Leaf) : St :=
  attach root (mkLeaf acc.1 acc.2.1 e.2).1 (mkLeaf acc.1 acc.2.1 e.2).2.1 acc.2.2
    (mkLeaf acc.1 acc.2.1 e.2).2.2 e.1

theorem buildInto_eq (st0 : Store) (s : SFS) :
    buildInto st0 s = ((s.foldl (bstep st0.length) (st0 ++ [emptyNode], [], none)).1, st0.length) := by
  unfold buildInto
  refine congrArg (fun f : St → List String × Leaf → St =>
    ((s.foldl f (st0 ++ [emptyNode], [], none)).1, st0.length)) ?_
  funext acc e
  obtain ⟨st, vars, agr⟩ := acc
  -- the model computes the record below "agr" before it adds the field, `attach` in each case
  cases agr <;> rfl

section
variable {n0 : Nat} {st0 st : Store} {vars : List (String × Nat)} {agr : Option Nat} {s1 : SFS}

theorem ptr_snoc_lt {nd : Node} {i : Nat} (h : i < st.length) : ptr (st ++ [nd]) i = ptr st i :=
  congrArg Node.pointer (get_append_lt _ h)

theorem val_snoc_lt {nd : Node} {i : Nat} (h : i < st.length) : val (st ++ [nd]) i = val st i :=
  congrArg Node.value (get_append_lt _ h)

theorem cont_snoc_lt {nd : Node} {i : Nat} (h : i < st.length) : cont (st ++ [nd]) i = cont st i :=
  congrArg Node.content (get_append_lt _ h)

/-- `n` is a leaf object for the leaf description `l` -/
structure LeafOk (n0 : Nat) (st : Store) (vars : List (String × Nat)) (agr : Option Nat) (l : Leaf)
    (n : Nat) : Prop where
  lo : n0 < n
  hi : n < st.length
  na : agr ≠ some n
  atm : ∀ v, l = .atom v → val st n = some v ∧ ptr st n = none
  vr : ∀ x, l = .var x → ∃ vn, lookupC x vars = some vn ∧ ptr st n = some vn

/-- `n` is attached at path `p` -/
def At (n0 : Nat) (st : Store) (agr : Option Nat) (p : List String) (n : Nat) : Prop :=
  (∃ g, p = [g] ∧ lookupC g (cont st n0) = some n) ∨
  (∃ g a, p = ["agr", g] ∧ agr = some a ∧ lookupC g (cont st a) = some n)

theorem LeafOk_snoc {l : Leaf} {n : Nat} (nd : Node) (h : LeafOk n0 st vars agr l n) :
    LeafOk n0 (st ++ [nd]) vars agr l n := by
  refine ⟨h.lo, by rw [length_snoc]; exact Nat.lt_succ_of_lt h.hi, h.na, ?_, ?_⟩
  · rw [val_snoc_lt h.hi, ptr_snoc_lt h.hi]; exact h.atm
  · rw [ptr_snoc_lt h.hi]; exact h.vr

theorem LeafOk_var {l : Leaf} {n : Nat} (e : List (String × Nat)) (h : LeafOk n0 st vars agr l n) :
    LeafOk n0 st (vars ++ e) agr l n := by
  refine ⟨h.lo, h.hi, h.na, h.atm, ?_⟩
  intro x hx
  obtain ⟨vn, h1, h2⟩ := h.vr x hx
  exact ⟨vn, lookupC_append_some _ h1, h2⟩

theorem LeafOk_addField {l : Leaf} {n : Nat} (r : Nat) (g : String) (x : Nat)
    (h : LeafOk n0 st vars agr l n) : LeafOk n0 (addField st r g x) vars agr l n := by
  refine ⟨h.lo, by rw [length_addField]; exact h.hi, h.na, ?_, ?_⟩
  · rw [val_addField, ptr_addField]; exact h.atm
  · rw [ptr_addField]; exact h.vr

theorem At_snoc {p : List String} {n : Nat} (nd : Node) (hl : n0 < st.length)
    (ha : ∀ a, agr = some a → a < st.length) (h : At n0 st agr p n) : At n0 (st ++ [nd]) agr p n := by
  rcases h with ⟨g, hp, hg⟩ | ⟨g, a, hp, haa, hg⟩
  · left; refine ⟨g, hp, ?_⟩
    rw [cont_snoc_lt hl]; exact hg
  · right; refine ⟨g, a, hp, haa, ?_⟩
    rw [cont_snoc_lt (ha a haa)]; exact hg

theorem lookupC_cont_addField {r : Nat} {g' : String} {i m : Nat} (g : String) (x : Nat)
    (h : lookupC g' (cont st i) = some m) : lookupC g' (cont (addField st r g x) i) = some m := by
  by_cases hr : r < st.length
  · rw [cont_addField hr]
    split
    · rename_i hi; subst hi; exact lookupC_append_some _ h
    · exact h
  · have : addField st r g x = st := by
      unfold addField; exact List.set_eq_of_length_le (by omega)
    rw [this]; exact h

theorem At_addField {p : List String} {n : Nat} (r : Nat) (g : String) (x : Nat)
    (h : At n0 st agr p n) : At n0 (addField st r g x) agr p n := by
  rcases h with ⟨g', hp, hg⟩ | ⟨g', a, hp, haa, hg⟩
  · left; exact ⟨g', hp, lookupC_cont_addField g x hg⟩
  · right; exact ⟨g', a, hp, haa, lookupC_cont_addField g x hg⟩

theorem At_setAgr {p : List String} {n : Nat} (a : Nat) (h : At n0 st none p n) :
    At n0 st (some a) p n := by
  rcases h with ⟨g', hp, hg⟩ | ⟨g', a, hp, haa, hg⟩
  · left; exact ⟨g', hp, hg⟩
  · simp at haa

/-- the processed prefix `s1` in the store: every field of the two records other than "agr" is
described by `s1`, and every entry of `s1` has a leaf object at its path -/
structure PB (n0 : Nat) (st : Store) (vars : List (String × Nat)) (agr : Option Nat) (s1 : SFS) :
    Prop where
  agrF : lookupC "agr" (cont st n0) = agr
  fr : ∀ g, lookupC g (cont st n0) ≠ none → g = "agr" ∨ ∃ l, ([g], l) ∈ s1
  fa : ∀ a, agr = some a → ∀ g, lookupC g (cont st a) ≠ none → ∃ l, (["agr", g], l) ∈ s1
  vr : ∀ x vn, lookupC x vars = some vn → vn < st.length
  lf : ∀ p l, (p, l) ∈ s1 → ∃ n, LeafOk n0 st vars agr l n ∧ At n0 st agr p n

theorem PB_snoc (nd : Node) (h : PB n0 st vars agr s1) (hl : n0 < st.length)
    (ha : ∀ a, agr = some a → a < st.length) : PB n0 (st ++ [nd]) vars agr s1 := by
  constructor
  · rw [cont_snoc_lt hl]; exact h.agrF
  · rw [cont_snoc_lt hl]; exact h.fr
  · intro a haa
    rw [cont_snoc_lt (ha a haa)]; exact h.fa a haa
  · intro x vn hx
    rw [length_snoc]; exact Nat.lt_succ_of_lt (h.vr x vn hx)
  · intro p l hpl
    obtain ⟨n, h1, h2⟩ := h.lf p l hpl
    exact ⟨n, LeafOk_snoc nd h1, At_snoc nd hl ha h2⟩

theorem PB_var {x : String} {vn : Nat} (h : PB n0 st vars agr s1) (h2 : vn < st.length) :
    PB n0 st (vars ++ [(x, vn)]) agr s1 := by
  refine ⟨h.agrF, h.fr, h.fa, ?_, ?_⟩
  · intro y w hy
    rcases lookupC_snoc_some hy with hy | ⟨_, _, rfl⟩
    · exact h.vr y w hy
    · exact h2
  · intro p l hpl
    obtain ⟨n, h1, h2⟩ := h.lf p l hpl
    exact ⟨n, LeafOk_var _ h1, h2⟩

theorem lookupC_cont_addField_inv {r : Nat} {g g' : String} {x i : Nat}
    (h : lookupC g' (cont (addField st r g x) i) ≠ none) :
    lookupC g' (cont st i) ≠ none ∨ (i = r ∧ g' = g) := by
  by_cases hr : r < st.length
  · rw [cont_addField hr] at h
    by_cases hi : i = r
    · rw [if_pos hi] at h
      rcases lookupC_snoc_ne_none h with e | h
      · exact Or.inr ⟨hi, e⟩
      · exact Or.inl (hi ▸ h)
    · rw [if_neg hi] at h; exact Or.inl h
  · rw [addField, List.set_eq_of_length_le (Nat.le_of_not_lt hr)] at h; exact Or.inl h

theorem PB_addField {r : Nat} {g : String} {p : List String} {l : Leaf} {n : Nat}
    (h : PB n0 st vars agr s1) (hr : r < st.length) (hn : LeafOk n0 st vars agr l n)
    (hfr : ∀ l', (p, l') ∉ s1)
    (hrec : (r = n0 ∧ p = [g] ∧ g ≠ "agr" ∧ ∀ a, agr = some a → a ≠ n0) ∨
      (agr = some r ∧ r ≠ n0 ∧ p = ["agr", g])) :
    PB n0 (addField st r g n) vars agr (s1 ++ [(p, l)]) := by
  have hnew : (p, l) ∈ s1 ++ [(p, l)] := List.mem_append_right _ (List.mem_singleton.2 rfl)
  have hnone : lookupC g (cont st r) = none := by
    by_contra hc
    rcases hrec with ⟨rfl, rfl, hg, _⟩ | ⟨ha, _, rfl⟩
    · rcases h.fr g hc with h1 | ⟨l', h1⟩
      · exact hg h1
      · exact hfr l' h1
    · obtain ⟨l', h1⟩ := h.fa r ha g hc
      exact hfr l' h1
  have hat : At n0 (addField st r g n) agr p n := by
    have e : lookupC g (cont (addField st r g n) r) = some n := by
      rw [cont_addField hr, if_pos rfl]; exact lookupC_append_single_self n hnone
    rcases hrec with ⟨rfl, rfl, _, _⟩ | ⟨ha, _, rfl⟩
    · exact Or.inl ⟨g, rfl, e⟩
    · exact Or.inr ⟨g, r, rfl, ha, e⟩
  constructor
  · rcases hrec with ⟨rfl, _, hg, _⟩ | ⟨_, hne, _⟩
    · rw [cont_addField hr, if_pos rfl, lookupC_append_single_ne _ _ hg]; exact h.agrF
    · rw [cont_addField_ne _ _ hne.symm]; exact h.agrF
  · intro g' hg'
    rcases lookupC_cont_addField_inv hg' with hg' | ⟨hr', rfl⟩
    · rcases h.fr g' hg' with h1 | ⟨l', h1⟩
      · exact Or.inl h1
      · exact Or.inr ⟨l', List.mem_append_left _ h1⟩
    · rcases hrec with ⟨_, rfl, _, _⟩ | ⟨_, hne, _⟩
      · exact Or.inr ⟨l, hnew⟩
      · exact absurd hr'.symm hne
  · intro a ha g' hg'
    rcases lookupC_cont_addField_inv hg' with hg' | ⟨hr', rfl⟩
    · obtain ⟨l', h1⟩ := h.fa a ha g' hg'
      exact ⟨l', List.mem_append_left _ h1⟩
    · rcases hrec with ⟨hr0, _, _, hne⟩ | ⟨_, _, rfl⟩
      · exact absurd (hr'.trans hr0) (hne a ha)
      · exact ⟨l, hnew⟩
  · intro x vn hx
    rw [length_addField]; exact h.vr x vn hx
  · intro p' l' hpl
    rcases List.mem_append.1 hpl with hpl | hpl
    · obtain ⟨m, h1, h2⟩ := h.lf p' l' hpl
      exact ⟨m, LeafOk_addField _ _ _ h1, At_addField _ _ _ h2⟩
    · cases List.mem_singleton.1 hpl
      exact ⟨n, LeafOk_addField _ _ _ hn, hat⟩

theorem LeafOk_allocAgr {l : Leaf} {n : Nat} (h : LeafOk n0 st vars none l n) :
    LeafOk n0 (addField (st ++ [emptyNode]) n0 "agr" st.length) vars (some st.length) l n :=
  LeafOk_addField _ _ _ (LeafOk_snoc _
    ⟨h.lo, h.hi, fun e => Nat.ne_of_lt h.hi (Option.some.inj e).symm, h.atm, h.vr⟩)

theorem PB_allocAgr (h : PB n0 st vars none s1) (hl : n0 < st.length) :
    PB n0 (addField (st ++ [emptyNode]) n0 "agr" st.length) vars (some st.length) s1 := by
  have hl' : n0 < (st ++ [emptyNode]).length := by rw [length_snoc]; exact Nat.lt_succ_of_lt hl
  have hc : cont (st ++ [emptyNode]) n0 = cont st n0 := cont_snoc_lt hl
  constructor
  · rw [cont_addField hl', if_pos rfl, hc]; exact lookupC_append_single_self _ h.agrF
  · intro g' hg'
    rw [cont_addField hl', if_pos rfl, hc] at hg'
    rcases lookupC_snoc_ne_none hg' with rfl | hg'
    · exact Or.inl rfl
    · exact h.fr g' hg'
  · intro a haa g' hg'
    cases haa
    rw [cont_addField_ne _ _ (Nat.ne_of_lt hl).symm, cont_snoc, if_pos rfl] at hg'
    exact absurd rfl hg'
  · intro x vn hx
    rw [length_addField, length_snoc]; exact Nat.lt_succ_of_lt (h.vr x vn hx)
  · intro p l hpl
    obtain ⟨m, h1, h2⟩ := h.lf p l hpl
    exact ⟨m, LeafOk_allocAgr h1,
      At_addField _ _ _ (At_setAgr _ (At_snoc _ hl (fun _ e => nomatch e) h2))⟩

theorem LeafOk.ne_root {n0 : Nat} {st : Store} {vars : List (String × Nat)} {agr : Option Nat}
    {l : Leaf} {n : Nat} (h : LeafOk n0 st vars agr l n) : n ≠ n0 := by have := h.lo; omega

theorem not_mem_prefix {s s1 s2 : SFS} {e : List String × Leaf} (hnd : (s.map (·.1)).Nodup)
    (hs : s = s1 ++ e :: s2) (l' : Leaf) : (e.1, l') ∉ s1 := by
  intro hl'
  rw [hs, List.map_append, List.map_cons] at hnd
  exact (List.nodup_append.1 hnd).2.2 e.1 (List.mem_map.2 ⟨_, hl', rfl⟩) e.1 List.mem_cons_self rfl

end

section
variable {A : FAlg cr} {s s1 : SFS} {d0 : A.D} {st0 st : Store} {ι0 ι : Nat → A.D}
  {vars : List (String × Nat)} {agr : Option Nat}

/-- the invariant of the fold in `buildInto st0`, after the prefix `s1`, in the algebra `A`: the objects of
`st0` are untouched; `ι` interprets every object, the root by `d0`, the record below "agr" and the object of a
variable by the part of `d0` below their paths; the two records carry no pointer -/
structure BI (A : FAlg cr) (s : SFS) (d0 : A.D) (st0 : Store) (ι0 : Nat → A.D) (st : Store)
    (vars : List (String × Nat)) (agr : Option Nat) (s1 : SFS) (ι : Nat → A.D) : Prop where
  len : st0.length < st.length
  old : ∀ i, i < st0.length → get st i = get st0 i
  inv : ObjInvA A st ι
  rp : ptr st st0.length = none
  ap : ∀ a, agr = some a → st0.length < a ∧ a < st.length ∧ ptr st a = none
  pb : PB st0.length st vars agr s1
  ιold : ∀ i, i < st0.length → ι i = ι0 i
  root : ι st0.length = d0
  agr : ∀ a, agr = some a → ι a = A.child d0 "agr"
  var : ∀ x vn, lookupC x vars = some vn → ∃ p0, (p0, Leaf.var x) ∈ s ∧ ι vn = A.childs d0 p0

theorem BI.congr {ι' : Nat → A.D} (h : BI A s d0 st0 ι0 st vars agr s1 ι)
    (e : ∀ i, i < st.length → ι' i = ι i) : BI A s d0 st0 ι0 st vars agr s1 ι' :=
  ⟨h.len, h.old, h.inv.congr e, h.rp, h.ap, h.pb,
    fun i hi => (e i (Nat.lt_trans hi h.len)).trans (h.ιold i hi), (e _ h.len).trans h.root,
    fun a ha => (e a (h.ap a ha).2.1).trans (h.agr a ha),
    fun x vn hx => by rw [e vn (h.pb.vr x vn hx)]; exact h.var x vn hx⟩

theorem BI_snoc {nd : Node} (d : A.D) (h : BI A s d0 st0 ι0 st vars agr s1 ι) (hc : nd.content = [])
    (hp : ∀ j, nd.pointer = some j → j < st.length ∧ d = ι j) (hv : ∀ v, nd.value = some v → A.atom d v) :
    BI A s d0 st0 ι0 (st ++ [nd]) vars agr s1 (Function.update ι st.length d) := by
  have hl := h.len
  have hup : ∀ i, i < st.length → Function.update ι st.length d i = ι i :=
    fun i hi => Function.update_of_ne (Nat.ne_of_lt hi) ..
  have h' := h.congr hup
  refine ⟨by rw [length_snoc]; exact Nat.lt_succ_of_lt hl, fun i hi => ?_,
    ObjInvA_snoc h'.inv hc (fun j hj => ?_) (fun v hv' => ?_), by rw [ptr_snoc_lt hl]; exact h.rp,
    fun a ha => ?_, PB_snoc nd h.pb hl (fun a ha => (h.ap a ha).2.1), h'.ιold, h'.root, h'.agr, h'.var⟩
  · rw [get_append_lt _ (Nat.lt_trans hi hl)]; exact h.old i hi
  · rw [Function.update_self, hup j (hp j hj).1]; exact hp j hj
  · rw [Function.update_self]; exact hv v hv'
  · obtain ⟨h1, h2, h3⟩ := h.ap a ha
    rw [ptr_snoc_lt h2, length_snoc]; exact ⟨h1, Nat.lt_succ_of_lt h2, h3⟩

theorem BI_var {x : String} {vn : Nat} {p : List String} (h : BI A s d0 st0 ι0 st vars agr s1 ι)
    (h2 : vn < st.length) (hp : (p, Leaf.var x) ∈ s) (hv : ι vn = A.childs d0 p) :
    BI A s d0 st0 ι0 st (vars ++ [(x, vn)]) agr s1 ι := by
  refine ⟨h.len, h.old, h.inv, h.rp, h.ap, PB_var h.pb h2, h.ιold, h.root, h.agr, ?_⟩
  intro y w hy
  rcases lookupC_snoc_some hy with hy | ⟨_, rfl, rfl⟩
  · exact h.var y w hy
  · exact ⟨p, hp, hv⟩

theorem BI_varObj {p : List String} {x : String} (h : BI A s d0 st0 ι0 st vars agr s1 ι)
    (hpl : (p, Leaf.var x) ∈ s) (hs : Sol A s d0) :
    ∃ ι', BI A s d0 st0 ι0 (varObj st vars x).1 (varObj st vars x).2.1 agr s1 ι' ∧
      lookupC x (varObj st vars x).2.1 = some (varObj st vars x).2.2 ∧
      ι' (varObj st vars x).2.2 = A.childs d0 p := by
  unfold varObj
  cases hx : lookupC x vars with
  | some vn =>
    obtain ⟨p0, hp0, hι⟩ := h.var x vn hx
    exact ⟨ι, h, hx, hι.trans (hs.var p0 p x hp0 hpl)⟩
  | none =>
    exact ⟨_, BI_var (BI_snoc (A.childs d0 p) h rfl nofun nofun) (by simp) hpl (Function.update_self ..),
      lookupC_append_single_self _ hx, Function.update_self ..⟩

theorem LeafOk_new (h : BI A s d0 st0 ι0 st vars agr s1 ι) {nd : Node} {l : Leaf}
    (hatm : ∀ v, l = .atom v → nd.value = some v ∧ nd.pointer = none)
    (hvr : ∀ x, l = .var x → ∃ vn, lookupC x vars = some vn ∧ nd.pointer = some vn) :
    LeafOk st0.length (st ++ [nd]) vars agr l st.length := by
  refine ⟨h.len, by rw [length_snoc]; exact Nat.lt_succ_self _,
    fun ha => Nat.lt_irrefl _ (h.ap _ ha).2.1, ?_, ?_⟩
  · rw [val_snoc, ptr_snoc, if_pos rfl, if_pos rfl]; exact hatm
  · rw [ptr_snoc, if_pos rfl]; exact hvr

theorem mkLeaf_BI {p : List String} {l : Leaf} (h : BI A s d0 st0 ι0 st vars agr s1 ι) (hpl : (p, l) ∈ s)
    (hs : Sol A s d0) :
    ∃ ι', BI A s d0 st0 ι0 (mkLeaf st vars l).1 (mkLeaf st vars l).2.1 agr s1 ι' ∧
      LeafOk st0.length (mkLeaf st vars l).1 (mkLeaf st vars l).2.1 agr l (mkLeaf st vars l).2.2 ∧
      ι' (mkLeaf st vars l).2.2 = A.childs d0 p := by
  cases l with
  | atom v =>
    exact ⟨_, BI_snoc (A.childs d0 p) h rfl nofun (fun v' e => by cases e; exact hs.atom p _ hpl),
      LeafOk_new h (fun v' e => by cases e; exact ⟨rfl, rfl⟩) (fun x e => nomatch e),
      Function.update_self ..⟩
  | free =>
    exact ⟨_, BI_snoc (A.childs d0 p) h rfl nofun nofun,
      LeafOk_new h (fun v e => nomatch e) (fun x e => nomatch e), Function.update_self ..⟩
  | var x =>
    obtain ⟨ι1, h1, hx, e1⟩ := BI_varObj h hpl hs
    refine ⟨_, BI_snoc (A.childs d0 p) h1 rfl ?_ nofun,
      LeafOk_new h1 (fun v e => nomatch e) (fun x' e => by cases e; exact ⟨_, hx, rfl⟩),
      Function.update_self ..⟩
    intro j hj; cases hj
    exact ⟨h1.pb.vr x _ hx, e1.symm⟩

theorem BI_allocAgr (h : BI A s d0 st0 ι0 st vars none s1 ι) (hs : Sol A s d0) :
    BI A s d0 st0 ι0 (addField (st ++ [emptyNode]) st0.length "agr" st.length) vars (some st.length) s1
      (Function.update ι st.length (A.child d0 "agr")) := by
  have hl := h.len
  have h1 := BI_snoc (A.child d0 "agr") h (nd := emptyNode) rfl nofun nofun
  refine ⟨by rw [length_addField]; exact h1.len, fun i hi => ?_,
    ObjInvA_addField h1.inv h1.rp (by simp) (by rw [Function.update_self, h1.root])
      (by rw [h1.root, hs.rk]; exact Nat.zero_lt_two),
    by rw [ptr_addField]; exact h1.rp, ?_, PB_allocAgr h.pb hl, h1.ιold, h1.root, ?_, h1.var⟩
  · rw [get_addField_lt _ _ hi]; exact h1.old i hi
  · rintro a ⟨⟩
    rw [ptr_addField, length_addField, ptr_snoc, if_pos rfl]
    exact ⟨hl, by simp, rfl⟩
  · rintro a ⟨⟩; exact Function.update_self ..

theorem BI_attach {r : Nat} {g : String} {p : List String} {l : Leaf} {n : Nat}
    (h : BI A s d0 st0 ι0 st vars agr s1 ι) (hs : Sol A s d0) (hn : LeafOk st0.length st vars agr l n)
    (hι : ι n = A.childs d0 p) (hfr : ∀ l', (p, l') ∉ s1)
    (hrec : (r = st0.length ∧ p = [g] ∧ g ≠ "agr") ∨ (agr = some r ∧ p = ["agr", g])) :
    BI A s d0 st0 ι0 (addField st r g n) vars agr (s1 ++ [(p, l)]) ι := by
  have hr : st0.length ≤ r ∧ r < st.length ∧ ptr st r = none ∧ ι n = A.child (ι r) g ∧
      0 < A.rank (ι r) := by
    rcases hrec with ⟨rfl, rfl, _⟩ | ⟨ha, rfl⟩
    · rw [h.root, hs.rk]
      exact ⟨Nat.le_refl _, h.len, h.rp, hι, Nat.zero_lt_two⟩
    · obtain ⟨h1, h2, h3⟩ := h.ap r ha
      rw [h.agr r ha, A.rank_child, hs.rk, cr_agr]
      exact ⟨Nat.le_of_lt h1, h2, h3, hι, Nat.one_pos⟩
  obtain ⟨h0, h1, h2, h3, h4⟩ := hr
  refine ⟨by rw [length_addField]; exact h.len, fun i hi => ?_, ObjInvA_addField h.inv h2 hn.hi h3 h4,
    by rw [ptr_addField]; exact h.rp, fun a ha => by rw [ptr_addField, length_addField]; exact h.ap a ha,
    PB_addField h.pb h1 hn hfr ?_, h.ιold, h.root, h.agr, h.var⟩
  · rw [get_addField_lt _ _ (Nat.lt_of_lt_of_le hi h0)]; exact h.old i hi
  · rcases hrec with ⟨e, hp, hg⟩ | ⟨ha, hp⟩
    · exact Or.inl ⟨e, hp, hg, fun a ha => (Nat.ne_of_lt (h.ap a ha).1).symm⟩
    · exact Or.inr ⟨ha, (Nat.ne_of_lt (h.ap r ha).1).symm, hp⟩

theorem attach_BI {p : List String} {l : Leaf} {n : Nat} (h : BI A s d0 st0 ι0 st vars agr s1 ι)
    (hs : Sol A s d0) (hn : LeafOk st0.length st vars agr l n) (hι : ι n = A.childs d0 p)
    (hp : TwoLevel p) (hfr : ∀ l', (p, l') ∉ s1) :
    ∃ ι', BI A s d0 st0 ι0 (attach st0.length st vars agr n p).1 (attach st0.length st vars agr n p).2.1
      (attach st0.length st vars agr n p).2.2 (s1 ++ [(p, l)]) ι' := by
  rcases hp with ⟨g, rfl, hg⟩ | ⟨g, rfl⟩
  · exact ⟨ι, BI_attach h hs hn hι hfr (Or.inl ⟨rfl, rfl, hg⟩)⟩
  · cases agr with
    | some a => exact ⟨ι, BI_attach h hs hn hι hfr (Or.inr ⟨rfl, rfl⟩)⟩
    | none =>
      exact ⟨_, BI_attach (BI_allocAgr h hs) hs (LeafOk_allocAgr hn)
        ((Function.update_of_ne (Nat.ne_of_lt hn.hi) ..).trans hι) hfr (Or.inr ⟨rfl, rfl⟩)⟩

theorem bstep_BI {acc : St} {e : List String × Leaf}
    (h : BI A s d0 st0 ι0 acc.1 acc.2.1 acc.2.2 s1 ι) (hs : Sol A s d0) (he : e ∈ s)
    (hp : TwoLevel e.1) (hfr : ∀ l', (e.1, l') ∉ s1) :
    ∃ ι', BI A s d0 st0 ι0 (bstep st0.length acc e).1 (bstep st0.length acc e).2.1
      (bstep st0.length acc e).2.2 (s1 ++ [e]) ι' := by
  obtain ⟨ι1, h1, h2, h3⟩ := mkLeaf_BI (p := e.1) (l := e.2) h he hs
  exact attach_BI h1 hs h2 h3 hp hfr

theorem init_BI (h0 : ObjInvA A st0 ι0) (s : SFS) (d0 : A.D) :
    BI A s d0 st0 ι0 (st0 ++ [emptyNode]) [] none [] (Function.update ι0 st0.length d0) := by
  have hroot : get (st0 ++ [emptyNode]) st0.length = emptyNode := get_append_len ..
  have hup : ∀ i, i < st0.length → Function.update ι0 st0.length d0 i = ι0 i :=
    fun i hi => Function.update_of_ne (Nat.ne_of_lt hi) ..
  refine ⟨by rw [length_snoc]; exact Nat.lt_succ_self _, fun i _ => get_snoc_empty st0 i,
    ObjInvA_snoc (h0.congr hup) rfl nofun nofun, congrArg Node.pointer hroot, nofun,
    ⟨congrArg (fun nd => lookupC "agr" nd.content) hroot, fun g hg => ?_, nofun, nofun, nofun⟩,
    hup, Function.update_self .., nofun, nofun⟩
  rw [cont, hroot] at hg; exact absurd rfl hg

end

section final
variable {A : FAlg cr} {s s1 : SFS} {d0 : A.D} {st0 st : Store} {ι0 ι : Nat → A.D}
  {vars : List (String × Nat)} {agr : Option Nat}

theorem BI.byPath_of_At (h : BI A s d0 st0 ι0 st vars agr s1 ι) {p : List String} {n : Nat}
    (hat : At st0.length st agr p n) : byPath st st0.length p = some n := by
  have hroot : deref st st0.length = st0.length := deref_of_none h.rp
  rcases hat with ⟨g, rfl, hg⟩ | ⟨g, a, rfl, ha, hg⟩
  · rw [byPath_cons_of _ (by rw [hroot]; exact hg)]; rfl
  · have hda : deref st a = a := deref_of_none (h.ap a ha).2.2
    rw [byPath_cons_of _ (by rw [hroot, h.pb.agrF]; exact ha),
      byPath_cons_of _ (by rw [hda]; exact hg)]; rfl

theorem BI.built (h : BI A s d0 st0 ι0 st vars agr s1 ι) (hs : Sol A s d0)
    (hsh : ∀ e ∈ s1, TwoLevel e.1) : Built st (A.rk ι) st0.length s1 := by
  constructor
  · intro p l hpl
    obtain ⟨n, hn, hat⟩ := h.pb.lf p l hpl
    refine ⟨n, h.byPath_of_At hat, hn.hi, ?_, fun v hv => ?_⟩
    · -- a field of a record is interpreted by the child of its interpretation
      have e : ι n = A.childs d0 p := by
        rcases hat with ⟨g, rfl, hg⟩ | ⟨g, a, rfl, ha, hg⟩
        · rw [((h.inv _ h.len).c g n (lookupC_mem hg)).2.1, h.root]; rfl
        · rw [((h.inv a (h.ap a ha).2.1).c g n (lookupC_mem hg)).2.1, h.agr a ha]; rfl
      exact (congrArg A.rank e).trans (rank_childs hs.rk (hsh _ hpl))
    · obtain ⟨h1, h2⟩ := hn.atm v hv
      rw [deref_of_none h2]; exact h1
  · intro p p' x n n' hp hp' hb hb'
    obtain ⟨m, hm, hat⟩ := h.pb.lf _ _ hp
    obtain ⟨m', hm', hat'⟩ := h.pb.lf _ _ hp'
    cases (h.byPath_of_At hat).symm.trans hb
    cases (h.byPath_of_At hat').symm.trans hb'
    -- both leaves point to the object registered for `x`
    obtain ⟨vn, hv1, hv2⟩ := hm.vr x rfl
    obtain ⟨vn', hv1', hv2'⟩ := hm'.vr x rfl
    cases hv1.symm.trans hv1'
    have hacyc := h.inv.amodel.acyc
    rw [deref_step hacyc hv2, deref_step hacyc hv2']

end final

end Build

/-- what `buildInto st0 s` produces, in the algebra `A`: store `st`, root `st0.length` interpreted by `d0` -/
structure BuildSpec (A : FAlg cr) (st0 : Store) (ι0 : Nat → A.D) (s : SFS) (d0 : A.D) (st : Store)
    (ι : Nat → A.D) : Prop where
  len : st0.length < st.length
  old : ∀ i, i < st0.length → get st i = get st0 i
  ιold : ∀ i, i < st0.length → ι i = ι0 i
  root : ι st0.length = d0
  inv : ObjInvA A st ι
  built : Built st (A.rk ι) st0.length s

/-- `buildInto` lays a description out below a new root, in any ranked feature algebra in which it has a
solution: at the ranks every two-level description has one (`sol_rank`), at ranks paired with path functions
the solutions are the satisfying assignments (`model_hyps`) -/
theorem buildInto_spec (st0 : Store) (s : SFS) (hsh : ∀ e ∈ s, TwoLevel e.1)
    (hnd : (s.map (·.1)).Nodup) :
    ∃ st, buildInto st0 s = (st, st0.length) ∧ ∀ (A : FAlg cr) (ι0 : Nat → A.D) (d0 : A.D),
      ObjInvA A st0 ι0 → Sol A s d0 → ∃ ι, BuildSpec A st0 ι0 s d0 st ι := by
  have h := foldl_inv_prefix
    (fun acc s1 => ∀ (A : FAlg cr) (ι0 : Nat → A.D) (d0 : A.D), ObjInvA A st0 ι0 → Sol A s d0 →
      ∃ ι, Build.BI A s d0 st0 ι0 acc.1 acc.2.1 acc.2.2 s1 ι) (Build.bstep st0.length) s
    (fun acc s1 e s2 hs' h A ι0 d0 h0 hs => by
      have he : e ∈ s := by rw [hs']; exact List.mem_append_right _ List.mem_cons_self
      obtain ⟨ι, h⟩ := h A ι0 d0 h0 hs
      exact Build.bstep_BI h hs he (hsh e he) (Build.not_mem_prefix hnd hs'))
    (st0 ++ [emptyNode], [], none) (fun A ι0 d0 h0 _ => ⟨_, Build.init_BI h0 s d0⟩)
  rw [Build.buildInto_eq]
  refine ⟨_, rfl, fun A ι0 d0 h0 hs => ?_⟩
  obtain ⟨ι, h⟩ := h A ι0 d0 h0 hs
  exact ⟨ι, h.len, h.old, h.ιold, h.root, h.inv, h.built hs hsh⟩

/-- what the proofs use of a typed description: every described path is one of `paths`, at most
once, and `paths` has the two-level shape (that `paths` is duplicate-free is not needed) -/
structure Desc (paths : List (List String)) (s : SFS) : Prop where
  sub : ∀ e ∈ s, e.1 ∈ paths
  nodup : (s.map (·.1)).Nodup
  shape : ∀ p ∈ paths, TwoLevel p

def valFn (asg : Asg) (p : List String) : String := (valOf asg p).getD ""

theorem TwoLevel.not_append {p q : List String} (hp : TwoLevel p) (hq : q ≠ []) :
    ¬ TwoLevel (p ++ q) := by
  obtain ⟨g0, q0, rfl⟩ : ∃ g0 q0, q = g0 :: q0 := by
    cases q with
    | nil => exact absurd rfl hq
    | cons g0 q0 => exact ⟨g0, q0, rfl⟩
  rcases hp with ⟨g, rfl, hg⟩ | ⟨g, rfl⟩
  · rintro (⟨g', h', _⟩ | ⟨g', h'⟩)
    · simp at h'
    · simp only [List.cons_append, List.nil_append, List.cons.injEq] at h'
      exact hg h'.1
  · rintro (⟨g', h', _⟩ | ⟨g', h'⟩)
    · simp at h'
    · simp at h'

theorem TwoLevel.ne_nil {p : List String} (hp : TwoLevel p) : ∃ g p', p = g :: p' := by
  rcases hp with ⟨g, rfl, _⟩ | ⟨g, rfl⟩
  · exact ⟨g, [], rfl⟩
  · exact ⟨"agr", [g], rfl⟩

theorem model_hyps {paths : List (List String)} {vals : List String} {s : SFS} (hd : Desc paths s)
    {asg : Asg} (hasg : asg ∈ allAsg vals paths) (hsat : sat s asg = true) :
    Sol (pathAlg cr) s ((2, valFn asg) : Nat × (List String → String)) := by
  obtain ⟨h1, h2⟩ := (sat_iff s asg).1 hsat
  have hr := fun p l (hp : (p, l) ∈ s) =>
    rank_childs (A := pathAlg cr) (d0 := (2, valFn asg)) rfl (hd.shape _ (hd.sub _ hp))
  refine ⟨rfl, fun p v hp => ⟨hr p _ hp, ?_⟩, fun p p' x hp hp' =>
    Prod.ext ((hr p _ hp).trans (hr p' _ hp').symm) ?_⟩
  · refine (congrFun (childs_path (ch := cr) (2, valFn asg) p) []).trans ?_
    simp [valFn, h1 p v hp]
  · refine (childs_path (ch := cr) (2, valFn asg) p).trans
      (.trans (funext fun q => ?_) (childs_path (ch := cr) (2, valFn asg) p').symm)
    by_cases hq : q = []
    · subst hq; simp [valFn, h2 p p' x hp hp']
    · -- no path of `paths` lies below another: both sides are the default value
      have hno : ∀ p0 l, (p0, l) ∈ s → valOf asg (p0 ++ q) = none := fun p0 l h0 =>
        Decidable.of_not_not fun hne => (hd.shape _ (hd.sub _ h0)).not_append hq
          (hd.shape _ ((valOf_allAsg vals paths asg hasg _).1 hne))
      simp [valFn, hno p _ hp, hno p' _ hp']

/-- everything known about the store in which both operands have been built -/
structure Setup (paths : List (List String)) (a b : SFS) (st2 : Store) (rb : Nat) (rk2 : Nat → Nat) :
    Prop where
  wf : WF cr st2 rk2
  ra_lt : 0 < st2.length
  rb_lt : rb < st2.length
  rk_ra : rk2 0 = 2
  rk_rb : rk2 rb = 2
  builtA : Built st2 rk2 0 a
  builtB : Built st2 rk2 rb b
  model : ∀ (vals : List String) (asg : Asg), asg ∈ allAsg vals paths → sat a asg = true →
    sat b asg = true → ∃ ρ : Interp, Model st2 ρ ∧ ρ 0 = valFn asg ∧ ρ rb = valFn asg

theorem setup {paths : List (List String)} {a b : SFS} (ha : Desc paths a) (hb : Desc paths b) :
    ∃ st2 rb rk2, (∀ fuel, unifySFS a b fuel = (unify fuel st2 0 rb, 0)) ∧
      Setup paths a b st2 rb rk2 := by
  have hsa := fun e he => ha.shape _ (ha.sub e he)
  have hsb := fun e he => hb.shape _ (hb.sub e he)
  obtain ⟨st1, hb1, S1⟩ := buildInto_spec [] a hsa ha.nodup
  obtain ⟨st2, hb2, S2⟩ := buildInto_spec st1 b hsb hb.nodup
  -- both builds at the ranks
  obtain ⟨rk1, s1⟩ := S1 (rankAlg cr) (fun _ => (0 : Nat)) _ (ObjInvA_nil _) (sol_rank hsa)
  obtain ⟨rk2, s2⟩ := S2 (rankAlg cr) rk1 _ s1.inv (sol_rank hsb)
  have hlen1 : 0 < st1.length := s1.len
  have hlen2 : st1.length < st2.length := s2.len
  refine ⟨st2, st1.length, rk2, fun fuel => by simp only [unifySFS, hb1, hb2]; rfl,
    s2.inv.wf, Nat.lt_trans hlen1 hlen2, hlen2, (s2.ιold 0 hlen1).trans s1.root, s2.root,
    s1.built.frame s1.inv.amodel.acyc s1.inv.rng hlen1 (Nat.le_of_lt hlen2) s2.old s2.ιold,
    s2.built, ?_⟩
  -- and, for a common satisfying assignment, at the ranks paired with path functions
  intro vals asg hasg hsata hsatb
  obtain ⟨ι1, t1⟩ := S1 (pathAlg cr) (fun _ => (0, fun _ => "")) _ (ObjInvA_nil _)
    (model_hyps ha hasg hsata)
  obtain ⟨ι2, t2⟩ := S2 (pathAlg cr) ι1 _ t1.inv (model_hyps hb hasg hsatb)
  exact ⟨fun i => (ι2 i).2, t2.inv.model, congrArg Prod.snd ((t2.ιold 0 hlen1).trans t1.root),
    congrArg Prod.snd t2.root⟩

theorem Setup.post {paths : List (List String)} {a b : SFS} {st2 : Store} {rb : Nat} {rk2 : Nat → Nat}
    (S : Setup paths a b st2 rb rk2) (fuel : Nat) :
    PostS st2 0 rb (unify fuel st2 0 rb) ∧
    (∀ st', unify fuel st2 0 rb = .ok st' → ∃ rk', WF cr st' rk' ∧ Ext st2 rk2 st' rk' 2 ∧
      deref st' 0 = deref st' rb) ∧
    (unify fuel st2 0 rb = .fuel → fuel ≤ 2) :=
  unify_wf cr_lt S.wf S.ra_lt S.rb_lt S.rk_ra S.rk_rb fuel

theorem sat_of_rsat {paths : List (List String)} {s : SFS} (hd : Desc paths s) {st2 st : Store}
    {rk2 rk' : Nat → Nat} {k : Nat} (hw2 : WF cr st2 rk2)
    (he : Ext st2 rk2 st rk' k) (hw : WF cr st rk') {r0 : Nat}
    (hr0 : r0 < st2.length) (hroot : deref st r0 = deref st 0) (hs : Built st2 rk2 r0 s)
    {asg : Asg} (hrs : RSat st 0 paths asg) : sat s asg = true := by
  -- every described path exists in the result, from the root `0`, in the class of its leaf
  have key : ∀ p l, (p, l) ∈ s → ∃ n m, byPath st2 r0 p = some n ∧ n < st2.length ∧
      byPath st 0 p = some m ∧ deref st m = deref st n ∧ cont st (deref st m) = [] ∧
      ∀ v, l = Leaf.atom v → val st (deref st m) = some v := by
    intro p l hpl
    obtain ⟨n, hn, hnlt, hrk, hv⟩ := hs.paths p l hpl
    obtain ⟨m, hm, hdm⟩ := path_pres he hw2.rng hw2.inv.acyc hw.cc p hr0 hn
    obtain ⟨g, p', rfl⟩ := (hd.shape _ (hd.sub _ hpl)).ne_nil
    rw [byPath_congr hroot] at hm
    refine ⟨n, m, hn, hnlt, hm, hdm, ?_, ?_⟩
    · apply cont_nil_of_rk_zero hw.inv
      rw [hdm, rk_deref hw.inv, he.rkold n hnlt, hrk]
    · intro v hl
      rw [hdm]
      exact he.e2 n v hnlt (hv v hl)
  rw [sat_iff]
  constructor
  · intro p v hp
    obtain ⟨n, m, _, _, hm, _, hc, hv⟩ := key p _ hp
    exact hrs.1 p (hd.sub _ hp) m hm hc v (hv v rfl)
  · intro p p' x hp hp'
    obtain ⟨n, m, hn, hnlt, hm, hdm, hc, _⟩ := key p _ hp
    obtain ⟨n', m', hn', hnlt', hm', hdm', hc', _⟩ := key p' _ hp'
    have hnn := he.e1 n n' hnlt hnlt' (hs.sameVar p p' x n n' hp hp' hn hn')
    have hmm : deref st m = deref st m' := by rw [hdm, hdm', hnn]
    cases hval : val st (deref st m) with
    | none => exact hrs.2 p (hd.sub _ hp) p' (hd.sub _ hp') m m' hm hm' hc hval hmm
    | some v =>
      rw [hrs.1 p (hd.sub _ hp) m hm hc v hval,
        hrs.1 p' (hd.sub _ hp') m' hm' hc' v (by rw [← hmm]; exact hval)]

theorem rsat_of_model {paths : List (List String)} {vals : List String} {asg : Asg}
    (hasg : asg ∈ allAsg vals paths) {st : Store} {ρ : Interp} (hm : Model st ρ)
    (hroot : ρ 0 = valFn asg) : RSat st 0 paths asg := by
  have hval : ∀ p ∈ paths, ∀ n, byPath st 0 p = some n →
      valOf asg p = some (ρ (deref st n) []) := by
    intro p hp n hn
    obtain ⟨w, hw⟩ := Option.ne_none_iff_exists'.1 ((valOf_allAsg vals paths asg hasg p).2 hp)
    have := model_byPath hm p 0 n hn []
    rw [List.append_nil, hroot] at this
    rw [model_deref hm, ← this, hw]
    simp [valFn, hw]
  constructor
  · intro p hp n hn _ v hv
    rw [hval p hp n hn, hm.v _ v hv]
  · intro p hp p' hp' n n' hn hn' _ _ hd
    rw [hval p hp n hn, hval p' hp' n' hn', hd]

theorem unifySFS_fuel {paths : List (List String)} {a b : SFS} (ha : Desc paths a)
    (hb : Desc paths b) (fuel : Nat) (hf : 3 ≤ fuel) (r : Nat) : unifySFS a b fuel ≠ (.fuel, r) := by
  obtain ⟨st2, rb, rk2, heq, S⟩ := setup ha hb
  rw [heq]
  intro h
  have := (S.post fuel).2.2 (Prod.mk.inj h).1
  omega

theorem unifySFS_ok_desc {paths : List (List String)} {vals : List String} {a b : SFS}
    (ha : Desc paths a) (hb : Desc paths b) {fuel : Nat} {st : Store} {r : Nat}
    (h : unifySFS a b fuel = (.ok st, r)) {asg : Asg} (hasg : asg ∈ allAsg vals paths) :
    sat (read st r paths) asg = true ↔ (sat a asg = true ∧ sat b asg = true) := by
  obtain ⟨st2, rb, rk2, heq, S⟩ := setup ha hb
  rw [heq] at h
  simp only [Prod.mk.injEq] at h
  obtain ⟨hres, rfl⟩ := h
  obtain ⟨hS, hU, _⟩ := S.post fuel
  obtain ⟨rk', hw, he, hab⟩ := hU st hres
  obtain ⟨_, _, hρ⟩ := hS.1 st hres
  rw [read_sat]
  constructor
  · intro hrs
    exact ⟨sat_of_rsat ha S.wf he hw S.ra_lt rfl S.builtA hrs,
      sat_of_rsat hb S.wf he hw S.rb_lt hab.symm S.builtB hrs⟩
  · intro ⟨hsa, hsb⟩
    obtain ⟨ρ, hm, h0, hrb⟩ := S.model vals asg hasg hsa hsb
    obtain ⟨ρ', hag, hm'⟩ := hρ ρ hm (h0.trans hrb.symm)
    exact rsat_of_model hasg hm' (by rw [hag 0 S.ra_lt, h0])

theorem unifySFS_conflict_desc {paths : List (List String)} {vals : List String} {a b : SFS}
    (ha : Desc paths a) (hb : Desc paths b) {fuel : Nat} {r : Nat}
    (h : unifySFS a b fuel = (.conflict, r)) {asg : Asg} (hasg : asg ∈ allAsg vals paths) :
    ¬ (sat a asg = true ∧ sat b asg = true) := by
  obtain ⟨st2, rb, rk2, heq, S⟩ := setup ha hb
  rw [heq] at h
  intro ⟨hsa, hsb⟩
  obtain ⟨ρ, hm, h0, hrb⟩ := S.model vals asg hasg hsa hsb
  exact (S.post fuel).1.2 (Prod.mk.inj h).1 ρ hm (h0.trans hrb.symm)

end Lem
end FsDag
end Pfl