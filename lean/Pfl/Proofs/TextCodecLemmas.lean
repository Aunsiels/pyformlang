/-
Helper lemmas for the text round trip `fromText (toText up prods) = some prods` (C20), with the facts about
`strip`, blank-joined words and a written line `head -> body` that the reader of EBNF texts uses as well.
-/
import Pfl.Model.TextCodec
import Pfl.Props.C20_Codec
import Pfl.Proofs.LabelSplit
namespace Pfl.TextCodec.Lem
open Pfl Pfl.TextCodec Pfl.Codec Pfl.Codec.Lem Pfl.LabelCodec.Lem

theorem isLineBreak_isSpace (c : Char) (h : isLineBreak c = true) : isSpace c = true := by
  unfold isLineBreak at h
  unfold isSpace
  generalize c.toNat = n at h ⊢
  simp only [Bool.or_eq_true, decide_eq_true_eq] at h
  -- one case per line boundary: the code point is known, the test is evaluated
  rcases h with (((((((((rfl | rfl) | rfl) | rfl) | rfl) | rfl) | rfl) | rfl) | rfl) | rfl) <;> decide

theorem not_lineBreak_of_not_space (c : Char) (h : isSpace c = false) : isLineBreak c = false := by
  cases hb : isLineBreak c with
  | false => rfl
  | true => rw [isLineBreak_isSpace c hb] at h; exact absurd h (by decide)

def Tok (t : List Char) : Prop :=
  t ≠ [] ∧ (∀ c ∈ t, isSpace c = false ∧ c ≠ '|') ∧ ¬ ['-', '>'] <:+: t

theorem noArrow_nil : ¬ ['-', '>'] <:+: ([] : List Char) := by
  intro h; have := h.length_le; simp at this

theorem noArrow_append {a b : List Char} (ha : ¬ ['-', '>'] <:+: a) (hb : ¬ ['-', '>'] <:+: b)
    (hj : a.getLast? ≠ some '-' ∨ b.head? ≠ some '>') : ¬ ['-', '>'] <:+: a ++ b := by
  intro hi
  rcases infix_append_cases hi with h | ⟨h1, h2⟩ | h
  · exact ha h
  · rcases hj with hj | hj
    · exact hj h1
    · exact hj h2
  · exact hb h

theorem noArrow_cons {c : Char} {t : List Char} (hc : c ≠ '-') (ht : ¬ ['-', '>'] <:+: t) :
    ¬ ['-', '>'] <:+: c :: t := by
  intro hi
  rw [List.infix_cons_iff] at hi
  rcases hi with hi | hi
  · rw [List.cons_prefix_cons] at hi
    exact hc hi.1.symm
  · exact ht hi

theorem noArrow_snoc {c : Char} {t : List Char} (hc : c ≠ '>') (ht : ¬ ['-', '>'] <:+: t) :
    ¬ ['-', '>'] <:+: t ++ [c] := by
  apply noArrow_append ht
  · intro h; have := h.length_le; simp at this
  · right; simpa using fun h => hc h

theorem noArrow_of_no_dash (x : List Char) (h : ∀ c ∈ x, c ≠ '-') : ¬ ['-', '>'] <:+: x :=
  fun hi => h '-' (hi.subset (by simp)) rfl

theorem tok_quoted (p v : List Char) (hp : ∀ x ∈ p, isSpace x = false ∧ x ≠ '|' ∧ x ≠ '-') (hv : Tok v) :
    Tok (p ++ v ++ ['"']) := by
  obtain ⟨hne, hcl, hna⟩ := hv
  refine ⟨by simp, ?_, ?_⟩
  · intro x hx
    rcases List.mem_append.1 hx with hx | hx
    · rcases List.mem_append.1 hx with hx | hx
      · exact ⟨(hp x hx).1, (hp x hx).2.1⟩
      · exact hcl x hx
    · rw [List.mem_singleton.1 hx]; decide
  · rw [List.append_assoc]
    exact noArrow_append (noArrow_of_no_dash p fun c hc => (hp c hc).2.2) (noArrow_snoc (by decide) hna)
      (Or.inl fun h => (hp _ (List.mem_of_getLast? h)).2.2 rfl)

theorem tok_var (v : List Char) (hv : Tok v) : Tok (varToText v) := by
  cases v with
  | nil => exact absurd rfl hv.1
  | cons c rest =>
    simp only [varToText]
    split
    · exact hv
    · exact tok_quoted "\"VAR:".toList _ (by decide) hv

theorem tok_ter (up : Char → Bool) (t : List Char) (ht : Tok t) : Tok (terText up t) := by
  cases t with
  | nil => exact absurd rfl ht.1
  | cons c rest =>
    simp only [terText]
    split
    · exact tok_quoted "\"TER:".toList _ (by decide) ht
    · exact ht

theorem strip_of_ends (s : List Char) (h1 : ∀ c, s.head? = some c → isSpace c = false)
    (h2 : ∀ c, s.getLast? = some c → isSpace c = false) : strip s = s := by
  cases s with
  | nil => rfl
  | cons d m =>
    have hd := h1 d rfl
    rcases List.eq_nil_or_concat m with rfl | ⟨m', c, rfl⟩
    · simp [strip, hd]
    · have hc := h2 c (by rw [List.concat_eq_append, ← List.cons_append]; exact List.getLast?_concat)
      simp [strip, hd, hc]

theorem strip_tok (t : List Char) (h : ∀ c ∈ t, isSpace c = false) : strip t = t :=
  strip_of_ends t (fun c hc => h c (List.mem_of_mem_head? hc)) (fun c hc => h c (List.mem_of_getLast? hc))

theorem strip_cons_space (c : Char) (hc : isSpace c = true) (s : List Char) : strip (c :: s) = strip s := by
  simp [strip, hc]

theorem strip_snoc_space (s : List Char) (c : Char) (hc : isSpace c = true) : strip (s ++ [c]) = strip s := by
  unfold strip
  rw [List.dropWhile_append]
  split
  · rename_i he
    simp [hc, List.isEmpty_iff.mp he]
  · simp [hc]

theorem getLast?_strip (s : List Char) (c : Char) (h : (strip s).getLast? = some c) : isSpace c = false := by
  unfold strip at h
  rw [List.getLast?_reverse] at h
  have := List.head?_dropWhile_not isSpace (s.dropWhile isSpace).reverse
  rw [h] at this
  simpa using this

theorem strip_between (a m b : List Char) (ha : a ≠ []) (hsp : ∀ c ∈ a, isSpace c = false) (hb : b ≠ [])
    (hbs : strip b = b) : strip (a ++ m ++ b) = a ++ m ++ b := by
  obtain ⟨d, a', rfl⟩ := List.exists_cons_of_ne_nil ha
  apply strip_of_ends
  · intro c hc
    rw [List.cons_append, List.cons_append, List.head?_cons] at hc
    exact Option.some.inj hc ▸ hsp d List.mem_cons_self
  · intro c hc
    rw [List.getLast?_append, List.getLast?_eq_some_getLast hb, Option.some_or] at hc
    exact getLast?_strip b c (by rw [hbs, List.getLast?_eq_some_getLast hb]; exact hc)

theorem strip_head_blank (h : List Char) (hh : ∀ c ∈ h, isSpace c = false) : strip (h ++ [' ']) = h :=
  (strip_snoc_space h ' ' (by decide)).trans (strip_tok h hh)

/-- what `split("->")` leaves after the arrow of a written line `h -> t`, once the line is stripped: the blank
and the body, or nothing when the body is empty (the blank was then the last character of the line) -/
def afterArrow (t : List Char) : List Char := if t.isEmpty then [] else ' ' :: t

theorem strip_afterArrow {t : List Char} (ht : strip t = t) : strip (afterArrow t) = t := by
  cases t with
  | nil => rfl
  | cons x t' => exact (strip_cons_space ' ' (by decide) _).trans ht

theorem splitWs_afterArrow (t : List Char) : splitWs (afterArrow t) = splitWs t := by
  cases t <;> rfl

theorem mem_afterArrow {t : List Char} {c : Char} (h : c ∈ afterArrow t) : c = ' ' ∨ c ∈ t := by
  unfold afterArrow at h
  split at h
  · cases h
  · exact List.mem_cons.mp h

theorem joinWith_cons_cons (sep x y : List Char) (rest : List (List Char)) :
    joinWith sep (x :: y :: rest) = x ++ sep ++ joinWith sep (y :: rest) := rfl

theorem joinWith_append (sep : List Char) : ∀ (xs ys : List (List Char)), xs ≠ [] → ys ≠ [] →
    joinWith sep (xs ++ ys) = joinWith sep xs ++ sep ++ joinWith sep ys
  | [], _, h, _ => absurd rfl h
  | [x], y :: ys, _, _ => rfl
  | x :: x' :: xs, ys, _, hy => by
    rw [List.cons_append, List.cons_append, joinWith_cons_cons, ← List.cons_append,
      joinWith_append sep (x' :: xs) ys (by simp) hy, joinWith_cons_cons]
    simp

theorem joinWith_snoc (sep b : List Char) (xs : List (List Char)) (h : xs ≠ []) :
    joinWith sep (xs ++ [b]) = joinWith sep xs ++ sep ++ b :=
  joinWith_append sep xs [b] h (by simp)

theorem mem_joinWith (sep : List Char) : ∀ (toks : List (List Char)) (c : Char),
    c ∈ joinWith sep toks → c ∈ sep ∨ ∃ t ∈ toks, c ∈ t
  | [], c, h => by simp [joinWith] at h
  | [x], c, h => Or.inr ⟨x, by simp, by simpa [joinWith] using h⟩
  | x :: y :: rest, c, h => by
    rw [joinWith_cons_cons, List.mem_append, List.mem_append] at h
    rcases h with (h | h) | h
    · exact Or.inr ⟨x, by simp, h⟩
    · exact Or.inl h
    · rcases mem_joinWith sep (y :: rest) c h with h | ⟨t, ht, hc⟩
      · exact Or.inl h
      · exact Or.inr ⟨t, List.mem_cons_of_mem _ ht, hc⟩

theorem noArrow_join : ∀ (toks : List (List Char)), (∀ t ∈ toks, ¬ ['-', '>'] <:+: t) →
    ¬ ['-', '>'] <:+: joinWith [' '] toks
  | [], _ => noArrow_nil
  | [x], h => h x (by simp)
  | x :: y :: rest, h => by
    rw [joinWith_cons_cons, List.append_assoc]
    apply noArrow_append (h x (by simp))
    · exact noArrow_cons (by decide) (noArrow_join (y :: rest) fun t ht => h t (List.mem_cons_of_mem _ ht))
    · right; simp

def Words (toks : List (List Char)) : Prop := ∀ t ∈ toks, t ≠ [] ∧ ∀ c ∈ t, isSpace c = false

theorem Words.tail {x : List Char} {toks : List (List Char)} (h : Words (x :: toks)) : Words toks :=
  fun t ht => h t (List.mem_cons_of_mem _ ht)

theorem joinWith_ne_nil (sep : List Char) : ∀ (toks : List (List Char)), toks ≠ [] → (∀ t ∈ toks, t ≠ []) →
    joinWith sep toks ≠ []
  | [], h, _ => absurd rfl h
  | [x], _, h => h x (by simp)
  | x :: y :: rest, _, h => by
    rw [joinWith_cons_cons]
    simp [h x (by simp)]

theorem join_noBreak (toks : List (List Char)) (h : Words toks) :
    ∀ c ∈ joinWith [' '] toks, isLineBreak c = false := by
  intro c hc
  rcases mem_joinWith _ _ _ hc with hc | ⟨t, htm, hc⟩
  · rw [List.mem_singleton.mp hc]; decide
  · exact not_lineBreak_of_not_space c ((h t htm).2 c hc)

theorem strip_join : ∀ (toks : List (List Char)), Words toks →
    strip (joinWith [' '] toks) = joinWith [' '] toks
  | [], _ => rfl
  | [x], h => strip_tok x (h x (by simp)).2
  | x :: y :: rest, h => by
    rw [joinWith_cons_cons]
    exact strip_between x _ _ (h x (by simp)).1 (h x (by simp)).2
      (joinWith_ne_nil _ _ (by simp) fun t ht => (h.tail t ht).1) (strip_join (y :: rest) h.tail)

theorem splitWsAux_run : ∀ (t rest cur : List Char), (∀ c ∈ t, isSpace c = false) →
    splitWsAux (t ++ rest) cur = splitWsAux rest (t.reverse ++ cur)
  | [], rest, cur, _ => by simp
  | c :: t, rest, cur, h => by
    have hc : isSpace c = false := h c (by simp)
    rw [List.cons_append, splitWsAux]
    simp only [hc, Bool.false_eq_true, if_false]
    rw [splitWsAux_run t rest (c :: cur) fun d hd => h d (List.mem_cons_of_mem _ hd)]
    simp

theorem splitWsAux_join : ∀ (toks : List (List Char)), Words toks →
    splitWsAux (joinWith [' '] toks) [] = toks
  | [], _ => by simp [joinWith, splitWsAux]
  | [x], h => by
    obtain ⟨hne, hcl⟩ := h x (by simp)
    have := splitWsAux_run x [] [] hcl
    simp only [List.append_nil] at this
    simp [joinWith, this, splitWsAux, hne]
  | x :: y :: rest, h => by
    obtain ⟨hne, hcl⟩ := h x (by simp)
    rw [joinWith_cons_cons, List.append_assoc, splitWsAux_run x _ [] hcl]
    have hsp : isSpace ' ' = true := by decide
    simp only [List.append_nil, List.singleton_append, splitWsAux, hsp, if_true,
      List.isEmpty_reverse, List.reverse_reverse]
    rw [splitWsAux_join (y :: rest) h.tail]
    simp [hne]

theorem splitLinesAux_run : ∀ (l rest cur : List Char), (∀ c ∈ l, isLineBreak c = false) →
    splitLinesAux (l ++ rest) cur false = splitLinesAux rest (l.reverse ++ cur) false
  | [], _, _, _ => rfl
  | c :: l, rest, cur, h => by
    rw [List.cons_append, splitLinesAux]
    simp only [Bool.false_and, Bool.false_eq_true, if_false, h c (by simp)]
    rw [splitLinesAux_run l rest (c :: cur) fun d hd => h d (List.mem_cons_of_mem _ hd)]
    simp

theorem splitLines_join : ∀ (ls : List (List Char)), (∀ l ∈ ls, l ≠ [] ∧ ∀ c ∈ l, isLineBreak c = false) →
    splitLines (joinWith ['\n'] ls) = ls
  | [], _ => rfl
  | [x], h => by
    have := splitLinesAux_run x [] [] (h x (by simp)).2
    rw [List.append_nil] at this
    simp [joinWith, splitLines, this, splitLinesAux, (h x (by simp)).1]
  | x :: y :: rest, h => by
    have ih := splitLines_join (y :: rest) fun l hl => h l (List.mem_cons_of_mem _ hl)
    have hnl : isLineBreak '\n' = true := by decide
    rw [joinWith_cons_cons, List.append_assoc, splitLines, splitLinesAux_run x _ [] (h x (by simp)).2]
    simp only [List.singleton_append, splitLinesAux, Bool.false_and, Bool.false_eq_true, if_false, hnl, if_true]
    rw [show (decide ('\n' = '\r')) = false by decide, ← splitLines, ih]
    simp

/-- any text: a final "\n" adds at most an empty last line (none after a line's last character or a "\r"),
and both readers skip empty lines -/
theorem splitLinesAux_snoc_nl (s : List Char) : ∀ (cur : List Char) (cr : Bool),
    splitLinesAux (s ++ ['\n']) cur cr = splitLinesAux s cur cr ∨
    splitLinesAux (s ++ ['\n']) cur cr = splitLinesAux s cur cr ++ [[]] := by
  induction s with
  | nil =>
    intro cur cr
    cases cr
    · cases cur
      · exact .inr rfl
      · exact .inl rfl
    · exact .inl rfl
  | cons c s ih =>
    intro cur cr
    simp only [List.cons_append, splitLinesAux]
    split
    · exact ih cur false
    · split
      · exact (ih [] (c = '\r')).imp (congrArg _) (congrArg _)
      · exact ih (c :: cur) false

theorem strip_line (h t : List Char) (hne : h ≠ []) (hh : ∀ c ∈ h, isSpace c = false) (ht : strip t = t) :
    strip (h ++ [' ', '-', '>', ' '] ++ t) = h ++ [' '] ++ ['-', '>'] ++ afterArrow t := by
  cases t with
  | nil =>
    rw [show h ++ [' ', '-', '>', ' '] ++ [] = (h ++ [' '] ++ ['-', '>']) ++ [' '] by simp,
      strip_snoc_space _ ' ' (by decide), strip_between h _ _ hne hh (by simp) (by decide)]
    exact (List.append_nil _).symm
  | cons x t' =>
    rw [strip_between h _ _ hne hh (by simp) ht]
    simp [afterArrow]

theorem split_line (h t : List Char) (hne : h ≠ []) (hh : ∀ c ∈ h, isSpace c = false)
    (hha : ¬ ['-', '>'] <:+: h) (ht : strip t = t) (hta : ¬ ['-', '>'] <:+: t) :
    LabelCodec.split ['-', '>'] (strip (h ++ [' ', '-', '>', ' '] ++ t)) = [h ++ [' '], afterArrow t] := by
  rw [strip_line h t hne hh ht]
  apply split_pair
  · apply not_infix_append_dropLast (noArrow_snoc (by decide) hha)
    simp
  · unfold afterArrow
    split
    · exact noArrow_nil
    · exact noArrow_cons (by decide) hta

/-- the component reader of `readLine` -/
def compSym (c : List Char) : Option TSym :=
  match readComponent c with
  | .var v => some (.var v)
  | .ter t => some (.ter t)
  | .eps => none

theorem readLine_of_split (line h b : List Char) (hs : LabelCodec.split ['-', '>'] line = [h, b]) :
    readLine line = some ((LabelCodec.split ['|'] b).map fun sub =>
      (if isSpecial (strip h) then ((strip h).drop 5).dropLast else strip h,
        (splitWs sub).filterMap compSym)) := by
  unfold readLine
  rw [show "->".toList = ['-', '>'] by decide, hs]
  rfl

theorem split_nil (sep : List Char) : LabelCodec.split sep [] = [[]] := by
  simp [LabelCodec.split, LabelCodec.splitOn]

theorem Tok.words {toks : List (List Char)} (ht : ∀ t ∈ toks, Tok t) : Words toks :=
  fun t h => ⟨(ht t h).1, fun c hc => ((ht t h).2.1 c hc).1⟩

theorem line_noBreak (h t : List Char) (hh : ∀ c ∈ h, isSpace c = false)
    (ht : ∀ c ∈ t, isLineBreak c = false) :
    ∀ c ∈ h ++ [' ', '-', '>', ' '] ++ t, isLineBreak c = false := by
  intro c hc
  rw [List.mem_append, List.mem_append] at hc
  rcases hc with (hc | hc) | hc
  · exact not_lineBreak_of_not_space c (hh c hc)
  · simp only [List.mem_cons, List.not_mem_nil, or_false] at hc
    rcases hc with rfl | rfl | rfl | rfl <;> decide
  · exact ht c hc

theorem readLine_line (head : List Char) (toks : List (List Char)) (hh : Tok head)
    (hs : isSpecial head = false) (ht : ∀ t ∈ toks, Tok t) :
    strip (head ++ [' ', '-', '>', ' '] ++ joinWith [' '] toks) ≠ [] ∧
    readLine (strip (head ++ [' ', '-', '>', ' '] ++ joinWith [' '] toks)) =
      some [(head, toks.filterMap compSym)] := by
  have hsp : ∀ c ∈ head, isSpace c = false := fun c hc => (hh.2.1 c hc).1
  have hb := strip_join toks (Tok.words ht)
  refine ⟨?_, ?_⟩
  · rw [strip_line head _ hh.1 hsp hb]
    simp [hh.1]
  -- the text after "->" holds no '|', and `split()` gives the tokens back
  have hbar : ¬ ['|'] <:+: afterArrow (joinWith [' '] toks) := by
    intro hi
    rcases mem_afterArrow (hi.subset (List.mem_singleton_self '|')) with h | h
    · exact absurd h (by decide)
    · rcases mem_joinWith _ _ _ h with h | ⟨t, htm, h⟩
      · exact absurd (List.mem_singleton.mp h) (by decide)
      · exact ((ht t htm).2.1 _ h).2 rfl
  rw [readLine_of_split _ _ _
      (split_line head _ hh.1 hsp hh.2.2 hb (noArrow_join toks fun t h => (ht t h).2.2)),
    strip_head_blank head hsp, split_none _ _ hbar]
  simp only [hs, Bool.false_eq_true, if_false, List.map_cons, List.map_nil, splitWs_afterArrow]
  rw [splitWs, splitWsAux_join toks (Tok.words ht)]

theorem allSome_lines (f : TProd → List Char) : ∀ (prods : List TProd),
    (∀ p ∈ prods, strip (f p) ≠ [] ∧ readLine (strip (f p)) = some [p]) →
    allSome (((((prods.map f).map strip).filter (fun l => !l.isEmpty)).map readLine)) =
      some (prods.map fun p => [p])
  | [], _ => rfl
  | p :: rest, h => by
    obtain ⟨h1, h2⟩ := h p (by simp)
    have ih := allSome_lines f rest fun q hq => h q (List.mem_cons_of_mem _ hq)
    have hf : (!(strip (f p)).isEmpty) = true := by simpa using h1
    simp only [List.map_cons, List.filter_cons, hf, if_true, h2, allSome, ih, Option.map_some]

theorem fromText_snoc_nl (text : List Char) : fromText (text ++ ['\n']) = fromText text := by
  unfold fromText splitLines
  rcases splitLinesAux_snoc_nl text [] false with h | h <;> rw [h]
  rw [List.map_append, List.filter_append]
  simp [strip]

theorem fromText_lines (f : TProd → List Char) (prods : List TProd)
    (hbr : ∀ p ∈ prods, ∀ c ∈ f p, isLineBreak c = false)
    (hrd : ∀ p ∈ prods, strip (f p) ≠ [] ∧ readLine (strip (f p)) = some [p]) :
    fromText (joinWith ['\n'] (prods.map f) ++ ['\n']) = some prods := by
  have hl : splitLines (joinWith ['\n'] (prods.map f)) = prods.map f := by
    apply splitLines_join
    intro l hl
    obtain ⟨p, hp, rfl⟩ := List.mem_map.mp hl
    exact ⟨fun e => (hrd p hp).1 (by rw [e]; rfl), hbr p hp⟩
  rw [fromText_snoc_nl]
  unfold fromText
  rw [hl, allSome_lines f prods hrd, Option.map_some, ← List.flatMap_def, List.flatMap_singleton']

end Pfl.TextCodec.Lem
