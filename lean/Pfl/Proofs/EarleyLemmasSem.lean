/-
Semantic transport for the Earley proofs (soundness; completeness builds `Cov` on the same
valuations): class valuations of a store, the simulation relation `Sim` between (store, object)
pairs, frames `Fr` (a later store that keeps the old objects), and the store-changing steps of the
completer (`copy`, `unify`) as simulations: all three are instances of `sim_of_hom`, as is a
successful `subsumes` (`subsumes_cov` in EarleyCompleteSubs).
-/
import Pfl.Proofs.EarleyLemmasDefs
namespace Pfl
namespace Earley
namespace Lem
open FsDag FsDag.Lem

/-- a valuation of the classes (representatives) that respects the atoms -/
def Resp (P : String → Prop) (st : Store) (σ : Nat → String) : Prop :=
  (∀ c, P (σ c)) ∧ ∀ c v, ptr st c = none → val st c = some v → P v → σ c = v

/-- the value read at the end of a path -/
def rdv (st : Store) (σ : Nat → String) (F : Nat) (p : List String) : Option String :=
  (byPath st F p).map fun n => σ (deref st n)

/-- every valuation of `st'` induces a valuation of `st` under which `F` reads what `F'` reads -/
def Sim (P : String → Prop) (st : Store) (F : Nat) (st' : Store) (F' : Nat) : Prop :=
  ∀ σ', Resp P st' σ' → ∃ σ, Resp P st σ ∧
    ∀ p a, rdv st σ F p = some a → rdv st' σ' F' p = some a

theorem Sim.refl (P : String → Prop) (st : Store) (F : Nat) : Sim P st F st F :=
  fun σ' h => ⟨σ', h, fun _ _ h => h⟩

theorem Sim.trans {P : String → Prop} {st st1 st2 : Store} {F F1 F2 : Nat} (h1 : Sim P st F st1 F1)
    (h2 : Sim P st1 F1 st2 F2) : Sim P st F st2 F2 := by
  intro σ2 hr2
  obtain ⟨σ1, hr1, hp1⟩ := h2 σ2 hr2
  obtain ⟨σ, hr, hp⟩ := h1 σ1 hr1
  exact ⟨σ, hr, fun p a h => hp1 p a (hp p a h)⟩

open Classical in
/-- the default valuation: the atom of the class when it is admissible, `d` otherwise -/
noncomputable def dfltVal (P : String → Prop) (st : Store) (d : String) (c : Nat) : String :=
  if P ((val st c).getD d) then (val st c).getD d else d

theorem resp_default (P : String → Prop) (st : Store) {d : String} (hd : P d) :
    Resp P st (dfltVal P st d) := by
  constructor
  · intro c
    unfold dfltVal
    split
    · assumption
    · exact hd
  · intro c v _ hv hP
    unfold dfltVal
    rw [hv]
    simp [hP]

theorem byPath_congr' {st : Store} {i j : Nat} (h : deref st i = deref st j) (g : String)
    (p : List String) : byPath st i (g :: p) = byPath st j (g :: p) := byPath_congr h g p

/-- the later store keeps the old objects -/
structure Fr (st st' : Store) : Prop where
  len : st.length ≤ st'.length
  old : ∀ i, i < st.length → get st' i = get st i

theorem Fr.refl (st : Store) : Fr st st := ⟨Nat.le_refl _, fun _ _ => rfl⟩

theorem Fr.trans {st st1 st2 : Store} (h1 : Fr st st1) (h2 : Fr st1 st2) : Fr st st2 :=
  ⟨Nat.le_trans h1.len h2.len, fun i hi => by
    rw [h2.old i (Nat.lt_of_lt_of_le hi h1.len), h1.old i hi]⟩

theorem Fr.append (st e : Store) : Fr st (st ++ e) :=
  ⟨by simp, fun _ hi => get_append_lt e hi⟩

theorem Fr.deref_eq {st st' : Store} (h : Fr st st') (ha : Acyc st) (hr : Rng st) {i : Nat}
    (hi : i < st.length) : deref st' i = deref st i :=
  deref_old ha hr h.len h.old hi

theorem Fr.byPath_eq {st st' : Store} (h : Fr st st') (ha : Acyc st) (hr : Rng st) (p : List String)
    {i : Nat} (hi : i < st.length) : byPath st' i p = byPath st i p :=
  byPath_frame ha hr h.len h.old p i hi

theorem derefPath_fr {st st' : Store} (hf : Fr st st') (ha : Acyc st) (hr : Rng st) {F : Nat}
    (hF : F < st.length) (p : List String) :
    (byPath st' F p).map (deref st') = (byPath st F p).map (deref st) := by
  rw [hf.byPath_eq ha hr _ hF]
  cases hb : byPath st F p with
  | none => rfl
  | some n => exact congrArg some (hf.deref_eq ha hr (byPath_lt hr _ F n hF hb))

theorem derefPath_lt {st : Store} (hr : Rng st) {F u : Nat} (hF : F < st.length) {p : List String}
    (h : (byPath st F p).map (deref st) = some u) : u < st.length := by
  obtain ⟨n, hn, rfl⟩ := Option.map_eq_some_iff.1 h
  exact deref_lt hr (byPath_lt hr _ F n hF hn)

/-- `h` sends the classes of `st` to classes of `st'` with the same atoms, and `F'` has the paths of
`F`, ending in the classes `h` gives: a valuation of `st'` is read back along `h` -/
theorem sim_of_hom (P : String → Prop) {st st' : Store} {F F' : Nat} (h : Nat → Nat)
    (hv : ∀ c v, ptr st c = none → val st c = some v →
      ptr st' (h c) = none ∧ val st' (h c) = some v)
    (hp : ∀ p n, byPath st F p = some n →
      ∃ n', byPath st' F' p = some n' ∧ deref st' n' = h (deref st n)) : Sim P st F st' F' := by
  intro σ' h'
  refine ⟨fun c => σ' (h c), ⟨fun c => h'.1 _, fun c v hc hvc hP => ?_⟩, fun p a hr => ?_⟩
  · exact h'.2 _ v (hv c v hc hvc).1 (hv c v hc hvc).2 hP
  · unfold rdv at hr ⊢
    obtain ⟨n, hn, rfl⟩ := Option.map_eq_some_iff.1 hr
    obtain ⟨n', hn', hd⟩ := hp p n hn
    rw [hn', Option.map_some, hd]

theorem Fr.sim {st st' : Store} (hf : Fr st st') (P : String → Prop) (ha : Acyc st) (hr : Rng st)
    {G : Nat} (hG : G < st.length) : Sim P st G st' G := by
  refine sim_of_hom P (fun c => c) (fun c v hp hv => ?_) fun p n hn => ?_
  · have hc : c < st.length := val_lt hv
    exact ⟨by rw [ptr, hf.old c hc]; exact hp, by rw [val, hf.old c hc]; exact hv⟩
  · exact ⟨n, by rw [hf.byPath_eq ha hr p hG]; exact hn, hf.deref_eq ha hr (byPath_lt hr p G n hG hn)⟩

theorem rdv_some {st : Store} {σ : Nat → String} {F : Nat} {p : List String} {a : String} :
    rdv st σ F p = some a ↔ ∃ n, byPath st F p = some n ∧ σ (deref st n) = a := by
  unfold rdv; exact Option.map_eq_some_iff

theorem Fr.rdv_eq {st st' : Store} (h : Fr st st') (ha : Acyc st) (hr : Rng st) (σ : Nat → String)
    {F : Nat} (hF : F < st.length) (p : List String) : rdv st' σ F p = rdv st σ F p := by
  have := congrArg (Option.map σ) (derefPath_fr h ha hr hF p)
  rw [Option.map_map, Option.map_map] at this
  exact this

theorem Fr.resp_back {P : String → Prop} {st st' : Store} (h : Fr st st') {σ : Nat → String}
    (hσ : Resp P st' σ) : Resp P st σ := by
  refine ⟨hσ.1, fun c v hp hv hP => ?_⟩
  have hc : c < st.length := val_lt hv
  exact hσ.2 c v (by rw [ptr, h.old c hc]; exact hp) (by rw [val, h.old c hc]; exact hv) hP

/-- `σ` on the objects of `st`, `τ ∘ π` on the later ones -/
def mixVal (st : Store) (π : Nat → Nat) (σ τ : Nat → String) : Nat → String :=
  fun n => if n < st.length then σ n else τ (π n)

theorem Fr.resp_mix {P : String → Prop} {st st' : Store} (h : Fr st st') {π : Nat → Nat}
    {σ τ : Nat → String} (hσ : Resp P st σ) (hτ : ∀ c, P (τ c))
    (hnew : ∀ c v, st.length ≤ c → ptr st' c = none → val st' c = some v → P v → τ (π c) = v) :
    Resp P st' (mixVal st π σ τ) := by
  refine ⟨fun c => ?_, fun c v hp hv hP => ?_⟩
  · unfold mixVal; split
    · exact hσ.1 c
    · exact hτ _
  · unfold mixVal
    by_cases hc : c < st.length
    · rw [if_pos hc]
      exact hσ.2 c v (by rw [ptr, ← h.old c hc]; exact hp) (by rw [val, ← h.old c hc]; exact hv) hP
    · rw [if_neg hc]; exact hnew c v (Nat.not_lt.1 hc) hp hv hP

theorem Fr.rdv_mix {st st' : Store} (h : Fr st st') (ha : Acyc st) (hr : Rng st) (π : Nat → Nat)
    (σ τ : Nat → String) {F : Nat} (hF : F < st.length) (p : List String) :
    rdv st' (mixVal st π σ τ) F p = rdv st σ F p := by
  rw [h.rdv_eq ha hr _ hF]
  unfold rdv
  cases hb : byPath st F p with
  | none => rfl
  | some n =>
    simp only [Option.map_some, Option.some.injEq]
    exact if_pos (deref_lt hr (byPath_lt hr p F n hF hb))

theorem WFS.wf {st : Store} {rk : Nat → Nat} (h : WFS st rk) : WF crE st rk :=
  ⟨h.rng, h.inv.toC, h.cc⟩

theorem WFS.of_wf {st : Store} {rk : Nat → Nat} (h : WF crE st rk) : WFS st rk :=
  ⟨h.rng, .ofC h.inv, h.cc⟩

theorem sim_of_ext (P : String → Prop) {st st' : Store} {rk rk' : Nat → Nat} {k : Nat}
    (hw : WFS st rk) (hw' : WFS st' rk') (he : Ext st rk st' rk' k) {F : Nat} (hF : F < st.length) :
    Sim P st F st' F := by
  refine sim_of_hom P (deref st') (fun c v hp hv => ?_) fun p n hn => ?_
  · exact ⟨deref_ptr_none hw'.inv.acyc c, he.e2 c v (val_lt hv) (by rw [deref_of_none hp]; exact hv)⟩
  · obtain ⟨n', hn', hd⟩ := path_pres he hw.rng hw.inv.acyc hw'.cc p hF hn
    have hnlt := byPath_lt hw.rng p F n hF hn
    exact ⟨n', hn', hd.trans
      (he.e1 _ _ (deref_lt hw.rng hnlt) hnlt (deref_idem hw.inv.acyc n)).symm⟩

section CopyStep
variable {st : Store} {rk : Nat → Nat} {F : Nat} {st1 : Store} {F' : Nat} {κ : Nat → Nat}
  {dom : Nat → Prop} {π : Nat → Nat}

/-- projection of the objects of the extended store to the objects they come from -/
def proj (st : Store) (π : Nat → Nat) (n : Nat) : Nat := if n < st.length then n else π n

theorem proj_old {n : Nat} (h : n < st.length) : proj st π n = n := by simp [proj, h]

theorem CopySpec.fr (hc : CopySpec st F st1 F' κ dom π) : Fr st st1 := by
  obtain ⟨e, he⟩ := hc.ext; rw [he]; exact Fr.append st e

theorem CopySpec.proj_κ (hc : CopySpec st F st1 F' κ dom π) {j : Nat} (hj : dom j) :
    proj st π (κ j) = j := by
  have h1 := hc.rng j hj
  have h2 := hc.surj (κ j) h1.1 h1.2
  unfold proj
  rw [if_neg (by omega)]
  exact hc.inj _ _ h2.1 hj h2.2

theorem proj_new {n : Nat} (h : st.length ≤ n) : proj st π n = π n := by
  simp [proj, Nat.not_lt.2 h]

theorem CopySpec.node_cases (hc : CopySpec st F st1 F' κ dom π) (n : Nat) :
    (n < st.length ∧ get st1 n = get st n) ∨
    (st.length ≤ n ∧ dom (π n) ∧ κ (π n) = n ∧ get st1 n =
      { value := val st (deref st (π n)), content := (cont st (π n)).map fun e => (e.1, κ e.2),
        pointer := (ptr st (π n)).map κ }) ∨
    get st1 n = emptyNode := by
  by_cases h1 : n < st.length
  · exact Or.inl ⟨h1, hc.fr.old n h1⟩
  · by_cases h2 : n < st1.length
    · obtain ⟨h3, h4⟩ := hc.surj n (Nat.le_of_not_lt h1) h2
      have := hc.node _ h3
      rw [h4] at this
      exact Or.inr (Or.inl ⟨Nat.le_of_not_lt h1, h3, h4, this⟩)
    · exact Or.inr (Or.inr (get_ge (Nat.le_of_not_lt h2)))

theorem CopySpec.hom_ptr (hc : CopySpec st F st1 F' κ dom π) (hr : Rng st) {n m : Nat}
    (h : ptr st1 n = some m) :
    ptr st (proj st π n) = some (proj st π m) ∧ m < st1.length := by
  rcases hc.node_cases n with ⟨h1, h2⟩ | ⟨h1, h3, _, h2⟩ | h2
  · rw [ptr, h2] at h
    have hm := hr.p n m h
    rw [proj_old h1, proj_old hm]
    exact ⟨h, Nat.lt_of_lt_of_le hm hc.fr.len⟩
  · rw [ptr, h2] at h
    obtain ⟨p, hp, rfl⟩ := Option.map_eq_some_iff.1 h
    have hdp := hc.dom_ptr _ p h3 hp
    rw [hc.proj_κ hdp, proj_new h1]
    exact ⟨hp, (hc.rng p hdp).2⟩
  · rw [ptr, h2] at h; exact nomatch h

theorem CopySpec.hom_cont (hc : CopySpec st F st1 F' κ dom π) (hr : Rng st) {n : Nat} {g : String}
    {x : Nat} (h : (g, x) ∈ cont st1 n) :
    (g, proj st π x) ∈ cont st (proj st π n) ∧ x < st1.length := by
  rcases hc.node_cases n with ⟨h1, h2⟩ | ⟨h1, h3, _, h2⟩ | h2
  · rw [cont, h2] at h
    have hm := hr.c n g x h
    rw [proj_old h1, proj_old hm]
    exact ⟨h, Nat.lt_of_lt_of_le hm hc.fr.len⟩
  · rw [cont, h2] at h
    obtain ⟨e, he, heq⟩ := List.mem_map.1 h
    cases heq
    have hdp := hc.dom_cont _ e.1 e.2 h3 he
    rw [hc.proj_κ hdp, proj_new h1]
    exact ⟨he, (hc.rng _ hdp).2⟩
  · rw [cont, h2] at h; exact absurd h List.not_mem_nil

theorem CopySpec.rng1 (hc : CopySpec st F st1 F' κ dom π) (hr : Rng st) : Rng st1 :=
  ⟨fun _ _ h => (hc.hom_ptr hr h).2, fun _ _ _ h => (hc.hom_cont hr h).2⟩

theorem CopySpec.acyc1 (hc : CopySpec st F st1 F' κ dom π) (hr : Rng st) (ha : Acyc st) :
    Acyc st1 := by
  obtain ⟨h, hh⟩ := ha
  exact ⟨fun n => h (proj st π n), fun i j hp => hh _ _ (hc.hom_ptr hr hp).1⟩

theorem CopySpec.invR1 (hc : CopySpec st F st1 F' κ dom π) (hr : Rng st) (hI : InvR st rk) :
    InvR st1 (fun n => rk (proj st π n)) := by
  refine ⟨hc.acyc1 hr hI.acyc, ?_, ?_, ?_⟩
  · intro i j hp; exact hI.rkp _ _ (hc.hom_ptr hr hp).1
  · intro i g x hx; exact hI.rkc _ g _ (hc.hom_cont hr hx).1
  · intro n v hv
    rcases hc.node_cases n with ⟨h1, h2⟩ | ⟨h1, _, _, h2⟩ | h2
    · rw [val, h2] at hv; rw [proj_old h1]; exact hI.rkv n v hv
    · rw [val, h2] at hv
      rw [proj_new h1, ← rkR_deref hI]
      exact hI.rkv _ v hv
    · rw [val, h2] at hv; exact nomatch hv

theorem CopySpec.deref_κ (hc : CopySpec st F st1 F' κ dom π) (hr : Rng st) (ha : Acyc st) :
    ∀ j, dom j → deref st1 (κ j) = κ (deref st j) ∧ dom (deref st j) := by
  have ha1 := hc.acyc1 hr ha
  obtain ⟨h, hh⟩ := id ha
  intro j
  induction hn : h j using Nat.strongRecOn generalizing j with
  | _ n ih =>
    intro hj
    have hnode := hc.node j hj
    cases hp : ptr st j with
    | none =>
      have : ptr st1 (κ j) = none := by rw [ptr, hnode]; simp [hp]
      rw [deref_of_none this, deref_of_none hp]
      exact ⟨rfl, hj⟩
    | some p =>
      have : ptr st1 (κ j) = some (κ p) := by rw [ptr, hnode]; simp [hp]
      rw [deref_step ha1 this, deref_step ha hp]
      exact ih (h p) (by rw [← hn]; exact hh j p hp) p rfl (hc.dom_ptr j p hj hp)

theorem CopySpec.byPath_map (hc : CopySpec st F st1 F' κ dom π) (hr : Rng st) (ha : Acyc st) :
    ∀ (p : List String) (j : Nat), dom j →
      byPath st1 (κ j) p = (byPath st j p).map κ ∧ ∀ n, byPath st j p = some n → dom n := by
  intro p
  induction p with
  | nil => intro j hj; exact ⟨rfl, fun n h => Option.some.inj h ▸ hj⟩
  | cons g p ih =>
    intro j hj
    obtain ⟨hd, hdd⟩ := hc.deref_κ hr ha j hj
    have hl : lookupC g (cont st1 (deref st1 (κ j))) = (lookupC g (cont st (deref st j))).map κ := by
      rw [hd, cont, hc.node _ hdd]; exact lookupC_map κ g _
    rw [byPath_cons, byPath_cons, hl]
    cases hg : lookupC g (cont st (deref st j)) with
    | none => exact ⟨rfl, nofun⟩
    | some x => exact ih x (hc.dom_cont _ _ x hdd (lookupC_mem hg))

theorem CopySpec.byPath_κ (hc : CopySpec st F st1 F' κ dom π) (hr : Rng st) (ha : Acyc st)
    (p : List String) (j n : Nat) (hj : dom j) (h : byPath st j p = some n) :
    dom n ∧ byPath st1 (κ j) p = some (κ n) :=
  ⟨(hc.byPath_map hr ha p j hj).2 n h, by rw [(hc.byPath_map hr ha p j hj).1, h]; rfl⟩

theorem CopySpec.ccat1 (hc : CopySpec st F st1 F' κ dom π) (hr : Rng st) (ha : Acyc st)
    (hcc : ∀ i, CCat st i) : ∀ n, CCat st1 n := by
  intro n
  rcases hc.node_cases n with ⟨h1, h2⟩ | ⟨_, h3, h4, h2⟩ | h2
  · intro g x hx
    rw [cont, h2] at hx
    obtain ⟨x', hx', hd⟩ := hcc n g x hx
    have hdn := deref_lt hr h1
    refine ⟨x', ?_, ?_⟩
    · rw [hc.fr.deref_eq ha hr h1, cont, hc.fr.old _ hdn]; exact hx'
    · rw [hc.fr.deref_eq ha hr (hr.c _ g x' (lookupC_mem hx')),
        hc.fr.deref_eq ha hr (hr.c _ g x (lookupC_mem hx))]
      exact hd
  · intro g x hx
    rw [cont, h2] at hx
    change lookupC g ((cont st (π n)).map fun e => (e.1, κ e.2)) = some x at hx
    rw [lookupC_map] at hx
    simp only [Option.map_eq_some_iff] at hx
    obtain ⟨x0, hx0, rfl⟩ := hx
    obtain ⟨x0', hx0', hd⟩ := hcc (π n) g x0 hx0
    obtain ⟨hdn, hddom⟩ := hc.deref_κ hr ha _ h3
    rw [h4] at hdn
    have hdx0 := hc.dom_cont _ g x0 h3 (lookupC_mem hx0)
    have hdx0' := hc.dom_cont _ g x0' hddom (lookupC_mem hx0')
    refine ⟨κ x0', ?_, ?_⟩
    · rw [hdn, cont, hc.node _ hddom]
      show lookupC g ((cont st (deref st (π n))).map fun e => (e.1, κ e.2)) = _
      rw [lookupC_map, hx0']; rfl
    · rw [(hc.deref_κ hr ha _ hdx0').1, (hc.deref_κ hr ha _ hdx0).1, hd]
  · intro g x hx
    rw [cont, h2] at hx; exact nomatch hx

open Classical in
theorem CopySpec.sim (P : String → Prop) (hc : CopySpec st F st1 F' κ dom π) (hr : Rng st)
    (ha : Acyc st) : Sim P st F st1 F' := by
  refine sim_of_hom P (fun c => if dom c then κ c else c) (fun c v hp hv => ?_) fun p n hn => ?_
  · by_cases hd : dom c
    · simp only [if_pos hd]
      have hnode := hc.node c hd
      refine ⟨by rw [ptr, hnode]; simp [hp], ?_⟩
      rw [val, hnode]; show val st (deref st c) = some v
      rw [deref_of_none hp]; exact hv
    · simp only [if_neg hd]
      have hcl : c < st.length := val_lt hv
      exact ⟨by rw [ptr, hc.fr.old c hcl]; exact hp, by rw [val, hc.fr.old c hcl]; exact hv⟩
  · obtain ⟨hdn, hbn⟩ := hc.byPath_κ hr ha p F n hc.domF hn
    obtain ⟨h1, h2⟩ := hc.deref_κ hr ha n hdn
    exact ⟨κ n, hc.κF ▸ hbn, by rw [h1, if_pos h2]⟩

theorem CopySpec.wfs (hc : CopySpec st F st1 F' κ dom π) (hw : WFS st rk) :
    WFS st1 (fun n => rk (proj st π n)) :=
  ⟨hc.rng1 hw.rng, hc.invR1 hw.rng hw.inv, hc.ccat1 hw.rng hw.inv.acyc hw.cc⟩

end CopyStep

end Lem
end Earley
end Pfl
