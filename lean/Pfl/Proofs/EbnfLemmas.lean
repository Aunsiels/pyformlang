/-
Helper lemmas for the text side of `RecursiveAutomaton.from_ebnf` (C20): reading the written rule
lines back (`readLines`), and the characterisation of the grouping (`group_spec`).
-/
import Pfl.Model.Ebnf
import Pfl.Proofs.TextCodecLemmas
import Mathlib.Data.List.Induction
namespace Pfl.Ebnf.Lem
open Pfl Pfl.Ebnf Pfl.TextCodec Pfl.TextCodec.Lem Pfl.LabelCodec.Lem

/-- the separator written between the bodies of one head -/
def sepBar : List Char := " | ".toList

/-- an empty body stands for ε, spelled "epsilon" (`Epsilon().to_text()`) -/
def epsBody (b : List Char) : List Char := if b.isEmpty then "epsilon".toList else b

/-- the dict after the loop, as a fold of `addBody` -/
def group (ls : List (List Char × List Char)) : List (List Char × List Char) :=
  ls.foldl (fun d l => addBody d l.1 (epsBody l.2)) []

def lineText (l : List Char × List Char) : List Char := l.1 ++ " -> ".toList ++ l.2

/-- the text: rule lines joined by "\n" (no trailing newline) -/
def textOf (ls : List (List Char × List Char)) : List Char := joinWith ['\n'] (ls.map lineText)

def Head (h : List Char) : Prop :=
  h ≠ [] ∧ (∀ c ∈ h, isSpace c = false) ∧ ¬ ['-', '>'] <:+: h

def Body (t : List Char) : Prop :=
  strip t = t ∧ (∀ c ∈ t, isLineBreak c = false) ∧ ¬ ['-', '>'] <:+: t

theorem arrow_eq : arrow = ['-', '>'] := by decide

theorem lineText_eq (h t : List Char) : lineText (h, t) = h ++ [' ', '-', '>', ' '] ++ t := rfl

theorem readLines_cons_two (line : List Char) (lines : List (List Char))
    (d : List (List Char × List Char)) (a b : List Char)
    (hs : LabelCodec.split arrow (strip line) = [a, b]) :
    readLines (line :: lines) d = readLines lines (addBody d (strip a) (epsBody (strip b))) := by
  rw [readLines]
  simp only [hasArrow, hs, epsBody, List.length_cons, List.length_nil]
  rfl

theorem readLines_line (h t : List Char) (hh : Head h) (ht : Body t) (lines : List (List Char))
    (d : List (List Char × List Char)) :
    readLines (lineText (h, t) :: lines) d = readLines lines (addBody d h (epsBody t)) := by
  rw [readLines_cons_two _ lines d _ _
      (by rw [arrow_eq, lineText_eq]; exact split_line h t hh.1 hh.2.1 hh.2.2 ht.1 ht.2.2),
    strip_head_blank h hh.2.1, strip_afterArrow ht.1]

theorem readLines_lines : ∀ (ls : List (List Char × List Char)) (d : List (List Char × List Char)),
    (∀ l ∈ ls, Head l.1 ∧ Body l.2) →
    readLines (ls.map lineText) d = some (ls.foldl (fun d l => addBody d l.1 (epsBody l.2)) d)
  | [], _, _ => rfl
  | l :: ls, d, h => by
    rw [List.map_cons, readLines_line l.1 l.2 (h l (by simp)).1 (h l (by simp)).2,
      readLines_lines ls _ fun l' hl' => h l' (List.mem_cons_of_mem _ hl')]
    rfl

theorem line_clean (h t : List Char) (hh : Head h) (ht : Body t) :
    lineText (h, t) ≠ [] ∧ ∀ c ∈ lineText (h, t), isLineBreak c = false := by
  rw [lineText_eq]
  exact ⟨by simp [hh.1], line_noBreak h t hh.2.1 ht.2.1⟩

theorem readLines_snoc_nil (lines : List (List Char)) (d : List (List Char × List Char)) :
    readLines (lines ++ [[]]) d = readLines lines d := by
  induction lines generalizing d with
  | nil => simp [readLines, strip, hasArrow, LabelCodec.split, LabelCodec.splitOn]
  | cons x lines ih =>
    rw [List.cons_append, readLines, readLines]
    simp only [ih]

/-- heads in order of first appearance -/
def heads (ls : List (List Char × List Char)) : List (List Char) := (ls.map (·.1)).eraseDups

/-- the bodies written for head `h`, in order, "epsilon" for an empty one -/
def alts (ls : List (List Char × List Char)) (h : List Char) : List (List Char) :=
  (ls.filter (·.1 = h)).map fun l => epsBody l.2

/-- what the dict of bodies holds once all lines are read: one entry per head, in order of first
occurrence, its bodies joined by ` | ` -/
def groupSpec (ls : List (List Char × List Char)) : List (List Char × List Char) :=
  (heads ls).map fun h => (h, joinWith sepBar (alts ls h))

theorem mem_heads (ls : List (List Char × List Char)) (h : List Char) :
    h ∈ heads ls ↔ ∃ l ∈ ls, l.1 = h := by
  simp [heads, List.mem_eraseDups]

theorem eraseDups_snoc {α : Type} [BEq α] [LawfulBEq α] (xs : List α) (a : α) :
    (xs ++ [a]).eraseDups = if a ∈ xs then xs.eraseDups else xs.eraseDups ++ [a] := by
  rw [List.eraseDups_append]
  by_cases h : a ∈ xs
  · simp [List.removeAll, h]
  · simp [List.removeAll, h, List.eraseDups_cons]

theorem heads_snoc (ls : List (List Char × List Char)) (l : List Char × List Char) :
    heads (ls ++ [l]) = if l.1 ∈ heads ls then heads ls else heads ls ++ [l.1] := by
  unfold heads
  rw [List.map_append, List.map_singleton, eraseDups_snoc]
  simp only [List.mem_eraseDups]

theorem alts_snoc (ls : List (List Char × List Char)) (l : List Char × List Char) (h : List Char) :
    alts (ls ++ [l]) h = alts ls h ++ (if l.1 = h then [epsBody l.2] else []) := by
  unfold alts
  rw [List.filter_append, List.map_append]
  by_cases e : l.1 = h <;> simp [e]

theorem alts_eq_nil_iff (ls : List (List Char × List Char)) (h : List Char) :
    alts ls h = [] ↔ h ∉ heads ls := by
  rw [mem_heads, alts, List.map_eq_nil_iff, List.filter_eq_nil_iff]
  simp only [decide_eq_true_eq, not_exists, not_and]

theorem groupSpec_any (ls : List (List Char × List Char)) (h : List Char) :
    (groupSpec ls).any (·.1 = h) = true ↔ h ∈ heads ls := by
  simp [groupSpec]

theorem group_spec (ls : List (List Char × List Char)) : group ls = groupSpec ls := by
  induction ls using List.reverseRecOn with
  | nil => rfl
  | append_singleton ls l ih =>
    have e : group (ls ++ [l]) = addBody (group ls) l.1 (epsBody l.2) := by
      simp [group, List.foldl_append]
    rw [e, ih]
    unfold addBody
    by_cases hm : l.1 ∈ heads ls
    · rw [if_pos ((groupSpec_any ls l.1).mpr hm)]
      unfold groupSpec
      rw [heads_snoc, if_pos hm, List.map_map]
      apply List.map_congr_left
      intro h' hh'
      simp only [Function.comp]
      rw [alts_snoc]
      by_cases e' : h' = l.1
      · subst e'
        rw [if_pos rfl, if_pos rfl, joinWith_snoc _ _ _ fun hn => (alts_eq_nil_iff ls _).1 hn hh']
        rfl
      · rw [if_neg e', if_neg (fun h => e' h.symm), List.append_nil]
    · rw [if_neg (fun h => hm ((groupSpec_any ls l.1).mp h))]
      unfold groupSpec
      rw [heads_snoc, if_neg hm, List.map_append]
      congr 1
      · apply List.map_congr_left
        intro h' hh'
        rw [alts_snoc, if_neg (fun h => hm (by rw [h]; exact hh')), List.append_nil]
      · simp [alts_snoc, (alts_eq_nil_iff ls l.1).2 hm, joinWith]

theorem bodies_textOf (ls : List (List Char × List Char)) (h : ∀ l ∈ ls, Head l.1 ∧ Body l.2) :
    bodies (textOf ls) = some (group ls) := by
  unfold bodies textOf
  rw [splitLines_join _ (by
    intro x hx
    obtain ⟨l, hl, rfl⟩ := List.mem_map.mp hx
    exact line_clean l.1 l.2 (h l hl).1 (h l hl).2), readLines_lines ls [] h]
  rfl

theorem bodies_snoc_nl (text : List Char) : bodies (text ++ ['\n']) = bodies text := by
  unfold bodies splitLines
  rcases splitLinesAux_snoc_nl text [] false with h | h <;> rw [h]
  exact readLines_snoc_nil _ _

end Pfl.Ebnf.Lem
