/-
Termination of the stack machine of `get_llone_parse_tree`: the machine itself.
`Done tb l w n c ok`: started with the symbols `l` on top of ANY stack and the input `w`, the machine
needs exactly `n` steps to either pop `l` completely, having consumed `c` input symbols (`ok`), or to
raise NotParsableException (`ok = false`; `c` is then free, see `SymOK`).  By `descent` no variable is expanded twice between
two consumed input symbols unless the first copy has been popped in between, and a run takes at most
`parseSteps` steps.
-/
import Pfl.Proofs.LL1TerminationDescent
namespace Pfl
namespace LL1Lib
namespace Term

def Done (tb : List (String × Look × Pfl.Prod)) (l : List Sym) (w : List String) (n c : Nat)
    (ok : Bool) : Prop :=
  ∀ fuel stack out, ∃ out', parseLoop tb (fuel + n) (l.map some ++ stack) w out =
    if ok then parseLoop tb fuel stack (w.drop c) out' else some none

theorem done_nil (tb : List (String × Look × Pfl.Prod)) (w : List String) :
    Done tb [] w 0 0 true :=
  fun _ _ out => ⟨out, rfl⟩

theorem done_cons_fail {tb : List (String × Look × Pfl.Prod)} {s : Sym} {w : List String} {n c : Nat}
    (l : List Sym) (h : Done tb [s] w n c false) : Done tb (s :: l) w n c false :=
  fun fuel stack out => h fuel (l.map some ++ stack) out

theorem done_cons {tb : List (String × Look × Pfl.Prod)} {s : Sym} {l : List Sym} {w : List String}
    {n₁ n₂ c₁ c₂ : Nat} {ok : Bool}
    (h1 : Done tb [s] w n₁ c₁ true) (h2 : Done tb l (w.drop c₁) n₂ c₂ ok) :
    Done tb (s :: l) w (n₁ + n₂) (c₁ + c₂) ok := by
  -- first the segment `[s]`, which leaves the machine on `l` with the rest of the input
  intro fuel stack out
  obtain ⟨out', e⟩ := h1 (fuel + n₂) (l.map some ++ stack) out
  obtain ⟨out'', e2⟩ := h2 fuel stack out'
  rw [Nat.add_comm n₁ n₂, ← Nat.add_assoc, ← List.drop_drop]
  exact ⟨out'', (e.trans (if_pos rfl)).trans e2⟩

theorem done_ter_ok (tb : List (String × Look × Pfl.Prod)) (t : String) (rest : List String) :
    Done tb [.ter t] (t :: rest) 1 1 true :=
  fun fuel stack out => ⟨out, parseLoop_ter_ok tb fuel stack out t rest⟩

theorem done_ter_fail (tb : List (String × Look × Pfl.Prod)) (t : String) (w : List String) (c : Nat)
    (h : w.head? ≠ some t) : Done tb [.ter t] w 1 c false :=
  fun fuel stack out => ⟨out, parseLoop_ter_fail tb fuel stack w out t h⟩

theorem done_var {tb : List (String × Look × Pfl.Prod)} {v : String} {w : List String}
    {e : String × Look × Pfl.Prod} {n c : Nat} {ok : Bool}
    (hc : cell tb v (look w) = [e]) (h : Done tb e.2.2.2 w n c ok) : Done tb [.var v] w (n + 1) c ok :=
  fun fuel stack out => (h fuel stack (e.2.2 :: out)).imp fun _ e' =>
    (parseLoop_var_single tb (fuel + n) stack w out v e hc).trans e'

theorem done_var_fail (tb : List (String × Look × Pfl.Prod)) (v : String) (w : List String) (c : Nat)
    (h : ∀ e, cell tb v (look w) ≠ [e]) : Done tb [.var v] w 1 c false :=
  fun fuel stack out => ⟨out, parseLoop_var_fail tb fuel stack w out v h⟩

/-- cost of expanding a variable to ε when no variable may repeat on a path: `1 + L + … + L^d` -/
def epsCost (L : Nat) : Nat → Nat
  | 0 => 1
  | d+1 => 1 + L * epsCost L d

theorem epsCost_pos (L d : Nat) : 1 ≤ epsCost L d := by
  cases d <;> simp [epsCost]

theorem epsCost_le_succ (L m : Nat) : epsCost L m ≤ epsCost L (m + 1) := by
  induction m with
  | zero => simp [epsCost]
  | succ m ihm =>
    show 1 + L * epsCost L m ≤ 1 + L * epsCost L (m+1)
    exact Nat.add_le_add_left (Nat.mul_le_mul_left _ ihm) _

theorem epsCost_mono (L : Nat) {d d' : Nat} (h : d ≤ d') : epsCost L d ≤ epsCost L d' := by
  induction h with
  | refl => exact Nat.le_refl _
  | step _ ih => exact le_trans ih (epsCost_le_succ L _)

/-- steps to process one symbol when `d` more variables may be opened before the next input symbol
is consumed (`AncOK` keeps the open ones distinct, so `d ≤ V = |vars|`) and the symbol consumes `c`
input symbols in all.  For `c = 0` the symbol vanishes: the tree of ε-expansions, `epsCost L d`.
For `c > 0` at most `d + 1` variables are opened on the way to the first consumed terminal and
`V + 1` on the way to each further one, each for one step plus at most `L` siblings that vanish at
cost `epsCost L V`. -/
def Bd (L V d : Nat) : Nat → Nat
  | 0 => epsCost L d
  | x+1 => (1 + L * epsCost L V) * (d + 1) + (1 + L * epsCost L V) * (V + 1) * x

/-- the same for a list of `k` symbols (`Bd` plus `k` vanishing symbols) -/
def LBd (L V k d : Nat) : Nat → Nat
  | 0 => k * epsCost L d
  | x+1 => k * epsCost L V + Bd L V d (x + 1)

theorem Bd_pos (L V d c : Nat) : 1 ≤ Bd L V d c := by
  cases c with
  | zero => exact epsCost_pos L d
  | succ x => exact Nat.le_trans (Nat.mul_pos (by omega) (by omega)) (Nat.le_add_right _ _)

theorem Bd_le_LBd (L V k d c : Nat) : Bd L V d c ≤ LBd L V (k + 1) d c := by
  cases c with
  | zero => exact Nat.le_mul_of_pos_left _ (Nat.succ_pos k)
  | succ x => exact Nat.le_add_left _ _

theorem LBd_step_zero (L V k d c : Nat) (hd : d ≤ V) :
    epsCost L d + LBd L V k d c ≤ LBd L V (k + 1) d c := by
  have := epsCost_mono L hd
  cases c <;> simp only [LBd, Nat.succ_mul] <;> omega

/-- consumed counts add up; the second run starts with all `V` variables allowed again -/
theorem Bd_add (L V d c₁ c₂ : Nat) :
    Bd L V d (c₁ + 1) + Bd L V V (c₂ + 1) = Bd L V d (c₁ + 1 + c₂ + 1) := by
  simp only [Bd, Nat.mul_add, Nat.mul_one]; omega

theorem LBd_step_pos (L V k d c₁ c₂ : Nat) :
    Bd L V d (c₁ + 1) + LBd L V k V c₂ ≤ LBd L V (k + 1) d (c₁ + 1 + c₂) := by
  cases c₂ with
  | zero => simp only [LBd, Nat.succ_mul]; omega
  | succ y =>
    show _ + (_ + Bd L V V (y + 1)) ≤ _ + Bd L V d (c₁ + 1 + y + 1)
    rw [← Bd_add, Nat.succ_mul]; omega

theorem LBd_var (L V k d c : Nat) (hk : k ≤ L) : LBd L V k d c + 1 ≤ Bd L V (d + 1) c := by
  cases c with
  | zero =>
    have := Nat.mul_le_mul_right (epsCost L d) hk
    simp only [LBd, Bd, epsCost]; omega
  | succ x =>
    have := Nat.mul_le_mul_right (epsCost L V) hk
    simp only [LBd, Bd, Nat.mul_add _ (d + 1) 1, Nat.mul_one]; omega

/-- the number of machine steps that always suffices -/
def parseSteps (L V n : Nat) : Nat := (1 + L * epsCost L V) * (V + 1) * (n + 1) + 1

theorem Bd_le_parseSteps (L V c n : Nat) (h : c ≤ n) : Bd L V V c + 1 ≤ parseSteps L V n := by
  have hE : epsCost L V ≤ (1 + L * epsCost L V) * (V + 1) :=
    Nat.le_trans (epsCost_le_succ L V) (Nat.le_mul_of_pos_right _ (Nat.succ_pos V))
  have := Nat.mul_le_mul_left ((1 + L * epsCost L V) * (V + 1)) h
  unfold parseSteps
  rw [Nat.mul_add_one _ n]
  cases c with
  | zero => simp only [Bd]; omega
  | succ x => rw [Nat.mul_add_one] at this; simp only [Bd]; omega

def maxBody (G : CFG) : Nat := G.prods.foldr (fun p m => max p.2.length m) 0

theorem le_maxBody {G : CFG} {p : Pfl.Prod} (hp : p ∈ G.prods) : p.2.length ≤ maxBody G := by
  unfold maxBody
  generalize G.prods = ps at hp
  induction ps with
  | nil => cases hp
  | cons q l ih =>
    rw [List.foldr_cons]
    rcases List.mem_cons.mp hp with rfl | hp
    · exact Nat.le_max_left _ _
    · exact le_trans (ih hp) (Nat.le_max_right _ _)

/-- the variables expanded since the last consumed input symbol and still open -/
structure AncOK (G : CFG) (f : Sym → List Look) (fo : Option Sym → List Look) (a : Look)
    (anc : List String) (s : Sym) : Prop where
  nodup : anc.Nodup
  sub : ∀ z ∈ anc, z ∈ G.vars
  above : ∀ z ∈ anc, lt (phi G f fo a s) (phi G f fo a (.var z))

/-- what the induction proves of one symbol `s` on top of the stack (`ListOK`: of a list `l`): the
machine finishes with it (`Done`) within `Bd` (`LBd`) steps, and when it popped it without consuming
input, the lookahead is not in FIRST of what it popped — the hypothesis under which `descent`
compares the next symbol with the open variables.  A run that fails is counted as if it had consumed
`c` input symbols, for any `c` that fits the bound (the whole input will do). -/
def SymOK (G : CFG) (tb : List (String × Look × Pfl.Prod)) (f : Sym → List Look)
    (w : List String) (d : Nat) (s : Sym) : Prop :=
  ∃ n c ok, Done tb [s] w n c ok ∧ c ≤ w.length ∧ (ok = true → c = 0 → look w ∉ f s) ∧
    n ≤ Bd (maxBody G) G.vars.length d c

def ListOK (G : CFG) (tb : List (String × Look × Pfl.Prod)) (f : Sym → List Look)
    (w : List String) (d : Nat) (l : List Sym) : Prop :=
  ∃ n c ok, Done tb l w n c ok ∧ c ≤ w.length ∧ (ok = true → c = 0 → ∀ y ∈ l, look w ∉ f y) ∧
    n ≤ LBd (maxBody G) G.vars.length l.length d c

section
variable {G : CFG} {tb : List (String × Look × Pfl.Prod)} {f : Sym → List Look}
  {fo : Option Sym → List Look}

theorem sym_fail (G : CFG) (f : Sym → List Look) {w : List String} (d : Nat) {s : Sym}
    (h : Done tb [s] w 1 w.length false) : SymOK G tb f w d s :=
  ⟨1, w.length, false, h, Nat.le_refl _, nofun, Bd_pos _ _ _ _⟩

theorem sym_ter (G : CFG) (tb : List (String × Look × Pfl.Prod)) (f : Sym → List Look)
    (w : List String) (d : Nat) (t : String) : SymOK G tb f w d (.ter t) := by
  by_cases h : w.head? = some t
  · cases w with
    | nil => cases h
    | cons a rest =>
      cases (Option.some.inj h : a = t)
      exact ⟨1, 1, true, done_ter_ok tb t rest, Nat.succ_pos _, fun _ h0 => (nomatch h0), Bd_pos _ _ _ _⟩
  · exact sym_fail G f d (done_ter_fail tb t w _ h)

/-- Induction on `l`.  While the symbols popped so far consumed nothing, the next one runs on the
same `w` with the same `d` (`LBd_step_zero`); as soon as one consumes input the rest runs on a
shorter word, where `hshort` gives the bound with all variables allowed again (`LBd_step_pos`). -/
theorem list_ok (w : List String) (d : Nat) (hd : d ≤ G.vars.length)
    (hshort : ∀ w' : List String, w'.length < w.length → ∀ l, ListOK G tb f w' G.vars.length l) :
    ∀ l : List Sym,
      (∀ pre s post, l = pre ++ s :: post → (∀ y ∈ pre, look w ∉ f y) → SymOK G tb f w d s) →
      ListOK G tb f w d l := by
  intro l
  induction l with
  | nil => exact fun _ => ⟨0, 0, true, done_nil tb w, Nat.zero_le _, fun _ _ _ hy => (nomatch hy), Nat.zero_le _⟩
  | cons s l ih =>
    intro hyp
    obtain ⟨n₁, c₁, ok₁, hD₁, hc₁, hnf, hb₁⟩ := hyp [] s l rfl nofun
    cases ok₁ with
    | false => exact ⟨n₁, c₁, false, done_cons_fail l hD₁, hc₁, nofun, le_trans hb₁ (Bd_le_LBd _ _ _ _ _)⟩
    | true =>
      cases c₁ with
      | zero =>
        have hs : ∀ y ∈ [s], look w ∉ f y := fun y hy => List.mem_singleton.mp hy ▸ hnf rfl rfl
        obtain ⟨n₂, c₂, ok₂, hD₂, hc₂, hr₂, hb₂⟩ := ih fun pre s' post e hpre =>
          hyp (s :: pre) s' post (e ▸ rfl) (List.forall_mem_append.mpr ⟨hs, hpre⟩)
        exact ⟨n₁ + n₂, c₂, ok₂, Nat.zero_add c₂ ▸ done_cons hD₁ hD₂, hc₂,
          fun hok h0 => List.forall_mem_append.mpr ⟨hs, hr₂ hok h0⟩,
          Nat.le_trans (Nat.add_le_add hb₁ hb₂) (LBd_step_zero _ _ _ _ _ hd)⟩
      | succ c₁ =>
        have hdrop : (w.drop (c₁ + 1)).length = w.length - (c₁ + 1) := List.length_drop
        obtain ⟨n₂, c₂, ok₂, hD₂, hc₂, _, hb₂⟩ := hshort (w.drop (c₁ + 1))
          (hdrop ▸ Nat.sub_lt (Nat.lt_of_lt_of_le (Nat.succ_pos c₁) hc₁) (Nat.succ_pos c₁)) l
        exact ⟨n₁ + n₂, c₁ + 1 + c₂, ok₂, done_cons hD₁ hD₂, Nat.add_le_of_le_sub' hc₁ (hdrop ▸ hc₂),
          fun _ h0 => absurd (Nat.add_eq_zero_iff.mp h0).1 (Nat.add_one_ne_zero _),
          Nat.le_trans (Nat.add_le_add hb₁ hb₂) (LBd_step_pos _ _ _ _ _ _)⟩

theorem sym_ok (H : Facts G tb f fo) (w : List String)
    (hshort : ∀ w' : List String, w'.length < w.length → ∀ l, ListOK G tb f w' G.vars.length l) :
    ∀ d anc s, AncOK G f fo (look w) anc s → anc.length + d = G.vars.length → SymOK G tb f w d s := by
  have ha := look_ne_eps w
  -- a variable that is expanded is not among the open ones
  have hnew : ∀ anc v e, AncOK G f fo (look w) anc (.var v) → cell tb v (look w) = [e] →
      (v :: anc).Nodup ∧ (∀ z ∈ v :: anc, z ∈ G.vars) := by
    intro anc v e hA hc
    obtain ⟨hp, hv, _, _⟩ := cell_single H ha hc
    exact ⟨List.nodup_cons.mpr ⟨fun hin => lt_irrefl _ (hA.above v hin), hA.nodup⟩,
      List.forall_mem_cons.mpr ⟨hv ▸ H.wf.head_mem _ hp, hA.sub⟩⟩
  intro d
  induction d using Nat.strong_induction_on with
  | _ d ih =>
    intro anc s hA hlen
    cases s with
    | ter t => exact sym_ter G tb f w _ t
    | var v =>
      by_cases hc : ∃ e, cell tb v (look w) = [e]
      · obtain ⟨e, hc⟩ := hc
        obtain ⟨h1, h2⟩ := hnew anc v e hA hc
        -- `v` is one more open variable, and there are no more of them than variables
        obtain ⟨d, rfl⟩ := Nat.exists_eq_succ_of_ne_zero fun h0 : d = 0 => by
          have := h1.length_le_of_subset (l₂ := G.vars) h2
          rw [List.length_cons, ← hlen, h0] at this
          exact Nat.not_succ_le_self _ this
        have hyp : ∀ pre s post, e.2.2.2 = pre ++ s :: post → (∀ y ∈ pre, look w ∉ f y) →
            SymOK G tb f w d s := by
          intro pre s post hb hpre
          have hdesc := descent H ha hc pre s post hb hpre
          refine ih d (Nat.lt_succ_self d) (v :: anc) s ⟨h1, h2, ?_⟩
            (by rw [List.length_cons, Nat.add_right_comm]; exact hlen)
          exact List.forall_mem_cons.mpr ⟨hdesc, fun z hz => lt_trans hdesc (hA.above z hz)⟩
        obtain ⟨n, c, ok, hD, hcw, hr, hb⟩ := list_ok w d (by omega) hshort e.2.2.2 hyp
        exact ⟨n + 1, c, ok, done_var hc hD, hcw, fun hok h0 => nofirst H ha hc (hr hok h0),
          Nat.le_trans (Nat.add_le_add_right hb 1)
            (LBd_var _ _ _ _ _ (le_maxBody (cell_single H ha hc).1))⟩
      · exact sym_fail G f _ (done_var_fail tb v w _ fun e he => hc ⟨e, he⟩)

theorem list_total (H : Facts G tb f fo) : ∀ (n : Nat) (w : List String), w.length = n →
    ∀ l, ListOK G tb f w G.vars.length l := by
  intro n
  induction n using Nat.strong_induction_on with
  | _ n ih =>
    intro w hw l
    have hshort : ∀ w' : List String, w'.length < w.length →
        ∀ l, ListOK G tb f w' G.vars.length l := fun w' hw' => ih w'.length (by omega) w' rfl
    refine list_ok w _ (Nat.le_refl _) hshort l ?_
    intro pre s post _ _
    exact sym_ok H w hshort _ [] s ⟨List.nodup_nil, nofun, nofun⟩ (by simp)

theorem sym_total (H : Facts G tb f fo) (w : List String) (s : Sym) :
    SymOK G tb f w G.vars.length s :=
  sym_ok H w (fun w' _ => list_total H _ w' rfl) _ [] s ⟨List.nodup_nil, nofun, nofun⟩ (by simp)

end

end Term
end LL1Lib
end Pfl
