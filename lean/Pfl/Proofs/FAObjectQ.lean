/- The automaton object model (C19, `Pfl/Props/C19_FAObject.lean`), queries: what
`get_number_transitions`, `is_deterministic` and a call of the transition function return in terms of
the transitions present in the table, and history independence. -/
import Pfl.Spec.FAObject
import Pfl.Proofs.FAObject
import Pfl.Proofs.FABase
import Mathlib.Data.List.Nodup
namespace Pfl
namespace FAObj
namespace PQ
open Pfl.FAObj.P

theorem numTransitions_eq (T : Table) :
    numTransitions T = (edges T).length := by
  simp [edges, numTransitions, List.length_flatMap]

/-- `is_deterministic()` of the transition function: at most one target per (state, symbol) among
the transitions present — entries emptied by removals do not count -/
theorem tfDeterministic_iff {det : Bool} {T : Table} (hi : TInv det T) :
    tfDeterministic T = true ↔ Functional (edges T) := by
  simp only [tfDeterministic, List.all_eq_true, decide_eq_true_eq]
  constructor
  · intro h q a r r' h1 h2
    obtain ⟨row, he, ts, hf, hr⟩ := (mem_edges_raw T q a r).1 h1
    obtain ⟨ts', hl', hr'⟩ := (mem_edges_iff hi q a r').1 h2
    rw [(lookup_eq_some_iff hi q a ts).2 ⟨row, he, hf⟩] at hl'
    cases hl'
    exact eq_of_length_le_one (h _ he _ hf) hr hr'
  · intro h e he f hf
    refine length_le_one_of_nodup (((tinv_iff.1 hi).2 e he).2 f hf).1 fun x hx y hy => ?_
    exact h e.1 f.1 x y ((mem_edges_raw T _ _ _).2 ⟨e.2, he, f.2, hf, hx⟩)
      ((mem_edges_raw T _ _ _).2 ⟨e.2, he, f.2, hf, hy⟩)

/-- `self._transition_function(q, a)` returns the targets of the transitions present -/
theorem mem_call_iff {det : Bool} {T : Table} (hi : TInv det T) (q r : Nat) (a : Option Nat) :
    r ∈ call T q a ↔ (q, a, r) ∈ edges T :=
  mem_call hi

theorem det_functional {T : Table} (hi : TInv true T) :
    Functional (edges T) ∧ ∀ t ∈ edges T, t.2.1 ≠ none := by
  constructor
  · intro q a r r' h1 h2
    obtain ⟨ts, hl, _⟩ := (mem_edges_iff hi q a r).1 h1
    obtain ⟨_, r₀, _, hc⟩ := mem_edges_det hi hl
    rw [(hc r).1 h1, (hc r').1 h2]
  · rintro ⟨q, a, r⟩ ht
    obtain ⟨ts, hl, _⟩ := (mem_edges_iff hi q a r).1 ht
    exact (mem_edges_det hi hl).1

theorem functional_congr {d d' : List (Nat × Option Nat × Nat)} (h : ∀ t, t ∈ d ↔ t ∈ d') :
    Functional d ↔ Functional d' := by
  unfold Functional
  simp only [h]

/-- the table queries are functions of the set of transitions present: two tables of the right shape, of
either kind and whatever their origin, that hold the same transitions answer alike -/
theorem queries_congr {det det' : Bool} {T T' : Table} (hi : TInv det T) (hi' : TInv det' T')
    (hE : ∀ t, t ∈ edges T ↔ t ∈ edges T') :
    tfDeterministic T = tfDeterministic T' ∧ numTransitions T = numTransitions T' ∧
      ∀ q a r, r ∈ call T q a ↔ r ∈ call T' q a := by
  refine ⟨?_, ?_, fun q a r => ?_⟩
  · rw [Bool.eq_iff_iff, tfDeterministic_iff hi, tfDeterministic_iff hi']
    exact functional_congr hE
  · rw [numTransitions_eq, numTransitions_eq]
    exact ((List.perm_ext_iff_of_nodup (edges_nodup hi) (edges_nodup hi')).mpr hE).length_eq
  · rw [mem_call_iff hi, mem_call_iff hi']
    exact hE _

/-- history independence: two histories that lead to the same sets of start states, final
states and transitions give objects that answer alike — same language, same determinism verdict,
same number of transitions, same successors — whatever was added and removed on the way -/
theorem history_independent (det : Bool) (ops₁ ops₂ : List Op)
    (hs : ∀ q, q ∈ (absRun det absNew ops₁).starts ↔ q ∈ (absRun det absNew ops₂).starts)
    (hf : ∀ q, q ∈ (absRun det absNew ops₁).finals ↔ q ∈ (absRun det absNew ops₂).finals)
    (hd : ∀ t, t ∈ (absRun det absNew ops₁).delta ↔ t ∈ (absRun det absNew ops₂).delta) :
    let o₁ := run (new det) ops₁
    let o₂ := run (new det) ops₂
    (∀ w, (toENFA o₁).Lang w ↔ (toENFA o₂).Lang w) ∧
    tfDeterministic o₁.trans = tfDeterministic o₂.trans ∧
    numTransitions o₁.trans = numTransitions o₂.trans ∧
    ∀ q a r, r ∈ call o₁.trans q a ↔ r ∈ call o₂.trans q a := by
  intro o₁ o₂
  obtain ⟨⟨_, _, hst1, hfi1, hed1, _⟩, hi1, _⟩ := run_refines det ops₁
  obtain ⟨⟨_, _, hst2, hfi2, hed2, _⟩, hi2, _⟩ := run_refines det ops₂
  rw [← hst1, ← hst2] at hs
  rw [← hfi1, ← hfi2] at hf
  have hE : ∀ t, t ∈ edges o₁.trans ↔ t ∈ edges o₂.trans := fun t =>
    (hed1 t).trans ((hd t).trans (hed2 t).symm)
  exact ⟨fun w => ENFA.lang_congr hs hf hE w, queries_congr hi1 hi2 hE⟩

end PQ
end FAObj
end Pfl
