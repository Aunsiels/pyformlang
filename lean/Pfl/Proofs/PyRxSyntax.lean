/-
What the PythonRegex proofs start from: the one-character tokens `sing s` of a text, the pipeline
given the results of its passes (`transform_eq`); language equivalence of regex trees (`Eqv`);
juxtaposition and union of expressions of the reader's grammar, which the reader nests to the right
(`Reads.app`, `Reads.uni`); and what the proofs about
`_preprocess_positive_closure` (with `_add_repetition`) and `_preprocess_optional` share: the text of
`{m,n}` (`C.braces`), the characters the front copies (`Ordinary`), token lists without
a pending backslash (`NoBsT`), `_add_repetition` as a relation between input and output tokens (`AR`), and
the relation of the loops that push tokens while reading characters, closed under `++` (`Pushes`).
-/
import Pfl.Proofs.ReaderGrammar
import Pfl.Model.PyRegexPasses
import Pfl.Proofs.RegexLemmas
import Pfl.Model.PyRender
import Pfl.Proofs.FreshName
namespace Pfl.PyPass

def sing (s : List Char) : List Tok := s.map fun c => [c]

theorem sing_flatten (s : List Char) : (sing s).flatten = s := by
  induction s with
  | nil => rfl
  | cons c r ih => simp [sing] at ih ⊢; exact ih

theorem pushTok_of (rt : RToks) (s : Tok) (h : escNext rt = false) : pushTok rt s = s :: rt := by
  cases rt with
  | nil => rfl
  | cons t r =>
    simp only [escNext] at h
    simp [pushTok, h]

theorem pushSym_of (rt : RToks) (c : Char) (h : escNext rt = false) : pushSym rt c = [c] :: rt :=
  pushTok_of rt [c] h

theorem escNext_cons (t : Tok) (rt : RToks) (h : t ≠ ['\\']) : escNext (t :: rt) = false := by
  simp [escNext, h]

theorem ascii_ok (s : Tok) (hs : ∀ c ∈ s, c.toNat < 128) :
    s.any (fun c => decide (c.toNat ≥ 128)) = false := by
  simp only [List.any_eq_false]
  intro c hc
  have := hs c hc
  simp; omega

theorem transform_eq (s s3 s4 s5 s6 : Tok) (h0 : ∀ c ∈ s, c.toNat < 128)
    (h3 : preprocessBrackets (escapeInBrackets (replaceShortcuts s)) = .ok s3)
    (h4 : preprocessPositiveClosure s3 = .ok s4) (h5 : preprocessOptional s4 = .ok s5)
    (h6 : separate s5 = .ok s6) : transform s = .ok (lstripBackspace s6) := by
  simp only [transform, ascii_ok s h0, Bool.false_eq_true, if_false]
  show (preprocessBrackets (escapeInBrackets (replaceShortcuts s)) >>= fun s3 =>
    preprocessPositiveClosure s3 >>= fun s4 => preprocessOptional s4 >>= fun s5 =>
    separate s5 >>= fun s6 => pure (lstripBackspace s6)) = _
  rw [h3]
  show (preprocessPositiveClosure s3 >>= fun s4 => preprocessOptional s4 >>= fun s5 =>
    separate s5 >>= fun s6 => pure (lstripBackspace s6)) = _
  rw [h4]
  show (preprocessOptional s4 >>= fun s5 => separate s5 >>= fun s6 => pure (lstripBackspace s6)) = _
  rw [h5]
  show (separate s5 >>= fun s6 => pure (lstripBackspace s6)) = _
  rw [h6]
  rfl

end Pfl.PyPass

namespace Pfl.PyRx.E2E
open Pfl.Rx Pfl.Rx.Lem

theorem alnum_range (c : Char) (h : c.isAlphanum = true) :
    (65 ≤ c.toNat ∧ c.toNat ≤ 90) ∨ (97 ≤ c.toNat ∧ c.toNat ≤ 122) ∨ (48 ≤ c.toNat ∧ c.toNat ≤ 57) := by
  simp only [Char.isAlphanum, Char.isAlpha, Char.isUpper, Char.isLower, Char.isDigit,
    Bool.or_eq_true, Bool.and_eq_true, decide_eq_true_eq, UInt32.le_iff_toNat_le] at h
  have : c.val.toNat = c.toNat := rfl
  simp only [this] at h
  have e1 : 'A'.val.toNat = 65 := rfl
  have e2 : 'Z'.val.toNat = 90 := rfl
  have e3 : 'a'.val.toNat = 97 := rfl
  have e4 : 'z'.val.toNat = 122 := rfl
  have e5 : '0'.val.toNat = 48 := rfl
  have e6 : '9'.val.toNat = 57 := rfl
  rw [e1, e2, e3, e4, e5, e6] at h
  omega

theorem alnum_ne (c d : Char) (h : c.isAlphanum = true) (hd : d.isAlphanum = false) : c ≠ d := by
  rintro rfl; rw [h] at hd; exact absurd hd (by simp)

def Eqv (a b : Rx) : Prop := ∀ w, Denote a w ↔ Denote b w

theorem Eqv.rfl' {a : Rx} : Eqv a a := fun _ => Iff.rfl
theorem Eqv.symm {a b : Rx} (h : Eqv a b) : Eqv b a := fun w => (h w).symm
theorem Eqv.trans {a b c : Rx} (h : Eqv a b) (h' : Eqv b c) : Eqv a c := fun w => (h w).trans (h' w)

theorem Eqv.cat {a a' b b' : Rx} (h : Eqv a a') (h' : Eqv b b') : Eqv (.cat a b) (.cat a' b') := by
  intro w
  simp only [cat_denote]
  constructor <;> rintro ⟨u, v, rfl, h1, h2⟩
  · exact ⟨u, v, rfl, (h u).mp h1, (h' v).mp h2⟩
  · exact ⟨u, v, rfl, (h u).mpr h1, (h' v).mpr h2⟩

theorem Eqv.alt {a a' b b' : Rx} (h : Eqv a a') (h' : Eqv b b') : Eqv (.alt a b) (.alt a' b') := by
  intro w
  simp only [alt_denote, h w, h' w]

theorem Eqv.star {a a' : Rx} (h : Eqv a a') : Eqv (.star a) (.star a') := by
  intro w
  simp only [star_denote]
  constructor <;> rintro ⟨ws, rfl, hws⟩
  · exact ⟨ws, rfl, fun x hx => (h x).mp (hws x hx)⟩
  · exact ⟨ws, rfl, fun x hx => (h x).mpr (hws x hx)⟩

theorem Eqv.cat_assoc (a b c : Rx) : Eqv (.cat (.cat a b) c) (.cat a (.cat b c)) := by
  intro w
  simp only [cat_denote]
  constructor
  · rintro ⟨u, v, rfl, ⟨u1, u2, rfl, h1, h2⟩, h3⟩
    exact ⟨u1, u2 ++ v, by simp, h1, u2, v, rfl, h2, h3⟩
  · rintro ⟨u, v, rfl, h1, v1, v2, rfl, h2, h3⟩
    exact ⟨u ++ v1, v2, by simp, ⟨u, v1, rfl, h1, h2⟩, h3⟩

theorem Eqv.alt_assoc (a b c : Rx) : Eqv (.alt (.alt a b) c) (.alt a (.alt b c)) := by
  intro w
  simp only [alt_denote, or_assoc]

inductive C where
  | ch (c : Char)
  | grp (x : C)
  | seq (a b : C)
  | bar (a b : C)
  | star (a : C)
  | plus (a : C)
  | opt (a : C)
  | rep (a : C) (m n : Nat)

namespace C

def braces (m n : Nat) : List Char :=
  if m = n then ['{'] ++ natText m ++ ['}'] else ['{'] ++ natText m ++ [','] ++ natText n ++ ['}']

def text : C → List Char
  | ch c => [c]
  | grp x => '(' :: text x ++ [')']
  | seq a b => text a ++ text b
  | bar a b => text a ++ '|' :: text b
  | star a => text a ++ ['*']
  | plus a => text a ++ ['+']
  | opt a => text a ++ ['?']
  | rep a m n => text a ++ braces m n

def cl : C → Nat
  | seq _ _ => 1
  | bar _ _ => 2
  | _ => 0

end C

open C

/-- Juxtaposition of two expressions below a union: the reader nests to the right, the language is
that of the concatenation. -/
theorem Reads.app {l l' ka kb : Nat} {us vs : List (List Char)} {a b : Rx}
    (h : Reads l ka us a) (hl : l ≤ 1) (h' : Reads l' kb vs b) (hl' : l' ≤ 1) :
    ∃ k r, Reads 1 k (us ++ vs) r ∧ Eqv r (.cat a b) := by
  have atom : ∀ {k ts r}, Reads 0 k ts r → ∃ k' r', Reads 1 k' (ts ++ vs) r' ∧ Eqv r' (.cat r b) :=
    fun h0 => ⟨_, _, by simpa using Reads.cat [] (Or.inl rfl) h0 h' hl', Eqv.rfl'⟩
  induction h with
  | tok ha hx => exact atom (.tok ha hx)
  | par h _ => exact atom (.par h)
  | star h _ => exact atom (.star h)
  | cat d hd h1 _ hl2 _ ih2 =>
    obtain ⟨k, r, hr, e⟩ := ih2 hl2
    exact ⟨_, _, by simpa using Reads.cat d hd h1 hr (Nat.le_refl _),
      (Eqv.cat Eqv.rfl' e).trans (Eqv.cat_assoc _ _ _).symm⟩
  | alt => omega

/-- Union of two expressions: again nested to the right. -/
theorem Reads.uni {l l' ka kb : Nat} {us vs : List (List Char)} {a b : Rx}
    (h : Reads l ka us a) (h' : Reads l' kb vs b) :
    ∃ k r, Reads 2 k (us ++ ['|'] :: vs) r ∧ Eqv r (.alt a b) := by
  have low : ∀ {l k ts r}, Reads l k ts r → l ≤ 1 →
      ∃ k' r', Reads 2 k' (ts ++ ['|'] :: vs) r' ∧ Eqv r' (.alt r b) :=
    fun h0 hl => ⟨_, _, .alt h0 hl h', Eqv.rfl'⟩
  induction h with
  | tok ha hx => exact low (.tok ha hx) (Nat.zero_le _)
  | par h _ => exact low (.par h) (Nat.zero_le _)
  | star h _ => exact low (.star h) (Nat.zero_le _)
  | cat d hd h1 h2 hl2 _ _ => exact low (.cat d hd h1 h2 hl2) (Nat.le_refl _)
  | alt h1 hl1 _ _ ih2 =>
    obtain ⟨k, r, hr, e⟩ := ih2
    exact ⟨_, _, by simpa using Reads.alt h1 hl1 hr,
      (Eqv.alt Eqv.rfl' e).trans (Eqv.alt_assoc _ _ _).symm⟩

open Pfl.PyPass

/-- the operand of a postfix operator -/
def wrapQ (a : P) (x : C) : C := if isQuantified a then .grp x else x

def toC : P → Ctx → C
  | .lit c, _ => .ch c
  | .cat a b, ctx =>
    let s := C.seq (toC a .cat) (toC b .cat)
    if ctx = .q then .grp s else s
  | .alt a b, ctx =>
    let s := C.bar (toC a .top) (toC b .top)
    if ctx ≠ .top then .grp s else s
  | .star a, _ => .star (wrapQ a (toC a .q))
  | .plus a, _ => .plus (wrapQ a (toC a .q))
  | .opt a, _ => .opt (wrapQ a (toC a .q))
  | .rep a m n, _ => .rep (wrapQ a (toC a .q)) m n
  | _, _ => .ch ' '

/-- letters and digits, `* + ? {m} {m,n}` with `m ≤ n` -/
def Frag2 : P → Prop
  | .lit c => c.isAlphanum = true
  | .cat a b => Frag2 a ∧ Frag2 b
  | .alt a b => Frag2 a ∧ Frag2 b
  | .star a => Frag2 a
  | .plus a => Frag2 a
  | .opt a => Frag2 a
  | .rep a m n => Frag2 a ∧ m ≤ n
  | _ => False

/-- a single character or a parenthesised group -/
def IsUnit : C → Prop
  | .ch _ => True
  | .grp _ => True
  | _ => False

theorem IsUnit.cl {x : C} (h : IsUnit x) : cl x = 0 := by
  cases x <;> first | rfl | exact absurd h (by simp [IsUnit])

theorem toC_cl_q : ∀ p, Frag2 p → cl (toC p .q) = 0
  | .lit _, _ => rfl
  | .cat _ _, _ => rfl
  | .alt _ _, _ => rfl
  | .star _, _ => rfl
  | .plus _, _ => rfl
  | .opt _, _ => rfl
  | .rep _ _ _, _ => rfl

theorem tokc_eq (c d : Char) : (([c] : Tok) == [d]) = decide (c = d) := by
  by_cases h : c = d <;> simp [h]

/-- the trees `C` that are texts of patterns; the flags say whether `+`, `{..}`, `?` may occur -/
def Form (pl rp op : Bool) : C → Prop
  | .ch c => c.isAlphanum = true ∨ c = '$'
  | .grp x => Form pl rp op x
  | .seq a b => Form pl rp op a ∧ Form pl rp op b ∧ cl a ≤ 1 ∧ cl b ≤ 1
  | .bar a b => Form pl rp op a ∧ Form pl rp op b
  | .star a => Form pl rp op a ∧ IsUnit a
  | .plus a => pl = true ∧ Form pl rp op a ∧ IsUnit a
  | .opt a => op = true ∧ Form pl rp op a ∧ IsUnit a
  | .rep a m n => rp = true ∧ Form pl rp op a ∧ IsUnit a ∧ m ≤ n

/-- a character the front copies: it passes the ASCII guard, and outside sets and escapes none of the first three
passes reacts to it -/
abbrev Ordinary (c : Char) : Prop := c ≠ ' ' ∧ c ≠ '\\' ∧ c ≠ '[' ∧ c.toNat < 128

theorem alnum_ordinary {c : Char} (h : c.isAlphanum = true) : Ordinary c := by
  have := alnum_range c h
  exact ⟨alnum_ne c _ h (by decide), alnum_ne c _ h (by decide), alnum_ne c _ h (by decide), by omega⟩

theorem natText_digits (n : Nat) : ∀ c ∈ natText n, c.isDigit = true :=
  Fresh.toString_isDigit n

theorem mem_braces (m n : Nat) (c : Char) (hc : c ∈ braces m n) :
    c.isDigit = true ∨ c ∈ ['{', '}', ','] := by
  unfold braces at hc
  split at hc <;> simp only [List.mem_append, List.mem_cons, List.not_mem_nil, or_false] at hc
  · rcases hc with (rfl | hc) | rfl
    · exact Or.inr (by decide)
    · exact Or.inl (natText_digits _ c hc)
    · exact Or.inr (by decide)
  · rcases hc with (((rfl | hc) | rfl) | hc) | rfl
    · exact Or.inr (by decide)
    · exact Or.inl (natText_digits _ c hc)
    · exact Or.inr (by decide)
    · exact Or.inl (natText_digits _ c hc)
    · exact Or.inr (by decide)

theorem braces_ordinary (m n : Nat) : ∀ c ∈ braces m n, Ordinary c := by
  intro c hc
  rcases mem_braces m n c hc with h | h
  · exact alnum_ordinary (by simp [Char.isAlphanum, h])
  · clear hc; revert h c; decide

theorem toNat_natText (n : Nat) : PyPass.toNat (natText n) = n := by
  have : PyPass.toNat (natText n) = Nat.ofDigitChars 10 (Nat.toDigits 10 n) 0 := by
    simp only [natText, Nat.toString_eq_repr, Nat.toList_repr]
    rfl
  rw [this, Nat.ofDigitChars_ten_toDigits]

theorem natText_ne_nil (n : Nat) : natText n ≠ [] := by
  simp only [natText, Nat.toString_eq_repr, Nat.toList_repr]
  exact Nat.toDigits_ne_nil

theorem isDigitStr_natText (n : Nat) : isDigitStr (natText n) = true := by
  have h1 : (natText n).isEmpty = false := by
    cases h : natText n with
    | nil => exact absurd h (natText_ne_nil n)
    | cons _ _ => rfl
  simp only [isDigitStr, h1, Bool.not_false, Bool.true_and, List.all_eq_true]
  exact natText_digits n

theorem untilClose_sing (ds : List Char) (h : '}' ∉ ds) (rest : List Tok) :
    untilClose (sing ds ++ ['}'] :: rest) = some (sing ds) := by
  induction ds with
  | nil => simp [sing, untilClose]
  | cons c r ih =>
    have hc : c ≠ '}' := fun e => h (by simp [e])
    have := ih (fun hm => h (by simp [hm]))
    simp only [sing, List.map_cons, List.cons_append] at this ⊢
    simp [untilClose, hc, this]

theorem splitComma_digits (a : List Char) (ha : ',' ∉ a) : splitComma a = [a] := by
  induction a with
  | nil => rfl
  | cons c r ih =>
    have hc : c ≠ ',' := fun e => ha (by simp [e])
    simp [splitComma, ih (fun hm => ha (by simp [hm])), hc]

theorem splitComma_pair (a b : List Char) (ha : ',' ∉ a) (hb : ',' ∉ b) :
    splitComma (a ++ ',' :: b) = [a, b] := by
  induction a with
  | nil => simp [splitComma, splitComma_digits b hb]
  | cons c r ih =>
    have hc : c ≠ ',' := fun e => ha (by simp [e])
    simp [splitComma, ih (fun hm => ha (by simp [hm])), hc]

theorem natText_no (n : Nat) (c : Char) (hc : c.isDigit = false) : c ∉ natText n := by
  intro h
  rw [natText_digits n c h] at hc
  exact absurd hc (by simp)

theorem isRepetition_exact (m : Nat) (rest : List Tok) :
    isRepetition ['{'] (sing (natText m) ++ ['}'] :: rest) =
      some (.exact m ((natText m).length + 1)) := by
  unfold isRepetition
  rw [untilClose_sing _ (natText_no m _ (by decide))]
  have h1 : (sing (natText m)).flatten.contains ',' = false := by
    rw [sing_flatten]
    simpa using natText_no m ',' (by decide)
  simp only [bne_self_eq_false, Bool.false_eq_true, if_false, h1]
  rw [sing_flatten, isDigitStr_natText, toNat_natText]
  simp [sing]

theorem isRepetition_between (m n : Nat) (rest : List Tok) :
    isRepetition ['{'] (sing (natText m ++ ',' :: natText n) ++ ['}'] :: rest) =
      some (.between m n ((natText m ++ ',' :: natText n).length + 1)) := by
  unfold isRepetition
  rw [untilClose_sing _ (by
    intro h
    rcases List.mem_append.mp h with h | h
    · exact natText_no m _ (by decide) h
    · rcases List.mem_cons.mp h with h | h
      · exact absurd h (by decide)
      · exact natText_no n _ (by decide) h)]
  have h1 : (sing (natText m ++ ',' :: natText n)).flatten.contains ',' = true := by
    rw [sing_flatten]; simp
  simp only [bne_self_eq_false, Bool.false_eq_true, if_false, h1, if_true]
  rw [sing_flatten, splitComma_pair _ _ (natText_no m _ (by decide)) (natText_no n _ (by decide))]
  simp only [isDigitStr_natText, Bool.and_self, if_true, toNat_natText]
  simp [sing]

theorem addRep_skip (sk rest : List Tok) (res : RToks) :
    addRepetitionGo (sk ++ rest) sk.length res = addRepetitionGo rest 0 res := by
  induction sk with
  | nil => rfl
  | cons t r ih => simpa [addRepetitionGo] using ih

theorem extendN_eq (k : Nat) (R res : RToks) :
    extendN k R res = (List.replicate k R).flatten ++ res := by
  induction k generalizing res with
  | zero => rfl
  | succ k ih =>
    rw [extendN, ih, List.replicate_succ']
    simp

/-- the loop maps the tokens `l` to the tokens `l'` -/
def AR (l l' : List Tok) : Prop :=
  ∀ rest res, addRepetitionGo (l ++ rest) 0 res = addRepetitionGo rest 0 (l'.reverse ++ res)

theorem AR.append {l1 l1' l2 l2' : List Tok} (h1 : AR l1 l1') (h2 : AR l2 l2') :
    AR (l1 ++ l2) (l1' ++ l2') := by
  intro rest res
  rw [List.append_assoc, h1, h2]
  simp

theorem form_mono_op {pl rp op : Bool} : ∀ x, Form pl rp op x → Form pl rp true x
  | .ch _, h => h
  | .grp x, h => form_mono_op x h
  | .seq a b, h => ⟨form_mono_op a h.1, form_mono_op b h.2.1, h.2.2⟩
  | .bar a b, h => ⟨form_mono_op a h.1, form_mono_op b h.2⟩
  | .star a, h => ⟨form_mono_op a h.1, h.2⟩
  | .plus a, h => ⟨h.1, form_mono_op a h.2.1, h.2.2⟩
  | .opt a, h => ⟨rfl, form_mono_op a h.2.1, h.2.2⟩
  | .rep a _ _, h => ⟨h.1, form_mono_op a h.2.1, h.2.2⟩

def NoBsT (l : List Tok) : Prop := ∀ t ∈ l, t ≠ ['\\']

theorem NoBsT.nil : NoBsT [] := fun _ h => nomatch h

theorem NoBsT.single {t : Tok} (h : t ≠ ['\\']) : NoBsT [t] := fun x hx => by
  rw [List.mem_singleton.mp hx]; exact h

theorem NoBsT.append {l1 l2 : List Tok} (h1 : NoBsT l1) (h2 : NoBsT l2) : NoBsT (l1 ++ l2) :=
  fun t ht => (List.mem_append.mp ht).elim (h1 t) (h2 t)

theorem escNext_toks (l : List Tok) (hl : NoBsT l) (rt : RToks) (h : escNext rt = false) :
    escNext (l.reverse ++ rt) = false := by
  rcases List.eq_nil_or_concat l with rfl | ⟨l', t, rfl⟩
  · simpa using h
  · have := hl t (by simp)
    simp [escNext, this]

theorem Eqv.cat_eps (r : Rx) : Eqv (.cat r .eps) r := by
  intro w
  rw [Rx.Lem.cat_denote]
  constructor
  · rintro ⟨u, v, rfl, h1, h2⟩
    rw [Rx.Lem.eps_denote] at h2
    subst h2
    simpa using h1
  · intro h
    exact ⟨w, [], by simp, h, .eps⟩

/-- A loop over the characters of a text whose state holds, through `put`, the reversed list of the tokens
written so far: started without a pending backslash on the text of the tokens `s`, it leaves the tokens `l`
on top. -/
def Pushes {σ ε : Type} (step : σ → Char → Except ε σ) (put : RToks → σ) (s l : List Tok) : Prop :=
  NoBsT l ∧ ∀ rt, escNext rt = false → s.flatten.foldlM step (put rt) = .ok (put (l.reverse ++ rt))

variable {σ ε : Type} {step : σ → Char → Except ε σ} {put : RToks → σ} {s s1 s2 l l1 l2 : List Tok}

theorem Pushes.nil : Pushes step put [] [] := ⟨NoBsT.nil, fun _ _ => rfl⟩

theorem Pushes.append (h1 : Pushes step put s1 l1) (h2 : Pushes step put s2 l2) :
    Pushes step put (s1 ++ s2) (l1 ++ l2) := by
  refine ⟨h1.1.append h2.1, fun rt hrt => ?_⟩
  rw [List.flatten_append, List.foldlM_append, h1.2 rt hrt]
  show List.foldlM step (put (l1.reverse ++ rt)) s2.flatten = _
  rw [h2.2 _ (escNext_toks l1 h1.1 rt hrt), List.reverse_append, List.append_assoc]

theorem Pushes.run (h : Pushes step put s l) : s.flatten.foldlM step (put []) = .ok (put l.reverse) := by
  simpa using h.2 [] rfl

end Pfl.PyRx.E2E
