/- The automaton object model (C19, `Pfl/Props/C19_FAObject.lean`), reachable objects: every
automaton object reachable through the public API stands for a well-formed value (the hypothesis `ENFA.WF` of the C01–C04 theorems), and a
`DeterministicFiniteAutomaton` object for a deterministic ε-free one.  Well-formedness and the bound on
the start states are shown for `absStep`, on the value, and carried to the object by refinement. -/
import Pfl.Spec.FAObject
import Pfl.Proofs.FAObject
import Pfl.Proofs.FAObjectQ
namespace Pfl
namespace FAObj
namespace PW
open Pfl.FAObj.P Pfl.FAObj.PQ

def absENFA (s : Abs) : ENFA Nat := ⟨s.states, s.syms, s.starts, s.finals, s.delta⟩

theorem wf_mono {A : ENFA Nat} {st sy ss fs : List Nat} {d : List (Nat × Option Nat × Nat)} (hA : A.WF)
    (hst : ∀ x ∈ A.states, x ∈ st) (hsy : ∀ x ∈ A.syms, x ∈ sy) (hss : ∀ x ∈ ss, x ∈ A.starts ∨ x ∈ st)
    (hfs : ∀ x ∈ fs, x ∈ A.finals ∨ x ∈ st)
    (hd : ∀ t ∈ d, t ∈ A.delta ∨ (t.1 ∈ st ∧ t.2.2 ∈ st ∧ ∀ a, t.2.1 = some a → a ∈ sy)) :
    (ENFA.mk st sy ss fs d).WF :=
  ⟨fun x hx => (hss x hx).elim (fun h => hst x (hA.starts_sub x h)) id,
    fun x hx => (hfs x hx).elim (fun h => hst x (hA.finals_sub x h)) id,
    fun t ht => (hd t ht).elim (fun h => hst _ (hA.delta_src t h)) (·.1),
    fun t ht => (hd t ht).elim (fun h => hst _ (hA.delta_dst t h)) (·.2.1),
    fun t ht a ha => (hd t ht).elim (fun h => hsy _ (hA.delta_sym t h a ha)) (·.2.2 a ha)⟩

theorem wf_of_refines {o : Obj} {s : Abs} (hr : Refines o s) (h : (absENFA s).WF) : (toENFA o).WF := by
  obtain ⟨d, rfl, h5, _, _⟩ := refines_iff.1 hr
  exact wf_mono h (fun _ => id) (fun _ => id) (fun _ => Or.inl) (fun _ => Or.inl)
    (fun t ht => Or.inl ((h5 t).1 ht))

theorem mem_symsAdd {a : Option Nat} {l : List Nat} {x : Nat} : x ∈ symsAdd a l ↔ a = some x ∨ x ∈ l := by
  cases a with
  | none => exact ⟨Or.inr, fun h => h.elim (fun e => nomatch e) id⟩
  | some y =>
    show x ∈ ins y l ↔ _
    rw [mem_ins, Option.some.injEq, eq_comm]

/-- states and symbols are registered before they are used and nothing ever unregisters them -/
theorem absStep_wf (det : Bool) {s : Abs} (op : Op) (h : (absENFA s).WF) :
    (absENFA (absStep det s op)).WF := by
  cases op with
  | addT q a r =>
    show (absENFA (if _ then s else _)).WF
    split
    · exact h
    · refine wf_mono h (fun x hx => mem_ins.2 (Or.inr (mem_ins.2 (Or.inr hx))))
        (fun x hx => mem_symsAdd.2 (Or.inr hx)) (fun _ => Or.inl) (fun _ => Or.inl) fun t ht => ?_
      rcases mem_insT.1 ht with rfl | ht
      · exact Or.inr ⟨mem_ins.2 (Or.inr (mem_ins.2 (Or.inl rfl))), mem_ins.2 (Or.inl rfl),
          fun x hx => mem_symsAdd.2 (Or.inl hx)⟩
      · exact Or.inl ht
  | remT q a r =>
    exact wf_mono h (fun _ => id) (fun _ => id) (fun _ => Or.inl) (fun _ => Or.inl)
      (fun t ht => Or.inl (List.mem_of_mem_erase ht))
  | addStart q =>
    have hq : q ∈ ins q s.states := mem_ins.2 (Or.inl rfl)
    cases det with
    | true =>
      exact wf_mono h (fun x hx => mem_ins.2 (Or.inr hx)) (fun _ => id)
        (fun x hx => Or.inr (List.mem_singleton.1 hx ▸ hq)) (fun _ => Or.inl) (fun _ => Or.inl)
    | false =>
      exact wf_mono h (fun x hx => mem_ins.2 (Or.inr hx)) (fun _ => id)
        (fun x hx => (mem_ins.1 hx).elim (fun e => Or.inr (e ▸ hq)) Or.inl) (fun _ => Or.inl)
        (fun _ => Or.inl)
  | remStart q =>
    cases det with
    | true =>
      show (absENFA (if s.starts = [q] then { s with starts := [] } else s)).WF
      split
      · exact wf_mono h (fun _ => id) (fun _ => id) (fun _ hx => nomatch hx) (fun _ => Or.inl)
          (fun _ => Or.inl)
      · exact h
    | false =>
      exact wf_mono h (fun _ => id) (fun _ => id) (fun x hx => Or.inl (List.mem_of_mem_erase hx))
        (fun _ => Or.inl) (fun _ => Or.inl)
  | addFinal q =>
    have hq : q ∈ ins q s.states := mem_ins.2 (Or.inl rfl)
    exact wf_mono h (fun x hx => mem_ins.2 (Or.inr hx)) (fun _ => id) (fun _ => Or.inl)
      (fun x hx => (mem_ins.1 hx).elim (fun e => Or.inr (e ▸ hq)) Or.inl) (fun _ => Or.inl)
  | remFinal q =>
    exact wf_mono h (fun _ => id) (fun _ => id) (fun _ => Or.inl)
      (fun x hx => Or.inl (List.mem_of_mem_erase hx)) (fun _ => Or.inl)
  | addSym a =>
    exact wf_mono h (fun _ => id) (fun x hx => mem_ins.2 (Or.inr hx)) (fun _ => Or.inl)
      (fun _ => Or.inl) (fun _ => Or.inl)

theorem absStep_starts {s : Abs} (op : Op) (h : s.starts.length ≤ 1) :
    (absStep true s op).starts.length ≤ 1 := by
  cases op with
  | addT q a r =>
    show (if _ then s else _ : Abs).starts.length ≤ 1
    split
    · exact h
    · exact h
  | addStart q => exact Nat.le_refl 1
  | remStart q =>
    show (if s.starts = [q] then { s with starts := [] } else s : Abs).starts.length ≤ 1
    split
    · exact Nat.zero_le 1
    · exact h
  | _ => exact h

/-- every object reachable from a well-formed one by a history of mutator calls stands for a
well-formed value: the hypothesis `WF` of the theorems of C01–C04 holds for everything the public API
can build -/
theorem run_wf (o : Obj) (ops : List Op) (hi : TInv o.det o.trans) (hwf : (toENFA o).WF) :
    (toENFA (run o ops)).WF ∧ TInv o.det (run o ops).trans ∧ (run o ops).det = o.det := by
  obtain ⟨hr, h⟩ := run_refines_gen ops o _ hi (refines_self hi)
  refine ⟨wf_of_refines hr ?_, h⟩
  -- `absENFA (toAbs o (edges o.trans))` unfolds to `toENFA o`: `hwf` starts the fold
  exact List.foldlRecOn (motive := fun s => (absENFA s).WF) ops (absStep o.det) hwf
    fun _ h op _ => absStep_wf o.det op h

theorem run_starts (o : Obj) (ops : List Op) (hd : o.det = true) (hi : TInv o.det o.trans)
    (hs : o.starts.length ≤ 1) : (run o ops).starts.length ≤ 1 := by
  obtain ⟨hr, _⟩ := run_refines_gen ops o _ hi (refines_self hi)
  rw [hr.2.2.1, hd]
  exact List.foldlRecOn (motive := fun s => s.starts.length ≤ 1) ops (absStep true)
    (b := toAbs o (edges o.trans)) hs fun _ h op _ => absStep_starts op h

/-- a `DeterministicFiniteAutomaton` object, whatever is done to it through the API, stands for a
deterministic, ε-free, well-formed value: the hypotheses of `acceptsD_iff`, of the complement of
deterministic automata and of `minimize` -/
theorem run_dfa (o : Obj) (ops : List Op) (hd : o.det = true) (hi : TInv true o.trans)
    (hwf : (toENFA o).WF) (hs : o.starts.length ≤ 1) :
    (toENFA (run o ops)).WF ∧ (toENFA (run o ops)).Deterministic ∧ (toENFA (run o ops)).EpsFree := by
  have hi0 : TInv o.det o.trans := by rw [hd]; exact hi
  obtain ⟨hw, ht, _⟩ := run_wf o ops hi0 hwf
  rw [hd] at ht
  obtain ⟨hf, he⟩ := det_functional ht
  have hl := run_starts o ops hd hi0 hs
  refine ⟨hw, ⟨?_, ?_, ?_⟩, ?_⟩
  · exact fun p hp q hq => eq_of_length_le_one hl hp hq
  · exact hf
  · intro q r h
    exact absurd rfl (he _ h)
  · exact he

end PW
end FAObj
end Pfl
