/-
`_preprocess_positive_closure` and `_add_repetition` map a pattern (`Pat`) to a pattern of the same level
and language without `+` and `{..}`.
-/
import Pfl.Proofs.PyRxTokenTrees
namespace Pfl.PyRx.E2E.S3
open Pfl.RegexReader Pfl.PyPass

inductive BalT : List Tok → Prop
  | nil : BalT []
  | tok (t : Tok) : t ≠ ['('] → t ≠ [')'] → BalT [t]
  | wrap {u : List Tok} : BalT u → BalT (['('] :: (u ++ [[')']]))
  | app {u v : List Tok} : BalT u → BalT v → BalT (u ++ v)

theorem BalT.of_all {l : List Tok} (h : ∀ t ∈ l, t ≠ ['('] ∧ t ≠ [')']) : BalT l := by
  induction l with
  | nil => exact .nil
  | cons t r ih =>
    exact BalT.app (.tok t (h t (by simp)).1 (h t (by simp)).2) (ih (fun d hd => h d (by simp [hd])))

theorem wrap_rev (u : List Tok) :
    (['('] :: (u ++ [[')']])).reverse = [')'] :: (u.reverse ++ [['(']]) := by simp

theorem beq_tok_false {t s : Tok} (h : t ≠ s) : (t == s) = false := by simpa using h

theorem escNext_bs (rt : RToks) : escNext (['\\'] :: rt) = true := by simp [escNext]

theorem pushSym_esc (rt : RToks) (c : Char) : pushSym (['\\'] :: rt) c = ['\\', c] :: rt := by
  simp [pushSym, pushTok]

/-- a scanner over reversed tokens that counts brackets (`up` at `)`, back at `(`) passes over a
balanced block as long as the counter stays in the range `ok`, where no `(` ends the scan -/
theorem BalT.scan {α : Type} {f : RToks → Int → List Tok → α} {up : Int → Int} {ok : Int → Prop}
    (htok : ∀ t r k a, t ≠ ['('] → t ≠ [')'] → f (t :: r) k a = f r k (t :: a))
    (hclose : ∀ r k a, f ([')'] :: r) k a = f r (up k) ([')'] :: a))
    (hopen : ∀ r k a, ok k → f (['('] :: r) (up k) a = f r k (['('] :: a))
    (hup : ∀ k, ok k → ok (up k)) {u : List Tok} (h : BalT u) :
    ∀ (k : Int) (rest : RToks) (acc : List Tok), ok k →
      f (u.reverse ++ rest) k acc = f rest k (u ++ acc) := by
  induction h with
  | nil => intro k rest acc _; rfl
  | tok t h1 h2 => intro k rest acc _; exact htok t rest k acc h1 h2
  | @wrap u _ ih =>
    intro k rest acc hk
    rw [wrap_rev]
    simp only [List.cons_append, List.append_assoc, List.nil_append]
    rw [hclose, ih (up k) _ _ (hup k hk), hopen _ _ _ hk]
  | @app u v _ _ ihu ihv =>
    intro k rest acc hk
    rw [List.reverse_append, List.append_assoc, ihv k _ _ hk, ihu k _ _ hk, List.append_assoc]

theorem fpoT {u : List Tok} (h : BalT u) (k : Int) (rest : RToks) (acc : List Tok) (hk : 1 ≤ k) :
    findPrevOpenR (u.reverse ++ rest) k acc = findPrevOpenR rest k (u ++ acc) :=
  h.scan (up := (· + 1)) (ok := (1 ≤ ·))
    (fun t r k a h1 h2 => by simp [findPrevOpenR, beq_tok_false h1, beq_tok_false h2])
    (fun r k a => by simp [findPrevOpenR])
    (fun r k a hk => by
      have hk1 : (k + 1 == 1) = false := by simp; omega
      rw [findPrevOpenR]
      simp [hk1])
    (fun k hk => by omega) k rest acc hk

theorem fpoT_group (u : List Tok) (h : BalT u) (rest : RToks) :
    findPrevOpenR ((['('] :: (u ++ [[')']])).reverse ++ rest) 0 [] =
      .ok (['('] :: (u ++ [[')']])).reverse := by
  rw [wrap_rev]
  have e1 : ∀ r, findPrevOpenR ([')'] :: r) 0 [] = findPrevOpenR r 1 [[')']] := by
    intro r; simp [findPrevOpenR]
  simp only [List.cons_append, List.append_assoc, List.nil_append]
  rw [e1, fpoT h 1 _ _ (by omega)]
  simp [findPrevOpenR]

theorem frsT {u : List Tok} (h : BalT u) (k : Int) (rest : RToks) (acc : List Tok) (hk : k ≤ -1) :
    findRepeatedScanR (u.reverse ++ rest) k acc = findRepeatedScanR rest k (u ++ acc) :=
  h.scan (up := (· - 1)) (ok := (· ≤ -1))
    (fun t r k a h1 h2 => by simp [findRepeatedScanR, beq_tok_false h1, beq_tok_false h2])
    (fun r k a => by simp [findRepeatedScanR])
    (fun r k a hk => by
      have hk1 : (k - 1 + 1 == 0) = false := by simp; omega
      rw [findRepeatedScanR]
      simp only [hk1]
      simp)
    (fun k hk => by omega) k rest acc hk

theorem frsT_group (u : List Tok) (h : BalT u) (rest : RToks) :
    findRepeatedR ((['('] :: (u ++ [[')']])).reverse ++ rest) =
      .ok (['('] :: (u ++ [[')']])).reverse := by
  rw [wrap_rev]
  simp only [List.cons_append, List.append_assoc, List.nil_append, findRepeatedR]
  rw [if_neg (by simp), frsT h (-1) _ _ (by omega)]
  simp [findRepeatedScanR]

def UnitToks (u : List Tok) : Prop :=
  (∃ t, u = [t] ∧ t ≠ [')']) ∨ (∃ v, u = ['('] :: (v ++ [[')']]) ∧ BalT v)

/-- the loop maps the text of the tokens `l` to the tokens `l'` -/
def PCT (l l' : List Tok) : Prop := Pushes positiveClosureStep (fun rt => rt) l l'

theorem PCT.ch (c : Char) (h : c ≠ '+' ∧ c ≠ '\\') : PCT [[c]] [[c]] := by
  refine ⟨NoBsT.single (by simpa using h.2), fun rt hrt => ?_⟩
  simp [positiveClosureStep, h.1, pushSym_of rt c hrt, pure, Except.pure]
  rfl

theorem PCT.esc (c : Char) : PCT [['\\', c]] [['\\', c]] := by
  refine ⟨NoBsT.single (by simp), fun rt hrt => ?_⟩
  show List.foldlM positiveClosureStep rt ['\\', c] = _
  simp only [List.foldlM_cons, List.foldlM_nil, positiveClosureStep, hrt, pushSym_of rt '\\' hrt]
  simp [escNext_bs, pushSym_esc, pure, Except.pure, bind, Except.bind]

theorem PCT.plus {l u : List Tok} (h : PCT l u) (hu : UnitToks u) :
    PCT (l ++ [['+']]) (u ++ (u ++ [['*']])) := by
  refine ⟨h.1.append (h.1.append (NoBsT.single (by simp))), fun rt hrt => ?_⟩
  have he : escNext (u.reverse ++ rt) = false := escNext_toks u h.1 rt hrt
  rw [List.flatten_append, List.foldlM_append, h.2 rt hrt]
  show List.foldlM positiveClosureStep (u.reverse ++ rt) ['+'] = _
  rcases hu with ⟨t, rfl, ht⟩ | ⟨v, rfl, hv⟩
  · have he : escNext (t :: rt) = false := he
    simp [positiveClosureStep, he, ht, pure, Except.pure]
    rfl
  · have hg := fpoT_group v hv rt
    rw [List.foldlM_cons]
    unfold positiveClosureStep
    rw [he]
    simp only [bne_self_eq_false, Bool.or_self, Bool.false_eq_true, if_false]
    rw [wrap_rev] at hg ⊢
    simp only [List.cons_append] at hg ⊢
    simp only [bne_self_eq_false, Bool.false_eq_true, if_false, hg]
    simp [pure, Except.pure, bind, Except.bind]

/-- A token none of the characters in `S` makes: a plain character outside `S`, or a character that is no
letter or digit after a backslash.  The loops only push such tokens, each for its own `S`. -/
def Plain (S : List Char) (t : Tok) : Prop :=
  (∃ c, t = [c] ∧ c ∉ S) ∨ ∃ c, t = ['\\', c] ∧ c.isAlphanum = false

theorem Plain.mono {S S' : List Char} {t : Tok} (hS : ∀ c ∈ S', c ∈ S) (h : Plain S t) : Plain S' t :=
  h.imp (fun ⟨c, e, hc⟩ => ⟨c, e, fun hm => hc (hS c hm)⟩) id

theorem Plain.ne {S : List Char} {t : Tok} (h : Plain S t) {d : Char} (hd : d ∈ S) : t ≠ [d] := by
  rcases h with ⟨c, rfl, hc⟩ | ⟨c, rfl, _⟩
  · exact fun e => hc ((List.cons.inj e).1 ▸ hd)
  · simp

theorem plain_ch {S : List Char} (c : Char) (h : c ∉ S) : Plain S [c] := Or.inl ⟨c, rfl, h⟩

theorem LeafTok.plain {q : Bool} {t : Tok} (h : LeafTok q t) :
    Plain ['\\', '(', ')', '|', '*', '+', '{', ' ', '\x08'] t := by
  have sub : ∀ d ∈ ['\\', '(', ')', '|', '*', '+', '{', ' ', '\x08'],
      d ∈ ['\\', '(', ')', '|', '*', '+', '?', '{', '.', '$', ' ', '\x08'] := by decide
  rcases h with ⟨c, rfl, hc⟩ | rfl | rfl | ⟨c, rfl, h, _⟩ | ⟨_, rfl⟩
  · exact plain_ch c (fun hm => hc (sub c hm))
  · exact plain_ch _ (by decide)
  · exact plain_ch _ (by decide)
  · exact Or.inr ⟨c, rfl, h⟩
  · exact plain_ch _ (by decide)

theorem UTok.plain {q : Bool} {t : Tok} (h : UTok q t) :
    Plain ['\\', '(', ')', '|', '*', '+', ' ', '\x08'] t := by
  rcases h with h | rfl
  · exact h.1.plain.mono (by decide)
  · exact plain_ch _ (by decide)

/-- tokens `_preprocess_positive_closure` only pushes, and that are no parentheses -/
abbrev Push : Tok → Prop := Plain ['+', '\\', '(', ')']

theorem Push.bal {l : List Tok} (h : ∀ t ∈ l, Push t) : BalT l :=
  BalT.of_all (fun t ht => ⟨(h t ht).ne (by decide), (h t ht).ne (by decide)⟩)

theorem Push.pct : ∀ l : List Tok, (∀ t ∈ l, Push t) → PCT l l
  | [], _ => Pushes.nil
  | t :: r, h => by
    have ht : PCT [t] [t] := by
      rcases h t (by simp) with ⟨c, rfl, hc⟩ | ⟨c, rfl, _⟩
      · exact PCT.ch c ⟨fun e => hc (by rw [e]; decide), fun e => hc (by rw [e]; decide)⟩
      · exact PCT.esc c
    exact ht.append (Push.pct r (fun x hx => h x (by simp [hx])))

theorem Alts.push {q : Bool} {ts : List Tok} {r : Rx} (h : Alts (UTok q) ts r) : ∀ t ∈ ts, Push t :=
  h.all (fun _ ht => ht.plain.mono (by decide)) (plain_ch '|' (by decide))

theorem braces_plain {S : List Char} (hS : ∀ d ∈ S, d.isDigit = false ∧ d ∉ ['{', '}', ',']) (m n : Nat) :
    ∀ t ∈ sing (C.braces m n), Plain S t := by
  intro t ht
  obtain ⟨c, hc, rfl⟩ := List.mem_map.mp ht
  refine plain_ch c fun hm => ?_
  rcases mem_braces m n c hc with h | h
  · rw [(hS c hm).1] at h; cases h
  · exact (hS c hm).2 h

variable {pl rp op : Bool} {l : Nat} {ts : List Tok} {r : Rx}

theorem Pat.bal (h : Pat pl rp op l ts r) : BalT ts := by
  induction h with
  | tk h => exact .tok _ (h.plain.ne (by decide)) (h.plain.ne (by decide))
  | set h => exact (Push.bal h.push).wrap
  | grp _ ih => exact ih.wrap
  | seq _ _ iha ihb => exact iha.app ihb
  | bar _ _ iha ihb => exact iha.app ((BalT.tok ['|'] (by simp) (by simp)).app ihb)
  | star _ ih => exact ih.app (.tok ['*'] (by simp) (by simp))
  | plus _ _ ih => exact ih.app (.tok ['+'] (by simp) (by simp))
  | opt _ _ ih => exact ih.app (.tok ['?'] (by simp) (by simp))
  | rep _ _ _ ih => exact ih.app (Push.bal (braces_plain (by decide) _ _))
  | eqv _ _ ih => exact ih

theorem Pat.unit (h : Pat pl rp op 0 ts r) : UnitToks ts := by
  generalize hl : 0 = l at h
  induction h with
  | tk h => exact Or.inl ⟨_, rfl, h.plain.ne (by decide)⟩
  | set h => exact Or.inr ⟨_, rfl, Push.bal h.push⟩
  | grp h => exact Or.inr ⟨_, rfl, h.bal⟩
  | eqv _ _ ih => exact ih hl
  | _ => omega

/-- `_preprocess_positive_closure`: a pattern is mapped to a pattern without `+`, of the same level and
language -/
theorem Pat.pass4a (h : Pat true rp op l ts r) : ∃ ts', Pat false rp op l ts' r ∧ PCT ts ts' := by
  induction h with
  | tk h => exact ⟨_, .tk h, Push.pct _ (fun _ ht => List.mem_singleton.mp ht ▸ h.plain.mono (by decide))⟩
  | set h => exact ⟨_, .set h, (PCT.ch '(' (by decide)).append
      ((Push.pct _ h.push).append (PCT.ch ')' (by decide)))⟩
  | grp _ ih =>
    obtain ⟨_, h', p⟩ := ih
    exact ⟨_, .grp h', (PCT.ch '(' (by decide)).append (p.append (PCT.ch ')' (by decide)))⟩
  | seq _ _ iha ihb =>
    obtain ⟨_, ha, pa⟩ := iha
    obtain ⟨_, hb, pb⟩ := ihb
    exact ⟨_, .seq ha hb, pa.append pb⟩
  | bar _ _ iha ihb =>
    obtain ⟨_, ha, pa⟩ := iha
    obtain ⟨_, hb, pb⟩ := ihb
    exact ⟨_, .bar ha hb, pa.append ((PCT.ch '|' (by decide)).append pb)⟩
  | star _ ih =>
    obtain ⟨_, h', p⟩ := ih
    exact ⟨_, .star h', p.append (PCT.ch '*' (by decide))⟩
  | plus _ _ ih =>
    obtain ⟨_, h', p⟩ := ih
    exact ⟨_, .seq h'.up (.star h'), p.plus h'.unit⟩
  | opt ho _ ih =>
    obtain ⟨_, h', p⟩ := ih
    exact ⟨_, .opt ho h', p.append (PCT.ch '?' (by decide))⟩
  | rep hr _ hmn ih =>
    obtain ⟨_, h', p⟩ := ih
    exact ⟨_, .rep hr h' hmn, p.append (Push.pct _ (braces_plain (by decide) _ _))⟩
  | eqv _ e ih =>
    obtain ⟨_, h', p⟩ := ih
    exact ⟨_, h'.eqv e, p⟩

theorem findRepeatedR_unitT (u : List Tok) (h : UnitToks u) (res : RToks) :
    findRepeatedR (u.reverse ++ res) = .ok u.reverse := by
  rcases h with ⟨t, rfl, ht⟩ | ⟨v, rfl, hv⟩
  · simp [findRepeatedR, ht]
  · exact frsT_group v hv res

def powT (u : List Tok) (k : Nat) : List Tok := (List.replicate k u).flatten

def base (u : List Tok) (m : Nat) : List Tok := if m = 0 then [['$']] else powT u m

/-- the tokens `_add_repetition` writes for `u{m}` / `u{m,n}` -/
def repToks (u : List Tok) (m n : Nat) : List Tok :=
  if m = n then base u n else base u m ++ powT (u ++ [['?']]) (n - m)

theorem powT_rev (u : List Tok) (k : Nat) :
    (powT u k).reverse = (List.replicate k u.reverse).flatten := by
  induction k with
  | zero => rfl
  | succ k ih =>
    rw [powT, List.replicate_succ, List.flatten_cons, List.reverse_append]
    rw [show (List.replicate k u).flatten = powT u k from rfl, ih, List.replicate_succ']
    simp

/-- the first `m` copies: the one that stands already is kept, or replaced by `$` if `m = 0` -/
theorem extend_base (u : List Tok) (res : RToks) (m : Nat) :
    extendN (m - 1) u.reverse
      (if (m == 0) = true then ['$'] :: (u.reverse ++ res).drop u.reverse.length
        else u.reverse ++ res) = (base u m).reverse ++ res := by
  unfold base
  by_cases h0 : m = 0
  · subst h0
    simp [extendN]
  · have : (m == 0) = false := by simpa using h0
    simp only [this, Bool.false_eq_true, if_false, h0]
    rw [extendN_eq, powT_rev]
    obtain ⟨k, rfl⟩ : ∃ k, m = k + 1 := ⟨m - 1, by omega⟩
    simp [List.replicate_succ']

theorem addRep_skip_sing (ds : List Char) (rest : List Tok) (res : RToks) :
    addRepetitionGo (sing ds ++ ['}'] :: rest) (ds.length + 1) res = addRepetitionGo rest 0 res := by
  have := addRep_skip (sing ds ++ [['}']]) rest res
  simpa [sing] using this

theorem AR.repT {l u : List Tok} (h : AR l u) (hu : UnitToks u) (m n : Nat) :
    AR (l ++ sing (C.braces m n)) (repToks u m n) := by
  intro rest res
  rw [List.append_assoc, h]
  have hfr := findRepeatedR_unitT u hu res
  unfold C.braces repToks
  by_cases hmn : m = n
  · subst hmn
    simp only [if_true]
    have e : sing (['{'] ++ natText m ++ ['}']) ++ rest =
        ['{'] :: (sing (natText m) ++ ['}'] :: rest) := by simp [sing]
    rw [e, addRepetitionGo, isRepetition_exact]
    simp only [hfr, bind, Except.bind]
    rw [extend_base, addRep_skip_sing]
  · simp only [hmn, if_false]
    have e : sing (['{'] ++ natText m ++ [','] ++ natText n ++ ['}']) ++ rest =
        ['{'] :: (sing (natText m ++ ',' :: natText n) ++ ['}'] :: rest) := by simp [sing]
    rw [e, addRepetitionGo, isRepetition_between]
    simp only [hfr, bind, Except.bind]
    rw [extend_base, addRep_skip_sing, show ['?'] :: u.reverse = (u ++ [['?']]).reverse by simp,
      extendN_eq, ← powT_rev, List.reverse_append, List.append_assoc]

theorem dollar_leaf (q : Bool) : LeafTok q ['$'] := Or.inr (Or.inl rfl)

theorem leaf_dollar : E.leaf ['$'] = .eps := by simp [E.leaf, toNode]

theorem rx_dollar : tkRx ['$'] = .eps := by
  simp [tkRx, leaf_dollar]

theorem optCopies_eq (a : Rx) : ∀ m, optCopies a m = copies (.alt a .eps) m
  | 0 => rfl
  | m + 1 => by rw [optCopies, copies, optCopies_eq a m]

theorem powT_succ (u : List Tok) (k : Nat) : powT u (k + 1) = u ++ powT u k := by
  simp [powT, List.replicate_succ]

theorem Pat.pow {us : List Tok} {a : Rx} (h : Pat pl rp op 1 us a) :
    ∀ k, Pat pl rp op 1 (powT us (k + 1)) (copies a (k + 1))
  | 0 => by simpa [powT, copies] using h.eqv (Eqv.cat_eps a).symm
  | k + 1 => by rw [powT_succ]; exact .seq h (Pat.pow h k)

theorem Pat.base {us : List Tok} {a : Rx} (h : Pat pl rp op 1 us a) :
    ∀ m, Pat pl rp op 1 (base us m) (copies a m)
  | 0 => by simpa [S3.base, rx_dollar, copies] using Pat.tk (l := 1) (dollar_leaf op)
  | k + 1 => by simpa [S3.base] using h.pow k

theorem Pat.rep_toks {us : List Tok} {a : Rx} (h : Pat pl rp true 0 us a) {m n : Nat} (hmn : m ≤ n) :
    Pat pl rp true (l + 1) (repToks us m n) (.cat (copies a m) (optCopies a (n - m))) := by
  have h1 := (h.up (l := 1)).base m
  unfold repToks
  by_cases e : m = n
  · subst e
    rw [if_pos rfl, Nat.sub_self]
    exact (h1.mono (Nat.le_add_left 1 l)).eqv (Eqv.cat_eps _).symm
  · obtain ⟨k, hk⟩ : ∃ k, n - m = k + 1 := ⟨n - m - 1, by omega⟩
    rw [if_neg e, hk, optCopies_eq]
    exact .seq h1 ((Pat.opt rfl h : Pat pl rp true 1 _ _).pow k)

theorem isDigitStr_cons_false (c : Char) (r : List Char) (h : c.isDigit = false) :
    isDigitStr (c :: r) = false := by
  simp [isDigitStr, h]

theorem splitComma_ne_nil : ∀ r : List Char, splitComma r ≠ []
  | [] => by simp [splitComma]
  | c :: r => by
    rw [splitComma]
    cases h : splitComma r with
    | nil => simp
    | cons p ps => by_cases hc : c = ',' <;> simp [hc]

theorem splitComma_head (c : Char) (r : List Char) (hc : c ≠ ',') :
    ∃ p ps, splitComma (c :: r) = (c :: p) :: ps := by
  rw [splitComma]
  cases h : splitComma r with
  | nil => exact absurd h (splitComma_ne_nil r)
  | cons p ps => exact ⟨p, ps, by simp [hc]⟩

theorem isRep_none (x : Tok) (hx : x = ['|'] ∨ x = [')']) (tl : List Tok) :
    isRepetition ['{'] (x :: tl) = none := by
  have hx1 : (x == ['}']) = false := by rcases hx with rfl | rfl <;> decide
  obtain ⟨c, hc, hd, hcm⟩ : ∃ c, x = [c] ∧ c.isDigit = false ∧ c ≠ ',' := by
    rcases hx with rfl | rfl
    · exact ⟨'|', rfl, by decide, by decide⟩
    · exact ⟨')', rfl, by decide, by decide⟩
  unfold isRepetition
  simp only [bne_self_eq_false, Bool.false_eq_true, if_false, untilClose, hx1]
  cases hu : untilClose tl with
  | none => rfl
  | some inner =>
    subst hc
    simp only [Option.map_some, List.flatten_cons, List.singleton_append]
    obtain ⟨p, ps, hsp⟩ := splitComma_head c inner.flatten hcm
    rw [hsp]
    split
    · cases ps with
      | nil => rfl
      | cons b ps =>
        cases ps with
        | nil => simp [isDigitStr_cons_false c p hd]
        | cons _ _ => rfl
    · simp [isDigitStr_cons_false c _ hd]

theorem ar_one (t : Tok) (h : t ≠ ['{']) : AR [t] [t] := by
  intro rest res
  simp [addRepetitionGo, isRepetition, h]

/-- any token, `{` too, is copied in front of `|` or `)` -/
theorem ar_pair (t x : Tok) (hx : x = ['|'] ∨ x = [')']) : AR [t, x] [t, x] := by
  intro rest res
  have h1 : isRepetition t (x :: rest) = none := by
    by_cases ht : t = ['{']
    · subst ht; exact isRep_none x hx _
    · simp [isRepetition, ht]
  have h2 : isRepetition x rest = none := by rcases hx with rfl | rfl <;> simp [isRepetition]
  simp [addRepetitionGo, h1, h2]

theorem Alts.ar {A : Tok → Prop} {ts : List Tok} {r : Rx} (h : Alts A ts r) :
    AR (ts ++ [[')']]) (ts ++ [[')']]) := by
  induction h with
  | one _ => exact ar_pair _ _ (Or.inr rfl)
  | cons _ _ ih => exact (ar_pair _ _ (Or.inl rfl)).append ih

/-- `_add_repetition`: a pattern without `+` is mapped to one without `{..}` -/
theorem Pat.pass4b (h : Pat false true true l ts r) : ∃ ts', Pat false false true l ts' r ∧ AR ts ts' := by
  induction h with
  | tk h => exact ⟨_, .tk h, ar_one _ (h.plain.ne (by decide))⟩
  | set h => exact ⟨_, .set h, (ar_one ['('] (by simp)).append h.ar⟩
  | grp _ ih =>
    obtain ⟨_, h', p⟩ := ih
    exact ⟨_, .grp h', (ar_one ['('] (by simp)).append (p.append (ar_one [')'] (by simp)))⟩
  | seq _ _ iha ihb =>
    obtain ⟨_, ha, pa⟩ := iha
    obtain ⟨_, hb, pb⟩ := ihb
    exact ⟨_, .seq ha hb, pa.append pb⟩
  | bar _ _ iha ihb =>
    obtain ⟨_, ha, pa⟩ := iha
    obtain ⟨_, hb, pb⟩ := ihb
    exact ⟨_, .bar ha hb, pa.append ((ar_one ['|'] (by simp)).append pb)⟩
  | star _ ih =>
    obtain ⟨_, h', p⟩ := ih
    exact ⟨_, .star h', p.append (ar_one ['*'] (by simp))⟩
  | plus hp => exact absurd hp (by simp)
  | opt ho _ ih =>
    obtain ⟨_, h', p⟩ := ih
    exact ⟨_, .opt ho h', p.append (ar_one ['?'] (by simp))⟩
  | rep _ _ hmn ih =>
    obtain ⟨_, h', p⟩ := ih
    exact ⟨_, h'.rep_toks hmn, AR.repT p h'.unit _ _⟩
  | eqv _ e ih =>
    obtain ⟨_, h', p⟩ := ih
    exact ⟨_, h'.eqv e, p⟩

theorem PCT.run {l l' l'' : List Tok} (h1 : PCT l l') (h2 : AR l' l'') :
    preprocessPositiveClosure l.flatten = .ok l''.flatten := by
  have e2 := h2 [] []
  simp only [List.append_nil] at e2
  have e3 : addRepetition l' = .ok l'' := by
    simp only [addRepetition, e2, addRepetitionGo]
    show Except.ok l''.reverse.reverse = _
    rw [List.reverse_reverse]
  simp only [preprocessPositiveClosure, Pushes.run h1]
  show (do let l ← addRepetition l'.reverse.reverse; pure l.flatten) = _
  rw [List.reverse_reverse, e3]
  rfl

theorem Pat.pass4 (h : Pat true true true l ts r) :
    ∃ ts', Pat false false true l ts' r ∧ preprocessPositiveClosure ts.flatten = .ok ts'.flatten := by
  obtain ⟨_, h1, p1⟩ := h.pass4a
  obtain ⟨_, h2, p2⟩ := h1.pass4b
  exact ⟨_, h2, p1.run p2⟩

end Pfl.PyRx.E2E.S3
