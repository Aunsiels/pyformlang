/-
Termination of the Earley model (C18): the loop of a column ends.  Generic in the level `Lay S R`
of the tower: whatever is kept by `advance`, the scanner push, the predicted pushes and bounds the number
of processed states of a column by `Bnd` makes every `while chart[i]` loop end within `Bnd + 1` pops:
the walk through the body of the loop (`Pfl/Proofs/EarleyWalk.lean`) keeps the level and pushes on the
chart at most what it adds to `processed`, so every pop is one more state that the chart owes (`Owe`).
-/
import Pfl.Proofs.EarleyTerminationTables
namespace Pfl
namespace Earley
namespace Term
open FsDag Lem Cmp

/-- a level of the tower above `Base` (facts `S`, `R` of every state) that the primitive steps of the
recogniser keep and that bounds the processed columns -/
structure Chain (C : Ctx) (S : Store → (Nat → Nat) → List Dict → Nat → Prop)
    (R : Store → (Nat → Nat) → Nat → EState → Prop) (Bnd : Nat) : Prop where
  toS : ∀ {st : Store} {rk : Nat → Nat} {pr : List Dict} {n : Nat}, S st rk pr n → BaseS C st rk pr n
  toR : ∀ {st : Store} {rk : Nat → Nat} {i : Nat} {s : EState}, R st rk i s → BaseR C st rk i s
  adv : ∀ {T : Tables} {rk : Nat → Nat} {i : Nat} {c nx : EState},
    Lay S R T rk → R T.store rk i c → R T.store rk c.b nx → i < C.word.length + 1 →
    incomplete C.G c = false → nextSym C.G nx = some (.var (prodOf C.G c.prod).head) →
    ∃ rk', Lay S R (Pfl.Earley.advance C.G T nx c) rk' ∧
      Carry R T.store rk (Pfl.Earley.advance C.G T nx c).store rk'
  scan : ∀ {T : Tables} {rk : Nat → Nat} {i : Nat} {s : EState}
    {t : String}, Lay S R T rk → R T.store rk i s → nextSym C.G s = some (.ter t) →
    C.word[i]? = some t →
    Lay S R (pushIfNew C.G T (i + 1) { s with e := i + 1, dot := s.dot + 1 }) rk
  pred : ∀ {T : Tables} {rk : Nat → Nat} {k : Nat} {p : FProd} {e : Nat},
    Lay S R T rk → C.G.prods[k]? = some p → e < C.word.length + 1 →
    Lay S R (pushIfNew C.G T e { prod := k, b := e, e := e, dot := 0, fs := p.feats }) rk
  bound : ∀ {T : Tables} {rk : Nat → Nat}, Lay S R T rk →
    ∀ j, acc T j ≤ Bnd

section
variable {C : Ctx} {S : Store → (Nat → Nat) → List Dict → Nat → Prop}
  {R : Store → (Nat → Nat) → Nat → EState → Prop} {Bnd : Nat}

theorem Chain.hks (hch : Chain C S R Bnd) {T : Tables} {rk : Nat → Nat}
    (h : Lay S R T rk) : T.chart.length = T.processed.length :=
  (hch.toS h.tab).lenc.trans (hch.toS h.tab).lenp.symm

/-- a chain is a walk that has no use for the log; the walk keeps, beside the level, what the chart owes -/
theorem Chain.walk (hch : Chain C S R Bnd) (d : Nat → Nat) {i : Nat} (hi : i < C.word.length + 1) :
    Walk C.G C.word i S R (fun T _ => Owe d T) where
  adv := fun h hs hnx hcomp hnext =>
    (hch.adv h.1 hs hnx hi hcomp hnext).imp fun _ h' =>
      ⟨⟨h'.1, owe_advance h.2 _ _ _ (hch.hks h.1)⟩, h'.2⟩
  scan := fun h hm hn hw => ⟨hch.scan h.1 hm hn hw, owe_push h.2 _ _ _ (hch.hks h.1)⟩
  pred := fun h hget => ⟨hch.pred h.1 hget hi, owe_push h.2 _ _ _ (hch.hks h.1)⟩

/-- a store predicate that `advance` keeps along a chain can be added to it (the two pushes keep the
store), and may improve the bound -/
theorem Chain.and (hch : Chain C S R Bnd) {P : Store → Prop} {Bnd' : Nat}
    (hadv : ∀ {T : Tables} {rk : Nat → Nat} {i : Nat} {c nx : EState},
      Lay S R T rk → R T.store rk i c → R T.store rk c.b nx → i < C.word.length + 1 →
      incomplete C.G c = false → nextSym C.G nx = some (.var (prodOf C.G c.prod).head) →
      P T.store → P (Pfl.Earley.advance C.G T nx c).store)
    (hb : ∀ {T : Tables} {rk : Nat → Nat}, Lay S R T rk → P T.store →
      ∀ j, acc T j ≤ Bnd') :
    Chain C (fun st rk pr n => S st rk pr n ∧ P st) R Bnd' where
  toS := fun h => hch.toS h.1
  toR := hch.toR
  adv := fun h hs hnx hi hcomp hnext =>
    have ⟨h0, hp⟩ := Lay.and_iff.1 h
    (hch.adv h0 hs hnx hi hcomp hnext).imp fun _ h' =>
      ⟨Lay.and_iff.2 ⟨h'.1, hadv h0 hs hnx hi hcomp hnext hp⟩, h'.2⟩
  scan := fun h hm hn hw =>
    have ⟨h0, hp⟩ := Lay.and_iff.1 h
    Lay.and_iff.2 ⟨hch.scan h0 hm hn hw, by rw [pushIfNew_store]; exact hp⟩
  pred := fun h hget he =>
    have ⟨h0, hp⟩ := Lay.and_iff.1 h
    Lay.and_iff.2 ⟨hch.pred h0 hget he, by rw [pushIfNew_store]; exact hp⟩
  bound := fun h => hb (Lay.and_iff.1 h).1 h.tab.2

theorem len_popT_self (T : Tables) {i : Nat} {s : EState} (hs : s ∈ colGet T.chart i) :
    (colGet (popT T i).chart i).length + 1 = (colGet T.chart i).length := by
  have hi : i < T.chart.length := Nat.lt_of_not_le fun h => by
    rw [colGet_ge h] at hs; cases hs
  unfold popT
  show (colGet (T.chart.set i _) i).length + 1 = _
  rw [colGet_set_self _ hi, List.length_dropLast]
  exact Nat.succ_pred_eq_of_pos (List.length_pos_of_mem hs)

theorem owe_pop {d : Nat → Nat} {T : Tables} (h : Owe d T) {i : Nat} {s : EState}
    (hs : s ∈ colGet T.chart i) : Owe (Function.update d i (d i + 1)) (popT T i) := by
  intro j
  show (colGet (T.chart.set i _) j).length + _ ≤ acc T j
  by_cases hj : j = i
  · subst hj
    have h1 : (colGet (T.chart.set j _) j).length + 1 = _ := len_popT_self T hs
    have h2 := h j
    rw [Function.update_self]
    omega
  · rw [Function.update_of_ne hj, colGet_set_ne _ (Ne.symm hj)]
    exact h j

/-- the loop ends while the fuel and the pops made so far in the column exceed the bound: what is owed
there is at most what was processed -/
theorem chain_columnLoop (hch : Chain C S R Bnd) (i : Nat) (hi : i < C.word.length + 1) :
    ∀ (f : Nat) (T : Tables) (rk : Nat → Nat) (d : Nat → Nat), Lay S R T rk → Owe d T →
      Bnd + 1 ≤ f + d i →
      ∃ T' rk', columnLoop C.G C.word i f T = some T' ∧ Lay S R T' rk' ∧ Owe (fun _ => 0) T' := by
  intro f
  induction f with
  | zero =>
    intro T rk d hT hd hf
    have := hch.bound hT i
    have := hd i
    omega
  | succ f ih =>
    intro T rk d hT hd hf
    rw [columnLoop_succ]
    cases hl : (colGet T.chart i).getLast? with
    | none => exact ⟨T, rk, rfl, hT, hd.zero⟩
    | some s =>
      have hsmem : s ∈ colGet T.chart i := List.mem_of_getLast? hl
      obtain ⟨rk1, _, ⟨hT1, hd1⟩, _⟩ := walk_procOne (hch.walk _ hi)
        ⟨hT.pop i, owe_pop hd hsmem⟩ (hT.c i s hsmem) (hch.toR (hT.c i s hsmem)).e_eq
      exact ih _ rk1 _ hT1 hd1 (by rw [Function.update_self]; omega)

theorem chain_cols (hch : Chain C S R Bnd) (fuel : Nat) (hfuel : Bnd + 1 ≤ fuel) :
    ∀ (k i : Nat) (T : Tables) (rk : Nat → Nat), i + k = C.word.length + 1 →
      Lay S R T rk → Owe (fun _ => 0) T →
      (contains.cols C.G C.word fuel (List.range' i k) T).isSome = true := by
  intro k
  induction k with
  | zero => exact fun _ _ _ _ _ _ => rfl
  | succ k ih =>
    intro i T rk hik hT hd
    rw [List.range'_succ]
    simp only [contains.cols]
    obtain ⟨T1, rk1, h1, hT1, hd1⟩ := chain_columnLoop hch i (by omega) fuel T rk _ hT hd hfuel
    rw [h1]
    simp only
    exact ih (i + 1) T1 rk1 (by omega) hT1 hd1

theorem chain_contains (hch : Chain C S R Bnd) {st0 : Store} {rk0 : Nat → Nat}
    (hI : Lay S R (initT C.G st0 C.word.length) rk0) {fuel : Nat} (hfuel : Bnd + 1 ≤ fuel) :
    (contains C.G st0 C.word fuel).isSome = true := by
  have hd : Owe (fun _ => 0) (initT C.G st0 C.word.length) :=
    owe_push (T := ⟨st0, _, _⟩) (fun j => by rw [colGet_replicate]; exact Nat.zero_le _) _ _ _
      (by simp)
  rw [contains_eq, Option.isSome_map]
  exact chain_cols hch fuel hfuel (C.word.length + 1) 0 _ rk0 (by omega) hI hd

end

end Term
end Earley
end Pfl
