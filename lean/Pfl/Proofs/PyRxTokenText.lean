/-
Reading texts with escaped symbols: blank-joined symbols (the re-entry of the reader) and the text
`_separate` produces (blank-joined tokens, a `.` replaced by the union of the printable characters).
-/
import Pfl.Proofs.PyRxLayout
import Pfl.Proofs.PyRxSyntax
namespace Pfl.PyRx.E2E
open Pfl.RegexReader Pfl.RegexReader.Lem Pfl.PyPass

/-- the symbols of the reader: special characters, plain symbols, escaped characters -/
def A3 (x : List Char) : Prop :=
  IsSp x ∨ (IsPl x ∧ x ≠ "epsilon".toList) ∨ (∃ c, x = ['\\', c])

theorem A3.isSym {x : List Char} (h : A3 x) : IsSym x := h.imp_right (Or.imp_left And.left)

def A3n (x : List Char) : Prop := (IsPl x ∧ x ≠ "epsilon".toList) ∨ (∃ c, x = ['\\', c])

theorem A3n.not_sp {x : List Char} (h : A3n x) : ¬ IsSp (enc x) := by
  rintro ⟨c, hc, hs⟩
  by_cases hx : x = ['\\', ' ']
  · subst hx
    simp only [enc, if_true, List.cons.injEq, and_true] at hc
    subst hc; simp [isSpecialChar] at hs
  · have : enc x = x := by simp [enc, hx]
    rw [this] at hc
    subst hc
    rcases h with h | ⟨d, hd⟩
    · have := (h.1.2 c (by simp)).2.2
      rw [hs] at this; exact absurd this (by simp)
    · simp at hd

/-- the symbols a token stands for in the text -/
def expand (t : Tok) : List Tok :=
  if t = ['.'] then ['('] :: (insertOr escapedPrintables ++ [[')']]) else [t]

def expT (t : Tok) : Tok := if t = ['.'] then dotReplacement else t

theorem written_insertOr : ∀ ts : List Tok, Written (insertOr ts) (join ['|'] ts)
  | [] => .nil
  | [a] => .one a
  | a :: b :: r => by
    have e : join ['|'] (a :: b :: r) = a ++ '|' :: join ['|'] (b :: r) := by simp [join]
    rw [e]
    exact (Written.one a).mid_sp (written_insertOr (b :: r)) '|' (by decide)

theorem written_expand (t : Tok) : Written (expand t) (expT t) := by
  unfold expand expT
  split
  · have := ((written_insertOr escapedPrintables).snoc_sp ')' (by decide)).cons_sp '('
      (by decide)
    simpa [dotReplacement] using this
  · exact .one t

theorem written_separate : ∀ ts : List Tok, Written (ts.flatMap expand) (join [' '] (ts.map expT))
  | [] => .nil
  | [t] => by simpa [join] using written_expand t
  | t :: t' :: r => by
    have := (written_expand t).append_blank (written_separate (t' :: r))
    simpa [join] using this

/-- the keys of `TRANSFORMATIONS` other than the newline: each stands for itself after a backslash -/
def mustEsc : List Char := ['|', '(', ')', '*', '+', '.', '$', ' ', '\\', '?']

theorem transf_eq (c : Char) :
    transf c = if c = '\n' then [] else if c ∈ mustEsc then ['\\', c] else [c] := by
  by_cases h1 : c = '|'; · subst h1; rfl
  by_cases h2 : c = '('; · subst h2; rfl
  by_cases h3 : c = ')'; · subst h3; rfl
  by_cases h4 : c = '*'; · subst h4; rfl
  by_cases h5 : c = '+'; · subst h5; rfl
  by_cases h6 : c = '.'; · subst h6; rfl
  by_cases h7 : c = '$'; · subst h7; rfl
  by_cases h8 : c = '\n'; · subst h8; rfl
  by_cases h9 : c = ' '; · subst h9; rfl
  by_cases h10 : c = '\\'; · subst h10; rfl
  by_cases h11 : c = '?'; · subst h11; rfl
  simp [transf, transformations?, mustEsc, *]

theorem transf_cases (c : Char) (hn : c ≠ '\n') :
    (transf c = ['\\', c] ∧ c ∈ mustEsc) ∨ (transf c = [c] ∧ c ∉ mustEsc) := by
  rw [transf_eq, if_neg hn]
  by_cases h : c ∈ mustEsc
  · exact Or.inl ⟨if_pos h, h⟩
  · exact Or.inr ⟨if_neg h, h⟩

theorem mem_escapedPrintables (t : Tok) :
    t ∈ escapedPrintables ↔ ∃ c ∈ printables, c ≠ '\n' ∧ t = transf c := by
  simp only [escapedPrintables, List.mem_filter, List.mem_map]
  constructor
  · rintro ⟨⟨c, hc, rfl⟩, hne⟩
    exact ⟨c, hc, by rintro rfl; simp [transf_eq] at hne, rfl⟩
  · rintro ⟨c, hc, hn, rfl⟩
    refine ⟨⟨c, hc, rfl⟩, ?_⟩
    rcases transf_cases c hn with h | h <;> simp [h.1]

theorem isPl_plain (c : Char) (h : c ∉ mustEsc) : IsPl [c] := by
  simp only [mustEsc, List.mem_cons, List.not_mem_nil, or_false, not_or] at h
  refine ⟨by simp, fun d hd => ?_⟩
  rw [List.mem_singleton.mp hd]
  simp [isSpecialChar, h]

theorem escapedPrintables_a3n : ∀ a ∈ escapedPrintables, A3n a := fun a ha => by
  obtain ⟨c, _, hn, rfl⟩ := (mem_escapedPrintables a).mp ha
  rcases transf_cases c hn with h | h <;> rw [h.1]
  · exact Or.inr ⟨c, rfl⟩
  · exact Or.inl ⟨isPl_plain c h.2, fun e => by have := congrArg List.length e; simp at this⟩

theorem mem_printables (c : Char) : c ∈ printables ↔
    c ∈ PyPass.digits ∨ c ∈ asciiLower ∨ c ∈ asciiUpper ∨ c ∈ punctuation ∨ c ∈ whitespace := by
  simp only [printables, List.mem_append, or_assoc]

/-- `string.printable` by codes: digits, letters, punctuation (33 to 126 in all), six blanks -/
theorem printables_toNat : printables.map Char.toNat = List.range' 48 10 ++ List.range' 97 26 ++
    List.range' 65 26 ++ List.range' 33 15 ++ List.range' 58 7 ++ List.range' 91 6 ++ List.range' 123 4 ++
    [32, 9, 10, 13, 11, 12] := by decide +kernel

theorem printable_codes : ∀ c ∈ printables, 9 ≤ c.toNat ∧ c.toNat < 127 := by
  intro c h
  have := List.mem_map_of_mem (f := Char.toNat) h
  simp only [printables_toNat, List.mem_append, List.mem_range'_1, List.mem_cons, List.not_mem_nil,
    or_false] at this
  omega

theorem printable_ascii (c : Char) (h : c ∈ printables) : c.toNat < 128 :=
  Nat.lt_succ_of_lt (printable_codes c h).2

theorem printable_ne_backspace (c : Char) (h : c ∈ printables) : c ≠ '\x08' := by
  rintro rfl
  exact absurd (printable_codes _ h).1 (by decide)

end Pfl.PyRx.E2E
