/-
Word enumeration (`getWords`) and finiteness (`isFinite`) of C12.  The finiteness test is a cycle
test on the normal form; that it is exact rests on every symbol of the normal form being useful
(`AllUseful`, kept by lifting and binarisation), which the guard of `to_normal_form` provides: its
comparisons of sizes are read as statements about the registered symbols in `isFastPath_iff`.
-/
import Pfl.Props.C09_CNF
import Pfl.Proofs.Walks
import Pfl.Proofs.Assoc
import Mathlib.Data.List.Basic
import Batteries.Data.List.Perm
import Mathlib.Data.List.Nodup
namespace Pfl
namespace CFG
namespace Words

theorem genList_ne_nil_of {G : CFG} (hG : ∀ p ∈ G.prods, p.2 ≠ []) :
    ∀ {u : List Sym} {w : List String}, G.GenList u w → u ≠ [] → w ≠ [] :=
  fun {u w} h => (Clean.gen_ne_nil hG).2 u w h

theorem toNormalForm_wf (G : CFG) (hG : G.WF) (fuel : Nat) (N : CFG)
    (h : G.toNormalForm fuel = some N) : N.WF :=
  toNormalForm_induct (P := fun _ N => N.WF) (fun _ _ _ => mk'_wf _ _ _ _) (fun _ hG _ => hG)
    (fun _ _ _ ih => ih) fuel G hG N h

def rowGet (row : WRow) (x : String) : List (List String) :=
  ((row.find? fun e => e.1 = x).map (·.2)).getD []

theorem rowGet_map (vs : List String) (f : String → List (List String)) (x : String) :
    rowGet (vs.map fun y => (y, f y)) x = if x ∈ vs then f x else [] := by
  show (Assoc.get (vs.map fun y => (id y, f y)) (id x)).getD [] = _
  rw [Assoc.get_map_mk id fun _ _ h => h]
  split <;> rfl

theorem rowGet_of_not_modified (row : WRow) (x : String)
    (h : (row.any fun e => !e.2.isEmpty) = false) : rowGet row x = [] := by
  unfold rowGet
  cases hf : row.find? fun e => e.1 = x with
  | none => rfl
  | some e =>
    have hm := List.mem_of_find?_eq_some hf
    have := List.any_eq_false.mp h e hm
    simp at this
    simpa using this

theorem rowLookup_succ (rows : List WRow) (l : Nat) (x : String) :
    rowLookup rows (l + 1) x = match rows[l]? with
      | none => []
      | some row => rowGet row x := rfl

theorem rowLookup_append_lt (rows : List WRow) (row : WRow) (len : Nat) (x : String)
    (h : len ≤ rows.length) : rowLookup (rows ++ [row]) len x = rowLookup rows len x := by
  cases len with
  | zero => rfl
  | succ l =>
    rw [rowLookup_succ, rowLookup_succ, List.getElem?_append_left (by omega)]

theorem rowLookup_append_eq (rows : List WRow) (row : WRow) (x : String) :
    rowLookup (rows ++ [row]) (rows.length + 1) x = rowGet row x := by
  rw [rowLookup_succ]
  simp

theorem rowLookup_single (row : WRow) (x : String) : rowLookup [row] 1 x = rowGet row x := by
  rw [rowLookup_succ]; simp

theorem mem_wordsRow1 {N : CFG} (hN : N.isNormalForm = true) (hWF : N.WF) (x : String)
    (u : List String) : u ∈ rowGet (wordsRow1 N) x ↔ GenLen N 1 x u := by
  rw [genLen_one hN]
  unfold wordsRow1
  rw [rowGet_map]
  constructor
  · intro h
    split at h
    · rw [List.mem_eraseDups, List.mem_filterMap] at h
      obtain ⟨⟨y, body⟩, hp, hu⟩ := h
      rw [List.mem_filter] at hp
      obtain ⟨hp, hy⟩ := hp
      simp only [decide_eq_true_eq] at hy
      subst hy
      split at hu
      · rename_i t ht
        simp only at ht
        subst ht
        exact ⟨t, (Option.some.inj hu).symm, hp⟩
      · cases hu
    · cases h
  · rintro ⟨t, rfl, hp⟩
    rw [if_pos (hWF.head_mem _ hp), List.mem_eraseDups, List.mem_filterMap]
    exact ⟨(x, [.ter t]), List.mem_filter.mpr ⟨hp, by simp⟩, rfl⟩

/-- `rows` holds, for every length below `cur`, exactly the words of that length of every variable -/
structure Rows (N : CFG) (cur : Nat) (rows : List WRow) : Prop where
  cur_ge : 2 ≤ cur
  len : rows.length + 1 = cur
  ok : ∀ len x u, len < cur → (u ∈ rowLookup rows len x ↔ GenLen N len x u)

theorem Rows.row {N : CFG} (hN : N.isNormalForm = true) (hWF : N.WF) {rows : List WRow}
    {cur : Nat} (hr : Rows N cur rows) (x : String) (u : List String) :
    u ∈ rowGet (wordsRow N rows cur) x ↔ GenLen N cur x u := by
  have hrows := hr.ok
  rw [genLen_split hN hr.cur_ge]
  unfold wordsRow
  rw [rowGet_map]
  constructor
  · intro h
    split at h
    · rw [List.mem_eraseDups, List.mem_flatMap] at h
      obtain ⟨⟨y, body⟩, hp, hu⟩ := h
      rw [List.mem_filter] at hp
      obtain ⟨hp, hy⟩ := hp
      simp only [decide_eq_true_eq] at hy
      subst hy
      split at hu
      · rename_i b c hb
        simp only at hb
        subst hb
        simp only [List.mem_flatMap, List.mem_range, List.mem_map] at hu
        obtain ⟨k, hk, l, hl, r, hr, rfl⟩ := hu
        obtain ⟨k1, k2, _⟩ := split_of_index hk
        exact ⟨k, hk, b, c, hp, l, r, rfl, (hrows _ _ _ k1).1 hl, (hrows _ _ _ k2).1 hr⟩
      · cases hu
    · cases h
  · rintro ⟨k, hk, b, c, hp, l, r, rfl, hl, hr⟩
    obtain ⟨k1, k2, _⟩ := split_of_index hk
    rw [if_pos (hWF.head_mem _ hp), List.mem_eraseDups, List.mem_flatMap]
    refine ⟨(x, [.var b, .var c]), List.mem_filter.mpr ⟨hp, by simp⟩, ?_⟩
    simp only [List.mem_flatMap, List.mem_range, List.mem_map]
    exact ⟨k, hk, l, (hrows _ _ _ k1).2 hl, r, (hrows _ _ _ k2).2 hr, rfl⟩

theorem Rows.init {N : CFG} (hN : N.isNormalForm = true) (hWF : N.WF) : Rows N 2 [wordsRow1 N] := by
  refine ⟨Nat.le_refl _, rfl, ?_⟩
  intro len x u hlen
  have : len = 0 ∨ len = 1 := by omega
  rcases this with rfl | rfl
  · constructor
    · intro hu; cases hu
    · rintro ⟨hl, hg⟩
      have := cnf_gen_len_pos hN hg; omega
  · rw [rowLookup_single]; exact mem_wordsRow1 hN hWF x u

theorem Rows.step {N : CFG} (hN : N.isNormalForm = true) (hWF : N.WF) {rows : List WRow}
    {cur : Nat} (hr : Rows N cur rows) : Rows N (cur + 1) (rows ++ [wordsRow N rows cur]) := by
  have hrow := hr.row hN hWF
  obtain ⟨hge, rfl, hok⟩ := hr
  refine ⟨Nat.le_succ_of_le hge, by rw [List.length_append, List.length_singleton], ?_⟩
  intro len x u hl
  rcases Nat.lt_succ_iff_lt_or_eq.mp hl with hc | rfl
  · rw [rowLookup_append_lt _ _ _ _ (Nat.le_of_lt_succ hc)]
    exact hok len x u hc
  · rw [rowLookup_append_eq]; exact hrow x u

theorem rowGet_map_nodup (vs : List String) (f : String → List (List String))
    (hf : ∀ y, (f y).Nodup) (x : String) : (rowGet (vs.map fun y => (y, f y)) x).Nodup := by
  rw [rowGet_map]
  split
  · exact hf x
  · exact List.nodup_nil

/-- The stopping rule: if every word shorter than `cur` is even shorter than `cur - m` and
`2 * m > cur`, there is no word of length `≥ cur` either.  Such a word splits into two shorter ones;
each of them is shorter than `cur` by induction, hence than `cur - m`, and then the two together are
too short. -/
theorem no_longer_words {N : CFG} (hN : N.isNormalForm = true) {cur m : Nat} (hcur : 2 ≤ cur)
    (hwin : ∀ x u, N.Gen (.var x) u → u.length < cur → u.length + m < cur)
    (hm : 2 * m > cur) : ∀ x u, N.Gen (.var x) u → u.length < cur := by
  refine cnf_gen_ind hN (P := fun _ u => u.length < cur) (fun _ _ _ => hcur) ?_
  intro x b c u₁ u₂ _ h₁ h₂ i₁ i₂
  have := hwin b u₁ h₁ i₁
  have := hwin c u₂ h₂ i₂
  rw [List.length_append]
  omega

/-- Invariant of `wordsLoop`: `rows` is the table of all words shorter than `cur`, and the last `noMod`
lengths below `cur` carry no word of any variable, which is what the stopping rule
`2 * noMod > cur + 1` rests on (`no_longer_words`).  The accumulator is no part of it: the loop only
appends to it (`wordsLoop_spec`). -/
structure WInv (N : CFG) (cur noMod : Nat) (rows : List WRow) : Prop where
  rows : Rows N cur rows
  window : ∀ x u, N.Gen (.var x) u → u.length < cur → u.length + noMod < cur

def nextNoMod (row : WRow) (noMod : Nat) : Nat :=
  if (row.any fun e => !e.2.isEmpty) then 0 else noMod + 1

theorem WInv.step {N : CFG} (hN : N.isNormalForm = true) (hWF : N.WF) {cur noMod : Nat}
    {rows : List WRow} (inv : WInv N cur noMod rows) :
    WInv N (cur + 1) (nextNoMod (wordsRow N rows cur) noMod) (rows ++ [wordsRow N rows cur]) := by
  refine ⟨inv.rows.step hN hWF, fun x u hg hl => ?_⟩
  unfold nextNoMod
  split
  · exact hl
  · rename_i hmod
    rcases Nat.lt_succ_iff_lt_or_eq.mp hl with hc | hc
    · have := inv.window x u hg hc; omega
    · -- the window grows by the new row, which is empty
      have : u ∈ rowGet (wordsRow N rows cur) x := (inv.rows.row hN hWF x u).mpr ⟨hc, hg⟩
      rw [rowGet_of_not_modified _ _ (Bool.eq_false_iff.mpr hmod)] at this
      cases this

/-- `t` lists, each once, the words of `L` of length at least `k` that `B` admits -/
def Lists (L B : List String → Prop) (k : Nat) (t : List (List String)) : Prop :=
  t.Nodup ∧ ∀ w, w ∈ t ↔ L w ∧ k ≤ w.length ∧ B w

theorem Lists.nil {L B : List String → Prop} {k : Nat} (h : ∀ w, L w → k ≤ w.length → ¬ B w) :
    Lists L B k [] :=
  ⟨List.nodup_nil, fun w => ⟨nofun, fun ⟨hl, hk, hb⟩ => absurd hb (h w hl hk)⟩⟩

theorem Lists.level {L B : List String → Prop} {k : Nat} {r t : List (List String)} (hr : r.Nodup)
    (hrow : ∀ w, w ∈ r ↔ w.length = k ∧ L w) (hB : ∀ w, w.length = k → B w)
    (ht : Lists L B (k + 1) t) : Lists L B k (r ++ t) := by
  refine ⟨List.nodup_append.mpr ⟨hr, ht.1, ?_⟩, fun w => ?_⟩
  · rintro w h1 _ h2 rfl
    exact absurd ((ht.2 w).1 h2).2.1 (((hrow w).1 h1).1 ▸ Nat.lt_irrefl _)
  · rw [List.mem_append, hrow, ht.2]
    constructor
    · rintro (⟨hl, hg⟩ | ⟨hg, hl, hb⟩)
      · exact ⟨hg, Nat.le_of_eq hl.symm, hB w hl⟩
      · exact ⟨hg, Nat.le_of_succ_le hl, hb⟩
    · rintro ⟨hg, hl, hb⟩
      exact (Nat.eq_or_lt_of_le hl).imp (fun e => ⟨e.symm, hg⟩) fun hl => ⟨hg, hl, hb⟩

theorem Lists.congr {L L' B : List String → Prop} {k : Nat} {t : List (List String)}
    (h : ∀ w, k ≤ w.length → (L w ↔ L' w)) (ht : Lists L B k t) : Lists L' B k t :=
  ⟨ht.1, fun w => (ht.2 w).trans
    ⟨fun ⟨a, b, c⟩ => ⟨(h w b).1 a, b, c⟩, fun ⟨a, b, c⟩ => ⟨(h w b).2 a, b, c⟩⟩⟩

/-- the length bound of `get_words` -/
def Within (maxLen : Option Nat) (w : List String) : Prop := ∀ m, maxLen = some m → w.length ≤ m

theorem wordsLoop_spec {N : CFG} (hN : N.isNormalForm = true) (hWF : N.WF) (s : String)
    (maxLen : Option Nat) :
    ∀ fuel cur noMod rows acc ws,
      wordsLoop N s maxLen fuel cur noMod rows acc = some ws →
      WInv N cur noMod rows → ∃ t, ws = acc ++ t ∧ Lists (N.Gen (.var s)) (Within maxLen) cur t := by
  intro fuel cur noMod rows acc
  fun_induction wordsLoop N s maxLen fuel cur noMod rows acc with
  | case1 => exact fun _ h => nomatch h
  | case2 fuel cur noMod rows acc hcond row modified acc' noMod' hstop =>
    -- no longer word: `noMod'` is `nextNoMod row noMod`, `acc'` is `acc ++ rowGet row s`
    rintro _ ⟨⟩ inv
    have inv' := inv.step hN hWF
    have hmax := no_longer_words hN inv'.rows.cur_ge inv'.window hstop
    exact ⟨_, congrArg (acc ++ ·) (List.append_nil (rowGet row s)).symm,
      .level (rowGet_map_nodup _ _ (fun _ => nodup_eraseDups _) s) (inv.rows.row hN hWF s)
        (fun w hl m hm => by rw [hm] at hcond; exact hl ▸ of_decide_eq_true hcond)
        (.nil fun w hg hl _ => absurd (hmax s w hg) (Nat.not_lt_of_le hl))⟩
  | case3 fuel cur noMod rows acc hcond row modified acc' noMod' hstop ih =>
    -- the row of length `cur`, then what the rest of the loop appends
    intro ws h inv
    obtain ⟨t, rfl, ht⟩ := ih ws h (inv.step hN hWF)
    exact ⟨_, List.append_assoc acc (rowGet row s) t,
      .level (rowGet_map_nodup _ _ (fun _ => nodup_eraseDups _) s) (inv.rows.row hN hWF s)
        (fun w hl m hm => by rw [hm] at hcond; exact hl ▸ of_decide_eq_true hcond) ht⟩
  | case4 fuel cur noMod rows acc hcond =>
    -- the length bound is passed
    rintro _ ⟨⟩ _
    refine ⟨[], (List.append_nil _).symm, .nil fun w _ hl hm => ?_⟩
    cases maxLen with
    | none => exact absurd rfl hcond
    | some m => exact hcond (decide_eq_true (Nat.le_trans hl (hm m rfl)))

theorem getWords_spec (G : CFG) (hG : G.WF) (maxLen : Option Nat)
    (fuel : Nat) (ws : List (List String)) (h : G.getWords maxLen fuel = some ws) :
    Lists G.Lang (Within maxLen) 0 ws := by
  unfold getWords at h
  simp only at h
  -- the empty word, yielded first if generated, is level 0 of `G.Lang`
  have heps : ∀ {t}, Lists G.Lang (Within maxLen) 1 t → Lists G.Lang (Within maxLen) 0
      ((if G.generateEpsilon = true then [[]] else []) ++ t) := by
    refine .level (by split <;> simp) (fun w => ?_) fun w hl m _ => hl ▸ Nat.zero_le m
    rw [List.length_eq_zero_iff]
    by_cases he : G.generateEpsilon = true
    · rw [if_pos he, List.mem_singleton]
      exact ⟨fun h => ⟨h, h ▸ (generateEpsilon_iff G).1 he⟩, fun h => h.1⟩
    · rw [if_neg he]; exact ⟨nofun, fun h => absurd ((generateEpsilon_iff G).2 (h.1 ▸ h.2)) he⟩
  by_cases hne : maxLen = some 0
  · -- `max_length = 0`: only the empty word is asked for
    rw [if_pos hne] at h
    cases h
    rw [← List.append_nil (ite _ _ _)]
    exact heps (.nil fun w _ hl hb => absurd (hb 0 hne) (Nat.not_le_of_lt hl))
  rw [if_neg hne] at h
  split at h
  · cases h
  · rename_i N hN
    have hlang := toNormalForm_lang G hG fuel N hN
    have hnf := toNormalForm_isNormalForm G hG fuel N hN
    have hwf := toNormalForm_wf G hG fuel N hN
    split at h
    · rename_i hs
      cases h
      rw [← List.append_nil (ite _ _ _)]
      refine heps (.nil fun w hw hl _ => ?_)
      obtain ⟨s, h1, _⟩ := (hlang w).2 ⟨hw, List.ne_nil_of_length_pos hl⟩
      rw [hs] at h1; cases h1
    · rename_i s hs
      -- then the words of length 1 of `s`, and what the loop appends, from length 2 on
      have hpos : ∀ m, maxLen = some m → 1 ≤ m := fun m hm =>
        Nat.pos_of_ne_zero fun h0 => hne (h0 ▸ hm)
      obtain ⟨t, rfl, ht⟩ := wordsLoop_spec hnf hwf s maxLen fuel 2 0 [wordsRow1 N]
        _ ws h ⟨Rows.init hnf hwf, fun _ _ _ h => h⟩
      rw [List.append_assoc]
      refine heps (Lists.congr (fun w hl => ?_) (.level
        (rowGet_map_nodup _ _ (fun _ => nodup_eraseDups _) s) (mem_wordsRow1 hnf hwf s)
        (fun w hl m hm => hl ▸ hpos m hm) ht))
      rw [← lang_of_start hs, hlang]
      exact (and_iff_left (List.ne_nil_of_length_pos hl))

/-- successors of a variable in the graph of the binary productions -/
def bsucc (N : CFG) (v : String) : List String :=
  N.prods.flatMap fun p => if p.1 = v then
      match p.2 with
      | [.var b, .var c] => [b, c]
      | _ => []
    else []

theorem isFinite_eq (G : CFG) (fuel : Nat) :
    G.isFinite fuel = (G.toNormalForm fuel).map fun N =>
      !(N.vars.any fun v => (bsucc N v).any fun u =>
        v ∈ (bfs (bsucc N) (2 * N.prods.length + 2) [u]).getD []) := rfl

theorem mem_bsucc (N : CFG) (v u : String) :
    u ∈ bsucc N v ↔ ∃ b c, (v, [.var b, .var c]) ∈ N.prods ∧ (u = b ∨ u = c) := by
  unfold bsucc
  rw [List.mem_flatMap]
  constructor
  · rintro ⟨⟨x, body⟩, hp, hu⟩
    split at hu
    · rename_i hx
      simp only at hx
      subst hx
      split at hu
      · rename_i b c hb
        simp only at hb
        subst hb
        exact ⟨b, c, hp, by simpa using hu⟩
      · cases hu
    · cases hu
  · rintro ⟨b, c, hp, hu⟩
    exact ⟨_, hp, by simpa using hu⟩

def allSucc (N : CFG) : List String :=
  N.prods.flatMap fun p => match p.2 with
    | [.var b, .var c] => [b, c]
    | _ => []

theorem allSucc_length (N : CFG) : (allSucc N).length ≤ 2 * N.prods.length :=
  Nat.mul_comm _ _ ▸ length_flatMap_le _ _ 2 fun p _ => by split <;> simp

theorem bsucc_sub_allSucc (N : CFG) (v u : String) (h : u ∈ bsucc N v) : u ∈ allSucc N := by
  obtain ⟨b, c, hp, hu⟩ := (mem_bsucc N v u).mp h
  unfold allSucc
  rw [List.mem_flatMap]
  exact ⟨_, hp, by simpa using hu⟩

def Cycle (N : CFG) : Prop := ∃ v u, u ∈ bsucc N v ∧ Reach (bsucc N) u v

theorem hasCycle_iff (N : CFG) (hWF : N.WF) :
    (N.vars.any fun v => (bsucc N v).any fun u =>
        v ∈ (bfs (bsucc N) (2 * N.prods.length + 2) [u]).getD []) = true ↔ Cycle N := by
  simp only [List.any_eq_true, decide_eq_true_eq]
  have key : ∀ v u, u ∈ bsucc N v →
      (v ∈ (bfs (bsucc N) (2 * N.prods.length + 2) [u]).getD [] ↔ Reach (bsucc N) u v) := by
    intro v u _
    have hf : [u].length + (allSucc N).length ≤ 2 * N.prods.length + 2 := by
      have := allSucc_length N
      simp only [List.length_cons, List.length_nil]
      omega
    rw [mem_bfs_getD_iff (bsucc N) (allSucc N) (bsucc_sub_allSucc N) [u] _ hf v]
    simp only [List.mem_singleton, exists_eq_left]
  constructor
  · rintro ⟨v, _, u, hu, hm⟩
    exact ⟨v, u, hu, (key v u hu).mp hm⟩
  · rintro ⟨v, u, hu, hr⟩
    obtain ⟨b, c, hp, _⟩ := (mem_bsucc N v u).mp hu
    exact ⟨v, hWF.head_mem _ hp, u, hu, (key v u hu).mpr hr⟩

/-- a derivation below `|vars| - fuel` ancestors is a binary tree of height at most `fuel` -/
theorem acyclic_bound {N : CFG} (hN : N.isNormalForm = true) (hWF : N.WF) :
    ∀ (x : String) (w : List String), N.Gen (.var x) w → ∀ (fuel : Nat) (anc : List String),
      OpenWalk (bsucc N) N.vars x anc → anc.length + fuel = N.vars.length → w.length ≤ 2 ^ fuel := by
  refine cnf_gen_ind hN (fun _ _ _ _ _ _ _ => Nat.one_le_two_pow) ?_
  intro x b c w₁ w₂ hp _ _ i₁ i₂ fuel anc ha hlen
  have hb := fun y hy => ha.push (hWF.head_mem _ hp) ((mem_bsucc N x y).mpr ⟨b, c, hp, hy⟩)
  -- `x :: anc` lists distinct variables, so some fuel is left
  have := (hb b (Or.inl rfl)).nodup.length_le_of_subset (hb b (Or.inl rfl)).sub
  rw [List.length_cons] at this
  obtain ⟨n, rfl⟩ : ∃ n, fuel = n + 1 := ⟨fuel - 1, by omega⟩
  have hlen' : (x :: anc).length + n = N.vars.length := by rw [List.length_cons]; omega
  have e1 := i₁ n _ (hb b (Or.inl rfl)) hlen'
  have e2 := i₂ n _ (hb c (Or.inr rfl)) hlen'
  rw [List.length_append, Nat.pow_succ]
  omega

theorem acyclic_bounded {N : CFG} (hN : N.isNormalForm = true) (hWF : N.WF) (hc : ¬ Cycle N)
    (x : String) (w : List String) (hg : N.Gen (.var x) w) : w.length ≤ 2 ^ N.vars.length :=
  acyclic_bound hN hWF x w hg N.vars.length []
    (OpenWalk.nil fun ⟨y, _, r, hr, hry⟩ => hc ⟨y, r, hr, hry⟩) (Nat.zero_add _)

/-- every production has a reachable head and a generating body -/
def AllUseful (N : CFG) : Prop :=
  ∀ p ∈ N.prods, Occurs N (.var p.1) ∧ ∀ s ∈ p.2, ∃ w, N.Gen s w

/-- in a normal form only binary productions have variables in their bodies, so what occurs in a
sentential form is reached along `bsucc` -/
theorem cnf_reach {N : CFG} (hN : N.isNormalForm = true) {h : String} {α : List Sym}
    (hd : N.Derives [.var h] α) : ∀ x, Sym.var x ∈ α → Reach (bsucc N) h x := by
  have := derives_closed N (fun s => ∀ x, s = Sym.var x → Reach (bsucc N) h x) ?_ hd ?_
  · exact fun x hx => this _ hx x rfl
  · intro x y hx hy z hz
    subst hz
    obtain ⟨v, body, rfl, hp, hyb⟩ := (mem_rnext N x _).1 hy
    rcases cnf_body hN hp with ⟨b, c, rfl⟩ | ⟨t, rfl⟩
    · exact (hx v rfl).tail ((mem_bsucc N v z).2 ⟨b, c, hp, by simpa using hyb⟩)
    · simp at hyb
  · intro x hx z hz
    rw [List.mem_singleton.1 hx] at hz
    cases hz
    exact Reach.refl _

def Big (N : CFG) (x : String) (n : Nat) : Prop := ∃ w, N.Gen (.var x) w ∧ n ≤ w.length

/-- along an edge of `bsucc` the sibling adds at least one letter -/
theorem Big.edge {N : CFG} (hN : N.isNormalForm = true) (hU : AllUseful N) {x u : String} {n : Nat}
    (hu : u ∈ bsucc N x) : Big N u n → Big N x (n + 1) := by
  rintro ⟨w, hg, hl⟩
  obtain ⟨b, c, hp, hu⟩ := (mem_bsucc N x u).mp hu
  obtain ⟨wb, hb⟩ := (hU _ hp).2 (.var b) (by simp)
  obtain ⟨wc, hc⟩ := (hU _ hp).2 (.var c) (by simp)
  have pb := cnf_gen_len_pos hN hb
  have pc := cnf_gen_len_pos hN hc
  rcases hu with rfl | rfl
  · exact ⟨w ++ wc, (cnf_gen_var_iff N hN _ _).mpr (Or.inr ⟨_, _, _, _, hp, rfl, hg, hc⟩), by
      rw [List.length_append]; omega⟩
  · exact ⟨wb ++ w, (cnf_gen_var_iff N hN _ _).mpr (Or.inr ⟨_, _, _, _, hp, rfl, hb, hg⟩), by
      rw [List.length_append]; omega⟩

theorem Big.le {N : CFG} {x : String} {n : Nat} : Big N x (n + 1) → Big N x n :=
  fun ⟨w, hg, hl⟩ => ⟨w, hg, Nat.le_of_succ_le hl⟩

theorem Big.reach {N : CFG} (hN : N.isNormalForm = true) (hU : AllUseful N) {x y : String} {n : Nat}
    (hr : Reach (bsucc N) x y) (h : Big N y n) : Big N x n := by
  induction hr with
  | refl => exact h
  | tail _ hz ih => exact ih (h.edge hN hU hz).le

theorem cycle_unbounded {N : CFG} (hN : N.isNormalForm = true) (hU : AllUseful N) (hc : Cycle N) :
    ∀ n, ∃ w, N.Lang w ∧ n ≤ w.length := by
  obtain ⟨v, u, hu, hr⟩ := hc
  obtain ⟨b, c, hp, hb⟩ := (mem_bsucc N v u).mp hu
  obtain ⟨⟨s, hs, _, _, hd⟩, hg⟩ := hU _ hp
  obtain ⟨wu, hwu⟩ : ∃ w, N.Gen (.var u) w := by
    rcases hb with rfl | rfl <;> exact hg _ (by simp)
  -- once round the cycle adds a letter; the start symbol reaches the cycle
  have hv : ∀ n, Big N v n := fun n => by
    induction n with
    | zero => exact (Big.edge hN hU hu ⟨wu, hwu, Nat.zero_le _⟩).le
    | succ n ih => exact (ih.reach hN hU hr).edge hN hU hu
  intro n
  obtain ⟨w, hg, hl⟩ := (hv n).reach hN hU (cnf_reach hN hd v (by simp))
  exact ⟨w, (lang_iff_gen N w).mpr ⟨s, hs, hg⟩, hl⟩

/-! The finiteness test walks the graph `bsucc` of the normal form and needs every symbol there to be
useful.  Lifting and binarisation each derive the productions they replace (`lift_prod`, `dec_prod`),
so reachable heads and generating bodies carry over along `derives_sim`; the fresh variables get
theirs from the `entry` field of `DecInv`. -/

structure FastFacts (G : CFG) : Prop where
  wf : G.WF
  noEps : ∀ p ∈ G.prods, p.2 ≠ []
  noUnit : ∀ p ∈ G.prods, isUnit p = false
  gen : ∀ v ∈ G.vars, ∃ w, G.Gen (.var v) w
  reach : ∀ v ∈ G.vars, Sym.var v ∈ G.reachable

theorem lift_useful (G : CFG) (hF : FastFacts G) : AllUseful (liftG G) := by
  have hG := hF.wf
  have occ : ∀ q ∈ G.prods, Occurs (liftG G) (.var q.1) := fun q hq =>
    Occurs.sim (N := liftG G) ((mem_reachable_iff G _).1 (hF.reach _ (hG.head_mem q hq))) rfl
      fun _ _ => lift_prod G hG
  have gen : ∀ q ∈ G.prods, ∀ s ∈ q.2, ∃ w, (liftG G).Gen s w := by
    intro q hq s hs
    cases s with
    | ter t => exact ⟨[t], Gen.ter t⟩
    | var v =>
      obtain ⟨w, hw⟩ := hF.gen v (hG.var_mem q hq v hs)
      exact ⟨w, gen_of_derives_sim (fun _ _ => lift_prod G hG) hw⟩
  intro p hp
  rcases (mem_singleTerminals G p).1 hp with ⟨hq, _⟩ | ⟨q, hq, hl, rfl⟩ | ⟨t, e, ht, he, rfl⟩
  · exact ⟨occ p hq, gen p hq⟩
  · refine ⟨occ q hq, fun s hs => ?_⟩
    obtain ⟨s', hs', rfl⟩ := List.mem_map.1 hs
    obtain ⟨w, hw⟩ := gen q hq s' hs'
    exact ⟨w, gen_of_derives (lift_sym G hG hq hl hs') (genList_singleton.2 hw)⟩
  · refine ⟨?_, fun s hs => ⟨[t], List.mem_singleton.1 hs ▸ Gen.ter t⟩⟩
    obtain ⟨_, q, hq, hl, hs⟩ := (mem_usedTers G t).1 ht
    refine (occ q hq).step (body := q.2.map (liftSym G.termToVar))
      ((mem_singleTerminals G _).2 (Or.inr (Or.inl ⟨q, hq, hl, rfl⟩))) ?_
    exact List.mem_map.2 ⟨_, hs, by simp [liftSym, he]⟩

section Dec
variable {G H : CFG} {idx : Nat} {D : List (List Sym × String)}
  (inv : DecInv G H.prods (idx, G.decompose H.prods, D))
include inv

theorem dec_useful (hH : AllUseful H) : AllUseful (decG G H) := by
  -- the symbols of a processed body or of a recorded suffix generate
  have syms : ∀ h σ, ((h, σ) ∈ H.prods ∨ (σ, h) ∈ D) → ∀ s ∈ σ, ∃ w, (decG G H).Gen s w := by
    intro h σ hσ s hs
    obtain ⟨q, hq, hsq⟩ : ∃ q ∈ H.prods, s ∈ q.2 := by
      rcases hσ with hσ | hσ
      · exact ⟨_, hσ, hs⟩
      · obtain ⟨q, hq, _, hsub⟩ := inv.entry_sub hσ
        exact ⟨q, hq, hsub s hs⟩
    obtain ⟨w, hw⟩ := (hH q hq).2 s hsq
    exact ⟨w, gen_of_derives_sim (fun _ _ => dec_prod inv) hw⟩
  intro p hp
  obtain ⟨σ, hσ, hl⟩ := inv.src p hp
  constructor
  · rcases hσ with hσ | hσ
    · exact (hH _ hσ).1.sim (N := decG G H) rfl fun _ _ => dec_prod inv
    · obtain ⟨_, _, _, _, q, hq, pre, _, hd⟩ := inv.entry _ hσ
      refine ((hH q hq).1.sim (N := decG G H) rfl fun _ _ => dec_prod inv).derives (u := pre) (v := []) ?_
      simpa using hd.mono (N := decG G H) fun _ h => h
  · rcases hl with ⟨_, hl⟩ | ⟨b, rest, v, rfl, _, hv, hl⟩
    · rw [hl]; exact syms _ σ hσ
    · rw [hl]
      intro s hs
      rcases List.mem_cons.1 hs with rfl | hs
      · exact syms _ _ hσ _ List.mem_cons_self
      · rw [List.mem_singleton.1 hs]
        obtain ⟨w, hw⟩ := genList_of_forall (decG G H) rest (syms v rest (Or.inr hv))
        exact ⟨w, gen_of_derives ((inv.entry _ hv).2.2.2.1.mono (N := decG G H) fun _ h => h) hw⟩

end Dec

def stLift (tbl : List (String × String)) : Sym → Sym := fun s => match s with
  | .ter t => match tbl.find? (fun e => e.1 = t) with
    | some e => .var e.2
    | none => .ter t
  | .var v => .var v

/-- `N` has the productions of the decomposed grammar of `G` -/
structure CnfOf (G N : CFG) : Prop where
  prods : ∀ q, q ∈ N.prods ↔ q ∈ G.decompose G.singleTerminals
  start : N.start = G.start

/-- side condition on the symbols of a body for the transfer of derivations -/
def Side (G N : CFG) (s : Sym) : Prop :=
  ∃ y, stLift G.termToVar s = Sym.var y ∧
    (s = Sym.var y ∨ ∃ t, s = Sym.ter t ∧ (y, [Sym.ter t]) ∈ N.prods)

theorem cnf_allUseful (G N : CFG) (hF : FastFacts G) (hN : CnfOf G N) : AllUseful N := by
  obtain ⟨idx, D, inv⟩ := decompose_inv G (liftG G).prods
  intro p hp
  obtain ⟨ho, hg⟩ := dec_useful inv (lift_useful G hF) p ((hN.prods p).1 hp)
  exact ⟨ho.sim hN.start fun _ _ hq => Derives.prod ((hN.prods _).2 hq), fun s hs =>
    (hg s hs).imp fun w hw => gen_mono _ N (fun q hq => (hN.prods q).2 hq) s w hw⟩

theorem genList_transfer (G N : CFG) (hF : FastFacts G) (hN : CnfOf G N) :
    ∀ {u : List Sym} {w : List String}, G.GenList u w → (∀ s ∈ u, Side G N s) →
      N.GenList (u.map (stLift G.termToVar)) w
  | [], _, h, _ => by cases h; exact GenList.nil
  | s :: u, _, h, hside => by
    obtain ⟨w₁, w₂, rfl, h₁, h₂⟩ := genList_cons_iff.1 h
    obtain ⟨y, hy, hcase⟩ := hside s List.mem_cons_self
    rw [List.map_cons, hy]
    refine GenList.cons ?_
      (genList_transfer G N hF hN h₂ fun x hx => hside x (List.mem_cons_of_mem _ hx))
    rcases hcase with rfl | ⟨t, rfl, hm⟩
    · obtain ⟨_, hp, _⟩ := gen_var_iff.1 h₁
      exact gen_mono (decG G (liftG G)) N (fun q => (hN.prods q).2) _ _
        ((fastPath_gen_iff G hF.wf y (hF.wf.head_mem _ hp) _).2 h₁)
    · rw [gen_ter_iff.1 h₁]
      exact Gen.var hm (genList_singleton.2 (Gen.ter t))

/-- a duplicate-free sublist is as long as the list exactly when the list has no duplicate and nothing
more: how a comparison of sizes reads as an equality of sets -/
theorem length_eq_iff_full {α : Type} {l m : List α} (hl : l.Nodup) (hs : l ⊆ m) :
    l.length = m.length ↔ m.Nodup ∧ m ⊆ l := by
  constructor
  · intro h
    have hp := (List.subperm_of_subset hl hs).perm_of_length_le (Nat.le_of_eq h.symm)
    exact ⟨hp.nodup_iff.mp hl, fun a ha => hp.mem_iff.mpr ha⟩
  · exact fun ⟨hm, hml⟩ => Nat.le_antisymm (hl.length_le_of_subset hs) (hm.length_le_of_subset hml)

theorem reachable_nodup (G : CFG) : G.reachable.Nodup := by
  cases hs : G.start with
  | none => unfold reachable; rw [hs]; exact List.nodup_nil
  | some s =>
    obtain ⟨res, hb⟩ := Option.isSome_iff_exists.mp (reachable_bfs_isSome G s)
    rw [reachable_eq G s hs, hb, Option.getD_some]
    have := bfsK_nodup id G.rnext _ _ _ res hb (by
      simpa using nodup_eraseDups [Sym.var s])
    simpa using this

def allSyms (G : CFG) : List Sym := G.vars.map Sym.var ++ G.ters.map Sym.ter

theorem reachable_subset (G : CFG) (hG : G.WF) : G.reachable ⊆ allSyms G := fun _ hz =>
  reachable_ind (Q := (· ∈ allSyms G))
    (fun s hs => List.mem_append_left _ (List.mem_map.mpr ⟨s, hG.start_mem s hs, rfl⟩))
    (fun _ _ hp _ _ z hm => by
      cases z with
      | var x => exact List.mem_append_left _ (List.mem_map.mpr ⟨x, hG.var_mem _ hp x hm, rfl⟩)
      | ter t => exact List.mem_append_right _ (List.mem_map.mpr ⟨t, hG.ter_mem _ hp t hm, rfl⟩)) hz

theorem generating_subset (G : CFG) (hG : G.WF) : G.generating ⊆ allSyms G := by
  intro z hz
  rcases (mem_generating_iff G hG z).mp hz with ⟨t, rfl, ht⟩ | ⟨v, w, rfl, hg⟩
  · exact List.mem_append_right _ (List.mem_map.mpr ⟨t, ht, rfl⟩)
  · obtain ⟨body, hp, _⟩ := gen_var_iff.mp hg
    exact List.mem_append_left _ (List.mem_map.mpr ⟨v, hG.head_mem _ hp, rfl⟩)

theorem allSyms_length (G : CFG) : (allSyms G).length = G.vars.length + G.ters.length := by
  simp [allSyms]

theorem nullable_nil (G : CFG) (h : ∀ p ∈ G.prods, p.2 ≠ []) : G.nullable = [] :=
  List.eq_nil_iff_forall_not_mem.2 fun s hs =>
    (Clean.gen_ne_nil h).1 _ _ ((mem_nullable G s).1 hs) rfl

theorem unitPairs_nodup (G : CFG) : G.unitPairs.Nodup := by
  rw [Clean.unitPairs_eq]
  cases h : bfs (Clean.unitNext G) _ (G.vars.map fun v => (v, v)) with
  | none => exact List.nodup_nil
  | some res =>
    simpa using bfsK_nodup id _ _ _ _ res h
      (by simpa using @nodup_eraseDups _ instBEqOfDecidableEq _ _)

theorem unitPairs_length (G : CFG) (h : ∀ p ∈ G.prods, isUnit p = false) (hnd : G.vars.Nodup) :
    G.unitPairs.length = G.vars.length := by
  -- without unit production the search has no edge: only the seeds `(v, v)` are found
  have hsub : G.unitPairs ⊆ G.vars.map fun v => (v, v) := fun ab hab => by
    obtain ⟨v, hv, hr⟩ := (Clean.mem_unitPairs_iff G ab).1 hab
    cases hr with
    | refl => exact List.mem_map.2 ⟨v, hv, rfl⟩
    | tail _ hz =>
      obtain ⟨c, hc, _⟩ := List.mem_map.mp hz
      have := h _ ((Clean.mem_unitTargets G _ _).mp hc)
      simp [isUnit] at this
  refine ((length_eq_iff_full (unitPairs_nodup G) hsub).2
    ⟨hnd.map fun a b e => congrArg Prod.fst e, fun ab hab => ?_⟩).trans (List.length_map _)
  obtain ⟨v, hv, rfl⟩ := List.mem_map.1 hab
  exact Clean.unitPairs_refl hv

/-- The guard of `to_normal_form` compares the sizes of the sets of nullable, generating and reachable
symbols and of unit pairs with the sizes of the registers.  It says: no symbol is registered twice,
there is no ε-production and no unit production, every registered symbol generates and is reachable. -/
theorem isFastPath_iff (G : CFG) (hG : G.WF) : G.isFastPath = true ↔
    (allSyms G).Nodup ∧ (∀ p ∈ G.prods, p.2 ≠ []) ∧ (∀ p ∈ G.prods, isUnit p = false) ∧
      allSyms G ⊆ G.generating ∧ allSyms G ⊆ G.reachable := by
  have hR := length_eq_iff_full (reachable_nodup G) (reachable_subset G hG)
  have hGn := fun ht => length_eq_iff_full (generating_nodup G ht) (generating_subset G hG)
  rw [allSyms_length] at hR hGn
  constructor
  · intro h
    have hfast := h
    simp only [isFastPath, Bool.and_eq_true, decide_eq_true_eq] at h
    obtain ⟨hnd, hr⟩ := hR.1 h.2
    exact ⟨hnd, fastPath_noEps G hfast, fastPath_noUnit G hfast,
      ((hGn (.of_map _ (List.nodup_append.mp hnd).2.1)).1 h.1.2).2, hr⟩
  · rintro ⟨hnd, hne, hnu, hgen, hreach⟩
    simp only [isFastPath, Bool.and_eq_true, decide_eq_true_eq, Bool.not_eq_true']
    exact ⟨⟨⟨⟨by rw [nullable_nil G hne]; rfl,
      unitPairs_length G hnu (.of_map _ (List.nodup_append.mp hnd).1)⟩,
      List.any_eq_false.2 fun p hp => by rw [hnu p hp]; simp⟩,
      (hGn (.of_map _ (List.nodup_append.mp hnd).2.1)).2 ⟨hnd, hgen⟩⟩, hR.2 ⟨hnd, hreach⟩⟩

theorem fastFacts_of (G : CFG) (hG : G.WF) (h : G.isFastPath = true) : FastFacts G := by
  obtain ⟨_, hne, hnu, hgen, hreach⟩ := (isFastPath_iff G hG).1 h
  have hv : ∀ v ∈ G.vars, Sym.var v ∈ allSyms G := fun v hv =>
    List.mem_append_left _ (List.mem_map.mpr ⟨v, hv, rfl⟩)
  refine ⟨hG, hne, hnu, fun v h => ?_, fun v h => hreach (hv v h)⟩
  rcases (mem_generating_iff G hG _).mp (hgen (hv v h)) with ⟨t, ht, _⟩ | ⟨v', w, hv', hg⟩
  · cases ht
  · cases hv'; exact ⟨w, hg⟩

theorem toNormalForm_allUseful (G : CFG) (hG : G.WF) (fuel : Nat) (N : CFG)
    (h : G.toNormalForm fuel = some N) : AllUseful N := by
  refine toNormalForm_induct (P := fun _ N => AllUseful N) ?_ ?_ (fun _ _ _ ih => ih) fuel G hG N h
  · intro G hG hfast
    exact cnf_allUseful G _ (fastFacts_of G hG hfast) ⟨fun _ => List.mem_eraseDups, rfl⟩
  · intro G _ h0 p hp
    rw [List.eq_nil_of_length_eq_zero h0] at hp
    cases hp

theorem acyclic_of_finite (G : CFG) (hG : G.WF) (fuel : Nat) (N : CFG)
    (hN : G.toNormalForm fuel = some N) (hfin : ∃ n, ∀ w, G.Lang w → w.length ≤ n) : ¬ Cycle N := by
  intro hc
  obtain ⟨n, hn⟩ := hfin
  obtain ⟨w, hw, hl⟩ := cycle_unbounded (toNormalForm_isNormalForm G hG fuel N hN)
    (toNormalForm_allUseful G hG fuel N hN) hc (n + 1)
  exact absurd (hn w ((toNormalForm_lang G hG fuel N hN w).mp hw).1) (Nat.not_le_of_lt hl)

end Words
end CFG
end Pfl
