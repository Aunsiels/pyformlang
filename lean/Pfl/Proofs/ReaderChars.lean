/-
What the printer round trip needs at character level: the trees over plain symbols (`PlainSym`,
`PlainRx`, the hypothesis of `parse_repr`), and a plain symbol is printed as itself (`PlainSym.repr`).
-/
import Pfl.Proofs.PyRxLayout
namespace Pfl.RegexReader

/-- a symbol that needs no escaping: non-empty, no blank, no backslash, no operator character,
and not the word "epsilon" -/
def PlainSym (s : String) : Prop :=
  s.toList ≠ [] ∧ (∀ c ∈ s.toList, c ≠ ' ' ∧ c ≠ '\\' ∧ isSpecialChar c = false) ∧ s ≠ "epsilon"

/-- no `Empty` node, plain symbols only -/
def PlainRx : Rx → Prop
  | .empty => False
  | .eps => True
  | .sym s => PlainSym s
  | .cat a b => PlainRx a ∧ PlainRx b
  | .alt a b => PlainRx a ∧ PlainRx b
  | .star a => PlainRx a

namespace Lem

theorem PlainSym.isPl {s : String} (h : PlainSym s) : IsPl s.toList := ⟨h.1, h.2.1⟩

theorem PlainSym.repr {s : String} (h : PlainSym s) : Rx.repr' (.sym s) = s := by
  have hns : ∀ c, s.toList = [c] → isSpecialChar c = false := by
    intro c hc
    exact (h.2.1 c (by simp [hc])).2.2
  have : s ∉ [".", "|", "+", "*", "epsilon", "$", "(", ")"] := by
    simp only [List.mem_cons, List.not_mem_nil, or_false]
    rintro (rfl | rfl | rfl | rfl | rfl | rfl | rfl | rfl)
    · exact absurd (hns '.' (by simp)) (by decide)
    · exact absurd (hns '|' (by simp)) (by decide)
    · exact absurd (hns '+' (by simp)) (by decide)
    · exact absurd (hns '*' (by simp)) (by decide)
    · exact h.2.2 rfl
    · exact absurd (hns '$' (by simp)) (by decide)
    · exact absurd (hns '(' (by simp)) (by decide)
    · exact absurd (hns ')' (by simp)) (by decide)
  simp [Rx.repr', this]

end Lem
end Pfl.RegexReader
