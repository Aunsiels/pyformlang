/-
The invariant of the Earley recogniser (`Pfl/Model/Earley.lean`) and its preservation by
`pushIfNew`, `predictor`, `scanner`, `completer`, `columnLoop` and `contains`.
Abstract over the instantiated target grammar (context `Ctx`).
-/
import Pfl.Proofs.EarleyAdvance
import Pfl.Proofs.CFGBase
import Pfl.Proofs.EarleyColumns
import Pfl.Proofs.EarleyWalk
namespace Pfl
namespace Earley
namespace Lem
open FsDag FsDag.Lem

abbrev SpecT := List ((String × Feat) × List (Sym × Feat))
abbrev Env := List (String × String)

/-- name of an occurrence `x` with feature `f` under the environment `env` -/
def nmOf (vf : Env → String → String) (env : Env) (x : String) (f : Feat) : String :=
  match f with
  | none => x
  | some v => x ++ "_" ++ vf env v

def ibody (vf : Env → String → String) (env : Env) (body : List (Sym × Feat)) : List Sym :=
  body.map fun it => match it.1 with
    | .ter t => Sym.ter t
    | .var x => Sym.var (nmOf vf env x it.2)

/-- What the soundness proof is relative to: the description `spec` handed to `buildGrammar`, the
Earley grammar `G` built from it, the input `word`, and the plain (instantiated) grammar `tgt` in which
derivations are claimed.  `Glue.ctx` (`Pfl/Props/C18_Earley.lean`) is the instance. -/
structure Ctx where
  spec : SpecT
  G : Grammar
  word : List String
  tgt : CFG
  vf : Env → String → String
  okEnv : Nat → Env → Prop
  P : String → Prop
  featured : Bool

/-- What the proof needs of a context.  `close` is the only link to `tgt`: every admissible instance
of a production of `spec` is derivable there; `uniform` (all non-terminal occurrences featured, or
none) makes the name of a body occurrence and the name of the completed head the same string once
both read the same leaf. -/
structure CtxOK (C : Ctx) : Prop where
  prods_len : C.G.prods.length = C.spec.length
  prods_get : ∀ (k : Nat) (pr : (String × Feat) × List (Sym × Feat)), C.spec[k]? = some pr →
    ∃ p : FProd, C.G.prods[k]? = some p ∧ p.head = pr.1.1 ∧ p.body = pr.2.map (·.1)
  start_ne : C.G.start ≠ C.G.gammaName
  uniform : ∀ pr ∈ C.spec, pr.1.2.isSome = C.featured ∧
    ∀ it ∈ pr.2, ∀ X, it.1 = Sym.var X → it.2.isSome = C.featured
  noGamma : ∀ pr ∈ C.spec, ∀ it ∈ pr.2, it.1 ≠ Sym.var C.G.gammaName
  close : ∀ (k : Nat) (pr : (String × Feat) × List (Sym × Feat)) (env : Env) (u : List String),
    C.spec[k]? = some pr → C.okEnv k env →
    C.tgt.GenList (ibody C.vf env pr.2) u → C.tgt.Gen (.var (nmOf C.vf env pr.1.1 pr.1.2)) u

/-- the features read in `F` are those of the production `pr` instantiated by `env` -/
def Occ (C : Ctx) (st : Store) (σ : Nat → String) (F : Nat)
    (pr : (String × Feat) × List (Sym × Feat)) (env : Env) : Prop :=
  (∀ v, pr.1.2 = some v → rdv st σ F ["head", "n"] = some (C.vf env v)) ∧
  ∀ (j : Nat) (X v : String), pr.2[j]? = some (Sym.var X, some v) →
    rdv st σ F [toString j, "n"] = some (C.vf env v)

/-- the (never modified) features object of production `k` -/
def GoodObj (C : Ctx) (st : Store) (k : Nat) (F : Nat) : Prop :=
  ∀ pr, C.spec[k]? = some pr → ∀ σ, Resp C.P st σ → ∃ env, C.okEnv k env ∧ Occ C st σ F pr env

/-- the meaning of a state: under every valuation `σ` of the classes there is an admissible `env`
whose values are those read in `s.fs` and under which the instantiated body up to the dot derives
`word[s.b, s.e)`.  Quantifying over all `σ` is what lets the claim travel along `Sim` when later
unifications bind variables. -/
def GoodSt (C : Ctx) (st : Store) (s : EState) : Prop :=
  ∀ pr, C.spec[s.prod]? = some pr → s.dot ≤ pr.2.length ∧
    ∀ σ, Resp C.P st σ → ∃ env, C.okEnv s.prod env ∧ Occ C st σ s.fs pr env ∧
      C.tgt.GenList ((ibody C.vf env pr.2).take s.dot) (seg C.word s.b s.e)

/-- `GoodSt` plus the bookkeeping for a state of column `i`; `prod_le` is `≤` so that the dummy item,
whose index is `spec.length`, is covered. -/
structure StOK (C : Ctx) (st : Store) (rk : Nat → Nat) (i : Nat) (s : EState) : Prop where
  e_eq : s.e = i
  ble : s.b ≤ s.e
  fs_lt : s.fs < st.length
  rk2 : rk s.fs = 2
  prod_le : s.prod ≤ C.spec.length
  good : GoodSt C st s

/-- the invariant: the store is well formed, the production objects are good, every state of the
chart and of the processed table is `StOK`.  `X` lists states (with their column) that must stay
`StOK` while the store changes although they are in no table or are iterated over from a snapshot. -/
structure Inv (C : Ctx) (T : Tables) (rk : Nat → Nat) (X : List (Nat × EState)) : Prop where
  wf : WFS T.store rk
  objs : ∀ k p, C.G.prods[k]? = some p →
    p.feats < T.store.length ∧ rk p.feats = 2 ∧ GoodObj C T.store k p.feats
  chart : ∀ i s, s ∈ colGet T.chart i → StOK C T.store rk i s
  proc : ∀ i s, s ∈ procStates T i → StOK C T.store rk i s
  extra : ∀ e ∈ X, StOK C T.store rk e.1 e.2

theorem Occ.sim {C : Ctx} {st st' : Store} {F F' : Nat} {σ σ' : Nat → String}
    {pr : (String × Feat) × List (Sym × Feat)} {env : Env}
    (h : ∀ p a, rdv st σ F p = some a → rdv st' σ' F' p = some a) (ho : Occ C st σ F pr env) :
    Occ C st' σ' F' pr env :=
  ⟨fun v hv => h _ _ (ho.1 v hv), fun j X v hj => h _ _ (ho.2 j X v hj)⟩

theorem GoodObj.step {C : Ctx} {st st' : Store} {k F : Nat} (hs : Sim C.P st F st' F)
    (h : GoodObj C st k F) : GoodObj C st' k F := by
  intro pr hpr σ' hσ'
  obtain ⟨σ, hσ, hp⟩ := hs σ' hσ'
  obtain ⟨env, he, ho⟩ := h pr hpr σ hσ
  exact ⟨env, he, ho.sim hp⟩

theorem GoodSt.step {C : Ctx} {st st' : Store} {s : EState} (hs : Sim C.P st s.fs st' s.fs)
    (h : GoodSt C st s) : GoodSt C st' s := by
  intro pr hpr
  obtain ⟨hd, h2⟩ := h pr hpr
  refine ⟨hd, fun σ' hσ' => ?_⟩
  obtain ⟨σ, hσ, hp⟩ := hs σ' hσ'
  obtain ⟨env, he, ho, hg⟩ := h2 σ hσ
  exact ⟨env, he, ho.sim hp, hg⟩

theorem StOK.step {C : Ctx} {st st' : Store} {rk rk' : Nat → Nat} {i : Nat} {s : EState}
    (hs : Step C.P st rk st' rk') (h : StOK C st rk i s) : StOK C st' rk' i s :=
  ⟨h.e_eq, h.ble, Nat.lt_of_lt_of_le h.fs_lt hs.len, by rw [hs.rk _ h.fs_lt]; exact h.rk2,
    h.prod_le, h.good.step (hs.sim _ h.fs_lt)⟩

/-- the facts of `Inv` about the store: it is well formed, the production objects are good -/
structure InvS (C : Ctx) (st : Store) (rk : Nat → Nat) : Prop where
  wf : WFS st rk
  objs : ∀ k p, C.G.prods[k]? = some p →
    p.feats < st.length ∧ rk p.feats = 2 ∧ GoodObj C st k p.feats

theorem inv_lay {C : Ctx} {T : Tables} {rk : Nat → Nat} {X : List (Nat × EState)} :
    Inv C T rk X ↔ Lay (fun st rk _ _ => InvS C st rk) (StOK C) T rk ∧
      ∀ e ∈ X, StOK C T.store rk e.1 e.2 :=
  ⟨fun h => ⟨⟨⟨h.wf, h.objs⟩, h.chart, h.proc⟩, h.extra⟩,
    fun h => ⟨h.1.tab.wf, h.1.tab.objs, h.1.c, h.1.p, h.2⟩⟩

theorem InvS.step {C : Ctx} {st st' : Store} {rk rk' : Nat → Nat} (h : InvS C st rk)
    (hs : Step C.P st rk st' rk') (hw : WFS st' rk') : InvS C st' rk' :=
  ⟨hw, fun k p hp => by
    obtain ⟨h1, h2, h3⟩ := h.objs k p hp
    exact ⟨Nat.lt_of_lt_of_le h1 hs.len, by rw [hs.rk _ h1]; exact h2, h3.step (hs.sim _ h1)⟩⟩

/-- the level of soundness -/
abbrev Snd (C : Ctx) := Lay (fun st rk _ _ => InvS C st rk) (StOK C)

theorem Snd.step {C : Ctx} {T : Tables} {rk rk' : Nat → Nat} {st' : Store}
    (hs : Step C.P T.store rk st' rk') (hw : WFS st' rk') (h : Snd C T rk) :
    Snd C { T with store := st' } rk' ∧ Carry (StOK C) T.store rk st' rk' :=
  ⟨h.store (h.tab.step hs hw) fun _ _ r => r.step hs, fun _ _ r => r.step hs⟩

theorem Inv.pushIfNew {C : Ctx} {T : Tables} {rk : Nat → Nat} {X : List (Nat × EState)}
    (h : Inv C T rk X) {i : Nat} {s : EState} (hs : StOK C T.store rk i s) :
    Inv C (pushIfNew C.G T i s) rk X :=
  inv_lay.2 ⟨(inv_lay.1 h).1.push C.G (inv_lay.1 h).1.tab hs, by rw [pushIfNew_store]; exact h.extra⟩

theorem prodOf_spec {C : Ctx} (hC : CtxOK C) {k : Nat} {pr : (String × Feat) × List (Sym × Feat)}
    (h : C.spec[k]? = some pr) :
    (prodOf C.G k).head = pr.1.1 ∧ (prodOf C.G k).body = pr.2.map (·.1) ∧
      C.G.prods[k]? = some (prodOf C.G k) := by
  obtain ⟨p, hp, h1, h2⟩ := hC.prods_get k pr h
  rw [prodOf_some hp]; exact ⟨h1, h2, hp⟩

theorem prodOf_gamma {C : Ctx} (hC : CtxOK C) {k : Nat} (h : C.spec[k]? = none) :
    prodOf C.G k = { head := C.G.gammaName, body := [.var C.G.start], feats := C.G.gammaFeats } :=
  prodOf_none (by rw [List.getElem?_eq_none_iff] at h ⊢; rw [hC.prods_len]; exact h)

theorem nextSym_spec {C : Ctx} (hC : CtxOK C) {s : EState}
    {pr : (String × Feat) × List (Sym × Feat)} (h : C.spec[s.prod]? = some pr) :
    nextSym C.G s = (pr.2[s.dot]?).map (·.1) := by
  unfold nextSym; rw [(prodOf_spec hC h).2.1, List.getElem?_map]

theorem incomplete_spec {C : Ctx} (hC : CtxOK C) {s : EState}
    {pr : (String × Feat) × List (Sym × Feat)} (h : C.spec[s.prod]? = some pr) :
    incomplete C.G s = decide (s.dot < pr.2.length) := by
  unfold incomplete; rw [(prodOf_spec hC h).2.1, List.length_map]

/-- no state waits for the head of the dummy rule, so a rule that is completed into a waiting state is a
rule of the specification -/
theorem CtxOK.completed_spec {C : Ctx} (hC : CtxOK C) {nx c : EState}
    (hnext : nextSym C.G nx = some (.var (prodOf C.G c.prod).head)) :
    ∃ prs, C.spec[c.prod]? = some prs := by
  cases hsp : C.spec[c.prod]? with
  | some prs => exact ⟨prs, rfl⟩
  | none =>
    exfalso
    rw [prodOf_gamma hC hsp] at hnext
    cases hspn : C.spec[nx.prod]? with
    | some pr =>
      rw [nextSym_spec hC hspn] at hnext
      obtain ⟨it, hit, hit1⟩ := Option.map_eq_some_iff.1 hnext
      exact hC.noGamma pr (List.mem_of_getElem? hspn) it (List.mem_of_getElem? hit) hit1
    | none =>
      unfold nextSym at hnext
      rw [prodOf_gamma hC hspn] at hnext
      exact hC.start_ne (Sym.var.inj (List.mem_singleton.1 (List.mem_of_getElem? hnext))).symm

theorem ibody_take_succ (vf : Env → String → String) (env : Env) (body : List (Sym × Feat))
    (d : Nat) (it : Sym × Feat) (h : body[d]? = some it) :
    (ibody vf env body).take (d + 1) = (ibody vf env body).take d ++
      [match it.1 with
        | .ter t => Sym.ter t
        | .var x => Sym.var (nmOf vf env x it.2)] := by
  rw [List.take_add_one]
  congr 1
  unfold ibody
  rw [List.getElem?_map, h]; rfl

theorem scanned_ok {C : Ctx} (hC : CtxOK C) {st : Store} {rk : Nat → Nat} {i : Nat} {s : EState}
    (hs : StOK C st rk i s) {t : String} (hn : nextSym C.G s = some (.ter t))
    (hw : C.word[i]? = some t) :
    StOK C st rk (i + 1) { s with e := i + 1, dot := s.dot + 1 } := by
  obtain rfl := hs.e_eq
  refine ⟨rfl, Nat.le_succ_of_le hs.ble, hs.fs_lt, hs.rk2, hs.prod_le, fun pr hpr => ?_⟩
  obtain ⟨_, hg⟩ := hs.good pr hpr
  rw [nextSym_spec hC (s := s) hpr] at hn
  obtain ⟨it, hit, hit1⟩ := Option.map_eq_some_iff.1 hn
  refine ⟨(List.getElem?_eq_some_iff.1 hit).1, fun σ hσ => ?_⟩
  obtain ⟨env, he, ho, hgl⟩ := hg σ hσ
  refine ⟨env, he, ho, ?_⟩
  show C.tgt.GenList ((ibody C.vf env pr.2).take (s.dot + 1)) (seg C.word s.b (s.e + 1))
  rw [ibody_take_succ C.vf env pr.2 s.dot it hit, hit1, ← seg_succ C.word hs.ble hw]
  exact CFG.genList_append hgl (CFG.GenList.cons (.ter t) .nil)

theorem Inv.scanner {C : Ctx} (hC : CtxOK C) {T : Tables} {rk : Nat → Nat}
    {X : List (Nat × EState)} (h : Inv C T rk X) {i : Nat} {s : EState}
    (hs : StOK C T.store rk i s) {t : String} (hn : nextSym C.G s = some (.ter t))
    (hw : C.word[i]? = some t) : Inv C (scanner C.G T s) rk X := by
  unfold Pfl.Earley.scanner
  rw [hs.e_eq]
  exact h.pushIfNew (scanned_ok hC hs hn hw)

theorem nmOf_congr {vf : Env → String → String} {ea eb : Env} {x : String} {f f' : Feat} {b : Bool}
    (h1 : f.isSome = b) (h2 : f'.isSome = b)
    (h : ∀ v v', f = some v → f' = some v' → vf ea v = vf eb v') :
    nmOf vf ea x f = nmOf vf eb x f' := by
  cases f with
  | none =>
    cases f' with
    | none => rfl
    | some v' => simp at h1 h2; rw [h1] at h2; simp at h2
  | some v =>
    cases f' with
    | none => simp at h1 h2; rw [h1] at h2; simp at h2
    | some v' => simp only [nmOf]; rw [h v v' rfl rfl]

theorem GoodSt.complete {C : Ctx} (hC : CtxOK C) {st : Store} {s : EState}
    {pr : (String × Feat) × List (Sym × Feat)} (h : GoodSt C st s) (hpr : C.spec[s.prod]? = some pr)
    (hcomp : incomplete C.G s = false) {σ : Nat → String} (hσ : Resp C.P st σ) :
    ∃ env, C.okEnv s.prod env ∧ Occ C st σ s.fs pr env ∧
      C.tgt.Gen (.var (nmOf C.vf env pr.1.1 pr.1.2)) (seg C.word s.b s.e) := by
  obtain ⟨env, he, ho, hg⟩ := (h pr hpr).2 σ hσ
  rw [incomplete_spec hC hpr, decide_eq_false_iff_not, Nat.not_lt] at hcomp
  rw [List.take_of_length_le (by unfold ibody; rw [List.length_map]; exact hcomp)] at hg
  exact ⟨env, he, ho, hC.close s.prod pr env _ hpr he hg⟩

/-- the waiting state `nx` moved over the completed state `s`, with the copy `cr` at the store of a
successful unification, is good: both copies simulate their originals and read the same leaf -/
theorem compl_good {C : Ctx} (hC : CtxOK C) {st : Store} {rk : Nat → Nat} {s nx : EState}
    {st1 : Store} {cl : Nat} {rk1 : Nat → Nat} {st2 : Store} {cr : Nat} {rk2 : Nat → Nat}
    {left considered : Nat}
    (W : Cmp.AdvWalk C.P st rk s.fs nx.fs nx.dot st1 cl rk1 st2 cr rk2 left considered)
    {st3 : Store} {rk3 : Nat → Nat} (u : Cmp.UnifyOut C.P st2 rk2 considered left st3 rk3) {i : Nat}
    (hs : StOK C st rk i s) (hnx : StOK C st rk s.b nx) (hcomp : incomplete C.G s = false)
    (hnext : nextSym C.G nx = some (.var (prodOf C.G s.prod).head)) :
    StOK C st3 rk3 s.e { prod := nx.prod, b := nx.b, e := s.e, dot := nx.dot + 1, fs := cr } := by
  have hbe : nx.e = s.b := hnx.e_eq
  refine ⟨rfl, Nat.le_trans hnx.ble (hbe ▸ hs.ble), Nat.lt_of_lt_of_le W.o2.lt u.step.len,
    by rw [u.step.rk _ W.o2.lt]; exact W.rkcr, hnx.prod_le, ?_⟩
  intro pr hpr
  change C.spec[nx.prod]? = some pr at hpr
  obtain ⟨prs, hsp⟩ := hC.completed_spec hnext
  rw [nextSym_spec hC hpr] at hnext
  obtain ⟨it, hit, hit1⟩ := Option.map_eq_some_iff.1 hnext
  have hprmem : pr ∈ C.spec := List.mem_of_getElem? hpr
  have hitmem : it ∈ pr.2 := List.mem_of_getElem? hit
  refine ⟨(List.getElem?_eq_some_iff.1 hit).1, fun σ3 hσ3 => ?_⟩
  obtain ⟨σa, hσa, hpa⟩ := W.simA u hnx.fs_lt σ3 hσ3
  obtain ⟨enva, hea, hoa, hga⟩ := ((hnx.good pr hpr).2) σa hσa
  obtain ⟨σb, hσb, hpb⟩ := W.simB u σ3 hσ3
  obtain ⟨envb, heb, hob, hgen⟩ := hs.good.complete hC hsp hcomp hσb
  have hoa3 := hoa.sim hpa
  have hob3 := hob.sim hpb
  refine ⟨enva, hea, hoa3, ?_⟩
  show C.tgt.GenList ((ibody C.vf enva pr.2).take (nx.dot + 1)) (seg C.word nx.b s.e)
  rw [ibody_take_succ C.vf enva pr.2 nx.dot it hit, hit1,
    ← seg_append C.word (b := nx.b) (e := s.b) (e' := s.e) (hbe ▸ hnx.ble) hs.ble]
  rw [hbe] at hga
  refine CFG.genList_append hga ?_
  rw [← List.append_nil (seg C.word s.b s.e)]
  refine CFG.GenList.cons ?_ .nil
  -- both occurrences read the same leaf (`AdvWalk.link`), so the two environments agree on it
  have hname : nmOf C.vf enva (prodOf C.G s.prod).head it.2 =
      nmOf C.vf envb prs.1.1 prs.1.2 := by
    rw [(prodOf_spec hC hsp).1]
    refine nmOf_congr ((hC.uniform pr hprmem).2 it hitmem _ hit1)
      (hC.uniform prs (List.mem_of_getElem? hsp)).1 ?_
    intro v v' hv hv'
    have e1 := hoa3.2 nx.dot (prodOf C.G s.prod).head v (by
      rw [hit]; congr 1; exact Prod.ext hit1 hv)
    have e2 := hob3.1 v' hv'
    unfold rdv at e1 e2
    rw [W.link u, e2] at e1
    exact (Option.some.inj e1).symm
  show C.tgt.Gen (Sym.var (nmOf C.vf enva (prodOf C.G s.prod).head it.2)) _
  rw [hname]; exact hgen

theorem Snd.advance {C : Ctx} (hC : CtxOK C) {T : Tables} {rk : Nat → Nat} (h : Snd C T rk)
    {i : Nat} {s nx : EState} (hsOK : StOK C T.store rk i s) (hnxOK : StOK C T.store rk s.b nx)
    (hcomp : incomplete C.G s = false)
    (hnext : nextSym C.G nx = some (.var (prodOf C.G s.prod).head)) :
    ∃ rk', Snd C (Pfl.Earley.advance C.G T nx s) rk' ∧
      Carry (StOK C) T.store rk (Pfl.Earley.advance C.G T nx s).store rk' := by
  rw [advance_eq]
  rcases Cmp.adv_walk C.P h.tab.wf hsOK.fs_lt hnxOK.fs_lt hsOK.rk2 hnxOK.rk2 nx.dot with
    ⟨st', rk', he, hw', hst, _⟩ | ⟨st1, cl, rk1, st2, cr, rk2, left, considered, W⟩
  · rw [he]; exact ⟨rk', h.step hst hw'⟩
  rw [W.eq]
  cases hun : unify (st2.length + 2) st2 considered left with
  | ok st3 =>
    obtain ⟨rk3, u⟩ := W.ok st3 hun
    obtain ⟨h3, hc3⟩ := h.step (W.step.trans u.step) u.wf
    exact ⟨rk3, h3.push C.G h3.tab (compl_good hC W u hsOK hnxOK hcomp hnext), hc3.push _ _ _⟩
  | _ => exact ⟨rk2, h.step W.step W.o2.wf⟩

theorem predicted_ok {C : Ctx} (hC : CtxOK C) {st : Store} {rk : Nat → Nat} (h : InvS C st rk)
    {k : Nat} {p : FProd} (hpk : C.G.prods[k]? = some p) (e : Nat) :
    StOK C st rk e { prod := k, b := e, e := e, dot := 0, fs := p.feats } := by
  obtain ⟨h1, h2, h3⟩ := h.objs k p hpk
  have hlt : k < C.spec.length := by
    rw [← hC.prods_len]
    exact (List.getElem?_eq_some_iff.1 hpk).1
  refine ⟨rfl, Nat.le_refl _, h1, h2, Nat.le_of_lt hlt, ?_⟩
  intro pr hpr
  refine ⟨Nat.zero_le _, fun σ hσ => ?_⟩
  obtain ⟨env, he, ho⟩ := h3 pr hpr σ hσ
  refine ⟨env, he, ho, ?_⟩
  simp only [List.take_zero, seg_self]
  exact .nil

/-- soundness needs neither the log nor a bound on the column -/
theorem inv_walk {C : Ctx} (hC : CtxOK C) (i : Nat) :
    Walk C.G C.word i (fun st rk _ _ => InvS C st rk) (StOK C) (fun _ _ => True) where
  adv := fun h hs hnx hcomp hnext =>
    (Snd.advance hC h.1 hs hnx hcomp hnext).imp fun _ h' => ⟨⟨h'.1, trivial⟩, h'.2⟩
  scan := fun h hs hn hw => ⟨h.1.push C.G h.1.tab (scanned_ok hC hs hn hw), trivial⟩
  pred := fun h hget => ⟨h.1.push C.G h.1.tab (predicted_ok hC h.1.tab hget _), trivial⟩

/-- the tracked states of `Inv` come along with a walk, which carries `StOK` over -/
theorem Inv.of_walk {C : Ctx} {T T' : Tables} {rk : Nat → Nat} {X : List (Nat × EState)}
    (h : Inv C T rk X) {α : List Act → Prop}
    (hw : ∃ rk' L', WIC (fun st rk _ _ => InvS C st rk) (StOK C) (fun _ _ => True) T rk T' rk' L' ∧
      α L') : ∃ rk', Inv C T' rk' X :=
  hw.imp fun _ h' => h'.elim fun _ h' => inv_lay.2 ⟨h'.1.1.1, fun e he => h'.1.2 _ _ (h.extra e he)⟩

theorem Inv.completer {C : Ctx} (hC : CtxOK C) {T : Tables} {rk : Nat → Nat}
    {X : List (Nat × EState)} (h : Inv C T rk X) {i : Nat} {s : EState} (hs : (i, s) ∈ X)
    (hcomp : incomplete C.G s = false) : ∃ rk', Inv C (Pfl.Earley.completer C.G T s) rk' X :=
  h.of_walk (walk_completer (inv_walk hC i) (L := []) ⟨(inv_lay.1 h).1, trivial⟩ (h.extra _ hs)
    hcomp)

theorem Inv.predict {C : Ctx} (hC : CtxOK C) (v : String) (e : Nat) {rk : Nat → Nat}
    {X : List (Nat × EState)} :
    ∀ (l : List (FProd × Nat)) (T : Tables), Inv C T rk X →
      (∀ pk ∈ l, C.G.prods[pk.2]? = some pk.1) →
      Inv C (l.foldl (fun T pk =>
        if pk.1.head = v then Pfl.Earley.pushIfNew C.G T e
          { prod := pk.2, b := e, e := e, dot := 0, fs := pk.1.feats }
        else T) T) rk X :=
  fun l _ hT hl => List.foldlRecOn (motive := (Inv C · rk X)) l _ hT fun T hT pk hpk => by
    split
    · exact hT.pushIfNew (predicted_ok hC ⟨hT.wf, hT.objs⟩ (hl pk hpk) e)
    · exact hT

theorem Inv.predictor {C : Ctx} (hC : CtxOK C) {T : Tables} {rk : Nat → Nat}
    {X : List (Nat × EState)} (h : Inv C T rk X) {s : EState} (hs : (s.e, s) ∈ X)
    (hinc : incomplete C.G s = true) : ∃ rk', Inv C (Pfl.Earley.predictor C.G T s) rk' X := by
  cases hnext : nextSym C.G s with
  | some sym =>
    cases sym with
    | var v =>
      exact h.of_walk (walk_predictor (inv_walk hC _) (L := []) ⟨(inv_lay.1 h).1, trivial⟩
        (h.extra _ hs) hnext)
    | ter t => unfold Pfl.Earley.predictor; rw [hnext]; exact ⟨rk, h⟩
  | none => unfold Pfl.Earley.predictor; rw [hnext]; exact ⟨rk, h⟩

theorem Snd.cols {C : Ctx} (hC : CtxOK C) (fuel k : Nat) (T T' : Tables) (rk : Nat → Nat)
    (h : Snd C T rk) (hr : contains.cols C.G C.word fuel (List.range' 0 k) T = some T') :
    ∃ rk', Snd C T' rk' :=
  cols_ind (fun _ T => ∃ rk, Snd C T rk)
    (fun i _ s h hl => h.elim fun _ h =>
      (walk_procOne (inv_walk hC i) ⟨h.pop i, trivial⟩ (h.c i s (List.mem_of_getLast? hl))
        (h.c i s (List.mem_of_getLast? hl)).e_eq).imp fun _ h => h.elim fun _ h => h.1.1)
    (fun _ _ h _ => h) k 0 T T' ⟨rk, h⟩ hr

/-- the dummy item: its index is beyond the specification, so `GoodSt` asks nothing of it -/
theorem first_ok {C : Ctx} (hC : CtxOK C) {st0 : Store} {rk0 : Nat → Nat}
    (hgam : C.G.gammaFeats < st0.length ∧ rk0 C.G.gammaFeats = 2) :
    StOK C st0 rk0 0 { prod := C.G.prods.length, b := 0, e := 0, dot := 0, fs := C.G.gammaFeats } :=
  ⟨rfl, Nat.le_refl _, hgam.1, hgam.2, Nat.le_of_eq hC.prods_len, fun pr hpr => by
    change C.spec[C.G.prods.length]? = some pr at hpr
    rw [hC.prods_len, List.getElem?_eq_none (Nat.le_refl _)] at hpr
    exact nomatch hpr⟩

theorem contains_sound {C : Ctx} (hC : CtxOK C) {st0 : Store} {rk0 : Nat → Nat}
    (h0 : InvS C st0 rk0)
    (hgam : C.G.gammaFeats < st0.length ∧ rk0 C.G.gammaFeats = 2) {d : String} (hd : C.P d)
    {fuel : Nat} (h : contains C.G st0 C.word fuel = some true) :
    ∃ k pr env, C.spec[(k : Nat)]? = some pr ∧ pr.1.1 = C.G.start ∧
      C.tgt.Gen (.var (nmOf C.vf env pr.1.1 pr.1.2)) C.word ∧
      ∀ v, pr.1.2 = some v → C.P (C.vf env v) := by
  rw [contains_eq, Option.map_eq_some_iff] at h
  obtain ⟨T3, hc, h⟩ := h
  obtain ⟨rk3, h3⟩ := Snd.cols hC fuel _ _ T3 rk0
    ((Lay.empty h0).push C.G h0 (first_ok hC hgam)) hc
  obtain ⟨s, hsm, hs⟩ := List.any_eq_true.1 h
  simp only [decide_eq_true_eq, Bool.not_eq_true'] at hs
  obtain ⟨hb, hcomp, hhead⟩ := hs
  have hsOK := h3.p C.word.length s hsm
  cases hsp : C.spec[s.prod]? with
  | none =>
    rw [prodOf_gamma hC hsp] at hhead
    exact absurd hhead.symm hC.start_ne
  | some pr =>
    obtain ⟨env, _, ho, hgen⟩ :=
      hsOK.good.complete hC hsp hcomp (resp_default C.P T3.store hd)
    rw [hb, hsOK.e_eq, seg_full] at hgen
    refine ⟨s.prod, pr, env, hsp, by rw [← (prodOf_spec hC hsp).1]; exact hhead, hgen, ?_⟩
    intro v hv
    obtain ⟨n, _, hn⟩ := Option.map_eq_some_iff.1 (ho.1 v hv)
    rw [← hn]
    exact (resp_default C.P T3.store hd).1 _

end Lem
end Earley
end Pfl
