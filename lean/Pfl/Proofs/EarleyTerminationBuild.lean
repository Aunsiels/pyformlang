/-
Termination of the Earley model (C18): the symbol records of a production record built by
`buildGrammar` are pairwise distinct objects without pointer, and its labels are `head`, `0`, ….
-/
import Pfl.Proofs.EarleyTerminationSubs
namespace Pfl
namespace Earley
namespace Term
open FsDag Lem Cmp Lem.Bld

theorem PR.rootLab {st : Store} {F : Nat} {pr : Spec1} {L : Nat}
    (h : PR st F pr) (hl : pr.2.length ≤ L) : RootLab st F L := by
  obtain ⟨sl, _, _, h, _, _, hbl, _⟩ := h
  intro g x hx
  rw [cont_rootN h] at hx
  obtain ⟨i, rfl, hi⟩ := mem_prodContent_iff.1 hx
  have := (List.getElem?_eq_some_iff.1 hi).1
  rw [hbl, occ, List.length_cons, List.length_map] at this
  exact ⟨i, Nat.le_trans (Nat.le_of_lt_succ this) hl, rfl⟩

theorem PR.slots {st : Store} {F : Nat} {pr : Spec1} (h : PR st F pr) {i j c : Nat}
    (hi : slotOf st F i = some c) (hj : slotOf st F j = some c) : i = j := by
  obtain ⟨sl, _, _, hroot, ⟨hpw, hall⟩, _⟩ := h
  have hc := cont_rootN hroot
  have key : ∀ k u, slotOf st F k = some u → sl[k]? = some u := by
    intro k u hk
    obtain ⟨s, hs, hsu⟩ := slotOf_some hk
    rw [hc] at hs
    have h1 := lookupC_prodContent_lab.1 hs
    rw [deref_of_none (hall s (List.mem_of_getElem? h1))] at hsu
    rw [← hsu]; exact h1
  have h1 := key i c hi
  have hnd : sl.Nodup := hpw.imp (fun h => Nat.ne_of_lt h)
  exact (List.getElem?_inj (List.getElem?_eq_some_iff.1 h1).1 hnd).1 (h1.trans (key j c hj).symm)

end Term
end Earley
end Pfl
