/-
Helper lemmas for C14 (library model `Pfl/Model/LL1Lib.lean`): the step equations of the stack
machine, the leftmost sequence it emits,
the reconstruction of the parse tree from that sequence, the table against the predict sets, and
`is_llone_parsable`.
-/
import Pfl.Model.LL1Lib
import Pfl.Model.RecDescent
import Pfl.Proofs.LL1LibFollow
namespace Pfl
namespace LL1Lib

namespace Term

/-- the lookahead: the next input symbol or the end marker -/
def look : List String → Look
  | a :: _ => .ter a
  | [] => .eof

theorem look_ne_eps (w : List String) : look w ≠ Look.eps := by
  cases w <;> (intro h; cases h)

/-- the table cell of row `v` and column `a` -/
def cell (tb : List (String × Look × Pfl.Prod)) (v : String) (a : Look) :
    List (String × Look × Pfl.Prod) :=
  tb.filter fun e => e.1 = v ∧ e.2.1 = a

theorem mem_cell (tb : List (String × Look × Pfl.Prod)) (v : String) (a : Look)
    (e : String × Look × Pfl.Prod) : e ∈ cell tb v a ↔ e ∈ tb ∧ e.1 = v ∧ e.2.1 = a := by
  unfold cell
  simp only [List.mem_filter, decide_eq_true_eq]

theorem mem_of_cell_single {tb : List (String × Look × Pfl.Prod)} {v : String} {a : Look}
    {e : String × Look × Pfl.Prod} (hc : cell tb v a = [e]) : e ∈ tb ∧ e.1 = v ∧ e.2.1 = a :=
  (mem_cell tb v a e).mp (hc ▸ List.mem_singleton.mpr rfl)

variable (tb : List (String × Look × Pfl.Prod)) (fuel : Nat) (stack : List (Option Sym))
  (w : List String) (out : List Pfl.Prod)

theorem parseLoop_nil : parseLoop tb (fuel + 1) [] w out = some none := rfl

theorem parseLoop_eof : parseLoop tb (fuel + 1) (none :: stack) w out =
    if w.isEmpty then some (some out.reverse) else some none := rfl

theorem parseLoop_var (v : String) :
    parseLoop tb (fuel + 1) (some (.var v) :: stack) w out =
      match cell tb v (look w) with
      | [e] => parseLoop tb fuel (e.2.2.2.map some ++ stack) w (e.2.2 :: out)
      | _ => some none := by
  cases w <;> rfl

theorem parseLoop_var_single (v : String) (e : String × Look × Pfl.Prod)
    (h : cell tb v (look w) = [e]) :
    parseLoop tb (fuel + 1) (some (.var v) :: stack) w out =
      parseLoop tb fuel (e.2.2.2.map some ++ stack) w (e.2.2 :: out) := by
  rw [parseLoop_var, h]

theorem parseLoop_var_fail (v : String) (h : ∀ e, cell tb v (look w) ≠ [e]) :
    parseLoop tb (fuel + 1) (some (.var v) :: stack) w out = some none := by
  rw [parseLoop_var]
  split
  · next e he => exact absurd he (h e)
  · rfl

theorem parseLoop_ter_cons (t a : String) (rest : List String) :
    parseLoop tb (fuel + 1) (some (.ter t) :: stack) (a :: rest) out =
      if a = t then parseLoop tb fuel stack rest out else some none := rfl

theorem parseLoop_ter_ok (t : String) (rest : List String) :
    parseLoop tb (fuel + 1) (some (.ter t) :: stack) (t :: rest) out =
      parseLoop tb fuel stack rest out :=
  (parseLoop_ter_cons tb fuel stack out t t rest).trans (if_pos rfl)

theorem parseLoop_ter_fail (t : String) (h : w.head? ≠ some t) :
    parseLoop tb (fuel + 1) (some (.ter t) :: stack) w out = some none := by
  cases w with
  | nil => rfl
  | cons a rest => exact (parseLoop_ter_cons tb fuel stack out t a rest).trans (if_neg fun e => h (congrArg some e))

end Term

namespace Lem
open CFG Term

/-- `Lm u ps w`: rewriting the leftmost variable with the productions `ps` in turn leads from
`u` to the word `w` -/
inductive Lm : List Sym → List Pfl.Prod → List String → Prop
  | nil : Lm [] [] []
  | ter (t : String) (ss : List Sym) (ps : List Pfl.Prod) (w : List String) :
      Lm ss ps w → Lm (.ter t :: ss) ps (t :: w)
  | var (v : String) (ss : List Sym) (p : Pfl.Prod) (ps : List Pfl.Prod) (w : List String) :
      p.1 = v → Lm (p.2 ++ ss) ps w → Lm (.var v :: ss) (p :: ps) w

theorem lm_nil_inv {ps : List Pfl.Prod} {w : List String} (h : Lm [] ps w) : ps = [] ∧ w = [] := by
  cases h; exact ⟨rfl, rfl⟩

theorem lm_ter_inv {t : String} {ss : List Sym} {ps : List Pfl.Prod} {w : List String}
    (h : Lm (.ter t :: ss) ps w) : ∃ w', w = t :: w' ∧ Lm ss ps w' := by
  cases h with
  | ter _ _ _ w' h' => exact ⟨w', rfl, h'⟩

theorem lm_var_inv {v : String} {ss : List Sym} {p : Pfl.Prod} {ps : List Pfl.Prod} {w : List String}
    (h : Lm (.var v :: ss) (p :: ps) w) : p.1 = v ∧ Lm (p.2 ++ ss) ps w := by
  cases h with
  | var _ _ _ _ _ h1 h2 => exact ⟨h1, h2⟩

theorem parseLoop_lm (P : Pfl.Prod → Prop) (tb : List (String × Look × Pfl.Prod))
    (htb : ∀ e ∈ tb, P e.2.2 ∧ e.1 = e.2.2.1) :
    ∀ (fuel : Nat) (syms : List Sym) (input : List String) (out ps : List Pfl.Prod),
      parseLoop tb fuel (syms.map some ++ [none]) input out = some (some ps) →
      ∃ ps', ps = out.reverse ++ ps' ∧ Lm syms ps' input ∧ (∀ p ∈ ps', P p) ∧ ps'.length < fuel := by
  intro fuel syms input out ps
  generalize hst : syms.map some ++ [none] = stack
  fun_induction parseLoop tb fuel stack input out generalizing syms with
  | case1 | case2 | case4 | case6 | case7 | case9 => exact fun h => nomatch h
  | case3 fuel stack input out hin =>
    -- the end marker is on top: `syms` is empty
    rintro ⟨⟩
    cases syms with
    | cons => cases hst
    | nil =>
      rw [List.isEmpty_iff.mp hin]
      exact ⟨[], (List.append_nil _).symm, Lm.nil, nofun, Nat.succ_pos _⟩
  | case5 fuel stack out a rest ih =>
    intro h
    cases syms with
    | nil => cases hst
    | cons s ss =>
      cases hst
      obtain ⟨ps', h1, h2, h3, h4⟩ := ih ss rfl h
      exact ⟨ps', h1, Lm.ter _ _ _ _ h2, h3, Nat.lt_succ_of_lt h4⟩
  | case8 fuel stack input out v look e hc ih =>
    intro h
    cases syms with
    | nil => cases hst
    | cons s ss =>
      cases hst
      obtain ⟨hetb, hev, _⟩ := mem_of_cell_single hc
      obtain ⟨ps', h1, h2, h3, h4⟩ := ih (e.2.2.2 ++ ss) (by rw [List.map_append, List.append_assoc]; rfl) h
      refine ⟨e.2.2 :: ps', by rw [h1, List.reverse_cons, List.append_assoc]; rfl, ?_, ?_,
        Nat.succ_lt_succ h4⟩
      · exact Lm.var v ss e.2.2 ps' input (by rw [← (htb e hetb).2]; exact hev) h2
      · intro p hp
        rcases List.mem_cons.mp hp with rfl | hp
        · exact (htb e hetb).1
        · exact h3 p hp
theorem sons_eq_build (fuel : Nat)
    (ih : ∀ s ps, buildTree fuel s ps = RecDescent.build true fuel s ps) :
    ∀ syms ps, buildTree.sons fuel syms ps = RecDescent.build.sons true fuel syms ps
  | [], ps => by rw [buildTree.sons, RecDescent.build.sons]
  | s :: ss, ps => by
    rw [buildTree.sons, RecDescent.build.sons, ih, funext (sons_eq_build fuel ih ss)]
    rfl

/-- `get_llone_parse_tree` rebuilds the tree from its leftmost sequence as the recursive-descent
parser does with `left = true` -/
theorem buildTree_eq_build : ∀ (fuel : Nat) (s : Sym) (ps : List Pfl.Prod),
    buildTree fuel s ps = RecDescent.build true fuel s ps
  | 0, _, _ => by rw [buildTree, RecDescent.build]
  | fuel + 1, .ter t, ps => by
    rw [buildTree, RecDescent.build]
    · exact Nat.succ_ne_zero fuel
    · exact Nat.succ_ne_zero fuel
  | fuel + 1, .var v, [] => by rw [buildTree, RecDescent.build]
  | fuel + 1, .var v, p :: rest => by
    rw [buildTree, RecDescent.build, if_pos rfl, sons_eq_build fuel (buildTree_eq_build fuel)]

/-- the table entries of the productions `l`, production `p` under the columns `cols p` -/
def rows (l : List Pfl.Prod) (cols : Pfl.Prod → List Look) : List (String × Look × Pfl.Prod) :=
  l.flatMap fun p => (cols p).map fun a => (p.1, a, p)

theorem mem_rows {l : List Pfl.Prod} {cols : Pfl.Prod → List Look} {hd : String} {a : Look}
    {p : Pfl.Prod} : (hd, a, p) ∈ rows l cols ↔ p ∈ l ∧ hd = p.1 ∧ a ∈ cols p := by
  unfold rows
  rw [List.mem_flatMap]
  constructor
  · rintro ⟨q, hq, he⟩
    obtain ⟨b, hb, e⟩ := List.mem_map.mp he
    cases e
    exact ⟨hq, rfl, hb⟩
  · rintro ⟨hp, rfl, ha⟩
    exact ⟨p, hp, List.mem_map.mpr ⟨a, ha, rfl⟩⟩

theorem rows_nodup {l : List Pfl.Prod} {cols : Pfl.Prod → List Look} (hl : l.Nodup)
    (hc : ∀ p ∈ l, (cols p).Nodup) : (rows l cols).Nodup :=
  nodup_flatMap_of_keys id (·.2.2) (by rwa [List.map_id])
    (fun p hp => List.pairwise_map.mpr ((hc p hp).imp fun hab e => hab (by cases e; rfl)))
    fun p e he => by obtain ⟨a, _, rfl⟩ := List.mem_map.mp he; rfl

def tableOf (G : CFG) (F : SetMap Sym Look) (Fo : SetMap (Option Sym) Look) :
    List (String × Look × Pfl.Prod) :=
  rows (G.prods.filter fun p => p.2.all (· ∈ G.nullable))
      (fun p => union (getD Fo (some (.var p.1))) ((firstProd F p.2).filter (· ≠ Look.eps))) ++
    rows (G.prods.filter fun p => !(p.2.all (· ∈ G.nullable))) (fun p => firstProd F p.2)

theorem table_eq (G : CFG) (fuel : Nat) (tb : List (String × Look × Pfl.Prod))
    (h : table G fuel = some tb) :
    ∃ F Fo, firstSet G fuel = some F ∧ followSet G fuel = some Fo ∧ tb = tableOf G F Fo := by
  unfold table at h
  split at h
  · next F Fo hF hFo =>
    cases h
    exact ⟨F, Fo, hF, hFo, rfl⟩
  · cases h

/-- the table, read off the two dictionaries alone: `p` is filed under the non-ε members of FIRST
of its body and, when every symbol of the body has ε, under FOLLOW of its head (the two halves of
`get_llone_parsing_table` file the same columns, since a body is nullable exactly when all its
symbols have ε) -/
theorem mem_tableOf_reach (G : CFG) (F : SetMap Sym Look) (Fo : SetMap (Option Sym) Look)
    (hnul : ∀ y, y ∈ G.nullable ↔ Look.eps ∈ getD F y) (hd : String) (a : Look) (p : Pfl.Prod) :
    (hd, a, p) ∈ tableOf G F Fo ↔ p ∈ G.prods ∧ hd = p.1 ∧
      ((a ≠ Look.eps ∧ Reach (getD F) p.2 a) ∨
        ((∀ y ∈ p.2, Look.eps ∈ getD F y) ∧ a ∈ getD Fo (some (.var p.1)))) := by
  have hall : p.2.all (· ∈ G.nullable) = true ↔ ∀ y ∈ p.2, Look.eps ∈ getD F y := by
    simp only [List.all_eq_true, decide_eq_true_eq, hnul]
  unfold tableOf
  rw [List.mem_append, mem_rows, mem_rows, List.mem_filter, List.mem_filter, mem_union,
    List.mem_filter, mem_firstProd, decide_eq_true_eq, Bool.not_eq_true', ← Bool.not_eq_true, hall]
  unfold FP
  constructor
  · rintro (⟨⟨hp, hn⟩, e, h | ⟨h, hne⟩⟩ | ⟨⟨hp, hn⟩, e, h⟩)
    · exact ⟨hp, e, Or.inr ⟨hn, h⟩⟩
    · exact ⟨hp, e, Or.inl ⟨hne, h.1⟩⟩
    · exact ⟨hp, e, Or.inl ⟨fun ha => hn (h.2 ha), h.1⟩⟩
  · rintro ⟨hp, e, h⟩
    by_cases hn : ∀ y ∈ p.2, Look.eps ∈ getD F y
    · exact Or.inl ⟨⟨hp, hn⟩, e, h.elim (fun h => Or.inr ⟨⟨h.2, fun _ => hn⟩, h.1⟩) fun h => Or.inl h.2⟩
    · exact Or.inr ⟨⟨hp, hn⟩, e, (h.resolve_right fun h => hn h.1).elim fun ha hr => ⟨hr, fun e => absurd e ha⟩⟩

theorem table_entry (G : CFG) (fuel : Nat) (tb : List (String × Look × Pfl.Prod))
    (h : table G fuel = some tb) : ∀ e ∈ tb, e.2.2 ∈ G.prods ∧ e.1 = e.2.2.1 := by
  obtain ⟨F, Fo, _, _, rfl⟩ := table_eq G fuel tb h
  rintro ⟨hd, a, p⟩ he
  rcases List.mem_append.mp he with h | h <;>
    exact ⟨(List.mem_filter.mp (mem_rows.mp h).1).1, (mem_rows.mp h).2.1⟩

theorem mem_predict (G : CFG) (p : Pfl.Prod) (x : Option String) :
    x ∈ G.predict p ↔
      (∃ t ∈ (G.firstOfString G.firstSets G.nullable p.2).1, x = some t) ∨
      ((G.firstOfString G.firstSets G.nullable p.2).2 = true ∧ (p.1, x) ∈ G.followSets) := by
  unfold predict
  rcases hfo : G.firstOfString G.firstSets G.nullable p.2 with ⟨fr, nr⟩
  simp only [List.mem_eraseDups, List.mem_append]
  refine or_congr ?_ ?_
  · rw [List.mem_map]
    exact ⟨fun ⟨t, ht, e⟩ => ⟨t, ht, e.symm⟩, fun ⟨t, ht, e⟩ => ⟨t, ht, e.symm⟩⟩
  · cases nr with
    | true => rw [if_pos rfl, LL1.mem_fv, and_iff_right rfl]
    | false => simp

/-- the predict set as a set of table columns -/
def PredictLook (G : CFG) (p : Pfl.Prod) : Look → Prop
  | .ter t => some t ∈ G.predict p
  | .eof => none ∈ G.predict p
  | .eps => False

theorem predictLook_lookOf (G : CFG) (p : Pfl.Prod) (x : Option String) :
    PredictLook G p (lookOf x) ↔ x ∈ G.predict p := by
  cases x <;> exact Iff.rfl

theorem predictLook_iff (G : CFG) (p : Pfl.Prod) (a : Look) :
    PredictLook G p a ↔ ∃ x, a = lookOf x ∧ x ∈ G.predict p := by
  constructor
  · intro h
    cases a with
    | ter t => exact ⟨some t, rfl, h⟩
    | eof => exact ⟨none, rfl, h⟩
    | eps => exact h.elim
  · rintro ⟨x, rfl, h⟩
    exact (predictLook_lookOf G p x).mpr h

theorem tableOf_spec (G : CFG) (hG : G.WF)
    (fuel : Nat) (F : SetMap Sym Look) (Fo : SetMap (Option Sym) Look)
    (hF : firstSet G fuel = some F) (hFo : followSet G fuel = some Fo)
    (hd : String) (a : Look) (p : Pfl.Prod) :
    (hd, a, p) ∈ tableOf G F Fo ↔ p ∈ G.prods ∧ hd = p.1 ∧ PredictLook G p a := by
  have hsem := firstSet_ref G hG fuel F hF
  rw [mem_tableOf_reach G F Fo hsem.nul_iff]
  refine and_congr_right fun hp => and_congr_right fun _ => ?_
  obtain ⟨hfol, hnoeps⟩ := followSet_ref G hG fuel Fo hFo p.1
  obtain ⟨hfos2, hfos1⟩ := fos_ref hsem p.2 (hG.ter_mem p hp)
  rw [← hfos2]
  -- `predict` is built in the same way over the reference sets, column by column
  cases a with
  | ter t =>
    show _ ↔ some t ∈ G.predict p
    rw [mem_predict, ← hfol (some t), and_iff_right (by intro e; cases e), ← hfos1]
    exact or_congr_left ⟨fun h => ⟨t, h, rfl⟩, fun ⟨t', h, e⟩ => by cases e; exact h⟩
  | eof =>
    show _ ↔ none ∈ G.predict p
    rw [mem_predict, ← hfol none]
    exact or_congr_left ⟨fun h => absurd h.2 hsem.no_eof, fun ⟨_, _, e⟩ => by cases e⟩
  | eps => exact ⟨fun h => h.elim (fun h => h.1 rfl) (fun h => hnoeps h.2), False.elim⟩

theorem tableOf_nodup (G : CFG) (hnd : G.prods.Nodup) (F : SetMap Sym Look)
    (Fo : SetMap (Option Sym) Look) (hFo : ∀ k, (getD Fo k).Nodup) : (tableOf G F Fo).Nodup := by
  unfold tableOf
  rw [List.nodup_append]
  refine ⟨rows_nodup (hnd.filter _) fun p _ => union_nodup _ _ (hFo _),
    rows_nodup (hnd.filter _) fun p _ => firstProd_nodup F p.2, ?_⟩
  -- a production is filed in one half only
  rintro ⟨hd, a, p⟩ ha _ hb rfl
  have h1 := (List.mem_filter.mp (mem_rows.mp ha).1).2
  have h2 := (List.mem_filter.mp (mem_rows.mp hb).1).2
  rw [h1] at h2
  cases h2

def LLP (G : CFG) : Prop :=
  ∀ p ∈ G.prods, ∀ q ∈ G.prods, p.1 = q.1 → ∀ x, x ∈ G.predict p → x ∈ G.predict q → p = q

theorem isLL1_iff (G : CFG) : G.isLL1 = true ↔ LLP G := by
  unfold isLL1 LLP
  simp only [List.all_eq_true, List.mem_eraseDups, Bool.or_eq_true, decide_eq_true_eq]
  constructor
  · intro h p hp q hq hpq x hx hx'
    rcases h p hp q hq with (h1 | h1) | h1
    · exact h1
    · exact absurd hpq (by simpa using h1)
    · exact absurd hx' (by simpa using h1 x hx)
  · intro h p hp q hq
    by_cases hpq : p = q
    · exact Or.inl (Or.inl hpq)
    · by_cases h1 : p.1 = q.1
      · right
        intro x hx
        have : x ∉ G.predict q := fun hx' => hpq (h p hp q hq h1 x hx hx')
        simpa using this
      · exact Or.inl (Or.inr (by simpa using h1))

theorem llcheck_iff (G : CFG) (tb : List (String × Look × Pfl.Prod))
    (hspec : ∀ hd a p, (hd, a, p) ∈ tb ↔ p ∈ G.prods ∧ hd = p.1 ∧ PredictLook G p a)
    (hnd : tb.Nodup) :
    (tb.all fun e => decide ((tb.filter fun e' => e'.1 = e.1 ∧ e'.2.1 = e.2.1).length ≤ 1)) = true ↔
      LLP G := by
  simp only [List.all_eq_true, decide_eq_true_eq]
  constructor
  · intro h p hp q hq hpq x hx hx'
    have e1 : (p.1, lookOf x, p) ∈ tb :=
      (hspec _ _ _).mpr ⟨hp, rfl, (predictLook_lookOf G p x).mpr hx⟩
    have e2 : (q.1, lookOf x, q) ∈ tb :=
      (hspec _ _ _).mpr ⟨hq, rfl, (predictLook_lookOf G q x).mpr hx'⟩
    have := eq_of_length_le_one (h _ e1) ((mem_cell tb _ _ _).mpr ⟨e1, rfl, rfl⟩)
      ((mem_cell tb _ _ _).mpr ⟨e2, hpq.symm, rfl⟩)
    exact (Prod.mk.inj (Prod.mk.inj this).2).2
  · intro h e he
    suffices h : ∀ e' ∈ cell tb e.1 e.2.1, e' = e from
      length_le_one_of_nodup (hnd.filter _) fun x hx y hy => (h x hx).trans (h y hy).symm
    intro e' he'
    obtain ⟨he't, h1, h2⟩ := (mem_cell tb _ _ e').mp he'
    obtain ⟨hd, a, p⟩ := e
    obtain ⟨hd', a', p'⟩ := e'
    cases h1
    cases h2
    obtain ⟨hp, h1, hpl⟩ := (hspec _ _ _).mp he
    obtain ⟨hp', h1', hpl'⟩ := (hspec _ _ _).mp he't
    obtain ⟨x, rfl, hx⟩ := (predictLook_iff G p _).mp hpl
    have hx' := (predictLook_lookOf G p' x).mp hpl'
    have : p' = p := h p' hp' p hp (by rw [← h1', ← h1]) x hx' hx
    rw [this]

end Lem
end LL1Lib
end Pfl
