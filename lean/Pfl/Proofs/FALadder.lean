/-
The path search of `is_acyclic` needs exponentially many rounds: on the "ladder" with `n + 1`
states `0 … n` and two parallel edges `i ─0→ i+1`, `i ─1→ i+1` it makes exactly `2 ^ (n+1) - 1`
rounds (one per path from the start state).
-/
import Pfl.Proofs.FATermination
import Mathlib.Tactic.Ring
-- With `Mathlib.Tactic.Ring` in scope `^` on `Nat` is `Monoid.npow`: the form in which the bounds of this file and of
-- `Props/C03_Termination.lean` are stated.

namespace Pfl.Term2
open Pfl.ENFA

def ladder (n : Nat) : ENFA Nat :=
  { states := List.range (n + 1), syms := [0, 1], starts := [0], finals := [n]
    delta := (List.range n).flatMap fun i => [(i, some 0, i + 1), (i, some 1, i + 1)] }

theorem ladder_succs (n q : Nat) (a : Nat) (ha : a = 0 ∨ a = 1) :
    (ladder n).succs q (some a) = if q < n then [q + 1] else [] := by
  unfold succs ladder
  simp only
  rw [List.filterMap_flatMap]
  refine Eq.trans ?_ ((flatMap_single _ List.nodup_range q (q + 1)).trans (if_congr List.mem_range rfl rfl))
  congr 1
  funext i
  by_cases hi : q = i
  · subst hi
    rcases ha with rfl | rfl <;> simp
  · rcases ha with rfl | rfl <;> simp [hi, Ne.symm hi]

theorem ladder_succs_none (n q : Nat) : (ladder n).succs q none = [] := by
  unfold succs ladder
  simp only
  rw [List.filterMap_flatMap]
  simp

theorem ladder_outs (n q : Nat) :
    (ladder n).outs q = if q < n then [q + 1, q + 1] else [] := by
  unfold outs
  rw [ladder_succs_none]
  show (([0, 1] : List Nat).flatMap fun a => (ladder n).succs q (some a)) ++ [] = _
  simp only [List.flatMap_cons, List.flatMap_nil, List.append_nil]
  rw [ladder_succs n q 0 (Or.inl rfl), ladder_succs n q 1 (Or.inr rfl)]
  split <;> rfl

theorem ladder_round (n i : Nat) (vis : List Nat) (rest : List (Nat × List Nat)) (fuel : Nat)
    (hiv : i ∉ vis) :
    (ladder n).acyclicLoop (fuel + 1) ((i, vis) :: rest) =
      (ladder n).acyclicLoop fuel
        (if i < n then (i + 1, i :: vis) :: (i + 1, i :: vis) :: rest else rest) := by
  rw [acyclicLoop_cons, if_neg hiv, ladder_outs]
  split <;> rfl

theorem two_mul_sub_one (x : Nat) (hx : 1 ≤ x) : x * 2 - 1 = 2 * (x - 1) + 1 := by
  obtain ⟨y, rfl⟩ := Nat.exists_eq_add_of_le' hx
  rw [Nat.add_sub_cancel, Nat.add_mul, Nat.mul_comm]
  rfl

theorem ladder_loop (n : Nat) :
    ∀ k i, i + k = n → ∀ vis, (∀ v ∈ vis, v < i) → ∀ rest,
      (∀ g, (ladder n).acyclicLoop (2 ^ (k + 1) - 1 + g) ((i, vis) :: rest) =
        (ladder n).acyclicLoop g rest) ∧
      ∀ fuel, fuel < 2 ^ (k + 1) - 1 → (ladder n).acyclicLoop fuel ((i, vis) :: rest) = none := by
  intro k
  induction k with
  | zero =>
    intro i hi vis hv rest
    have hiv : i ∉ vis := fun h => Nat.lt_irrefl _ (hv i h)
    constructor
    · intro g
      show (ladder n).acyclicLoop (1 + g) _ = _
      rw [Nat.add_comm, ladder_round n i vis rest g hiv, if_neg (by omega)]
    · intro fuel hf
      cases Nat.lt_one_iff.mp hf
      rfl
  | succ k ih =>
    intro i hi vis hv rest
    have hiv : i ∉ vis := fun h => Nat.lt_irrefl _ (hv i h)
    have hv' : ∀ v ∈ i :: vis, v < i + 1 :=
      List.forall_mem_cons.mpr ⟨Nat.lt_succ_self i, fun v h => Nat.lt_succ_of_lt (hv v h)⟩
    rw [Nat.pow_succ, two_mul_sub_one _ Nat.one_le_two_pow]
    generalize 2 ^ (k + 1) - 1 = R at ih
    -- the two copies of the successor are worked off one after the other
    have ih' := fun rest => ih (i + 1) (by omega) (i :: vis) hv' rest
    constructor
    · intro g
      have e : 2 * R + 1 + g = (R + (R + g)) + 1 := by omega
      rw [e, ladder_round n i vis rest _ hiv, if_pos (by omega), (ih' _).1, (ih' _).1]
    · intro fuel hf
      cases fuel with
      | zero => rfl
      | succ f =>
        rw [ladder_round n i vis rest f hiv, if_pos (by omega)]
        by_cases h1 : f < R
        · exact (ih' _).2 f h1
        · obtain ⟨g, rfl⟩ := Nat.exists_eq_add_of_le (Nat.le_of_not_lt h1)
          rw [(ih' _).1]
          exact (ih' _).2 g (by omega)

theorem ladder_isAcyclic (n : Nat) :
    (ladder n).isAcyclic (2 ^ (n + 1) - 1) = some true ∧
    ∀ fuel, fuel < 2 ^ (n + 1) - 1 → (ladder n).isAcyclic fuel = none := by
  have h := ladder_loop n n 0 (by omega) [] (by simp) []
  exact ⟨(h.1 0).trans (acyclicLoop_nil _ 0), h.2⟩

theorem ladder_delta_length (n : Nat) : (ladder n).delta.length = 2 * n := by
  simp only [ladder]
  rw [Term.length_flatMap_const _ _ 2 (fun _ _ => rfl), List.length_range]
  omega

/-- for every polynomial `c * x ^ k` there is a ladder on which `2 ^ |Q| - 1` exceeds its value at
`x = |Q| + |Σ| + |δ| = 3 * (n + 1)` -/
theorem exists_ladder_beats (c k : Nat) : ∃ n, c * (3 * (n + 1)) ^ k < 2 ^ (n + 1) - 1 := by
  -- with `B = (3 * (k+1)) ^ k`, `t = c * B + 1` and `|Q| = (k+1) * t`:
  -- `c * (3|Q|) ^ k + 1 = c * B * t ^ k + 1 ≤ t ^ k * t < (2 ^ t) ^ (k+1) = 2 ^ |Q|`
  obtain ⟨B, hB⟩ : ∃ B, B = (3 * (k + 1)) ^ k := ⟨_, rfl⟩
  obtain ⟨t, ht⟩ : ∃ t, t = c * B + 1 := ⟨_, rfl⟩
  have hpos : 1 ≤ (k + 1) * t := Nat.mul_pos (Nat.succ_pos k) (by omega)
  refine ⟨(k + 1) * t - 1, ?_⟩
  rw [Nat.sub_add_cancel hpos, ← Nat.mul_assoc, Nat.mul_pow, ← hB, Nat.pow_mul']
  have h1 : c * (B * t ^ k) + 1 ≤ t ^ (k + 1) := by
    have hX : 1 ≤ t ^ k := Nat.one_le_pow _ _ (by omega)
    have e : t ^ (k + 1) = c * (B * t ^ k) + t ^ k := by
      rw [Nat.pow_succ, Nat.mul_comm, ht, Nat.add_mul, Nat.one_mul, Nat.mul_assoc]
    omega
  have h2 : t ^ (k + 1) < (2 ^ t) ^ (k + 1) :=
    Nat.pow_lt_pow_left Nat.lt_two_pow_self (Nat.succ_ne_zero k)
  omega

theorem isAcyclic_no_polynomial_bound (c k : Nat) :
    ∃ n, (ladder n).isAcyclic
      (c * ((ladder n).states.length + (ladder n).syms.length + (ladder n).delta.length) ^ k) = none := by
  obtain ⟨n, hn⟩ := exists_ladder_beats c k
  refine ⟨n, (ladder_isAcyclic n).2 _ ?_⟩
  have e : (ladder n).states.length + (ladder n).syms.length + (ladder n).delta.length
      = 3 * (n + 1) := by
    have := ladder_delta_length n
    simp only [ladder, List.length_range, List.length_cons, List.length_nil] at this ⊢
    omega
  rw [e]; exact hn

end Pfl.Term2
