/-
The counter-based worklist of `get_generating_symbols` / `get_nullable_symbols` (C19_Counters;
`touch`, `countLoop`, `genCounters`) against the saturation model, and the restore pass.
-/
import Pfl.Model.CFGCounters
import Pfl.Props.C12_Classes
import Pfl.Proofs.CFGClean
import Pfl.Proofs.Assoc
namespace Pfl
namespace CFG
namespace Ctr

/-- the counters of head `h` (first entry with that key) -/
def row (r : Remaining) (h : String) : List Nat :=
  match r.find? (·.1 = h) with
  | some e => e.2
  | none => []

theorem row_eq (r : Remaining) (h : String) : row r h = (Assoc.get r h).getD [] := by
  unfold row Assoc.get
  cases r.find? (·.1 = h) <;> rfl

theorem remGet_eq (r : Remaining) (h : String) (i : Nat) : remGet r h i = (row r h).getD i 0 := by
  unfold remGet row
  cases r.find? (·.1 = h) <;> simp

theorem row_nil (h : String) : row [] h = [] := rfl

theorem row_mem (r : Remaining) (h : String) (hne : row r h ≠ []) : (h, row r h) ∈ r := by
  rw [row_eq] at hne ⊢
  cases hf : Assoc.get r h with
  | none => rw [hf] at hne; exact absurd rfl hne
  | some l => exact Assoc.mem_of_get hf

theorem row_of_mem (r : Remaining) (hnd : (r.map (·.1)).Nodup) (h : String) (l : List Nat)
    (hm : (h, l) ∈ r) : row r h = l := by
  rw [row_eq, (Assoc.get_eq_some_iff hnd).2 hm]; rfl

theorem lt_of_remGet_ne (r : Remaining) (h : String) (i : Nat) (hne : remGet r h i ≠ 0) :
    i < (row r h).length := by
  rw [remGet_eq] at hne
  by_cases hlt : i < (row r h).length
  · exact hlt
  · exfalso; apply hne
    simp [List.getD_eq_getElem?_getD, List.getElem?_eq_none (Nat.le_of_not_lt hlt)]

theorem row_remSet (r : Remaining) (h : String) (i v : Nat) (h' : String) :
    row (remSet r h i v) h' = if h' = h then (row r h).set i v else row r h' := by
  rw [row_eq, row_eq, row_eq]
  exact Assoc.getD_mapAt r h (·.set i v) rfl h'

theorem keys_remSet (r : Remaining) (h : String) (i v : Nat) :
    (remSet r h i v).map (·.1) = r.map (·.1) :=
  Assoc.keys_mapAt r h (·.set i v)

theorem remGet_remSet (r : Remaining) (h : String) (i v : Nat) (h' : String) (i' : Nat) :
    remGet (remSet r h i v) h' i' =
      if h' = h ∧ i' = i ∧ i < (row r h).length then v else remGet r h' i' := by
  rw [remGet_eq, remGet_eq, row_remSet]
  by_cases hh : h' = h
  · subst hh
    simp only [true_and, if_true, List.getD_eq_getElem?_getD, List.getElem?_set]
    by_cases hi : i = i'
    · subst hi
      by_cases hl : i < (row r h').length <;> simp [hl]
    · have : ¬ i' = i := fun e => hi e.symm
      simp [hi, this]
  · simp [hh]

theorem rem_ext (r1 r2 : Remaining) (hnd : (r1.map (·.1)).Nodup)
    (hk : r1.map (·.1) = r2.map (·.1)) (hr : ∀ h, row r1 h = row r2 h) : r1 = r2 := by
  have hlen : r1.length = r2.length := by
    rw [← List.length_map (·.1) (as := r1), hk, List.length_map]
  refine List.ext_getElem hlen fun k h1 h2 => ?_
  have hkey : r1[k].1 = r2[k].1 := by
    have := List.getElem_of_eq hk (by rw [List.length_map]; exact h1)
    rwa [List.getElem_map, List.getElem_map] at this
  refine Prod.ext hkey ?_
  rw [← row_of_mem r1 hnd r1[k].1 r1[k].2 (List.getElem_mem h1), hr, hkey,
    row_of_mem r2 (hk ▸ hnd) r2[k].1 r2[k].2 (List.getElem_mem h2)]

theorem length_row_remSet (r : Remaining) (h : String) (i v : Nat) (h' : String) :
    (row (remSet r h i v) h').length = (row r h').length := by
  rw [row_remSet]
  by_cases hh : h' = h
  · rw [if_pos hh, List.length_set, hh]
  · rw [if_neg hh]

theorem count_cons_other {h h' : String} {i i' : Nat} (hne : ¬ (h' = h ∧ i' = i))
    (l : List (String × Nat)) : ((h, i) :: l).count (h', i') = l.count (h', i') :=
  List.count_cons_of_ne fun e => hne ⟨(Prod.mk.inj e).1.symm, (Prod.mk.inj e).2.symm⟩

/-- the `(head, index)` pairs hit by `cur` -/
def hitsOf (imp : Impacts) (cur : Sym) : List (String × Nat) :=
  imp.filterMap fun e => if e.1 = cur then some (e.2.1, e.2.2) else none

/-- the symbols whose impacts point at slot `(h, i)`, in order -/
def occ (imp : Impacts) (h : String) (i : Nat) : List Sym :=
  imp.filterMap fun e => if e.2.1 = h ∧ e.2.2 = i then some e.1 else none

theorem mem_occ (imp : Impacts) (h : String) (i : Nat) (s : Sym) :
    s ∈ occ imp h i ↔ (s, h, i) ∈ imp := by
  unfold occ
  simp only [List.mem_filterMap, Option.ite_none_right_eq_some, Option.some.injEq]
  constructor
  · rintro ⟨⟨s', h', i'⟩, he, ⟨rfl, rfl⟩, rfl⟩; exact he
  · intro he; exact ⟨_, he, ⟨rfl, rfl⟩, rfl⟩

theorem countLoop_nil (imp : Impacts) (fuel : Nat) (found : List Sym) (rem : Remaining)
    (log : List (String × Nat)) : countLoop imp fuel found [] rem log = some (found, rem, log) := by
  cases fuel <;> rfl

/-- a slot outside the table reads 0 and a write to it changes nothing, so the decrement needs no
hypothesis on the slot -/
theorem remGet_dec (r : Remaining) (h : String) (i : Nat) (h' : String) (i' : Nat) :
    remGet (remSet r h i (remGet r h i - 1)) h' i' =
      if h' = h ∧ i' = i then remGet r h i - 1 else remGet r h' i' := by
  rw [remGet_remSet]
  by_cases hc : h' = h ∧ i' = i
  · obtain ⟨rfl, rfl⟩ := hc
    by_cases hl : i' < (row r h').length
    · simp [hl]
    · have : remGet r h' i' = 0 := Decidable.by_contra fun hne => hl (lt_of_remGet_ne _ _ _ hne)
      simp [hl, this]
  · rw [if_neg hc, if_neg fun e => hc ⟨e.1, e.2.1⟩]

/-- the ledger of both passes of `genCounters`: on the slots that start above 0, counter + entries in
the log = initial counter.  The decrement pass appends to the log (`Led.dec`), the restore pass takes
entries off its front (`Led.inc`); with the log empty the table is the initial one (`Led.eq`). -/
structure Led (rem0 rem : Remaining) (log : List (String × Nat)) : Prop where
  keys : rem.map (·.1) = rem0.map (·.1)
  len : ∀ h, (row rem h).length = (row rem0 h).length
  cnt : ∀ h i, remGet rem0 h i ≠ 0 → remGet rem h i + log.count (h, i) = remGet rem0 h i

theorem Led.dec {rem0 rem : Remaining} {log : List (String × Nat)} {h : String} {i : Nat}
    (L : Led rem0 rem log) (hpos : remGet rem0 h i ≠ 0 → remGet rem h i ≠ 0) :
    Led rem0 (remSet rem h i (remGet rem h i - 1)) (log ++ [(h, i)]) := by
  refine ⟨by rw [keys_remSet]; exact L.keys,
    fun h' => by rw [length_row_remSet]; exact L.len h', ?_⟩
  intro h' i' hv
  have := L.cnt h' i' hv
  rw [List.count_append, remGet_dec]
  by_cases hc : h' = h ∧ i' = i
  · obtain ⟨rfl, rfl⟩ := hc
    have := hpos hv
    rw [if_pos ⟨rfl, rfl⟩, List.count_cons_self, List.count_nil]
    omega
  · rw [if_neg hc, count_cons_other hc, List.count_nil]
    exact this

theorem Led.inc {rem0 rem : Remaining} {log : List (String × Nat)} {h : String} {i : Nat}
    (L : Led rem0 rem ((h, i) :: log)) : Led rem0 (remSet rem h i (remGet rem h i + 1)) log := by
  refine ⟨by rw [keys_remSet]; exact L.keys,
    fun h' => by rw [length_row_remSet]; exact L.len h', ?_⟩
  intro h' i' hv
  have := L.cnt h' i' hv
  rw [remGet_remSet]
  by_cases hc : h' = h ∧ i' = i
  · obtain ⟨rfl, rfl⟩ := hc
    rw [if_pos ⟨rfl, rfl, by rw [L.len]; exact lt_of_remGet_ne _ _ _ hv⟩]
    rw [List.count_cons_self] at this
    omega
  · rw [if_neg fun e => hc ⟨e.1, e.2.1⟩]
    rwa [count_cons_other hc] at this

theorem Led.restore {rem0 : Remaining} : ∀ (log : List (String × Nat)) (rem : Remaining),
    Led rem0 rem log → Led rem0 (log.foldl (fun r e => remSet r e.1 e.2 (remGet r e.1 e.2 + 1)) rem) []
  | [], _, L => L
  | (_, _) :: log, _, L => Led.restore log _ L.inc

/-- `hpos`: every slot of the table is in the ledger -/
theorem Led.eq {rem0 rem : Remaining} (L : Led rem0 rem []) (hnd : (rem0.map (·.1)).Nodup)
    (hpos : ∀ e ∈ rem0, ∀ n ∈ e.2, 0 < n) : rem = rem0 := by
  apply rem_ext _ _ (by rw [L.keys]; exact hnd) L.keys
  intro h'
  apply List.ext_getElem (L.len h')
  intro i h1 h2
  have hm := row_mem rem0 h' fun e => by rw [e] at h2; cases h2
  have hget : remGet rem0 h' i = (row rem0 h')[i] := by
    rw [remGet_eq, List.getD_eq_getElem?_getD, List.getElem?_eq_getElem h2]; rfl
  have := L.cnt h' i (by rw [hget]; exact Nat.ne_of_gt (hpos _ hm _ (List.getElem_mem h2)))
  rw [List.count_nil, Nat.add_zero, hget, remGet_eq, List.getD_eq_getElem?_getD,
    List.getElem?_eq_getElem h1] at this
  exact this

theorem Led.le {rem0 rem : Remaining} {log : List (String × Nat)} (L : Led rem0 rem log)
    (h : String) (i : Nat) : remGet rem0 h i ≤ remGet rem h i + log.count (h, i) := by
  by_cases h0 : remGet rem0 h i = 0
  · omega
  · exact Nat.le_of_eq (L.cnt h i h0).symm

theorem occ_append (a b : Impacts) (h : String) (i : Nat) :
    occ (a ++ b) h i = occ a h i ++ occ b h i := List.filterMap_append

theorem occ_map (body : List Sym) (h' : String) (i' : Nat) (h : String) (i : Nat) :
    occ (body.map fun s => (s, h', i')) h i = if h = h' ∧ i = i' then body else [] := by
  unfold occ
  induction body with
  | nil => simp
  | cons s body ih =>
    rw [List.map_cons, List.filterMap_cons, ih]
    by_cases hc : h = h' ∧ i = i'
    · obtain ⟨rfl, rfl⟩ := hc; simp
    · have : ¬ (h' = h ∧ i' = i) := fun e => hc ⟨e.1.symm, e.2.symm⟩
      simp [hc, this]

theorem getD_append_single (l : List Nat) (n i : Nat) :
    (l ++ [n]).getD i 0 = if i = l.length then n else l.getD i 0 := by
  simp only [List.getD_eq_getElem?_getD]
  rcases Nat.lt_trichotomy i l.length with hi | hi | hi
  · rw [List.getElem?_append_left hi, if_neg (Nat.ne_of_lt hi)]
  · subst hi
    rw [if_pos rfl, List.getElem?_append_right (Nat.le_refl _), Nat.sub_self]
    rfl
  · rw [if_neg (Nat.ne_of_gt hi), List.getElem?_eq_none (Nat.le_of_lt hi),
      List.getElem?_eq_none (by rw [List.length_append, List.length_singleton]; omega)]

theorem remAppend_eq (r : Remaining) (h : String) (n : Nat) :
    remAppend r h n = (Assoc.upsert r h (· ++ [n]) [n], (row r h).length) := by
  unfold remAppend row Assoc.upsert
  rw [Assoc.any_eq]
  unfold Assoc.get
  cases r.find? (·.1 = h) <;> rfl

theorem remAppend_snd (r : Remaining) (h : String) (n : Nat) :
    (remAppend r h n).2 = (row r h).length := by
  rw [remAppend_eq]

theorem row_remAppend (r : Remaining) (h : String) (n : Nat) (h' : String) :
    row (remAppend r h n).1 h' = if h' = h then row r h ++ [n] else row r h' := by
  rw [remAppend_eq, row_eq, row_eq, row_eq]
  exact Assoc.getD_upsert r h (· ++ [n]) [] h'

theorem keys_remAppend (r : Remaining) (h : String) (n : Nat) (hnd : (r.map (·.1)).Nodup) :
    ((remAppend r h n).1.map (·.1)).Nodup := by
  rw [remAppend_eq]
  exact Assoc.keys_upsert_nodup h _ _ hnd

theorem remGet_remAppend (r : Remaining) (h : String) (n : Nat) (h' : String) (i' : Nat) :
    remGet (remAppend r h n).1 h' i' =
      if h' = h ∧ i' = (row r h).length then n else remGet r h' i' := by
  rw [remGet_eq, remGet_eq, row_remAppend]
  by_cases hh : h' = h
  · subst hh
    rw [if_pos rfl, getD_append_single]
    simp
  · simp [hh]

/-- one step of the fold in `buildTables` -/
def stepB (st : Remaining × Impacts × List String) (p : Prod) : Remaining × Impacts × List String :=
  if p.2.isEmpty then (st.1, st.2.1, if p.1 ∈ st.2.2 then st.2.2 else st.2.2 ++ [p.1])
  else ((remAppend st.1 p.1 p.2.length).1,
    st.2.1 ++ p.2.map (fun s => (s, p.1, (remAppend st.1 p.1 p.2.length).2)), st.2.2)

theorem buildTables_eq (G : CFG) : G.buildTables = G.prods.foldl stepB ([], [], []) := rfl

/-- What the tables know after the productions `ps`; a slot `(h, i)` is the `i`-th non-empty
production of head `h`, `occ imp h i` its body as recorded in the impacts. -/
structure BInv (ps : List Prod) (st : Remaining × Impacts × List String) : Prop where
  nd : (st.1.map (·.1)).Nodup
  pos : ∀ h, ∀ m ∈ row st.1 h, 0 < m
  t1 : ∀ h i, remGet st.1 h i = (occ st.2.1 h i).length
  t2 : ∀ h i, occ st.2.1 h i ≠ [] → (h, occ st.2.1 h i) ∈ ps
  t3 : ∀ p ∈ ps, p.2 ≠ [] → ∃ i, occ st.2.1 p.1 i = p.2
  t4 : ∀ h, h ∈ st.2.2 ↔ (h, []) ∈ ps

theorem binv_step (ps : List Prod) (st : Remaining × Impacts × List String) (p : Prod)
    (inv : BInv ps st) : BInv (ps ++ [p]) (stepB st p) := by
  obtain ⟨rem, imp, added⟩ := st
  obtain ⟨h0, body⟩ := p
  unfold stepB
  cases body with
  | nil =>
    simp only [List.isEmpty_nil, if_true]
    refine ⟨inv.nd, inv.pos, inv.t1, ?_, ?_, ?_⟩
    · intro h i hne; exact List.mem_append_left _ (inv.t2 h i hne)
    · intro q hq hne
      rcases List.mem_append.mp hq with hq | hq
      · exact inv.t3 q hq hne
      · simp only [List.mem_singleton] at hq; subst hq; exact absurd rfl hne
    · intro h
      simp only [List.mem_append, List.mem_singleton, Prod.mk.injEq, and_true, ← inv.t4 h]
      exact mem_insert_end.trans or_comm
  | cons b body =>
    simp only [List.isEmpty_cons, Bool.false_eq_true, if_false]
    rw [remAppend_snd]
    have hidx : occ imp h0 (row rem h0).length = [] := by
      have := inv.t1 h0 (row rem h0).length
      simp only at this
      rw [remGet_eq, List.getD_eq_getElem?_getD, List.getElem?_eq_none (Nat.le_refl _)] at this
      exact List.eq_nil_of_length_eq_zero this.symm
    have hocc : ∀ h i, occ (imp ++ (b :: body).map fun s => (s, h0, (row rem h0).length)) h i =
        if h = h0 ∧ i = (row rem h0).length then b :: body else occ imp h i := by
      intro h i
      rw [occ_append, occ_map]
      by_cases hc : h = h0 ∧ i = (row rem h0).length
      · rw [if_pos hc, if_pos hc, hc.1, hc.2, hidx]; rfl
      · rw [if_neg hc, if_neg hc, List.append_nil]
    refine ⟨keys_remAppend _ _ _ inv.nd, ?_, ?_, ?_, ?_, ?_⟩
    · intro h m hm
      simp only at hm
      rw [row_remAppend] at hm
      by_cases hh : h = h0
      · rw [if_pos hh] at hm
        rcases List.mem_append.mp hm with hm | hm
        · exact inv.pos _ _ hm
        · rw [List.mem_singleton.mp hm]; exact Nat.succ_pos _
      · rw [if_neg hh] at hm; exact inv.pos _ _ hm
    · intro h i
      simp only
      rw [remGet_remAppend, hocc]
      by_cases hc : h = h0 ∧ i = (row rem h0).length
      · rw [if_pos hc, if_pos hc]
      · rw [if_neg hc, if_neg hc]
        exact inv.t1 h i
    · intro h i hne
      simp only at hne ⊢
      rw [hocc] at hne ⊢
      by_cases hc : h = h0 ∧ i = (row rem h0).length
      · rw [if_pos hc, hc.1]; exact List.mem_append_right _ List.mem_cons_self
      · rw [if_neg hc] at hne ⊢
        exact List.mem_append_left _ (inv.t2 h i hne)
    · intro q hq hne
      simp only
      rcases List.mem_append.mp hq with hq | hq
      · obtain ⟨i, hi⟩ := inv.t3 q hq hne
        refine ⟨i, ?_⟩
        rw [hocc, if_neg, hi]
        rintro ⟨e1, e2⟩
        rw [e1, e2, hidx] at hi
        exact hne hi.symm
      · rw [List.mem_singleton.mp hq]
        exact ⟨(row rem h0).length, by rw [hocc, if_pos ⟨rfl, rfl⟩]⟩
    · intro h
      have := inv.t4 h
      simp only at this ⊢
      rw [this]
      simp

theorem binv_buildTables (G : CFG) : BInv G.prods G.buildTables := by
  rw [buildTables_eq]
  exact foldl_inv_prefix (fun st ps => BInv ps st) stepB G.prods
    (fun st ps p _ _ inv => binv_step ps st p inv) ([], [], []) (by
    refine ⟨by simp, ?_, ?_, ?_, ?_, ?_⟩
    · intro h m hm; simp [row_nil] at hm
    · intro h i; simp [remGet, occ]
    · intro h i hne; exact absurd rfl hne
    · intro p hp; cases hp
    · intro h; simp)

theorem buildTables_hnd (G : CFG) : (G.buildTables.1.map (·.1)).Nodup := (binv_buildTables G).nd

theorem buildTables_hpos (G : CFG) : ∀ e ∈ G.buildTables.1, ∀ n ∈ e.2, 0 < n := by
  intro e he n hn
  have hr := row_of_mem _ (buildTables_hnd G) e.1 e.2 he
  exact (binv_buildTables G).pos e.1 n (by rw [hr]; exact hn)

/-- both sides count the entries `(cur, h, i)` of `imp` -/
theorem count_hits (imp : Impacts) (cur : Sym) (h : String) (i : Nat) :
    (hitsOf imp cur).count (h, i) = (occ imp h i).count cur := by
  unfold hitsOf occ
  rw [List.count_eq_countP, List.count_eq_countP, List.countP_filterMap, List.countP_filterMap]
  apply List.countP_congr
  intro ⟨s, h', i'⟩ _
  by_cases h1 : s = cur <;> by_cases h2 : h' = h ∧ i' = i <;> simp [h1, h2]

theorem countP_cons_mem (P : List Sym) (cur : Sym) (hc : cur ∉ P) (l : List Sym) :
    l.countP (fun x => decide (x ∈ cur :: P)) =
      l.countP (fun x => decide (x ∈ P)) + l.count cur := by
  induction l with
  | nil => rfl
  | cons a l ih =>
    rw [List.countP_cons, List.countP_cons, List.count_cons, ih]
    by_cases ha : a = cur
    · subst ha
      simp [hc]; omega
    · simp [ha]; omega

/-- One invariant for the whole run of `countLoop`, on any tables.  `P` are the symbols popped so
far, `rest` the hits of the last of them still to be processed (`[]` between two pops).  The table
enters through the ledger and `zero` (a counter that has come down to 0 has put its head in `found`)
only; the log
counts the processed occurrences of popped symbols in every slot whose head is not found (`lcnt`:
such a hit is never skipped).  `Q` is a set the answer stays inside (`sound`), `B` the seeds it
contains (`base`). -/
structure Run (imp : Impacts) (rem0 : Remaining) (Q B : Sym → Prop) (P found todo : List Sym)
    (rem : Remaining) (log rest : List (String × Nat)) : Prop extends Led rem0 rem log where
  zero : ∀ h i, remGet rem0 h i ≠ 0 → remGet rem h i = 0 → Sym.var h ∈ found
  nd : (P ++ todo).Nodup
  mem : ∀ s, s ∈ found ↔ s ∈ P ++ todo
  lcnt : ∀ h i, Sym.var h ∉ found →
    log.count (h, i) + rest.count (h, i) = (occ imp h i).countP (fun x => decide (x ∈ P))
  sound : ∀ s ∈ found, Q s
  base : ∀ s, B s → s ∈ found

section touch
variable {imp : Impacts} {rem0 : Remaining} {Q B : Sym → Prop} {P found todo : List Sym}
  {rem : Remaining} {h : String} {i : Nat} {log rest : List (String × Nat)}

theorem Run.skip (inv : Run imp rem0 Q B P found todo rem log ((h, i) :: rest))
    (hf : Sym.var h ∈ found) : Run imp rem0 Q B P found todo rem log rest := by
  refine ⟨inv.toLed, inv.zero, inv.nd, inv.mem, ?_, inv.sound, inv.base⟩
  intro h' i' hf'
  have hne : ¬ (h' = h ∧ i' = i) := fun e => hf' (by rw [e.1]; exact hf)
  have := inv.lcnt h' i' hf'
  rwa [count_cons_other hne] at this

theorem Run.dec (inv : Run imp rem0 Q B P found todo rem log ((h, i) :: rest))
    (hf : Sym.var h ∉ found) {found' todo' : List Sym} (hsub : ∀ s ∈ found, s ∈ found')
    (hnd' : (P ++ todo').Nodup) (hmem' : ∀ s, s ∈ found' ↔ s ∈ P ++ todo')
    (hz : remGet rem h i - 1 = 0 → Sym.var h ∈ found') (hsound' : ∀ s ∈ found', Q s) :
    Run imp rem0 Q B P found' todo' (remSet rem h i (remGet rem h i - 1)) (log ++ [(h, i)])
      rest := by
  refine ⟨inv.toLed.dec fun hv h0 => hf (inv.zero h i hv h0), ?_, hnd', hmem', ?_, hsound',
    fun s hs => hsub s (inv.base s hs)⟩
  · intro h' i' hv h0
    rw [remGet_dec] at h0
    by_cases hc : h' = h ∧ i' = i
    · obtain ⟨rfl, rfl⟩ := hc
      rw [if_pos ⟨rfl, rfl⟩] at h0
      exact hz h0
    · rw [if_neg hc] at h0
      exact hsub _ (inv.zero h' i' hv h0)
  · -- the entry moves from the pending hits to the log
    intro h' i' hf'
    have := inv.lcnt h' i' fun hm => hf' (hsub _ hm)
    rw [List.count_cons] at this
    rw [List.count_append, List.count_singleton]
    omega

/-- the slot reaches zero.  By the ledger its initial counter is at most one more than its entries
in the log, and those count occurrences of popped symbols: this is what `hrule` asks for. -/
theorem Run.fire
    (hrule : ∀ h i (P : List Sym), occ imp h i ≠ [] → (∀ x ∈ P, Q x) →
      remGet rem0 h i ≤ (occ imp h i).countP (fun x => decide (x ∈ P)) → Q (.var h))
    (inv : Run imp rem0 Q B P found todo rem log ((h, i) :: rest))
    (hf : Sym.var h ∉ found) (hc : remGet rem h i - 1 = 0) :
    Run imp rem0 Q B P (found ++ [.var h]) (.var h :: todo)
      (remSet rem h i (remGet rem h i - 1)) (log ++ [(h, i)]) rest := by
  have hperm : (P ++ Sym.var h :: todo).Perm (Sym.var h :: (P ++ todo)) := List.perm_middle
  refine inv.dec hf (fun s hs => List.mem_append_left _ hs) ?_ ?_
    (fun _ => List.mem_append_right _ List.mem_cons_self) ?_
  · rw [hperm.nodup_iff, List.nodup_cons]
    exact ⟨fun hm => hf ((inv.mem _).mpr hm), inv.nd⟩
  · intro s
    rw [hperm.mem_iff, List.mem_append, List.mem_singleton, List.mem_cons, inv.mem]
    exact or_comm
  · intro s hs
    rcases List.mem_append.mp hs with hs | hs
    · exact inv.sound s hs
    · rw [List.mem_singleton.mp hs]
      have hl := inv.lcnt h i hf
      rw [List.count_cons_self] at hl
      -- the hit itself is counted, so the slot has an occurrence
      refine hrule h i P (fun e => by rw [e, List.countP_nil] at hl; omega)
        (fun x hx => inv.sound x ((inv.mem x).mpr (List.mem_append_left _ hx))) ?_
      have := inv.toLed.le h i
      omega

theorem Run.pop {c : Sym} {t : List Sym} (inv : Run imp rem0 Q B P found (c :: t) rem log []) :
    Run imp rem0 Q B (c :: P) found t rem log (hitsOf imp c) := by
  have hnd : (c :: (P ++ t)).Nodup := (List.perm_middle.nodup_iff).mp inv.nd
  have hcP : c ∉ P := fun hm => (List.nodup_cons.mp hnd).1 (List.mem_append_left _ hm)
  refine ⟨inv.toLed, inv.zero, hnd,
    fun s => by rw [inv.mem, List.perm_middle.mem_iff, List.cons_append], ?_, inv.sound, inv.base⟩
  intro h i hf
  have := inv.lcnt h i hf
  rw [List.count_nil, Nat.add_zero] at this
  rw [countP_cons_mem P c hcP, count_hits, this]

end touch

theorem touch_run {imp : Impacts} {rem0 : Remaining} {Q B : Sym → Prop} {P : List Sym}
    (hrule : ∀ h i (P : List Sym), occ imp h i ≠ [] → (∀ x ∈ P, Q x) →
      remGet rem0 h i ≤ (occ imp h i).countP (fun x => decide (x ∈ P)) → Q (.var h)) :
    ∀ rest found todo rem log, Run imp rem0 Q B P found todo rem log rest →
      Run imp rem0 Q B P (touch found todo rem log rest).1 (touch found todo rem log rest).2.1
        (touch found todo rem log rest).2.2.1 (touch found todo rem log rest).2.2.2 [] := by
  intro rest found todo rem log
  fun_induction touch found todo rem log rest with
  | case1 => exact id
  | case2 found todo rem log h i rest hf ih => exact fun inv => ih (inv.skip hf)
  | case3 found todo rem log h i rest hf c rem' hc ih =>
    exact fun inv => ih (inv.fire hrule hf hc)
  | case4 found todo rem log h i rest hf c rem' hc ih =>
    exact fun inv =>
      ih (inv.dec hf (fun _ hs => hs) inv.nd inv.mem (fun h0 => absurd h0 hc) inv.sound)

/-- The one walk through `countLoop`.  With a result, the invariant holds of it with the queue
empty.  Without, the fuel was short: every pop is of a new symbol of `Q`, so in any list `U` that
holds `Q` there are more than `fuel` symbols beside those popped before. -/
theorem countLoop_run (imp : Impacts) (rem0 : Remaining) (Q B : Sym → Prop)
    (hrule : ∀ h i (P : List Sym), occ imp h i ≠ [] → (∀ x ∈ P, Q x) →
      remGet rem0 h i ≤ (occ imp h i).countP (fun x => decide (x ∈ P)) → Q (.var h)) :
    ∀ fuel found todo rem log P, Run imp rem0 Q B P found todo rem log [] →
      match countLoop imp fuel found todo rem log with
      | some (found', rem', log') => ∃ P', Run imp rem0 Q B P' found' [] rem' log' []
      | none => ∀ U : List Sym, (∀ x, Q x → x ∈ U) → fuel + P.length < U.length := by
  intro fuel found todo rem log
  fun_induction countLoop imp fuel found todo rem log with
  | case1 => exact fun P inv => ⟨P, inv⟩
  | case2 found c t rem log =>
    intro P inv U hU
    have := List.Nodup.length_le_of_subset inv.nd fun x hx => hU x (inv.sound x ((inv.mem x).mpr hx))
    rw [List.length_append, List.length_cons] at this
    omega
  | case3 fuel found c t rem log hits found' todo' rem' log' he ih =>
    intro P inv
    have := touch_run hrule _ _ _ _ _ inv.pop
    -- `hits` is `hitsOf imp c`
    rw [show touch found t rem log (hitsOf imp c) = _ from he] at this
    have := ih (c :: P) this
    split at this
    · exact this
    · exact fun U hU => by have := this U hU; rw [List.length_cons] at this; omega

theorem run_init (imp : Impacts) (rem : Remaining) (Q : Sym → Prop) (seeds : List Sym)
    (hseeds : ∀ x ∈ seeds, Q x) :
    Run imp rem Q (· ∈ seeds) [] seeds.eraseDups seeds.eraseDups.reverse rem [] [] := by
  refine ⟨⟨rfl, fun _ => rfl, fun h i _ => by simp⟩, fun h i hne h0 => absurd h0 hne, ?_, ?_, ?_,
    fun x hx => hseeds x (List.mem_eraseDups.mp hx), fun x hx => List.mem_eraseDups.mpr hx⟩
  · rw [List.nil_append, (List.reverse_perm _).nodup_iff]; exact nodup_eraseDups _
  · intro x; simp
  · intro h i _; simp

theorem genCounters_run (G : CFG) (nullable : Bool) (rem : Remaining) (imp : Impacts)
    (added : List String) (fuel : Nat) (Q : Sym → Prop)
    (hrule : ∀ h i (P : List Sym), occ imp h i ≠ [] → (∀ x ∈ P, Q x) →
      remGet rem h i ≤ (occ imp h i).countP (fun x => decide (x ∈ P)) → Q (.var h))
    (hseeds : ∀ x ∈ added.map Sym.var ++ (if nullable then [] else G.ters.map .ter), Q x) :
    match G.genCounters nullable rem imp added fuel with
    | some (found, rem') => ∃ P r l,
      Run imp rem Q (· ∈ added.map Sym.var ++ (if nullable then [] else G.ters.map .ter))
        P found [] r l [] ∧
      rem' = l.foldl (fun r e => remSet r e.1 e.2 (remGet r e.1 e.2 + 1)) r
    | none => ∀ U : List Sym, (∀ x, Q x → x ∈ U) → fuel < U.length := by
  have := countLoop_run imp rem Q _ hrule fuel _ _ rem [] [] (run_init imp rem Q _ hseeds)
  unfold genCounters
  dsimp only
  split at this
  · next f r l hc => rw [hc]; exact this.imp fun P fin => ⟨r, l, fin, rfl⟩
  · next hc => rw [hc]; exact this

theorem genCounters_rem_eq (G : CFG) (nullable : Bool) (rem : Remaining) (imp : Impacts)
    (added : List String) (fuel : Nat) (found : List Sym) (rem' : Remaining)
    (hnd : (rem.map (·.1)).Nodup) (hpos : ∀ e ∈ rem, ∀ n ∈ e.2, 0 < n)
    (h : G.genCounters nullable rem imp added fuel = some (found, rem')) : rem' = rem := by
  have := genCounters_run G nullable rem imp added fuel (fun _ => True)
    (fun _ _ _ _ _ _ => trivial) (fun _ _ => trivial)
  rw [h] at this
  obtain ⟨P, r, l, fin, rfl⟩ := this
  exact (fin.toLed.restore l r).eq hnd hpos

/-- A run on the built tables returns exactly the saturation `S` of the base set: `Run` with
`Q := (· ∈ S)`.  `⊆`: `sound`; a slot of the built tables starts at the length of its body, so
`hrule` is that `S` is closed under the productions.  `⊇`: at the end the queue is empty, so every
symbol found has been popped; at a production whose body is all found and whose head is not, the
log has as many entries as the body is long (`lcnt`), the counter is 0 (ledger) and the head is
found after all (`zero`): the answer is closed and contains the base set, so it contains `S`. -/
theorem counters_main (G : CFG) (nullable : Bool) (fuel : Nat) (found : List Sym) (rem' : Remaining)
    (h : G.genCounters nullable G.buildTables.1 G.buildTables.2.1 G.buildTables.2.2 fuel
      = some (found, rem')) (s : Sym) :
    s ∈ found ↔ s ∈ iter G.closeStep (G.prods.length + 1)
      (if nullable then [] else G.ters.map .ter) := by
  have bt := binv_buildTables G
  have hclosed := iter_closed G (if nullable then [] else G.ters.map Sym.ter)
  have := genCounters_run G nullable _ _ _ fuel _
    (fun h i P hne hP hle => hclosed (h, occ G.buildTables.2.1 h i) (bt.t2 h i hne) fun x hx =>
      hP x (of_decide_eq_true (List.countP_eq_length.mp
        (Nat.le_antisymm List.countP_le_length (bt.t1 h i ▸ hle)) x hx)))
    (fun x hx => by
      rcases List.mem_append.mp hx with hx | hx
      · obtain ⟨a, ha, rfl⟩ := List.mem_map.mp hx
        exact hclosed (a, []) ((bt.t4 a).mp ha) (fun y hy => by cases hy)
      · exact (iter_prefix G _ _).subset hx)
  rw [h] at this
  obtain ⟨P, r, l, fin, _⟩ := this
  refine ⟨fin.sound s, stepF_horn.iter_forall (iter_iter _) (· ∈ found) ?_ _ _
    (fun x hx => fin.base x (List.mem_append_right _ hx)) s⟩
  intro p hp hall
  by_cases hb : p.2 = []
  · exact fin.base _ (List.mem_append_left _
      (List.mem_map.mpr ⟨p.1, (bt.t4 p.1).mpr (by rw [← hb]; exact hp), rfl⟩))
  · obtain ⟨i, hi⟩ := bt.t3 p hp hb
    refine Decidable.by_contra fun hf => hf ?_
    have hl := fin.lcnt p.1 i hf
    rw [hi, List.count_nil, Nat.add_zero, List.countP_eq_length.mpr fun x hx =>
      decide_eq_true (by simpa using (fin.mem x).mp (hall x hx))] at hl
    have ht := bt.t1 p.1 i
    rw [hi] at ht
    have hv : remGet G.buildTables.1 p.1 i ≠ 0 := by
      rw [ht]; exact fun e => hb (List.eq_nil_of_length_eq_zero e)
    exact fin.zero p.1 i hv (by have := fin.cnt p.1 i hv; omega)

end Ctr
end CFG
end Pfl
