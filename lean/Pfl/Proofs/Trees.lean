/-
Helper lemmas for C15 (parse trees, derivation listings).
-/
import Pfl.Oracle.Trees
import Pfl.Proofs.CFGBase
import Pfl.Props.C10_Reverse
namespace Pfl
namespace CFG
namespace Trees

theorem treeValid_iff (G : CFG) (t : PTree) (w : List String) :
    G.treeValid t w = true ↔
      (∃ s, G.start = some s ∧ t.sym = .var s) ∧ G.wellFormedT t = true ∧ yieldT t = w := by
  unfold treeValid
  cases G.start <;> simp [and_assoc]

mutual
theorem wfT_gen (G : CFG) : ∀ t : PTree, G.wellFormedT t = true → G.Gen t.sym (yieldT t)
  | .node (.ter a) [], _ => by
    simp only [PTree.sym, yieldT]; exact Gen.ter a
  | .node (.ter a) (_ :: _), h => by
    simp [wellFormedT] at h
  | .node (.var v) sons, h => by
    simp only [wellFormedT, Bool.and_eq_true, decide_eq_true_eq] at h
    simp only [PTree.sym, yieldT]
    exact Gen.var h.1 (wfL_gen G sons h.2)
theorem wfL_gen (G : CFG) : ∀ ts : List PTree, G.wellFormedL ts = true →
    G.GenList (ts.map PTree.sym) (yieldL ts)
  | [], _ => by simp only [List.map_nil, yieldL]; exact GenList.nil
  | t :: ts, h => by
    simp only [wellFormedL, Bool.and_eq_true] at h
    simp only [List.map_cons, yieldL]
    exact GenList.cons (wfT_gen G t h.1) (wfL_gen G ts h.2)
end

theorem gen_genList_tree (G : CFG) :
    (∀ s w, G.Gen s w → ∃ t : PTree, t.sym = s ∧ G.wellFormedT t = true ∧ yieldT t = w) ∧
    (∀ u w, G.GenList u w →
      ∃ ts : List PTree, ts.map PTree.sym = u ∧ G.wellFormedL ts = true ∧ yieldL ts = w) := by
  apply Clean.gen_ind
  · exact fun a => ⟨.node (.ter a) [], rfl, rfl, rfl⟩
  · rintro h _ _ hp _ ⟨ts, rfl, hw, hy⟩
    refine ⟨.node (.var h) ts, rfl, ?_, ?_⟩
    · simp only [wellFormedT, Bool.and_eq_true, decide_eq_true_eq]
      exact ⟨hp, hw⟩
    · simp only [yieldT]; exact hy
  · exact ⟨[], rfl, rfl, rfl⟩
  · rintro _ _ _ _ _ _ ⟨t, rfl, hw1, rfl⟩ ⟨ts, rfl, hw2, rfl⟩
    refine ⟨t :: ts, rfl, ?_, rfl⟩
    simp only [wellFormedL, Bool.and_eq_true]; exact ⟨hw1, hw2⟩

theorem gen_tree (G : CFG) {s : Sym} {w : List String} (h : G.Gen s w) :
    ∃ t : PTree, t.sym = s ∧ G.wellFormedT t = true ∧ yieldT t = w :=
  (gen_genList_tree G).1 s w h

theorem genList_tree (G : CFG) : ∀ {u : List Sym} {w : List String}, G.GenList u w →
    ∃ ts : List PTree, ts.map PTree.sym = u ∧ G.wellFormedL ts = true ∧ yieldL ts = w :=
  fun h => (gen_genList_tree G).2 _ _ h

/-- a form of terminals only, as the word it spells: the users all have or want that word (the
prefix `pref.map Sym.ter` of a listing line, the input `w.map Sym.ter` where the search ends) -/
def Ters (l : List Sym) : Prop := ∃ u : List String, l = u.map Sym.ter

theorem ters_or_split (left : Bool) (e : List Sym) : Ters e ∨
    ∃ pre v post, e = pre ++ Sym.var v :: post ∧ (if left then Ters pre else Ters post) := by
  induction e with
  | nil => exact .inl ⟨[], rfl⟩
  | cons s e ih =>
    cases s with
    | var u =>
      refine .inr ?_
      cases left with
      | true => exact ⟨[], u, e, rfl, [], rfl⟩
      | false =>
        rcases ih with ht | ⟨pre, v, post, rfl, ht⟩
        · exact ⟨[], u, e, rfl, ht⟩
        · exact ⟨.var u :: pre, v, post, rfl, ht⟩
    | ter t =>
      rcases ih with ⟨u, rfl⟩ | ⟨pre, v, post, rfl, ht⟩
      · exact .inl ⟨t :: u, rfl⟩
      · refine .inr ⟨.ter t :: pre, v, post, rfl, ?_⟩
        cases left with
        | false => exact ht
        | true => obtain ⟨u, rfl⟩ := ht; exact ⟨t :: u, rfl⟩

theorem span_loop_ters {p : Sym → Bool} (hp : ∀ t, p (.ter t) = true) (rest : List Sym) :
    ∀ (u : List String) (acc : List Sym), List.span.loop p (u.map Sym.ter ++ rest) acc =
      List.span.loop p rest ((u.map Sym.ter).reverse ++ acc)
  | [], _ => rfl
  | t :: u, acc => by
    rw [List.map_cons, List.cons_append, List.span.loop, hp, span_loop_ters hp rest u]
    simp

theorem span_split (u : List String) (post : List Sym) (h : String) :
    (u.map Sym.ter ++ Sym.var h :: post).span (fun s => !Sym.isVar s) =
      (u.map Sym.ter, Sym.var h :: post) := by
  rw [List.span, span_loop_ters (fun _ => rfl) _ u []]
  simp [List.span.loop, Sym.isVar]

theorem leftStep_iff (G : CFG) (u v : List Sym) :
    G.leftStep u v = true ↔ ∃ pre h post body, Ters pre ∧
      u = pre ++ Sym.var h :: post ∧ (h, body) ∈ G.prods ∧ v = pre ++ body ++ post := by
  unfold leftStep
  constructor
  · intro hs
    rcases ters_or_split true u with ⟨x, rfl⟩ | ⟨_, h, post, rfl, x, rfl⟩
    · rw [← List.append_nil (x.map _), List.span, span_loop_ters (fun _ => rfl) [] x []] at hs
      simp [List.span.loop] at hs
    · rw [span_split x post h] at hs
      simp only [List.any_eq_true, decide_eq_true_eq] at hs
      obtain ⟨p, hp, rfl, rfl⟩ := hs
      exact ⟨_, p.1, post, p.2, ⟨x, rfl⟩, rfl, hp, rfl⟩
  · rintro ⟨_, h, post, body, ⟨x, rfl⟩, rfl, hp, rfl⟩
    rw [span_split x post h]
    simp only [List.any_eq_true, decide_eq_true_eq]
    exact ⟨(h, body), hp, rfl, rfl⟩

theorem leftStep_prod (G : CFG) {h : String} {body : List Sym} (hp : (h, body) ∈ G.prods) :
    G.leftStep [Sym.var h] body = true :=
  (leftStep_iff G _ _).mpr ⟨[], h, [], body, ⟨[], rfl⟩, rfl, hp, (List.append_nil _).symm⟩

theorem leftStep_context (G : CFG) (pref : List String) (y u v : List Sym)
    (hs : G.leftStep u v = true) :
    G.leftStep (pref.map Sym.ter ++ u ++ y) (pref.map Sym.ter ++ v ++ y) = true := by
  obtain ⟨_, h, post, body, ⟨x, rfl⟩, rfl, hp, rfl⟩ := (leftStep_iff G u v).mp hs
  exact (leftStep_iff G _ _).mpr
    ⟨_, h, post ++ y, body, ⟨pref ++ x, rfl⟩, by simp, hp, by simp⟩

/-- the grammar used by `rightStep` -/
def revG (G : CFG) : CFG := { G with prods := G.prods.map fun p => (p.1, p.2.reverse) }

theorem rightStep_eq (G : CFG) (u v : List Sym) :
    G.rightStep u v = (revG G).leftStep u.reverse v.reverse := rfl

theorem chain_derives (G : CFG) (step : List Sym → List Sym → Bool)
    (hstep : ∀ u v, step u v = true → G.Derives u v) :
    ∀ (lines : List (List Sym)) (a b : List Sym), lines.head? = some a → lines.getLast? = some b →
      chainValid step lines = true → G.Derives a b
  | [], _, _, h, _, _ => by cases h
  | [x], a, b, h1, h2, _ => by
    simp at h1 h2; subst h1; subst h2; exact .refl _
  | x :: y :: rest, a, b, h1, h2, h3 => by
    simp only [chainValid, Bool.and_eq_true] at h3
    simp only [List.head?_cons, Option.some.injEq] at h1
    subst h1
    have h2' : (y :: rest).getLast? = some b := by
      rw [List.getLast?_cons_cons] at h2; exact h2
    exact (hstep _ _ h3.1).trans (chain_derives G step hstep (y :: rest) y b rfl h2' h3.2)

theorem chain_append (step : List Sym → List Sym → Bool) :
    ∀ (A B : List (List Sym)) (x y : List Sym), chainValid step A = true → A.getLast? = some x →
      chainValid step (x :: B) = true ∧ (x :: B).getLast? = some y →
      chainValid step (A ++ B) = true ∧ (A ++ B).getLast? = some y
  | [], _, _, _, _, h, _ => by cases h
  | [a], B, x, y, _, h, hB => by
    cases h; exact hB
  | a :: b :: rest, B, x, y, hA, h, hB => by
    simp only [chainValid, Bool.and_eq_true] at hA
    rw [List.getLast?_cons_cons] at h
    have ih := chain_append step (b :: rest) B x y hA.2 h hB
    simp only [List.cons_append, chainValid, Bool.and_eq_true, List.getLast?_cons_cons] at ih ⊢
    exact ⟨⟨hA.1, ih.1⟩, ih.2⟩

theorem chain_map (step step' : List Sym → List Sym → Bool) (f : List Sym → List Sym)
    (hf : ∀ u v, step u v = true → step' (f u) (f v) = true) :
    ∀ A : List (List Sym), chainValid step A = true → chainValid step' (A.map f) = true
  | [], _ => rfl
  | [a], _ => rfl
  | a :: b :: rest, h => by
    simp only [chainValid, Bool.and_eq_true] at h
    have := chain_map step step' f hf (b :: rest) h.2
    simp only [List.map_cons, chainValid, Bool.and_eq_true] at this ⊢
    exact ⟨hf _ _ h.1, this⟩

theorem leftmostD_head : ∀ t : PTree, ∃ tl, leftmostD t = [t.sym] :: tl
  | .node (.var _) [] => ⟨[[]], rfl⟩
  | .node (.ter _) [] => ⟨[], rfl⟩
  | .node (.var _) (_ :: _) => ⟨_, rfl⟩
  | .node (.ter _) (_ :: _) => ⟨_, rfl⟩

theorem leftSons_cons (son : PTree) (rest : List PTree) (start : List Sym) (first : Bool) :
    leftSons (son :: rest) start first =
      ((if first then leftmostD son else (leftmostD son).tail).map
          fun d => start ++ d ++ rest.map PTree.sym) ++
        leftSons rest (match (if first then leftmostD son else (leftmostD son).tail).getLast? with
          | some l => start ++ l
          | none => start ++ [son.sym]) false := rfl

theorem leftSons_true (son : PTree) (rest : List PTree) (start : List Sym) :
    leftSons (son :: rest) start true =
      (start ++ (son :: rest).map PTree.sym) :: leftSons (son :: rest) start false := by
  obtain ⟨tl, htl⟩ := leftmostD_head son
  rw [leftSons_cons, leftSons_cons]
  simp only [htl, if_true, List.tail_cons, List.map_cons, List.cons_append, Bool.false_eq_true,
    if_false]
  congr 1
  · simp
  · congr 1
    cases tl with
    | nil => simp
    | cons y r => rw [List.getLast?_cons_cons]

theorem leftmostD_var (v : String) : ∀ sons : List PTree,
    leftmostD (.node (.var v) sons) = [Sym.var v] :: sons.map PTree.sym :: leftSons sons [] false
  | [] => rfl
  | son :: rest => by
    rw [← List.nil_append (List.map _ _), ← leftSons_true]
    rfl

mutual
theorem leftmostD_spec (G : CFG) : ∀ t : PTree, G.wellFormedT t = true →
    chainValid (leftStep G) (leftmostD t) = true ∧
      (leftmostD t).getLast? = some ((yieldT t).map Sym.ter)
  | .node (.ter a) [], _ => ⟨rfl, rfl⟩
  | .node (.ter a) (_ :: _), h => by simp [wellFormedT] at h
  | .node (.var v) sons, h => by
    simp only [wellFormedT, Bool.and_eq_true, decide_eq_true_eq] at h
    have ih := leftSons_spec G sons h.2 []
    rw [List.map_nil, List.nil_append, List.nil_append] at ih
    rw [leftmostD_var, chainValid, List.getLast?_cons_cons, yieldT, Bool.and_eq_true]
    exact ⟨⟨leftStep_prod G h.1, ih.1⟩, ih.2⟩
theorem leftSons_spec (G : CFG) : ∀ sons : List PTree, G.wellFormedL sons = true →
    ∀ pref : List String,
      chainValid (leftStep G)
        ((pref.map Sym.ter ++ sons.map PTree.sym) :: leftSons sons (pref.map Sym.ter) false) = true ∧
      ((pref.map Sym.ter ++ sons.map PTree.sym) :: leftSons sons (pref.map Sym.ter) false).getLast? =
        some (pref.map Sym.ter ++ (yieldL sons).map Sym.ter)
  | [], _, pref => by
    exact ⟨rfl, rfl⟩
  | son :: rest, h, pref => by
    simp only [wellFormedL, Bool.and_eq_true] at h
    obtain ⟨hc, hl⟩ := leftmostD_spec G son h.1
    have ih := leftSons_spec G rest h.2 (pref ++ yieldT son)
    -- the listing of `son` inside its context, continued by the listing of `rest`
    rw [← leftSons_true, leftSons_cons]
    simp only [if_true, hl]
    have hm := chain_map (leftStep G) (leftStep G)
      (fun d => pref.map Sym.ter ++ d ++ rest.map PTree.sym)
      (fun u v => leftStep_context G pref (rest.map PTree.sym) u v) _ hc
    have hlast : ((leftmostD son).map
        (fun d => pref.map Sym.ter ++ d ++ rest.map PTree.sym)).getLast? =
        some ((pref ++ yieldT son).map Sym.ter ++ rest.map PTree.sym) := by
      rw [List.getLast?_map, hl, List.map_append]
      rfl
    rw [yieldL, List.map_append, ← List.append_assoc, ← List.map_append]
    exact chain_append _ _ _ _ _ hm hlast ih
end

theorem mirrorT_sym : ∀ t : PTree, (mirrorT t).sym = t.sym
  | .node s sons => by simp [mirrorT, PTree.sym]

theorem mirrorL_map_sym : ∀ ts : List PTree, (mirrorL ts).map PTree.sym = (ts.map PTree.sym).reverse
  | [] => by simp [mirrorL]
  | t :: ts => by simp [mirrorL, mirrorL_map_sym ts, mirrorT_sym]

theorem yieldL_append : ∀ a b : List PTree, yieldL (a ++ b) = yieldL a ++ yieldL b
  | [], b => by simp [yieldL]
  | t :: a, b => by simp [yieldL, yieldL_append a b]

theorem wellFormedL_append (G : CFG) : ∀ a b : List PTree,
    G.wellFormedL (a ++ b) = (G.wellFormedL a && G.wellFormedL b)
  | [], b => by simp [wellFormedL]
  | t :: a, b => by simp [wellFormedL, wellFormedL_append G a b, Bool.and_assoc]

theorem yieldT_ter_ne_nil (a : String) : ∀ l : List PTree, l ≠ [] → yieldT (.node (.ter a) l) = []
  | [], h => absurd rfl h
  | _ :: _, _ => by simp [yieldT]

theorem mirrorL_ne_nil : ∀ l : List PTree, l ≠ [] → mirrorL l ≠ []
  | [], h => absurd rfl h
  | _ :: _, _ => by simp [mirrorL]

mutual
theorem yieldT_mirror : ∀ t : PTree, yieldT (mirrorT t) = (yieldT t).reverse
  | .node (.ter a) [] => by simp [mirrorT, mirrorL, yieldT]
  | .node (.ter a) (x :: r) => by
    rw [mirrorT, yieldT_ter_ne_nil a _ (mirrorL_ne_nil _ (by simp))]
    simp [yieldT]
  | .node (.var v) sons => by
    simp only [mirrorT, yieldT]; exact yieldL_mirror sons
theorem yieldL_mirror : ∀ ts : List PTree, yieldL (mirrorL ts) = (yieldL ts).reverse
  | [] => by simp [mirrorL, yieldL]
  | t :: ts => by
    simp only [mirrorL, yieldL, yieldL_append, List.append_nil, List.reverse_append]
    rw [yieldT_mirror t, yieldL_mirror ts]
end

mutual
theorem wfT_mirror (G : CFG) : ∀ t : PTree, G.wellFormedT t = true →
    (revG G).wellFormedT (mirrorT t) = true
  | .node (.ter a) [], _ => by simp [mirrorT, mirrorL, wellFormedT]
  | .node (.ter a) (_ :: _), h => by simp [wellFormedT] at h
  | .node (.var v) sons, h => by
    simp only [wellFormedT, Bool.and_eq_true, decide_eq_true_eq] at h
    simp only [mirrorT, wellFormedT, Bool.and_eq_true, decide_eq_true_eq]
    refine ⟨?_, wfL_mirror G sons h.2⟩
    rw [mirrorL_map_sym]
    exact mem_map_reverse_body.mpr (by rw [List.reverse_reverse]; exact h.1)
theorem wfL_mirror (G : CFG) : ∀ ts : List PTree, G.wellFormedL ts = true →
    (revG G).wellFormedL (mirrorL ts) = true
  | [], _ => by simp [mirrorL, wellFormedL]
  | t :: ts, h => by
    simp only [wellFormedL, Bool.and_eq_true] at h
    simp only [mirrorL, wellFormedL_append, wellFormedL, Bool.and_eq_true, Bool.and_true]
    exact ⟨wfL_mirror G ts h.2, wfT_mirror G t h.1⟩
end

end Trees
end CFG
end Pfl
