/-
Store-level lemmas for the completeness proof of the Earley model (C18; the walk of `advance` in
`EarleyAdvance` and the termination proof use the store facts and the closed-set walk `unify_ui`): the extra store
invariants (functional feature lists, values of classes, shape of the symbol records), a generic
invariant of `unify`, the canonical interpretation of a valuation, and the completeness direction
of `unify` and `copy` for valuations.
-/
import Pfl.Proofs.EarleyLemmasSem
namespace Pfl
namespace Earley
namespace Cmp
open FsDag Lem

/-- the feature lists are functional -/
def KF (st : Store) : Prop := ∀ i g x, (g, x) ∈ cont st i → lookupC g (cont st i) = some x

/-- an object that carries an atom belongs to a class whose representative carries it -/
def VR (st : Store) : Prop := ∀ i v, val st i = some v → val st (deref st i) = some v

/-- the symbol records (rank 1) only have the feature `n` -/
def AllN (st : Store) (rk : Nat → Nat) : Prop :=
  ∀ i g x, rk i = 1 → (g, x) ∈ cont st i → g = "n"

/-- all atoms are admissible values -/
def AP (P : String → Prop) (st : Store) : Prop := ∀ i v, val st i = some v → P v

/-- the store facts completeness needs beyond `WFS`.  They hold of the built store and are kept by
`copy` and `unify`. -/
structure SX (P : String → Prop) (st : Store) (rk : Nat → Nat) : Prop where
  kf : KF st
  vr : VR st
  alln : AllN st rk
  ap : AP P st

/-- `S` is a set of objects closed under pointers and features that contains every future object;
the features of its members satisfy `Kp` -/
structure UI (S : Nat → Prop) (Kp : String → Prop) (st : Store) : Prop where
  rng : Rng st
  big : ∀ i, st.length ≤ i → S i
  cp : ∀ i j, S i → ptr st i = some j → S j
  cc : ∀ i g x, S i → (g, x) ∈ cont st i → S x
  kf : KF st
  kp : ∀ i g x, S i → (g, x) ∈ cont st i → Kp g

structure UPost (S : Nat → Prop) (Kp : String → Prop) (st st' : Store) : Prop where
  ui : UI S Kp st'
  len : st.length ≤ st'.length
  frame : ∀ i, ¬ S i → get st' i = get st i
  vals : ∀ i, val st' i = val st i

theorem UPost.refl {S : Nat → Prop} {Kp : String → Prop} {st : Store} (h : UI S Kp st) :
    UPost S Kp st st := ⟨h, Nat.le_refl _, fun _ _ => rfl, fun _ => rfl⟩

theorem UPost.trans {S : Nat → Prop} {Kp : String → Prop} {st st1 st2 : Store}
    (h1 : UPost S Kp st st1) (h2 : UPost S Kp st1 st2) : UPost S Kp st st2 :=
  ⟨h2.ui, Nat.le_trans h1.len h2.len, fun i hi => by rw [h2.frame i hi, h1.frame i hi],
    fun i => by rw [h2.vals i, h1.vals i]⟩

theorem ui_setPointer {S : Nat → Prop} {Kp : String → Prop} {st : Store} (h : UI S Kp st)
    {c d : Nat} (hc : S c) (hd : S d) (hdl : d < st.length) :
    UPost S Kp st (setPointer st c d) := by
  refine ⟨⟨rng_setPointer h.rng c hdl, ?_, ?_, ?_, ?_, ?_⟩, by rw [length_setPointer]; exact Nat.le_refl _, ?_, ?_⟩
  · intro i hi; rw [length_setPointer] at hi; exact h.big i hi
  · intro i j hi hp
    rw [ptr_setPointer] at hp
    split at hp
    · simp only [Option.some.injEq] at hp; subst hp; exact hd
    · exact h.cp i j hi hp
  · intro i g x hi hx
    rw [cont_setPointer] at hx; exact h.cc i g x hi hx
  · intro i g x hx
    rw [cont_setPointer] at hx ⊢; exact h.kf i g x hx
  · intro i g x hi hx
    rw [cont_setPointer] at hx; exact h.kp i g x hi hx
  · intro i hi
    exact get_setPointer_ne d (fun e => hi (by rw [← e]; exact hc))
  · intro i; exact val_setPointer st c d i

theorem ui_addFresh {S : Nat → Prop} {Kp : String → Prop} {st : Store} (h : UI S Kp st)
    {ca : Nat} {g : String} (hc : S ca) (hcl : ca < st.length) (hl : lookupC g (cont st ca) = none)
    (hg : Kp g) : UPost S Kp st (addFresh st ca g) := by
  refine ⟨⟨rng_addFresh h.rng ca g, ?_, ?_, ?_, ?_, ?_⟩, by rw [length_addFresh]; omega, ?_, ?_⟩
  · intro i hi; rw [length_addFresh] at hi; exact h.big i (by omega)
  · intro i j hi hp
    rw [ptr_addFresh] at hp; exact h.cp i j hi hp
  · intro i g' x hi hx
    rcases mem_cont_addFresh hx with hx | ⟨_, e⟩
    · exact h.cc i g' x hi hx
    · cases e; exact h.big _ (Nat.le_refl _)
  · intro i g' x hx
    rcases mem_cont_addFresh hx with hx | ⟨rfl, e⟩
    · exact lookupC_cont_addFresh g hcl (h.kf i g' x hx)
    · cases e
      rw [cont_addFresh g hcl, if_pos rfl]; exact lookupC_append_single_self _ hl
  · intro i g' x hi hx
    rcases mem_cont_addFresh hx with hx | ⟨_, e⟩
    · exact h.kp i g' x hi hx
    · cases e; exact hg
  · intro i hi
    rw [get_addFresh g hcl]
    rw [if_neg (fun e => hi (by rw [e]; exact hc))]
  · intro i; exact val_addFresh st ca g i

theorem ui_fieldOf {S : Nat → Prop} {Kp : String → Prop} {st : Store} (h : UI S Kp st)
    {ca : Nat} (g : String) (hc : S ca) (hcl : ca < st.length) (hg : Kp g) :
    UPost S Kp st (fieldOf st ca g).1 ∧ S (fieldOf st ca g).2 ∧
      (fieldOf st ca g).2 < (fieldOf st ca g).1.length := by
  unfold fieldOf
  cases hl : lookupC g (cont st ca) with
  | some x =>
    exact ⟨UPost.refl h, h.cc ca g x hc (lookupC_mem hl), h.rng.c ca g x (lookupC_mem hl)⟩
  | none =>
    exact ⟨ui_addFresh h hc hcl hl hg, h.big _ (Nat.le_refl _), by simp [length_addFresh]⟩

theorem go_ui {S : Nat → Prop} {Kp : String → Prop} (f : Nat)
    (IH : ∀ st a b, UI S Kp st → S a → S b → a < st.length → b < st.length →
      ∀ st', unify f st a b = .ok st' → UPost S Kp st st')
    (ca : Nat) (hca : S ca) : ∀ (rest : List (String × Nat)) (st : Store), UI S Kp st →
      ca < st.length → (∀ e ∈ rest, S e.2 ∧ e.2 < st.length ∧ Kp e.1) →
      ∀ st', unify.go f ca st rest = .ok st' → UPost S Kp st st' := by
  intro rest
  induction rest with
  | nil =>
    intro st h _ _ st' hu
    rw [go_nil] at hu
    simp only [Res.ok.injEq] at hu; subst hu
    exact UPost.refl h
  | cons e rest ih =>
    obtain ⟨g, y⟩ := e
    intro st h hcl hrest st' hu
    rw [go_cons] at hu
    obtain ⟨hy1, hy2, hy3⟩ := hrest (g, y) (List.mem_cons_self ..)
    obtain ⟨p1, hx1, hx2⟩ := ui_fieldOf h g hca hcl hy3
    cases hres : unify f (fieldOf st ca g).1 (fieldOf st ca g).2 y with
    | fuel => rw [hres] at hu; simp at hu
    | conflict => rw [hres] at hu; simp at hu
    | ok st2 =>
      rw [hres] at hu
      simp only at hu
      have hlen1 := p1.len
      have p2 := IH _ _ _ p1.ui hx1 hy1 hx2 (by omega) st2 hres
      have hlen2 := p2.len
      have p3 := ih st2 p2.ui (by omega) (fun e he => by
        obtain ⟨h1, h2, h3⟩ := hrest e (List.mem_cons_of_mem _ he)
        exact ⟨h1, by omega, h3⟩) st' hu
      exact (p1.trans p2).trans p3

theorem unify_ui {S : Nat → Prop} {Kp : String → Prop} : ∀ (f : Nat) (st : Store) (a b : Nat),
    UI S Kp st → S a → S b → a < st.length → b < st.length →
    ∀ st', unify f st a b = .ok st' → UPost S Kp st st' := by
  intro f
  induction f with
  | zero => intro st a b _ _ _ _ _ st' hu; rw [unify_zero] at hu; exact nomatch hu
  | succ f IH =>
    intro st a b h ha hb hal hbl st' hu
    have hSa : S (deref st a) := deref_mem_closed S (fun j j2 hj hp => h.cp j j2 hj hp) a ha
    have hSb : S (deref st b) := deref_mem_closed S (fun j j2 hj hp => h.cp j j2 hj hp) b hb
    have hca := deref_lt h.rng hal
    have hcb := deref_lt h.rng hbl
    rcases unify_succ_ok hu with rfl | rfl | rfl | hgo
    · exact UPost.refl h
    · exact ui_setPointer h hSa hSb hcb
    · exact ui_setPointer h hSb hSa hca
    · have p0 := ui_setPointer h hSb hSa hca
      have p1 := go_ui f IH (deref st a) hSa (cont st (deref st b))
        (setPointer st (deref st b) (deref st a)) p0.ui
        (by rw [length_setPointer]; exact hca)
        (fun e he => ⟨h.cc _ e.1 e.2 hSb he, by
          rw [length_setPointer]; exact h.rng.c _ e.1 e.2 he, h.kp _ e.1 e.2 hSb he⟩) st' hgo
      exact p0.trans p1

/-- the interpretation that reads a path and evaluates the leaf it reaches; `d` elsewhere -/
def canon (st : Store) (rk : Nat → Nat) (σ : Nat → String) (d : String) : Interp :=
  fun i q => match byPath st i q with
    | some n => if rk n = 0 then σ (deref st n) else d
    | none => d

theorem canon_model {st : Store} {rk : Nat → Nat} {σ : Nat → String} {d : String}
    (hw : WFS st rk) (hkf : KF st) (hvr : VR st)
    (hσ : ∀ c v, ptr st c = none → val st c = some v → σ c = v) :
    Model st (canon st rk σ d) := by
  have hac := hw.inv.acyc
  refine ⟨?_, ?_, ?_⟩
  · intro i j hp
    funext q
    unfold canon
    have hd : deref st i = deref st j := deref_step hac hp
    cases q with
    | nil =>
      simp only [byPath_nil]
      rw [hw.inv.rkp i j hp, hd]
    | cons g q => rw [byPath_congr hd g q]
  · intro i v hv
    unfold canon
    simp only [byPath_nil]
    rw [if_pos (hw.inv.rkv i v hv)]
    exact hσ _ v (deref_ptr_none hac i) (hvr i v hv)
  · intro i g x hx q
    have hl := hkf i g x hx
    obtain ⟨x', hx', hd⟩ := hw.cc i g x hl
    unfold canon
    rw [byPath_cons_of q hx']
    cases q with
    | nil =>
      simp only [byPath_nil]
      have hrk : rk x' = rk x := by
        rw [← rkR_deref hw.inv x', ← rkR_deref hw.inv x, hd]
      rw [hrk, hd]
    | cons g2 q => rw [byPath_congr hd g2 q]

theorem canon_rk1 {st : Store} {rk : Nat → Nat} {σ : Nat → String} {d : String} {c : Nat}
    (hw : WFS st rk) (hn : AllN st rk) (hrc : rk c = 1) (q : List String) :
    canon st rk σ d c q = if q = ["n"] then (rdv st σ c ["n"]).getD d else d := by
  have hrd : rk (deref st c) = 1 := by rw [rkR_deref hw.inv]; exact hrc
  unfold canon rdv
  cases q with
  | nil => simp [byPath_nil, hrc]
  | cons g q =>
    rw [byPath_cons]
    cases hl : lookupC g (cont st (deref st c)) with
    | none =>
      by_cases hq : g :: q = ["n"]
      · cases hq; rw [byPath_cons, hl]; simp
      · simp [hq]
    | some x =>
      obtain rfl : g = "n" := hn _ g x hrd (lookupC_mem hl)
      have hrx : rk x = 0 := Nat.succ.inj ((rk_lookup hw.inv hl).trans hrc)
      cases q with
      | nil => simp [byPath_cons, hl, byPath_nil, hrx]
      | cons g2 q2 =>
        have hcx : cont st (deref st x) = [] :=
          cont_nil_of_rkR_zero hw.inv (by rw [rkR_deref hw.inv]; exact hrx)
        simp [byPath_cons, hcx, lookupC]

open Classical in
/-- the valuation of the classes read off an interpretation -/
noncomputable def ofInterp (P : String → Prop) (d0 : String) (ρ : Interp) : Nat → String :=
  fun c => if P (ρ c []) then ρ c [] else d0

theorem ofInterp_resp {P : String → Prop} {d0 : String} (hd : P d0) {st : Store} {ρ : Interp}
    (hm : Model st ρ) : Resp P st (ofInterp P d0 ρ) := by
  refine ⟨fun c => ?_, fun c v _ hv hP => ?_⟩
  · unfold ofInterp; split
    · assumption
    · exact hd
  · unfold ofInterp
    rw [hm.v c v hv, if_pos hP]

theorem ofInterp_rdv {P : String → Prop} {d0 : String} {st : Store} {ρ : Interp} (hm : Model st ρ)
    {F n : Nat} {p : List String} (hb : byPath st F p = some n) (hP : P (ρ F p)) :
    rdv st (ofInterp P d0 ρ) F p = some (ρ F p) := by
  refine rdv_some.2 ⟨n, hb, ?_⟩
  have h1 := model_byPath hm p F n hb []
  rw [List.append_nil] at h1
  have h2 : ρ (deref st n) [] = ρ F p := by rw [model_deref hm n, h1]
  unfold ofInterp
  rw [h2, if_pos hP]

/-- valuations forward through a unification of two symbol records: when they read the same
value at their leaves (a missing leaf counting as `d`), the unification succeeds and the classes
of the result have a valuation under which every leaf reached from an old object reads what it
read.  The valuation becomes the interpretation `canon`, `unify_wf` (its `PostS`) extends that to
a model of the result, and `ofInterp` reads the new valuation off the model. -/
theorem unify_fwd {P : String → Prop} {st : Store} {rk : Nat → Nat} {a b : Nat}
    {σ : Nat → String} {d : String} (hw : WFS st rk) (hsx : SX P st rk) (hσ : Resp P st σ)
    (hd : P d) (ha : a < st.length) (hb : b < st.length) (hra : rk a = 1) (hrb : rk b = 1)
    (H : (rdv st σ a ["n"]).getD d = (rdv st σ b ["n"]).getD d) :
    ∃ st', unify (st.length + 2) st a b = .ok st' ∧ ∃ σ', Resp P st' σ' ∧
      ∀ F p n, F < st.length → byPath st F p = some n → rk n = 0 →
        rdv st' σ' F p = some (σ (deref st n)) := by
  have hm : Model st (canon st rk σ d) := canon_model hw hsx.kf hsx.vr
    fun c v hp hv => hσ.2 c v hp hv (hsx.ap c v hv)
  have Hc : canon st rk σ d a = canon st rk σ d b := by
    funext q; rw [canon_rk1 hw hsx.alln hra, canon_rk1 hw hsx.alln hrb, H]
  obtain ⟨hS, hW, hF⟩ := unify_wf crE_lt hw.wf ha hb hra hrb (st.length + 2)
  cases hu : unify (st.length + 2) st a b with
  | conflict => rw [hu] at hS; exact absurd Hc (hS.2 rfl _ hm)
  | fuel => exact absurd (hF hu) (by omega)
  | ok st' =>
    rw [hu] at hS
    obtain ⟨ρ', hρ, hm'⟩ := (hS.1 st' rfl).2.2 _ hm Hc
    obtain ⟨rk', hw', he, _⟩ := hW st' hu
    refine ⟨st', rfl, ofInterp P d ρ', ofInterp_resp hd hm', fun F p n hF hp hr => ?_⟩
    obtain ⟨n', hn', _⟩ := path_pres he hw.rng hw.inv.acyc hw'.cc p hF hp
    have hval : ρ' F p = σ (deref st n) := by
      rw [hρ F hF]; unfold canon; rw [hp]; exact if_pos hr
    rw [ofInterp_rdv hm' hn' (by rw [hval]; exact hσ.1 _), hval]

/-- the classes that the unification of a symbol record of class `c` can touch: `c` and its leaf -/
def NearC (st : Store) (c u : Nat) : Prop :=
  u = c ∨ ∃ x, lookupC "n" (cont st c) = some x ∧ u = deref st x

/-- the objects that the unification of the symbol records `a` and `b` can touch: the future ones
and the members of the two classes and of the classes of their leaves -/
def Touched (st : Store) (a b i : Nat) : Prop :=
  st.length ≤ i ∨ NearC st (deref st a) (deref st i) ∨ NearC st (deref st b) (deref st i)

/-- the features of touched objects: `n`, and none at all when both symbol records are empty -/
def TouchedLab (st : Store) (a b : Nat) (g : String) : Prop :=
  g = "n" ∧ (cont st (deref st a) ≠ [] ∨ cont st (deref st b) ≠ [])

section
variable {st : Store} {rk : Nat → Nat}

theorem near_child (hw : WFS st rk) (hkf : KF st) (hn : AllN st rk) {c i x : Nat} {l : String}
    (hc : rk c = 1) (h : NearC st c (deref st i)) (hx : (l, x) ∈ cont st i) :
    l = "n" ∧ NearC st c (deref st x) ∧ cont st c ≠ [] := by
  rcases h with h | ⟨x0, hx0, h⟩
  · obtain ⟨x', hx', hd⟩ := hw.cc i l x (hkf i l x hx)
    rw [h] at hx'
    obtain rfl : l = "n" := hn c l x' hc (lookupC_mem hx')
    exact ⟨rfl, Or.inr ⟨x', hx', hd.symm⟩, List.ne_nil_of_mem (lookupC_mem hx')⟩
  · have h0 : rk i = 0 := by
      have := hw.inv.rk_succ (lookupC_mem hx0)
      rw [← rkR_deref hw.inv i, h, rkR_deref hw.inv]; omega
    rw [cont_nil_of_rkR_zero hw.inv h0] at hx; cases hx

theorem touched_ui (hw : WFS st rk) (hkf : KF st) (hn : AllN st rk) {a b : Nat} (hra : rk a = 1)
    (hrb : rk b = 1) : UI (Touched st a b) (TouchedLab st a b) st := by
  have ha := hw.inv.acyc
  have hca := (rkR_deref hw.inv a).trans hra
  have hcb := (rkR_deref hw.inv b).trans hrb
  refine ⟨hw.rng, fun i hi => Or.inl hi, ?_, ?_, hkf, ?_⟩
  · rintro i j (hi | hi) hp
    · exact absurd (ptr_lt hp) (Nat.not_lt.2 hi)
    · right; rw [← deref_step ha hp]; exact hi
  · rintro i l x (hi | hi | hi) hx
    · exact absurd (cont_lt hx) (Nat.not_lt.2 hi)
    · exact Or.inr (Or.inl (near_child hw hkf hn hca hi hx).2.1)
    · exact Or.inr (Or.inr (near_child hw hkf hn hcb hi hx).2.1)
  · rintro i l x (hi | hi | hi) hx
    · exact absurd (cont_lt hx) (Nat.not_lt.2 hi)
    · exact ⟨(near_child hw hkf hn hca hi hx).1, Or.inl (near_child hw hkf hn hca hi hx).2.2⟩
    · exact ⟨(near_child hw hkf hn hcb hi hx).1, Or.inr (near_child hw hkf hn hcb hi hx).2.2⟩

end

theorem unify_sx {P : String → Prop} {st : Store} {rk rk' : Nat → Nat} {a b f : Nat} {st' : Store}
    (hw : WFS st rk) (hsx : SX P st rk) (ha : a < st.length) (hb : b < st.length) (hra : rk a = 1)
    (hrb : rk b = 1) (he : Ext st rk st' rk' 1) (hu : unify f st a b = .ok st') :
    SX P st' rk' ∧ UPost (Touched st a b) (TouchedLab st a b) st st' := by
  have hp := unify_ui f st a b (touched_ui hw hsx.kf hsx.alln hra hrb) (Or.inr (Or.inl (Or.inl rfl)))
    (Or.inr (Or.inr (Or.inl rfl))) ha hb st' hu
  refine ⟨⟨hp.ui.kf, ?_, ?_, ?_⟩, hp⟩
  · intro i v hv
    rw [hp.vals i] at hv
    exact he.e2 i v (val_lt hv) (hsx.vr i v hv)
  · intro i g x hi hx
    by_cases hS : Touched st a b i
    · exact (hp.ui.kp i g x hS hx).1
    · have h1 : i < st.length := Nat.lt_of_not_le fun h => hS (Or.inl h)
      rw [he.rkold i h1] at hi
      rw [cont, hp.frame i hS] at hx
      exact hsx.alln i g x hi hx
  · intro i v hv
    rw [hp.vals i] at hv; exact hsx.ap i v hv

section
variable {st st' : Store} {rk : Nat → Nat} {a b : Nat}
  (hp : UPost (Touched st a b) (TouchedLab st a b) st st')
include hp

theorem UPost.frozen (hw : WFS st rk) {z : Nat}
    (hz : z < st.length) (hS : ¬ Touched st a b z) :
    deref st' z = deref st z ∧ get st' (deref st z) = get st (deref st z) := by
  have ha := hw.inv.acyc
  have hcl : ∀ j j2, (j < st.length ∧ ¬ Touched st a b j) → ptr st j = some j2 →
      j2 < st.length ∧ ¬ Touched st a b j2 := by
    rintro j j2 ⟨hj, hj'⟩ hq
    have hj2 := hw.rng.p j j2 hq
    refine ⟨hj2, fun h => hj' ?_⟩
    rcases h with h | h
    · exact absurd hj2 (Nat.not_lt.2 h)
    · right; rw [deref_step ha hq]; exact h
  have hd := deref_mem_closed _ hcl z ⟨hz, hS⟩
  exact ⟨deref_frame ha hp.len _ (fun j hj => by rw [ptr, hp.frame j hj.2]) hcl z ⟨hz, hS⟩,
    hp.frame _ hd.2⟩

theorem UPost.touched_deref {z : Nat} (hz : Touched st a b z) : Touched st a b (deref st' z) :=
  deref_mem_closed _ (fun j j2 hj h => hp.ui.cp j j2 hj h) z hz

theorem UPost.deref_inj (hw : WFS st rk) {x y : Nat}
    (hx : x < st.length) (hy : y < st.length) (hdx : deref st x = x) (hdy : deref st y = y)
    (hxy : Touched st a b x → Touched st a b y → x = y) (h : deref st' x = deref st' y) :
    x = y := by
  by_cases hSx : Touched st a b x <;> by_cases hSy : Touched st a b y
  · exact hxy hSx hSy
  · have := hp.touched_deref hSx
    rw [h, (hp.frozen hw hy hSy).1, hdy] at this; exact absurd this hSy
  · have := hp.touched_deref hSy
    rw [← h, (hp.frozen hw hx hSx).1, hdx] at this; exact absurd this hSx
  · rw [(hp.frozen hw hx hSx).1, (hp.frozen hw hy hSy).1, hdx, hdy] at h; exact h

end

def NoVal (st : Store) : Prop := ∀ i, val st i = none

section CopyFacts
variable {st : Store} {rk : Nat → Nat} {F : Nat} {st1 : Store} {F' : Nat} {κ : Nat → Nat}
  {dom : Nat → Prop} {π : Nat → Nat}

theorem copy_kf (hc : CopySpec st F st1 F' κ dom π) (hkf : KF st) : KF st1 := by
  intro n g x hx
  rcases hc.node_cases n with ⟨_, h2⟩ | ⟨_, _, _, h2⟩ | h2
  · rw [cont, h2] at hx ⊢; exact hkf n g x hx
  · rw [cont, h2] at hx ⊢
    obtain ⟨e, he, heq⟩ := List.mem_map.1 hx
    cases heq
    show lookupC e.1 ((cont st (π n)).map fun e => (e.1, κ e.2)) = _
    rw [lookupC_map, hkf _ e.1 e.2 he]; rfl
  · rw [cont, h2] at hx; exact absurd hx List.not_mem_nil

theorem copy_vr (hc : CopySpec st F st1 F' κ dom π) (hr : Rng st) (ha : Acyc st) (hvr : VR st) :
    VR st1 := by
  intro n v hv
  rcases hc.node_cases n with ⟨h1, h2⟩ | ⟨_, h3, h4, h2⟩ | h2
  · rw [val, h2] at hv
    rw [hc.fr.deref_eq ha hr h1, val, hc.fr.old _ (deref_lt hr h1)]
    exact hvr n v hv
  · rw [val, h2] at hv
    obtain ⟨hd, hdd⟩ := hc.deref_κ hr ha _ h3
    rw [h4] at hd
    rw [hd, val, hc.node _ hdd]
    show val st (deref st (deref st (π n))) = some v
    rw [deref_idem ha]; exact hv
  · rw [val, h2] at hv; exact nomatch hv

theorem copy_alln (hc : CopySpec st F st1 F' κ dom π) (hr : Rng st) (hn : AllN st rk) :
    AllN st1 (fun n => rk (proj st π n)) :=
  fun _ g _ hrk hx => hn _ g _ hrk (hc.hom_cont hr hx).1

theorem copy_val (hc : CopySpec st F st1 F' κ dom π) (n : Nat) {v : String}
    (hv : val st1 n = some v) : ∃ m, val st m = some v := by
  rcases hc.node_cases n with ⟨_, h2⟩ | ⟨_, _, _, h2⟩ | h2
  · rw [val, h2] at hv; exact ⟨n, hv⟩
  · rw [val, h2] at hv; exact ⟨_, hv⟩
  · rw [val, h2] at hv; exact nomatch hv

theorem copy_ap {P : String → Prop} (hc : CopySpec st F st1 F' κ dom π) (hap : AP P st) :
    AP P st1 := by
  intro n v hv
  obtain ⟨m, hm⟩ := copy_val hc n hv
  exact hap m v hm

theorem copy_noval (hc : CopySpec st F st1 F' κ dom π) (hnv : NoVal st) : NoVal st1 := by
  intro n
  cases hv : val st1 n with
  | none => rfl
  | some v =>
    obtain ⟨m, hm⟩ := copy_val hc n hv
    rw [hnv m] at hm; exact nomatch hm

theorem derefPath_copy (hc : CopySpec st F st1 F' κ dom π) (hr : Rng st) (ha : Acyc st)
    (p : List String) :
    (byPath st1 F' p).map (deref st1) = ((byPath st F p).map (deref st)).map κ ∧
      ∀ u, (byPath st F p).map (deref st) = some u → dom u := by
  obtain ⟨h1, h2⟩ := hc.byPath_map hr ha p F hc.domF
  rw [← hc.κF, h1]
  cases hb : byPath st F p with
  | none => exact ⟨rfl, nofun⟩
  | some n =>
    obtain ⟨hd, hdd⟩ := hc.deref_κ hr ha n (h2 n hb)
    exact ⟨congrArg some hd, fun u hu => Option.some.inj hu ▸ hdd⟩

theorem derefPath_copy_ge (hc : CopySpec st F st1 F' κ dom π) (hr : Rng st) (ha : Acyc st)
    {p : List String} {u : Nat} (h : (byPath st1 F' p).map (deref st1) = some u) :
    st.length ≤ u := by
  obtain ⟨h1, h2⟩ := derefPath_copy hc hr ha p
  rw [h] at h1
  obtain ⟨u0, hu0, rfl⟩ := Option.map_eq_some_iff.1 h1.symm
  exact (hc.rng u0 (h2 u0 hu0)).1

theorem copy_fwd {P : String → Prop} (hc : CopySpec st F st1 F' κ dom π) (hr : Rng st) (ha : Acyc st)
    {σ τ : Nat → String} (hσ : Resp P st σ) (hτ : Resp P st τ) :
    Resp P st1 (mixVal st π σ τ) ∧
    (∀ G p, G < st.length → rdv st1 (mixVal st π σ τ) G p = rdv st σ G p) ∧
    (∀ p, rdv st1 (mixVal st π σ τ) F' p = rdv st τ F p) := by
  refine ⟨hc.fr.resp_mix hσ hτ.1 fun c v hge hp hv hP => ?_,
    fun G p hG => hc.fr.rdv_mix ha hr π σ τ hG p, ?_⟩
  · rcases hc.node_cases c with ⟨h1, _⟩ | ⟨_, _, _, h2⟩ | h2
    · exact absurd h1 (Nat.not_lt.2 hge)
    · rw [ptr, h2] at hp
      rw [val, h2] at hv
      have hp' : ptr st (π c) = none := Option.map_eq_none_iff.1 hp
      have hv' : val st (deref st (π c)) = some v := hv
      rw [deref_of_none hp'] at hv'
      exact hτ.2 _ v hp' hv' hP
    · rw [val, h2] at hv; exact nomatch hv
  · intro p
    obtain ⟨h1, h2⟩ := hc.byPath_map hr ha p F hc.domF
    unfold rdv
    rw [← hc.κF, h1]
    cases hb : byPath st F p with
    | none => rfl
    | some n =>
      obtain ⟨e1, e2⟩ := hc.deref_κ hr ha n (h2 n hb)
      have hge : ¬ κ (deref st n) < st.length := Nat.not_lt.2 (hc.rng _ e2).1
      have := hc.proj_κ e2
      unfold proj at this
      rw [if_neg hge] at this
      simp only [Option.map_some, e1, mixVal, if_neg hge, this]

end CopyFacts

end Cmp
end Earley
end Pfl
