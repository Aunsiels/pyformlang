/-
Termination of the Earley model (C18): the strengthened invariant `TB` along `advance` and the
scanner push (`advWalk_tbr`, `scanned_tbr` are shared with `TF`), hence `TB` is a `Chain` with the bound `colBound`
(`tb_chain`) and the recogniser answers within `colBound + 1` (`contains_total`).  The predictor, the
completer and the loop of a column are done once for every `Chain` in `EarleyTerminationChain`.
-/
import Pfl.Proofs.EarleyTerminationChain
namespace Pfl
namespace Earley
namespace Term
open FsDag FsDag.Lem Lem Cmp

theorem advWalk_tbr {C : Ctx} {vals : List String} {L : Nat} {T : Tables} {rk : Nat → Nat}
    {nx c : EState} {st1 : Store} {cl : Nat} {rk1 : Nat → Nat}
    {st2 : Store} {cr : Nat} {rk2 : Nat → Nat} {left considered : Nat}
    (W : AdvWalk C.P T.store rk c.fs nx.fs nx.dot st1 cl rk1 st2 cr rk2 left considered)
    (hC : CtxOK C) (hc : TC C vals L) (hw0 : WFS T.store rk) {i : Nat}
    (rc : TBR C L T.store rk i c) (rnx : TBR C L T.store rk c.b nx)
    (hcomp : incomplete C.G c = false)
    (hnext : nextSym C.G nx = some (.var (prodOf C.G c.prod).head)) {st3 : Store}
    {rk3 : Nat → Nat} (u : UnifyOut C.P st2 rk2 considered left st3 rk3) :
    TBR C L st3 rk3 c.e { prod := nx.prod, b := nx.b, e := c.e, dot := nx.dot + 1, fs := cr } ∧
      nx.dot + 1 ≤ L := by
  obtain ⟨κ2, dom2, π2, hc2⟩ := W.o2.spec
  have hdot : nx.dot < (prodOf C.G nx.prod).body.length := (List.getElem?_eq_some_iff.1 hnext).1
  exact ⟨⟨W.pushed u hC hw0 rc.toBaseR rnx.toBaseR hcomp hnext,
    rootLab_ext u.ext W.o2.wf W.o2.lt (by rw [W.rkcr]; exact Nat.one_lt_two)
      (rootLab_copy hc2 W.o1.wf.rng W.o1.wf.inv.acyc
        (rootLab_fr W.o1.fr hw0.inv.acyc hw0.rng rnx.fs_lt rnx.rl))⟩,
    Nat.le_trans hdot (hc.body nx.prod)⟩

theorem advance_tb {C : Ctx} (hC : CtxOK C) {vals : List String} {L : Nat} (hc : TC C vals L)
    {T : Tables} {rk : Nat → Nat} (hT : TB C vals L T rk) {i : Nat} {c nx : EState}
    (rc : TBR C L T.store rk i c) (rnx : TBR C L T.store rk c.b nx) (hi : i < C.word.length + 1)
    (hcomp : incomplete C.G c = false)
    (hnext : nextSym C.G nx = some (.var (prodOf C.G c.prod).head)) :
    ∃ rk', TB C vals L (Pfl.Earley.advance C.G T nx c) rk' ∧
      Carry (TBR C L) T.store rk (Pfl.Earley.advance C.G T nx c).store rk' := by
  obtain ⟨st1, cl, rk1, st2, cr, rk2, left, considered, W⟩ :=
    advance_walk hC hT.base rc.toBaseR rnx.toBaseR hnext
  rw [advance_eq, W.eq]
  cases hun : unify (st2.length + 2) st2 considered left with
  | ok st3 =>
    obtain ⟨rk3, u⟩ := W.ok st3 hun
    obtain ⟨r, hdot⟩ := advWalk_tbr W hC hc hT.tab.wf rc rnx hcomp hnext u
    have hfr3 := W.fr3 u hT.tab.wf hT.tab.sx
    exact ⟨rk3, TB.push hc (hT.store (W.baseS3 u hT.tab.toBaseS) (W.step.trans u.step) hfr3)
      (by rw [rc.e_eq]; exact hi) r hdot,
      (hT.carry (W.step.trans u.step) hfr3).push _ _ _⟩
  | _ => exact ⟨rk2, hT.store (W.baseS hT.tab.toBaseS) W.step W.fr, hT.carry W.step W.fr⟩

theorem scanned_tbr {C : Ctx} (hC : CtxOK C) {vals : List String} {L : Nat} (hc : TC C vals L)
    {st : Store} {rk : Nat → Nat} {i : Nat} {s : EState} (r : TBR C L st rk i s) {t : String}
    (hn : nextSym C.G s = some (.ter t)) (hw : C.word[i]? = some t) :
    TBR C L st rk (i + 1) { s with e := i + 1, dot := s.dot + 1 } ∧
      i + 1 < C.word.length + 1 ∧ s.dot + 1 ≤ L :=
  ⟨⟨⟨scanned_ok hC r.toStOK hn hw, r.pth⟩, r.rl⟩,
    Nat.succ_lt_succ (List.getElem?_eq_some_iff.1 hw).1,
    Nat.le_trans (List.getElem?_eq_some_iff.1 hn).1 (hc.body s.prod)⟩

theorem tb_chain {C : Ctx} (hC : CtxOK C) {vals : List String} {L : Nat} (hc : TC C vals L) :
    Chain C (TBS C vals L) (TBR C L) (colBound C.spec.length C.word.length L vals.length) where
  toS := fun h => h.toBaseS
  toR := fun h => h.toBaseR
  adv := fun h hs hnx hi hcomp hnext => advance_tb hC hc h hs hnx hi hcomp hnext
  scan := fun h r0 hn hw => by
    obtain ⟨r, hi, hdot⟩ := scanned_tbr hC hc r0 hn hw
    exact TB.push hc h hi r hdot
  pred := fun h hget he =>
    TB.push hc h he ⟨⟨predicted_ok hC h.tab.toInvS hget _, h.tab.opth _ _ hget⟩, h.tab.rlo _ _ hget⟩
      (Nat.zero_le _)
  bound := fun h j => TB.acc_le h j

/-- `StartC` with what `TB` asks of the start store in addition -/
structure StartOK (C : Ctx) (L : Nat) (st0 : Store) (rk0 : Nat → Nat) : Prop
    extends StartC C st0 rk0 where
  hrlo : ∀ (k : Nat) (p : FProd), C.G.prods[k]? = some p → RootLab st0 p.feats L
  hrlg : RootLab st0 C.G.gammaFeats L

theorem StartOK.tbs {C : Ctx} {vals : List String} {L : Nat} {st0 : Store} {rk0 : Nat → Nat}
    (h0 : StartOK C L st0 rk0) : TBS C vals L st0 rk0 (List.replicate (C.word.length + 1) [])
      (C.word.length + 1) :=
  { h0.toStartC.baseS with
    rlo := h0.hrlo
    col := fun j => by rw [colGet_replicate]; exact ColOK.nil }

theorem StartOK.first {C : Ctx} (hC : CtxOK C) {L : Nat} {st0 : Store} {rk0 : Nat → Nat}
    (h0 : StartOK C L st0 rk0) : TBR C L st0 rk0 0
      { prod := C.G.prods.length, b := 0, e := 0, dot := 0, fs := C.G.gammaFeats } :=
  ⟨h0.toStartC.first hC, h0.hrlg⟩

theorem tb_init {C : Ctx} (hC : CtxOK C) {vals : List String} {L : Nat}
    (hc : TC C vals L) {st0 : Store} {rk0 : Nat → Nat} (h0 : StartOK C L st0 rk0) :
    TB C vals L (initT C.G st0 C.word.length) rk0 :=
  TB.push hc (Lay.empty h0.tbs) (Nat.succ_pos _) (h0.first hC) (Nat.zero_le _)

theorem contains_total {C : Ctx} (hC : CtxOK C) {vals : List String} {L : Nat}
    (hc : TC C vals L) {st0 : Store} {rk0 : Nat → Nat}
    (hw : WFS st0 rk0) (hlen : 2 ≤ st0.length)
    (hobjs : ∀ k p, C.G.prods[k]? = some p →
      p.feats < st0.length ∧ rk0 p.feats = 2 ∧ GoodObj C st0 k p.feats)
    (hgam : C.G.gammaFeats < st0.length ∧ rk0 C.G.gammaFeats = 2)
    (hsx : SX C.P st0 rk0) (hnv : C.featured = false → NoVal st0)
    (hcov : ∀ k p pr env, C.G.prods[k]? = some p → C.spec[k]? = some pr → C.okEnv k env →
      Cov C st0 p.feats k env)
    (hpth : ∀ k p, C.G.prods[k]? = some p → HasPaths C st0 p.feats k)
    (hgpth : HasPaths C st0 C.G.gammaFeats C.spec.length)
    (hrlo : ∀ (k : Nat) (p : FProd), C.G.prods[k]? = some p → RootLab st0 p.feats L)
    (hrlg : RootLab st0 C.G.gammaFeats L)
    {d : String} (hd : C.P d) {fuel : Nat}
    (hfuel : colBound C.spec.length C.word.length L vals.length + 1 ≤ fuel) :
    (contains C.G st0 C.word fuel).isSome = true :=
  chain_contains (tb_chain hC hc)
    (tb_init hC hc ⟨⟨⟨⟨hw, hobjs⟩, hsx, hnv, fun k p env hp =>
      hcov k p _ env hp (List.getElem?_eq_getElem (hC.prods_len ▸ (List.getElem?_eq_some_iff.1 hp).1)),
      hpth⟩, hgam, hgpth⟩, hrlo, hrlg⟩) hfuel

end Term
end Earley
end Pfl
