/-
The proofs of C16 (`Pfl/Props/C16_FST.lean` restates the results): paths (append / snoc), the relational oracle, the exploration loop of
`translate`, the library's renaming, and union / concatenation / star.  The three constructions are built over states tagged with the
operand index (the keys `(state, idx)` of `FSTStateRemaining`) and then renamed by `get_name`: the relations are proved for the tagged
transducers, where the copies are apart by their tags, and the renaming is one theorem (`relabel_rel`) whose hypothesis is
`rename_injective`.  The inclusions `Rel ⊆ …` (the three constructions, the renaming, completeness of the oracle) are labellings of
the states by relations that each transition respects (`Bound`, `Bound.rest`); the inclusions `… ⊆ Rel` copy paths (`path_embed`).
-/
import Pfl.Spec.FST
import Pfl.Oracle.FstRel
import Pfl.Proofs.FreshName
import Mathlib.Data.List.Nodup
namespace Pfl
namespace FST

/-- what `add_*` guarantees -/
structure WF {σ : Type} (T : FST σ) : Prop where
  starts_sub : ∀ q ∈ T.starts, q ∈ T.states
  finals_sub : ∀ q ∈ T.finals, q ∈ T.states
  src : ∀ t ∈ T.delta, t.1 ∈ T.states
  dst : ∀ t ∈ T.delta, t.2.2.1 ∈ T.states

theorem WF.grow {σ : Type} {T U : FST σ} (hT : T.WF) (hs : ∀ q ∈ T.states, q ∈ U.states)
    (hst : ∀ q ∈ U.starts, q ∈ T.starts ∨ q ∈ U.states)
    (hf : ∀ q ∈ U.finals, q ∈ T.finals ∨ q ∈ U.states)
    (hd : ∀ t ∈ U.delta, t ∈ T.delta ∨ (t.1 ∈ U.states ∧ t.2.2.1 ∈ U.states)) : U.WF where
  starts_sub q h := (hst q h).elim (fun h => hs _ (hT.starts_sub q h)) id
  finals_sub q h := (hf q h).elim (fun h => hs _ (hT.finals_sub q h)) id
  src t h := (hd t h).elim (fun h => hs _ (hT.src t h)) (·.1)
  dst t h := (hd t h).elim (fun h => hs _ (hT.dst t h)) (·.2)

namespace Lem
set_option linter.unusedSectionVars false
variable {σ : Type}

theorem Path.step {T : FST σ} {q r s : σ} {a : Option String} {i o o' : List String}
    (he : (q, a, r, o) ∈ T.delta) (hp : T.Path r i o' s) :
    T.Path q (a.toList ++ i) (o ++ o') s := by
  cases a with
  | none => exact .eps he hp
  | some a => exact .read he hp

theorem Path.ind {T : FST σ} {motive : ∀ (q s : σ) (i o : List String), T.Path q i o s → Prop}
    (nil : ∀ q, motive q q [] [] (.nil q))
    (step : ∀ {q r s : σ} {a : Option String} {i o o' : List String} (he : (q, a, r, o) ∈ T.delta)
      (hp : T.Path r i o' s), motive r s i o' hp →
        motive q s (a.toList ++ i) (o ++ o') (Path.step he hp))
    {q s : σ} {i o : List String} (h : T.Path q i o s) : motive q s i o h := by
  induction h with
  | nil q => exact nil q
  | eps he hp ih => exact step (a := none) he hp ih
  | read he hp ih => exact step (a := some _) he hp ih

theorem path_append {T : FST σ} {q r s : σ} {i i' o o' : List String}
    (h₁ : T.Path q i o r) (h₂ : T.Path r i' o' s) : T.Path q (i ++ i') (o ++ o') s := by
  induction h₁ using Path.ind with
  | nil q => exact h₂
  | step he _ ih => rw [List.append_assoc, List.append_assoc]; exact Path.step he (ih h₂)

theorem path_eps_one {T : FST σ} {q r : σ} {o : List String} (he : (q, none, r, o) ∈ T.delta) :
    T.Path q [] o r := by
  simpa using Path.eps he (Path.nil r)

theorem path_read_one {T : FST σ} {q r : σ} {a : String} {o : List String}
    (he : (q, some a, r, o) ∈ T.delta) : T.Path q [a] o r := by
  simpa using Path.read he (Path.nil r)

theorem path_snoc_eps {T : FST σ} {q r s : σ} {i o o' : List String}
    (h : T.Path q i o r) (he : (r, none, s, o') ∈ T.delta) : T.Path q i (o ++ o') s := by
  simpa using path_append h (path_eps_one he)

theorem path_snoc_read {T : FST σ} {q r s : σ} {a : String} {i o o' : List String}
    (h : T.Path q i o r) (he : (r, some a, s, o') ∈ T.delta) :
    T.Path q (i ++ [a]) (o ++ o') s :=
  path_append h (path_read_one he)

abbrev WRel := List String → List String → Prop

/-- what is left to do from `q`: some path to a final state reads `i` and writes `o`; `Rel T i o` unfolds to
`∃ s ∈ T.starts, Rest T s i o` -/
def Rest (T : FST σ) (q : σ) : WRel := fun i o => ∃ f ∈ T.finals, T.Path q i o f

/-- `L` gives every state a relation closed under reading a transition of `D` backwards: then `L q` holds
whatever a path from `q` to `r` reads and writes, followed by a pair of `L r`.  An upper bound on `Rel` is
proved by naming such relations and looking at each transition once. -/
def Bound (D : List (σ × Option String × σ × List String)) (L : σ → WRel) : Prop :=
  ∀ t ∈ D, ∀ i o, L t.2.2.1 i o → L t.1 (t.2.1.toList ++ i) (t.2.2.2 ++ o)

theorem Bound.rest {T : FST σ} {L : σ → WRel} (h : Bound T.delta L) (hf : ∀ f ∈ T.finals, L f [] [])
    {q : σ} {i o : List String} (hq : Rest T q i o) : L q i o := by
  obtain ⟨f, hfin, hp⟩ := hq
  induction hp using Path.ind with
  | nil q => exact hf q hfin
  | step he _ ih => exact h _ he _ _ (ih hfin)

theorem Rest.nil {T : FST σ} {f : σ} (hf : f ∈ T.finals) : Rest T f [] [] := ⟨f, hf, .nil f⟩

theorem Rest.bound (T : FST σ) : Bound T.delta (Rest T) :=
  fun _ ht _ _ h => h.imp fun _ hf => ⟨hf.1, Path.step ht hf.2⟩

/-- a path from `q` to a final state of `A`, then a pair of `K`: what the states of a copy of `A` are given
when the copy is left at its final states -/
def Then (A : FST σ) (K : WRel) (q : σ) : WRel := fun i o =>
  ∃ i₁ i₂ o₁ o₂, i = i₁ ++ i₂ ∧ o = o₁ ++ o₂ ∧ Rest A q i₁ o₁ ∧ K i₂ o₂

theorem Then.bound (A : FST σ) (K : WRel) : Bound A.delta (Then A K) := by
  rintro t ht _ _ ⟨i₁, i₂, o₁, o₂, rfl, rfl, h, hk⟩
  exact ⟨_, i₂, _, o₂, (List.append_assoc ..).symm, (List.append_assoc ..).symm, Rest.bound A t ht _ _ h, hk⟩

theorem Then.final {A : FST σ} {K : WRel} {f : σ} {i o : List String} (hf : f ∈ A.finals) (h : K i o) :
    Then A K f i o :=
  ⟨[], i, [], o, rfl, rfl, Rest.nil hf, h⟩

section oracle
variable [DecidableEq σ]

theorem mem_ocNext (T : FST σ) (w : List String) (c c' : OCfg σ) :
    c' ∈ ocNext T w c ↔
      (∃ r o, (c.1, none, r, o) ∈ T.delta ∧ c' = (r, c.2.1, c.2.2 ++ o)) ∨
      (∃ a r o, (c.1, some a, r, o) ∈ T.delta ∧ w[c.2.1]? = some a ∧
        c' = (r, c.2.1 + 1, c.2.2 ++ o)) := by
  unfold ocNext
  simp only [List.mem_filterMap]
  constructor
  · rintro ⟨⟨q, a, r, o⟩, ht, h⟩
    dsimp only at h
    by_cases hq : q = c.1
    · rw [if_pos hq] at h
      subst hq
      cases a with
      | none => exact Or.inl ⟨r, o, ht, (Option.some.inj h).symm⟩
      | some a =>
        dsimp only at h
        by_cases hw : w[c.2.1]? = some a
        · rw [if_pos hw] at h
          exact Or.inr ⟨a, r, o, ht, hw, (Option.some.inj h).symm⟩
        · rw [if_neg hw] at h
          cases h
    · rw [if_neg hq] at h
      cases h
  · rintro (⟨r, o, ht, rfl⟩ | ⟨a, r, o, ht, hw, rfl⟩)
    · exact ⟨_, ht, if_pos rfl⟩
    · exact ⟨_, ht, (if_pos rfl).trans (if_pos hw)⟩

theorem reach_path (T : FST σ) (w : List String) (s : σ) {c : OCfg σ}
    (h : Reach (ocNext T w) (s, 0, []) c) : T.Path s (w.take c.2.1) c.2.2 c.1 := by
  induction h with
  | refl => exact Path.nil s
  | tail _ hz ih =>
    rcases (mem_ocNext T w _ _).mp hz with ⟨r, o, ht, rfl⟩ | ⟨a, r, o, ht, hw, rfl⟩
    · exact path_snoc_eps ih ht
    · rw [List.take_add_one, hw]
      exact path_snoc_read ih ht

theorem rest_reach (T : FST σ) (w : List String) {q : σ} {i o : List String} (h : Rest T q i o) :
    ∀ pre o₀, w = pre ++ i →
      ∃ f ∈ T.finals, Reach (ocNext T w) (q, pre.length, o₀) (f, w.length, o₀ ++ o) := by
  apply Bound.rest ?_ ?_ h
  · rintro ⟨q, a, r, o₁⟩ ht i o ih pre o₀ hw
    rw [← List.append_assoc]
    cases a with
    | none =>
      exact (ih pre (o₀ ++ o₁) hw).imp fun f hf => ⟨hf.1,
        .head ((mem_ocNext T w _ _).mpr (.inl ⟨r, o₁, ht, rfl⟩)) hf.2⟩
    | some a =>
      have := ih (pre ++ [a]) (o₀ ++ o₁) (by simp [hw])
      rw [List.length_append] at this
      exact this.imp fun f hf => ⟨hf.1,
        .head ((mem_ocNext T w _ _).mpr (.inr ⟨a, r, o₁, ht, by simp [hw], rfl⟩)) hf.2⟩
  · intro f hf pre o₀ hw
    rw [hw, List.append_nil, List.append_nil]
    exact ⟨f, hf, .refl _⟩

theorem relOutputs_iff (T : FST σ) (w : List String) (fuel : Nat) (outs : List (List String))
    (h : T.relOutputs w fuel = some outs) (o : List String) : o ∈ outs ↔ T.Rel w o := by
  unfold relOutputs at h
  obtain ⟨seen, hb, rfl⟩ := Option.map_eq_some_iff.mp h
  simp only [List.mem_eraseDups, List.mem_map, List.mem_filter, decide_eq_true_eq]
  constructor
  · rintro ⟨c, ⟨hc, hf, hpos⟩, rfl⟩
    obtain ⟨s0, hs0, hr⟩ := (mem_bfs_iff _ _ _ _ hb c).mp hc
    obtain ⟨s, hs, rfl⟩ := List.mem_map.mp hs0
    have hp := reach_path T w s hr
    rw [hpos, List.take_length] at hp
    exact ⟨s, hs, c.1, hf, hp⟩
  · rintro ⟨s, hs, hfin⟩
    obtain ⟨f, hf, hr⟩ := rest_reach T w hfin [] [] rfl
    exact ⟨(f, w.length, o), ⟨(mem_bfs_iff _ _ _ _ hb _).mpr ⟨_, List.mem_map.mpr ⟨s, hs, rfl⟩, hr⟩, hf, rfl⟩,
      rfl⟩

end oracle

section translate
variable [DecidableEq σ]

/-- successors of a configuration of `translate` under the length bound `ml` -/
def next (T : FST σ) (ml : Option Nat) (c : Cfg σ) : List (Cfg σ) :=
  (match c.1 with
    | [] => []
    | a :: rest => (T.delta.filter fun t => t.1 = c.2.2 ∧ t.2.1 = some a).map
        fun t => (rest, c.2.1 ++ t.2.2.2, t.2.2.1)) ++
  (if (match ml with | none => true | some m => decide (c.2.1.length < m)) then
    (T.delta.filter fun t => t.1 = c.2.2 ∧ t.2.1 = none).map
      fun t => (c.1, c.2.1 ++ t.2.2.2, t.2.2.1)
  else [])

theorem loop_succ (T : FST σ) (ml : Option Nat) (fuel : Nat) (c : Cfg σ) (stack seen : List (Cfg σ))
    (out : List (List String)) :
    translateLoop T ml (fuel + 1) (c :: stack) seen out =
      if c ∈ seen then translateLoop T ml fuel stack seen out else
        translateLoop T ml fuel ((next T ml c).reverse ++ stack) (c :: seen)
          (if c.1.isEmpty ∧ c.2.2 ∈ T.finals then c.2.1 :: out else out) := rfl

theorem loop_nil (T : FST σ) (ml : Option Nat) (fuel : Nat) (seen : List (Cfg σ))
    (out : List (List String)) : translateLoop T ml fuel [] seen out = some out.reverse := by
  cases fuel <;> rfl

theorem mem_map_moves {β : Type} (T : FST σ) (q : σ) (a : Option String)
    (g : σ × Option String × σ × List String → β) (y : β) :
    y ∈ (T.delta.filter fun t => t.1 = q ∧ t.2.1 = a).map g ↔
      ∃ r o, (q, a, r, o) ∈ T.delta ∧ y = g (q, a, r, o) := by
  simp only [List.mem_map, List.mem_filter, decide_eq_true_eq]
  constructor
  · rintro ⟨⟨q', a', r, o⟩, ⟨ht, rfl, rfl⟩, rfl⟩
    exact ⟨r, o, ht, rfl⟩
  · rintro ⟨r, o, ht, rfl⟩
    exact ⟨_, ⟨ht, rfl, rfl⟩, rfl⟩

theorem mem_next {T : FST σ} {ml : Option Nat} {c c' : Cfg σ} :
    c' ∈ next T ml c ↔
      (∃ a rest r o, c.1 = a :: rest ∧ (c.2.2, some a, r, o) ∈ T.delta ∧ c' = (rest, c.2.1 ++ o, r)) ∨
      (∃ r o, (c.2.2, none, r, o) ∈ T.delta ∧ (∀ m, ml = some m → c.2.1.length < m) ∧
        c' = (c.1, c.2.1 ++ o, r)) := by
  obtain ⟨rem, gen, q⟩ := c
  rw [next.eq_def, List.mem_append]
  refine or_congr ?_ ?_
  · cases rem with
    | nil => simp
    | cons a rest =>
      rw [mem_map_moves]
      constructor
      · rintro ⟨r, o, ht, rfl⟩
        exact ⟨a, rest, r, o, rfl, ht, rfl⟩
      · rintro ⟨a', rest', r, o, h, ht, rfl⟩
        cases h
        exact ⟨r, o, ht, rfl⟩
  · have hb : (match ml with | none => true | some m => decide (gen.length < m)) = true ↔
        ∀ m, ml = some m → gen.length < m := by
      cases ml <;> simp
    by_cases h : ∀ m, ml = some m → gen.length < m
    · rw [if_pos (hb.2 h), mem_map_moves]
      exact exists₂_congr fun r o => by rw [and_iff_right h]
    · rw [if_neg (fun h' => h (hb.1 h'))]
      simp [h]

/-- the state of the exploration from the configurations `seeds`: `out` lists the outputs of the accepting configurations
seen, the seeds and the successors of a seen configuration are seen or wait on the stack, and `P` holds of everything met -/
structure LoopInv (T : FST σ) (ml : Option Nat) (P : Cfg σ → Prop) (seeds stack seen : List (Cfg σ))
    (out : List (List String)) : Prop where
  out : ∀ o, o ∈ out ↔ ∃ c ∈ seen, c.1 = [] ∧ c.2.2 ∈ T.finals ∧ c.2.1 = o
  seeds : ∀ c ∈ seeds, c ∈ seen ∨ c ∈ stack
  closed : ∀ c ∈ seen, ∀ c' ∈ next T ml c, c' ∈ seen ∨ c' ∈ stack
  seenP : ∀ c ∈ seen, P c
  stackP : ∀ c ∈ stack, P c

theorem LoopInv.skip {T : FST σ} {ml : Option Nat} {P : Cfg σ → Prop} {c : Cfg σ}
    {seeds stack seen : List (Cfg σ)} {out : List (List String)}
    (h : LoopInv T ml P seeds (c :: stack) seen out) (hc : c ∈ seen) : LoopInv T ml P seeds stack seen out := by
  have cov : ∀ {d}, d ∈ seen ∨ d ∈ c :: stack → d ∈ seen ∨ d ∈ stack := fun h' =>
    h'.elim .inl fun h' => (List.mem_cons.mp h').elim (fun e => .inl (e ▸ hc)) .inr
  exact ⟨h.out, fun d hd => cov (h.seeds d hd), fun d hd d' hd' => cov (h.closed d hd d' hd'), h.seenP,
    fun d hd => h.stackP d (List.mem_cons_of_mem _ hd)⟩

theorem LoopInv.expand {T : FST σ} {ml : Option Nat} {P : Cfg σ → Prop}
    (hP : ∀ c c', P c → c' ∈ next T ml c → P c') {c : Cfg σ} {seeds stack seen : List (Cfg σ)}
    {out : List (List String)} (h : LoopInv T ml P seeds (c :: stack) seen out) :
    LoopInv T ml P seeds ((next T ml c).reverse ++ stack) (c :: seen)
      (if c.1.isEmpty ∧ c.2.2 ∈ T.finals then c.2.1 :: out else out) := by
  have cov : ∀ {d}, d ∈ seen ∨ d ∈ c :: stack → d ∈ c :: seen ∨ d ∈ (next T ml c).reverse ++ stack := fun h' =>
    h'.elim (fun h' => .inl (List.mem_cons_of_mem _ h')) fun h' =>
      (List.mem_cons.mp h').elim (fun e => .inl (e ▸ List.mem_cons_self)) fun h' => .inr (List.mem_append_right _ h')
  refine ⟨fun o => ?_, fun d hd => cov (h.seeds d hd), fun d hd d' hd' => ?_,
    List.forall_mem_cons.2 ⟨h.stackP c List.mem_cons_self, h.seenP⟩, fun d hd => ?_⟩
  · rw [List.exists_mem_cons_iff, ← h.out o, ← List.isEmpty_iff]
    by_cases hfin : c.1.isEmpty ∧ c.2.2 ∈ T.finals
    · rw [if_pos hfin, List.mem_cons, eq_comm, and_iff_right hfin.1, and_iff_right hfin.2]
    · rw [if_neg hfin]
      exact (or_iff_right fun hc => hfin ⟨hc.1, hc.2.1⟩).symm
  · rcases List.mem_cons.mp hd with rfl | hd
    · exact .inr (List.mem_append_left _ (List.mem_reverse.mpr hd'))
    · exact cov (h.closed d hd d' hd')
  · exact (List.mem_append.mp hd).elim
      (fun hd => hP c d (h.stackP c List.mem_cons_self) (List.mem_reverse.mp hd))
      fun hd => h.stackP d (List.mem_cons_of_mem _ hd)

theorem translateLoop_inv (T : FST σ) (ml : Option Nat) (P : Cfg σ → Prop)
    (hP : ∀ c c', P c → c' ∈ next T ml c → P c') (seeds : List (Cfg σ)) (fuel : Nat) :
    ∀ (stack seen : List (Cfg σ)) (out outs : List (List String)),
      translateLoop T ml fuel stack seen out = some outs → LoopInv T ml P seeds stack seen out →
      ∃ seen', LoopInv T ml P seeds [] seen' outs := by
  intro stack seen out
  fun_induction translateLoop T ml fuel stack seen out with
  | case1 fuel seen out =>
    rintro _ ⟨⟩ hI
    exact ⟨seen, fun o => List.mem_reverse.trans (hI.out o), hI.seeds, hI.closed, hI.seenP, hI.stackP⟩
  | case2 => exact fun _ h => nomatch h
  | case3 fuel rem gen q stack seen out hcs ih => exact fun outs h hI => ih outs h (hI.skip hcs)
  | case4 fuel rem gen q stack seen out hcs out' reads eps ih =>
    -- `reads ++ eps` is `next T ml (rem, gen, q)`
    exact fun outs h hI => ih outs h (hI.expand hP)

theorem closed_path (T : FST σ) (S : List (Cfg σ)) (hS : ∀ c ∈ S, ∀ c' ∈ next T none c, c' ∈ S)
    {q r : σ} {i o : List String} (h : T.Path q i o r) :
    ∀ rem gen, (i ++ rem, gen, q) ∈ S → (rem, gen ++ o, r) ∈ S := by
  induction h with
  | nil q => intro rem gen h; simpa using h
  | @eps q r s i o o' he _ ih =>
    intro rem gen h
    rw [← List.append_assoc]
    exact ih rem _ (hS _ h _ (mem_next.mpr (Or.inr ⟨r, o, he, nofun, rfl⟩)))
  | @read q r s a i o o' he _ ih =>
    intro rem gen h
    rw [← List.append_assoc]
    exact ih rem _ (hS _ h _ (mem_next.mpr (Or.inl ⟨a, i ++ rem, r, o, rfl, he, rfl⟩)))

/-- a path from a start state has read what is gone of `w`, written `c.2.1` and ends in the state of `c` -/
def Reached (T : FST σ) (w : List String) (c : Cfg σ) : Prop :=
  ∃ s ∈ T.starts, ∃ pre, w = pre ++ c.1 ∧ T.Path s pre c.2.1 c.2.2

theorem reached_start {T : FST σ} (w : List String) {s : σ} (hs : s ∈ T.starts) :
    Reached T w (w, [], s) :=
  ⟨s, hs, [], rfl, Path.nil s⟩

theorem reached_next {T : FST σ} {w : List String} {ml : Option Nat} {c c' : Cfg σ}
    (h : Reached T w c) (hc : c' ∈ next T ml c) : Reached T w c' := by
  obtain ⟨s, hs, pre, hw, hp⟩ := h
  rcases mem_next.mp hc with ⟨a, rest, r, o, hrem, ht, rfl⟩ | ⟨r, o, ht, _, rfl⟩
  · exact ⟨s, hs, pre ++ [a], by simp [hw, hrem], path_snoc_read hp ht⟩
  · exact ⟨s, hs, pre, hw, path_snoc_eps hp ht⟩

theorem translate_exact (T : FST σ) (w : List String) (fuel : Nat) (outs : List (List String))
    (h : T.translate w none fuel = some outs) (o : List String) : o ∈ outs ↔ T.Rel w o := by
  obtain ⟨seen', hI⟩ := translateLoop_inv T none (Reached T w) (fun _ _ => reached_next) _
    fuel _ [] [] outs h ⟨by simp, fun _ => .inr, nofun, nofun,
      List.forall_mem_map.2 fun _ hs => reached_start w (List.mem_reverse.mp hs)⟩
  rw [hI.out o]
  constructor
  · rintro ⟨⟨rem, gen, q⟩, hc, hrem, hf, rfl⟩
    obtain ⟨s, hs, pre, hw, hp⟩ := hI.seenP _ hc
    dsimp only at hrem hw hp hf ⊢
    subst hrem
    rw [List.append_nil] at hw
    subst hw
    exact ⟨s, hs, q, hf, hp⟩
  · rintro ⟨s, hs, f, hf, hp⟩
    have := closed_path T seen' (fun c hc c' hc' => (hI.closed c hc c' hc').resolve_right
      List.not_mem_nil) hp [] [] ((hI.seeds _ (by
        rw [List.append_nil]
        exact List.mem_map.mpr ⟨s, List.mem_reverse.mpr hs, rfl⟩)).resolve_right List.not_mem_nil)
    exact ⟨_, this, rfl, hf, List.nil_append o⟩

end translate

/-- the renaming state after the keys `keys` have been added: `seen` lists the names given, pairwise
distinct -/
def RenInv (st : List ((String × Nat) × String) × List String) (keys : List (String × Nat)) : Prop :=
  st.1.map (·.1) = keys ∧ st.2 = st.1.map (·.2) ∧ st.2.Nodup

theorem renameAdd_spec (st : List ((String × Nat) × String) × List String) (s : String) (idx : Nat) :
    ∃ nw, nw ∉ st.2 ∧ renameAdd st s idx = (st.1 ++ [((s, idx), nw)], st.2 ++ [nw]) := by
  obtain ⟨ren, seen⟩ := st
  unfold renameAdd
  dsimp only
  by_cases hmem : s ∈ seen
  · obtain ⟨nw, hfind, hnw⟩ :=
      find_fresh (fun c => s ++ toString c) (fun _ _ => Fresh.suffix_inj s) seen
    rw [if_pos hmem, hfind]
    exact ⟨nw, hnw, rfl⟩
  · rw [if_neg hmem]
    exact ⟨s, hmem, rfl⟩

theorem renameAdd_inv {st : List ((String × Nat) × String) × List String} {keys : List (String × Nat)}
    (h : RenInv st keys) (s : String) (idx : Nat) : RenInv (renameAdd st s idx) (keys ++ [(s, idx)]) := by
  obtain ⟨nw, hnw, he⟩ := renameAdd_spec st s idx
  rw [he]
  refine ⟨by simp [h.1], by simp [h.2.1], ?_⟩
  dsimp only
  rw [← List.concat_eq_append]
  exact h.2.2.concat hnw

theorem renameAll_inv (states : List String) (idx : Nat) :
    ∀ {st : List ((String × Nat) × String) × List String} {keys : List (String × Nat)}, RenInv st keys →
      RenInv (renameAll st states idx) (keys ++ states.map fun s => (s, idx)) := by
  induction states with
  | nil => intro st keys h; simpa [renameAll] using h
  | cons s rest ih =>
    intro st keys h
    have := ih (renameAdd_inv h s idx)
    rwa [List.append_assoc] at this

theorem getName_spec (ren : List ((String × Nat) × String)) (s : String) (idx : Nat)
    (h : (s, idx) ∈ ren.map (·.1)) : ∃ e ∈ ren, e.1 = (s, idx) ∧ getName ren s idx = e.2 := by
  obtain ⟨e, he, hk⟩ := List.mem_map.mp h
  have hsome : (ren.find? fun e => decide (e.1 = (s, idx))).isSome :=
    List.find?_isSome.mpr ⟨e, he, decide_eq_true hk⟩
  obtain ⟨e', hf⟩ := Option.isSome_iff_exists.mp hsome
  have hk' : e'.1 = (s, idx) := by simpa using List.find?_some hf
  refine ⟨e', List.mem_of_find?_eq_some hf, hk', ?_⟩
  unfold getName
  rw [hf]
  rfl

theorem rename_injective (sa sb : List String) :
    let ren := (renameAll (renameAll ([], []) sa 0) sb 1).1
    ∀ p ∈ (sa.map fun s => (s, 0)) ++ sb.map fun s => (s, 1),
    ∀ q ∈ (sa.map fun s => (s, 0)) ++ sb.map fun s => (s, 1),
      getName ren p.1 p.2 = getName ren q.1 q.2 → p = q := by
  intro ren p hp q hq he
  obtain ⟨hk, hv, hnd⟩ : RenInv (renameAll (renameAll ([], []) sa 0) sb 1)
      ((sa.map fun s => (s, 0)) ++ sb.map fun s => (s, 1)) :=
    renameAll_inv sb 1 (renameAll_inv sa 0 (keys := []) ⟨rfl, rfl, List.nodup_nil⟩)
  -- each key is registered, so `getName` returns the name of an entry; names are pairwise distinct
  obtain ⟨e, hem, hek, hen⟩ := getName_spec ren p.1 p.2 (hk ▸ hp)
  obtain ⟨e', hem', hek', hen'⟩ := getName_spec ren q.1 q.2 (hk ▸ hq)
  cases List.inj_on_of_nodup_map (hv ▸ hnd) hem hem' (by rw [← hen, ← hen', he])
  exact hek.symm.trans hek'

/-- the renaming of two operands with state lists `sa`, `sb`: the one of `union` and `concatenate`, and
of `kleene_star` with the single state `star` as second operand -/
def ren2 (sa sb : List String) : List ((String × Nat) × String) :=
  (renameAll (renameAll ([], []) sa 0) sb 1).1

def keys2 (sa sb : List String) : List (String × Nat) :=
  (sa.map fun s => (s, 0)) ++ sb.map fun s => (s, 1)

theorem key2_left {sa sb : List String} {q : String} (h : q ∈ sa) : (q, 0) ∈ keys2 sa sb :=
  List.mem_append_left _ (List.mem_map.mpr ⟨q, h, rfl⟩)

theorem key2_right {sa sb : List String} {q : String} (h : q ∈ sb) : (q, 1) ∈ keys2 sa sb :=
  List.mem_append_right _ (List.mem_map.mpr ⟨q, h, rfl⟩)

section embed
variable {ρ : Type}

theorem path_embed {A : FST σ} {K : FST ρ} (f : σ → ρ)
    (h : ∀ q a r o, (q, a, r, o) ∈ A.delta → (f q, a, f r, o) ∈ K.delta)
    {q r : σ} {i o : List String} (hp : A.Path q i o r) : K.Path (f q) i o (f r) := by
  induction hp using Path.ind with
  | nil q => exact Path.nil _
  | step he _ ih => exact Path.step (h _ _ _ _ he) ih

end embed

theorem mem_mapT (ren : List ((String × Nat) × String)) (idx : Nat) (T : FST String)
    (x : String) (a : Option String) (y : String) (o : List String) :
    (x, a, y, o) ∈ mapT ren idx T ↔
      ∃ q r, (q, a, r, o) ∈ T.delta ∧ x = getName ren q idx ∧ y = getName ren r idx := by
  unfold mapT
  simp only [List.mem_map, Prod.mk.injEq]
  constructor
  · rintro ⟨⟨q, a', r, o'⟩, ht, rfl, rfl, rfl, rfl⟩
    exact ⟨q, r, ht, rfl, rfl⟩
  · rintro ⟨q, r, ht, rfl, rfl⟩
    exact ⟨_, ht, rfl, rfl, rfl, rfl⟩

section tagged
variable {ρ : Type}

/-- a transition with both states renamed by `h` -/
def mapE (h : ρ → σ) (t : ρ × Option String × ρ × List String) : σ × Option String × σ × List String :=
  (h t.1, t.2.1, h t.2.2.1, t.2.2.2)

/-- `K₀` rebuilt by `add_*` with every state `k` renamed to `h k` -/
def relabel [DecidableEq σ] (h : ρ → σ) (K₀ : FST ρ) : FST σ :=
  ofParts (K₀.starts.map h) (K₀.finals.map h) (K₀.delta.map (mapE h))

theorem relabel_rel [DecidableEq σ] {h : ρ → σ} {K₀ : FST ρ} (S : ρ → Prop)
    (hinj : ∀ x, S x → ∀ y, S y → h x = h y → x = y)
    (hs : ∀ s ∈ K₀.starts, S s) (hf : ∀ s ∈ K₀.finals, S s)
    (hd : ∀ t ∈ K₀.delta, S t.1 ∧ S t.2.2.1) (i o : List String) :
    (relabel h K₀).Rel i o ↔ K₀.Rel i o := by
  constructor
  · rintro ⟨x, hx, hfin⟩
    obtain ⟨s, hs', rfl⟩ := List.mem_map.mp (List.mem_eraseDups.mp hx)
    -- the state `h q` is given what `q` can still do
    have hb : Bound (relabel h K₀).delta fun x i o => ∃ q, S q ∧ x = h q ∧ Rest K₀ q i o :=
      List.forall_mem_map.2 fun t ht i o => by
        rintro ⟨r, hr, e, hfin⟩
        cases hinj _ (hd t ht).2 r hr e
        exact ⟨t.1, (hd t ht).1, rfl, Rest.bound K₀ t ht i o hfin⟩
    obtain ⟨q, hq, e, hfin⟩ := hb.rest (fun f hf' => by
      obtain ⟨f0, hf0, rfl⟩ := List.mem_map.mp (List.mem_eraseDups.mp hf')
      exact ⟨f0, hf f0 hf0, rfl, Rest.nil hf0⟩) hfin
    cases hinj s (hs s hs') q hq e
    exact ⟨s, hs', hfin⟩
  · rintro ⟨s, hs', f, hf', hp⟩
    exact ⟨h s, List.mem_eraseDups.mpr (List.mem_map_of_mem hs'), h f,
      List.mem_eraseDups.mpr (List.mem_map_of_mem hf'),
      path_embed (K := relabel h K₀) h (fun q a r o he => List.mem_map.mpr ⟨_, he, rfl⟩) hp⟩

/-- start states, final states and transitions: all that `Rel` looks at -/
def bare (s f : List ρ) (d : List (ρ × Option String × ρ × List String)) : FST ρ := ⟨[], [], [], s, f, d⟩

/-- the transitions of operand `idx` between tagged states -/
def tagD (idx : Nat) (A : FST σ) : List ((σ × Nat) × Option String × (σ × Nat) × List String) :=
  A.delta.map (mapE (·, idx))

theorem path_tag {idx : Nat} {A : FST σ} {K : FST (σ × Nat)} (h : ∀ t ∈ tagD idx A, t ∈ K.delta)
    {q r : σ} {i o : List String} (hp : A.Path q i o r) : K.Path (q, idx) i o (r, idx) :=
  path_embed (·, idx) (fun _ _ _ _ he => h _ (List.mem_map_of_mem (f := mapE (·, idx)) he)) hp

theorem tagD_keys {A : FST σ} (hA : A.WF) {idx : Nat} {keys : List (σ × Nat)}
    (hk : ∀ q ∈ A.states, (q, idx) ∈ keys) : ∀ t ∈ tagD idx A, t.1 ∈ keys ∧ t.2.2.1 ∈ keys :=
  List.forall_mem_map.2 fun t ht => ⟨hk _ (hA.src t ht), hk _ (hA.dst t ht)⟩

def onTag (L₀ L₁ : σ → WRel) : σ × Nat → WRel
  | (q, 0) => L₀ q
  | (q, _ + 1) => L₁ q

theorem Bound.tagD {A : FST σ} {L : σ → WRel} (h : Bound A.delta L) (idx : Nat) {L' : σ × Nat → WRel}
    (e : ∀ q, L' (q, idx) = L q) : Bound (tagD idx A) L' :=
  List.forall_mem_map.2 fun t ht i o => by
    dsimp only [mapE]
    rw [e, e]
    exact h t ht i o

/-- `union`, `concatenate`, `kleene_star` as fst.py builds them before `get_name` renames the states: over the keys
`(state, idx)` -/
def unionT (A B : FST σ) : FST (σ × Nat) :=
  bare (A.starts.map (·, 0) ++ B.starts.map (·, 1)) (A.finals.map (·, 0) ++ B.finals.map (·, 1))
    (tagD 0 A ++ tagD 1 B)

theorem unionT_rel (A B : FST σ) (i o : List String) :
    (unionT A B).Rel i o ↔ A.Rel i o ∨ B.Rel i o := by
  constructor
  · rintro ⟨s, hs, h⟩
    have hb : Bound (unionT A B).delta (onTag (Rest A) (Rest B)) := List.forall_mem_append.2
      ⟨(Rest.bound A).tagD 0 fun _ => rfl, (Rest.bound B).tagD 1 fun _ => rfl⟩
    have := hb.rest (List.forall_mem_append.2 ⟨List.forall_mem_map.2 fun _ => Rest.nil,
      List.forall_mem_map.2 fun _ => Rest.nil⟩) h
    rcases List.mem_append.mp hs with hs | hs <;> obtain ⟨s0, hs0, rfl⟩ := List.mem_map.mp hs
    · exact .inl ⟨s0, hs0, this⟩
    · exact .inr ⟨s0, hs0, this⟩
  · rintro (⟨s, hs, fin, hfin, hp⟩ | ⟨s, hs, fin, hfin, hp⟩)
    · exact ⟨(s, 0), List.mem_append_left _ (List.mem_map_of_mem hs), (fin, 0),
        List.mem_append_left _ (List.mem_map_of_mem hfin),
        path_tag (fun _ => List.mem_append_left _) hp⟩
    · exact ⟨(s, 1), List.mem_append_right _ (List.mem_map_of_mem hs), (fin, 1),
        List.mem_append_right _ (List.mem_map_of_mem hfin),
        path_tag (fun _ => List.mem_append_right _) hp⟩

/-- the name that `FSTStateRemaining` holds for a tagged state -/
def nameOf (ren : List ((String × Nat) × String)) (k : String × Nat) : String := getName ren k.1 k.2

theorem mapT_eq (ren : List ((String × Nat) × String)) (idx : Nat) (A : FST String) :
    mapT ren idx A = (tagD idx A).map (mapE (nameOf ren)) := by
  rw [tagD, List.map_map]; rfl

theorem union_eq (A B : FST String) :
    A.union B = relabel (nameOf (ren2 A.states B.states)) (unionT A B) := by
  simp only [relabel, unionT, bare, List.map_append, List.map_map, ← mapT_eq]
  rfl

theorem union_rel (A B : FST String) (hA : A.WF) (hB : B.WF) (i o : List String) :
    (A.union B).Rel i o ↔ A.Rel i o ∨ B.Rel i o := by
  rw [union_eq]
  refine (relabel_rel (· ∈ keys2 A.states B.states) (rename_injective _ _) ?_ ?_ ?_ i o).trans
    (unionT_rel A B i o)
  · exact fun s hs => List.mem_append.mpr ((List.mem_append.mp hs).imp
      (List.map_subset _ hA.starts_sub ·) (List.map_subset _ hB.starts_sub ·))
  · exact fun s hs => List.mem_append.mpr ((List.mem_append.mp hs).imp
      (List.map_subset _ hA.finals_sub ·) (List.map_subset _ hB.finals_sub ·))
  · exact List.forall_mem_append.2 ⟨tagD_keys hA fun _ => key2_left, tagD_keys hB fun _ => key2_right⟩

def concatT (A B : FST σ) : FST (σ × Nat) :=
  bare (A.starts.map (·, 0)) (B.finals.map (·, 1))
    (tagD 0 A ++ tagD 1 B ++ A.finals.flatMap fun f => B.starts.map fun s => ((f, 0), none, (s, 1), []))

theorem concatT_rel (A B : FST σ) (i o : List String) :
    (concatT A B).Rel i o ↔
      ∃ i₁ i₂ o₁ o₂, i = i₁ ++ i₂ ∧ o = o₁ ++ o₂ ∧ A.Rel i₁ o₁ ∧ B.Rel i₂ o₂ := by
  constructor
  · rintro ⟨s, hs, h⟩
    have hb : Bound (concatT A B).delta (onTag (Then A B.Rel) (Rest B)) := List.forall_mem_append.2
      ⟨List.forall_mem_append.2 ⟨(Then.bound A _).tagD 0 fun _ => rfl, (Rest.bound B).tagD 1 fun _ => rfl⟩,
        -- the bridge: what a start state of `B` can still do is a pair of `B.Rel`
        List.forall_mem_flatMap.2 fun f hf => List.forall_mem_map.2 fun s hs i o h =>
          Then.final hf ⟨s, hs, h⟩⟩
    obtain ⟨s0, hs0, rfl⟩ := List.mem_map.mp hs
    obtain ⟨i₁, i₂, o₁, o₂, hi, ho, h1, h2⟩ := hb.rest (List.forall_mem_map.2 fun _ => Rest.nil) h
    exact ⟨i₁, i₂, o₁, o₂, hi, ho, ⟨s0, hs0, h1⟩, h2⟩
  · rintro ⟨i₁, i₂, o₁, o₂, rfl, rfl, ⟨sa, hsa, fa, hfa, hp1⟩, ⟨sb, hsb, fb, hfb, hp2⟩⟩
    refine ⟨_, List.mem_map_of_mem hsa, _, List.mem_map_of_mem hfb, path_append
      (path_tag (fun _ h => List.mem_append_left _ (List.mem_append_left _ h)) hp1)
      (Path.eps (o := []) (List.mem_append_right _ (List.mem_flatMap.mpr ⟨fa, hfa, List.mem_map_of_mem hsb⟩))
        (path_tag (fun _ h => List.mem_append_left _ (List.mem_append_right _ h)) hp2))⟩

theorem concat_eq (A B : FST String) :
    A.concatenate B = relabel (nameOf (ren2 A.states B.states)) (concatT A B) := by
  simp only [relabel, concatT, bare, List.map_append, List.map_flatMap, List.map_map, ← mapT_eq]
  rfl

theorem concatenate_rel (A B : FST String) (hA : A.WF) (hB : B.WF) (i o : List String) :
    (A.concatenate B).Rel i o ↔
      ∃ i₁ i₂ o₁ o₂, i = i₁ ++ i₂ ∧ o = o₁ ++ o₂ ∧ A.Rel i₁ o₁ ∧ B.Rel i₂ o₂ := by
  rw [concat_eq]
  refine (relabel_rel (· ∈ keys2 A.states B.states) (rename_injective _ _) ?_ ?_ ?_ i o).trans
    (concatT_rel A B i o)
  · exact fun s hs => List.mem_append_left _ (List.map_subset _ hA.starts_sub hs)
  · exact fun s hs => List.mem_append_right _ (List.map_subset _ hB.finals_sub hs)
  · exact List.forall_mem_append.2
      ⟨List.forall_mem_append.2 ⟨tagD_keys hA fun _ => key2_left, tagD_keys hB fun _ => key2_right⟩,
        List.forall_mem_flatMap.2 fun f hf => List.forall_mem_map.2 fun s hs =>
          ⟨key2_left (hA.finals_sub _ hf), key2_right (hB.starts_sub _ hs)⟩⟩

/-- `(x₀, 1)` is the hub, the key `("star", 1)` -/
def starT (A : FST σ) (x₀ : σ) : FST (σ × Nat) :=
  bare [(x₀, 1)] [(x₀, 1)] (tagD 0 A ++ A.starts.map (fun s => ((x₀, 1), none, (s, 0), [])) ++
    A.finals.map fun f => ((f, 0), none, (x₀, 1), []))

/-- the words of a list of rounds -/
abbrev Rounds (A : FST σ) (i o : List String) : Prop :=
  ∃ ps : List (List String × List String),
    i = (ps.map (·.1)).flatten ∧ o = (ps.map (·.2)).flatten ∧ ∀ p ∈ ps, A.Rel p.1 p.2

theorem starT_of_rounds (A : FST σ) (x₀ : σ) (ps : List (List String × List String))
    (h : ∀ p ∈ ps, A.Rel p.1 p.2) :
    (starT A x₀).Path (x₀, 1) (ps.map (·.1)).flatten (ps.map (·.2)).flatten (x₀, 1) := by
  induction ps with
  | nil => exact Path.nil _
  | cons p ps ih =>
    obtain ⟨⟨s, hs, fa, hfa, hp⟩, hrest⟩ := List.forall_mem_cons.mp h
    exact Path.eps (o := []) (List.mem_append_left _ (List.mem_append_right _ (List.mem_map_of_mem hs)))
      (path_append
        (path_tag (fun _ h => List.mem_append_left _ (List.mem_append_left _ h)) hp)
        (Path.eps (o := []) (List.mem_append_right _ (List.mem_map_of_mem hfa)) (ih hrest)))

theorem starT_rel (A : FST σ) (x₀ : σ) (i o : List String) : (starT A x₀).Rel i o ↔ Rounds A i o := by
  constructor
  · rintro ⟨s, hs, h⟩
    -- the hub holds the rounds; entering the copy at a start state is one more round
    have hb : Bound (starT A x₀).delta (onTag (Then A (Rounds A)) fun _ => Rounds A) := List.forall_mem_append.2
      ⟨List.forall_mem_append.2 ⟨(Then.bound A _).tagD 0 fun _ => rfl,
        List.forall_mem_map.2 fun s hs i o => by
          rintro ⟨i₁, i₂, o₁, o₂, rfl, rfl, h, ps, rfl, rfl, hps⟩
          exact ⟨(i₁, o₁) :: ps, rfl, rfl, List.forall_mem_cons.mpr ⟨⟨s, hs, h⟩, hps⟩⟩⟩,
        List.forall_mem_map.2 fun f hf i o h => Then.final hf h⟩
    cases List.mem_singleton.mp hs
    exact hb.rest (fun f hf => List.mem_singleton.mp hf ▸ ⟨[], rfl, rfl, nofun⟩) h
  · rintro ⟨ps, rfl, rfl, hps⟩
    exact ⟨_, List.mem_singleton_self _, _, List.mem_singleton_self _, starT_of_rounds A x₀ ps hps⟩

theorem star_eq (A : FST String) :
    A.kleeneStar = relabel (nameOf (ren2 A.states ["star"])) (starT A "star") := by
  simp only [relabel, starT, bare, List.map_append, List.map_map, ← mapT_eq]
  rfl

theorem kleeneStar_rel (A : FST String) (hA : A.WF) (i o : List String) :
    A.kleeneStar.Rel i o ↔
      ∃ ps : List (List String × List String),
        i = (ps.map (·.1)).flatten ∧ o = (ps.map (·.2)).flatten ∧ ∀ p ∈ ps, A.Rel p.1 p.2 := by
  have hub : ("star", 1) ∈ keys2 A.states ["star"] := key2_right (List.mem_singleton_self _)
  rw [star_eq]
  refine (relabel_rel (· ∈ keys2 A.states ["star"]) (rename_injective _ _) ?_ ?_ ?_ i o).trans
    (starT_rel A "star" i o)
  · exact fun s hs => List.mem_singleton.mp hs ▸ hub
  · exact fun s hs => List.mem_singleton.mp hs ▸ hub
  · exact List.forall_mem_append.2 ⟨List.forall_mem_append.2 ⟨tagD_keys hA fun _ => key2_left,
      List.forall_mem_map.2 fun s hs => ⟨hub, key2_left (hA.starts_sub _ hs)⟩⟩,
      List.forall_mem_map.2 fun f hf => ⟨key2_left (hA.finals_sub _ hf), hub⟩⟩

end tagged

end Lem
end FST
end Pfl
