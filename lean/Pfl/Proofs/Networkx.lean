/-
Helper lemmas for C20 (`to_networkx` / `from_networkx` round trip): graph primitives, the state pass
invariant, the transition pass.
-/
import Pfl.Model.Networkx
import Pfl.Proofs.Assoc

namespace Pfl.Nx

/-- a graph in the format written before the attribute `initial_stack` existed: the same graph without
that attribute on any node -/
def Graph.eraseStack {L : Type} (g : Graph L) : Graph L :=
  { g with nodes := g.nodes.map fun e => (e.1, { e.2 with initialStack := none }) }

end Pfl.Nx

namespace Pfl.Nx.Lem
open Pfl.Nx
variable {L : Type}

theorem hasNode_iff (g : Graph L) (n : Val) : g.hasNode n = true ↔ ∃ a, (n, a) ∈ g.nodes := by
  simp [Graph.hasNode]

theorem addNode_edges (g : Graph L) (n : Val) (a : Attrs) : (g.addNode n a).edges = g.edges := by
  unfold Graph.addNode
  split <;> rfl

theorem addNode_nodes (g : Graph L) (n : Val) (a : Attrs) :
    (g.addNode n a).nodes = Assoc.upsert g.nodes n (·.update a) a := by
  unfold Graph.addNode Graph.hasNode Assoc.upsert
  split <;> rfl

theorem forall_addNode {P : Val → Attrs → Prop} {g : Graph L} {n : Val} {d : Attrs}
    (hold : ∀ m b, (m, b) ∈ g.nodes → m ≠ n → P m b) (hupd : ∀ b, (n, b) ∈ g.nodes → P n (b.update d))
    (hnew : g.hasNode n = false → P n d) : ∀ m b, (m, b) ∈ (g.addNode n d).nodes → P m b := by
  intro m b h
  rw [addNode_nodes] at h
  rcases Assoc.mem_upsert h with ⟨h, hne⟩ | ⟨b0, hb, he⟩ | ⟨hk, he⟩
  · exact hold m b h hne
  · cases he; exact hupd b0 hb
  · cases he; exact hnew (Bool.eq_false_iff.2 fun h => hk (Assoc.any_key.1 h))

theorem hasNode_addNode (g : Graph L) (n : Val) (a : Attrs) (m : Val) :
    (g.addNode n a).hasNode m = true ↔ g.hasNode m = true ∨ m = n := by
  unfold Graph.hasNode
  rw [Assoc.any_key, Assoc.any_key, addNode_nodes, Assoc.keys_upsert]
  split
  · next hn => exact ⟨Or.inl, fun h => h.elim id fun h => h ▸ hn⟩
  · rw [List.mem_append, List.mem_singleton]

theorem addEdge_of_hasNode (g : Graph L) (u v : Val) (l : Option L)
    (hu : g.hasNode u = true) (hv : g.hasNode v = true) :
    g.addEdge u v l = { nodes := g.nodes, edges := g.edges ++ [(u, v, l)] } := by
  unfold Graph.addEdge
  simp [hu, hv]

/-- the attributes `to_networkx` writes on a state node; `start` and `final` are the tests the export makes
(`q ∈ starts`, `some q = start`, `q ∈ finals`) -/
def stateAttrs (start final : Val → Prop) [DecidablePred start] [DecidablePred final] (q : Val) : Attrs :=
  { isStart := some (decide (start q)), isFinal := some (decide (final q)), label := some q }

/-- the step of the three state folds: each fold of the model is a fold of `stateStep` by unfolding -/
def stateStep (start final : Val → Prop) [DecidablePred start] [DecidablePred final] (g : Graph L) (q : Val) :
    Graph L :=
  let g1 := g.addNode q (stateAttrs start final q)
  if start q then addMarker g1 q else g1

/-- the step written out: the marker's edge finds both endpoints, so it adds no node -/
theorem stateStep_eq (start final : Val → Prop) [DecidablePred start] [DecidablePred final] (g : Graph L) (q : Val) :
    stateStep start final g q =
      if start q then
        { nodes := ((g.addNode q (stateAttrs start final q)).addNode (marker q) { label := some (.str "") }).nodes
          edges := g.edges ++ [(marker q, q, none)] }
      else g.addNode q (stateAttrs start final q) := by
  unfold stateStep addMarker
  split
  · rw [addEdge_of_hasNode _ _ _ _ ((hasNode_addNode _ _ _ _).2 (Or.inr rfl))
      ((hasNode_addNode _ _ _ _).2 (Or.inl ((hasNode_addNode _ _ _ _).2 (Or.inr rfl)))), addNode_edges, addNode_edges]
  · rfl

/-- the two marks of a node once the states `qs` are written: a state carries both, any other node neither -/
def Marks (start final : Val → Prop) [DecidablePred start] [DecidablePred final] (qs : List Val) (n : Val)
    (a : Attrs) : Prop :=
  a.isStart = (if n ∈ qs then some (decide (start n)) else none) ∧
  a.isFinal = (if n ∈ qs then some (decide (final n)) else none)

/-- what the state pass establishes for the states `qs`: no edge is labelled, every node carries the marks of
`Marks`, every state is a node -/
structure Inv (start final : Val → Prop) [DecidablePred start] [DecidablePred final] (qs : List Val)
    (g : Graph L) : Prop where
  edges : ∀ e ∈ g.edges, e.2.2 = none
  marks : ∀ n a, (n, a) ∈ g.nodes → Marks start final qs n a
  nodes : ∀ q ∈ qs, g.hasNode q = true

variable {start final : Val → Prop} [DecidablePred start] [DecidablePred final]

theorem Inv.addState {qs : List Val} {g : Graph L} (h : Inv start final qs g) (q : Val) :
    Inv start final (qs ++ [q]) (g.addNode q (stateAttrs start final q)) := by
  refine ⟨by rw [addNode_edges]; exact h.edges, forall_addNode ?_ ?_ ?_, ?_⟩
  · intro m b hm hne
    simpa [Marks, hne] using h.marks m b hm
  · intro b _
    simp [Marks, Attrs.update, stateAttrs]
  · intro _
    simp [Marks, stateAttrs]
  · intro n hn
    rw [hasNode_addNode]
    exact (List.mem_append.1 hn).imp (h.nodes n) List.eq_of_mem_singleton

theorem Inv.addDeco {qs : List Val} {g : Graph L} (h : Inv start final qs g) (n : Val) (d : Attrs)
    (hs : d.isStart = none) (hf : d.isFinal = none) :
    Inv start final qs (g.addNode n d) := by
  refine ⟨by rw [addNode_edges]; exact h.edges, forall_addNode (fun m b hm _ => h.marks m b hm) ?_ ?_, ?_⟩
  · intro b hb
    simpa [Marks, Attrs.update, hs, hf] using h.marks n b hb
  · -- a new node is no state: the states are nodes already
    intro hn
    have : n ∉ qs := fun hq => by rw [h.nodes n hq] at hn; cases hn
    simp [Marks, this, hs, hf]
  · intro q hq
    rw [hasNode_addNode]
    exact Or.inl (h.nodes q hq)

theorem Inv.step {qs : List Val} {g : Graph L} (h : Inv start final qs g) (q : Val) :
    Inv start final (qs ++ [q]) (stateStep start final g q) := by
  have h1 := h.addState q
  rw [stateStep_eq]
  split
  · have h2 := h1.addDeco (marker q) { label := some (.str "") } rfl rfl
    refine ⟨fun e he => ?_, h2.marks, h2.nodes⟩
    rcases List.mem_append.1 he with he | he
    · exact h.edges e he
    · rw [List.mem_singleton.1 he]
  · exact h1

theorem inv_empty : Inv start final [] ({} : Graph L) :=
  ⟨fun _ he => (List.not_mem_nil he).elim, fun _ _ hn => (List.not_mem_nil hn).elim,
   fun _ hq => (List.not_mem_nil hq).elim⟩

theorem statePass_ind (P : List Val → Graph L → Prop) (h0 : P [] {})
    (hs : ∀ {qs g} q, P qs g → P (qs ++ [q]) (stateStep start final g q)) (l : List Val) :
    P l (l.foldl (stateStep start final) {}) := by
  have : ∀ (l qs : List Val) (g : Graph L), P qs g → P (qs ++ l) (l.foldl (stateStep start final) g) := by
    intro l
    induction l with
    | nil => intro qs g h; rwa [List.append_nil]
    | cons q l ih => intro qs g h; rw [List.append_cons]; exact ih _ _ (hs q h)
  exact this l [] _ h0

theorem inv_statePass (l : List Val) :
    Inv start final l (l.foldl (stateStep start final) ({} : Graph L)) :=
  statePass_ind (Inv start final) inv_empty (fun q h => h.step q) l

/-- the transition pass adds no node: the endpoints are states, and the states `qs` are nodes already -/
theorem foldl_addEdge {T : Type} {src tgt : T → Val} {lab : T → Option L} {qs : List Val} :
    ∀ (ts : List T) (g : Graph L), (∀ t ∈ ts, src t ∈ qs ∧ tgt t ∈ qs) → (∀ q ∈ qs, g.hasNode q = true) →
    ts.foldl (fun g t => g.addEdge (src t) (tgt t) (lab t)) g =
      { nodes := g.nodes, edges := g.edges ++ ts.map fun t => (src t, tgt t, lab t) }
  | [], g, _, _ => by simp
  | t :: ts, g, h, hn => by
    have ht := h t List.mem_cons_self
    rw [List.foldl_cons, addEdge_of_hasNode g _ _ _ (hn _ ht.1) (hn _ ht.2),
      foldl_addEdge ts _ fun t' ht' => h t' (List.mem_cons_of_mem _ ht'), List.append_assoc]
    · rfl
    · exact hn

theorem mem_endpoints {T : Type} {src tgt : T → Val} {ts : List T} {qs : List Val}
    (h : ∀ t ∈ ts, src t ∈ qs ∧ tgt t ∈ qs) {q : Val} (hq : q ∈ ts.flatMap fun t => [src t, tgt t]) :
    q ∈ qs := by
  obtain ⟨t, ht, hq⟩ := List.mem_flatMap.mp hq
  simp only [List.mem_cons, List.not_mem_nil, or_false] at hq
  rcases hq with rfl | rfl
  · exact (h t ht).1
  · exact (h t ht).2

theorem filterMap_labelled {T β : Type} {F : Val × Val × Option L → L → β}
    {es : List (Val × Val × Option L)} (hes : ∀ e ∈ es, e.2.2 = none)
    {src tgt : T → Val} {lab : T → L} {ts : List T} :
    (es ++ ts.map fun t => (src t, tgt t, some (lab t))).filterMap (fun e => e.2.2.map (F e)) =
      ts.map fun t => F (src t, tgt t, some (lab t)) (lab t) := by
  rw [List.filterMap_append]
  have h1 : es.filterMap (fun e => e.2.2.map (F e)) = [] := by
    rw [List.filterMap_eq_nil_iff]
    intro e he
    rw [hes e he]; rfl
  rw [h1, List.nil_append, List.filterMap_map]
  induction ts with
  | nil => rfl
  | cons t ts ih => simp [ih]

theorem allSome_map_some {α : Type} (l : List α) : allSome (l.map some) = some l := by
  induction l with
  | nil => rfl
  | cons a l ih => simp [allSome, ih]

theorem allSome_labelled {T : Type} {R : Val → Val → L → Option T}
    {es : List (Val × Val × Option L)} (hes : ∀ e ∈ es, e.2.2 = none)
    {src tgt : T → Val} {lab : T → L} {ts : List T}
    (hR : ∀ t ∈ ts, R (src t) (tgt t) (lab t) = some t) :
    allSome ((es ++ ts.map fun t => (src t, tgt t, some (lab t))).filterMap
      fun e => e.2.2.map fun l => R e.1 e.2.1 l) = some ts := by
  rw [filterMap_labelled (F := fun e => R e.1 e.2.1) hes, ← allSome_map_some ts]
  congr 1
  exact List.map_congr_left hR

theorem Inv.mem_filter {qs : List Val} {g : Graph L} (h : Inv start final qs g) (p : Attrs → Bool)
    (P : Val → Prop) [DecidablePred P]
    (hp : ∀ n a, Marks start final qs n a → p a = decide (n ∈ qs ∧ P n)) (hP : ∀ q, P q → q ∈ qs) (q : Val) :
    q ∈ (g.nodes.filter fun n => p n.2).map (·.1) ↔ P q := by
  simp only [List.mem_map, List.mem_filter]
  constructor
  · rintro ⟨⟨n, a⟩, ⟨hn, hs⟩, rfl⟩
    exact (of_decide_eq_true ((hp n a (h.marks n a hn)).symm.trans hs)).2
  · intro hq
    obtain ⟨a, ha⟩ := (hasNode_iff g q).1 (h.nodes q (hP q hq))
    exact ⟨(q, a), ⟨ha, (hp q a (h.marks q a ha)).trans (decide_eq_true ⟨hP q hq, hq⟩)⟩, rfl⟩

theorem Inv.mem_stateNodes {qs : List Val} {g : Graph L} (h : Inv start final qs g) (q : Val) :
    q ∈ (g.nodes.filter fun n => n.2.isFinal.isSome).map (·.1) ↔ q ∈ qs :=
  h.mem_filter (·.isFinal.isSome) (· ∈ qs) (fun n a hm => by rw [hm.2]; split <;> simp [*]) (fun _ hq => hq) q

theorem Inv.mem_starts_iff {qs : List Val} {g : Graph L} (h : Inv start final qs g)
    (hs : ∀ q, start q → q ∈ qs) (q : Val) :
    q ∈ (g.nodes.filter fun n => n.2.isStart.getD false).map (·.1) ↔ start q :=
  h.mem_filter (·.isStart.getD false) start (fun n a hm => by rw [hm.1]; split <;> simp [*]) hs q

theorem Inv.mem_finals_iff {qs : List Val} {g : Graph L} (h : Inv start final qs g)
    (hf : ∀ q, final q → q ∈ qs) (q : Val) :
    q ∈ (g.nodes.filter fun n => n.2.isFinal.getD false).map (·.1) ↔ final q :=
  h.mem_filter (·.isFinal.getD false) final (fun n a hm => by rw [hm.2]; split <;> simp [*]) hf q

/-- for the start state read back from a graph: `set_start_state` is called for every node marked as
start and the last call stays, which is the marked node when at most one is marked -/
theorem getLast?_eq_of_mem_iff {α : Type} {l : List α} {o : Option α} (h : ∀ x, x ∈ l ↔ some x = o) :
    l.getLast? = o := by
  cases hl : l.getLast? with
  | none =>
    cases o with
    | none => rfl
    | some q =>
      have := (h q).2 rfl
      rw [List.getLast?_eq_none_iff.1 hl] at this
      cases this
  | some x => exact (h x).1 (List.mem_of_getLast? hl)

theorem marker_ne_hidden (v : Val) : marker v ≠ hiddenStack := by
  intro h
  unfold marker hiddenStack at h
  have h' := congrArg String.toList (Val.str.inj h)
  simp at h'

theorem attrs_mem {g : Graph L} {n : Val} (h : g.hasNode n = true) : (n, g.attrs n) ∈ g.nodes := by
  unfold Graph.hasNode at h
  rw [Assoc.any_eq] at h
  obtain ⟨b, hb⟩ := Option.isSome_iff_exists.1 h
  rw [Graph.attrs, ← Assoc.get, hb]
  exact Assoc.mem_of_get hb

def NoStack (g : Graph L) : Prop := ∀ n a, (n, a) ∈ g.nodes → a.initialStack = none

/-- after the state pass a node that is no marker is a state node (it carries `is_final`), and no node
carries `initial_stack` -/
def StateOnly (g : Graph L) : Prop :=
  ∀ n a, (n, a) ∈ g.nodes → a.initialStack = none ∧ ((∃ v, n = marker v) ∨ a.isFinal.isSome = true)

theorem StateOnly.addNode {g : Graph L} (h : StateOnly g) (n : Val) (d : Attrs) (hd : d.initialStack = none)
    (hn : (∃ v, n = marker v) ∨ d.isFinal.isSome = true) : StateOnly (g.addNode n d) :=
  forall_addNode (fun m a hm _ => h m a hm)
    (fun b hb => ⟨by simpa [Attrs.update, hd] using (h n b hb).1, hn.imp_right fun hf => by
      obtain ⟨x, hx⟩ := Option.isSome_iff_exists.1 hf
      simp [Attrs.update, hx]⟩)
    fun _ => ⟨hd, hn⟩

theorem StateOnly.step {g : Graph L} (h : StateOnly g) (q : Val) : StateOnly (stateStep start final g q) := by
  have h1 : StateOnly (g.addNode q (stateAttrs start final q)) := h.addNode q _ rfl (Or.inr rfl)
  intro n a hn
  rw [stateStep_eq] at hn
  split at hn
  · exact h1.addNode (marker q) _ rfl (Or.inl ⟨q, rfl⟩) n a hn
  · exact h1 n a hn

theorem stateOnly_statePass (l : List Val) : StateOnly (l.foldl (stateStep start final) ({} : Graph L)) :=
  statePass_ind (fun _ => StateOnly) (fun _ _ hn => (List.not_mem_nil hn).elim) (fun q h => h.step q) l

theorem set_addNode {g : Graph L} {n : Val} {d : Attrs} : ∀ m b, (m, b) ∈ (g.addNode n d).nodes → m = n →
    (∀ x, d.label = some x → b.label = some x) ∧
    (∀ x, d.initialStack = some x → b.initialStack = some x) :=
  forall_addNode (fun _ _ _ hne e => absurd e hne)
    (fun _ _ _ => by constructor <;> intro x hx <;> simp [Attrs.update, hx])
    (fun _ _ => ⟨fun _ hx => hx, fun _ hx => hx⟩)

theorem label_addNode {g : Graph L} {n : Val} {x : Val} {b : Attrs}
    (h : (n, b) ∈ (g.addNode n { label := some x }).nodes) : b.label = some x :=
  (set_addNode _ _ h rfl).1 x rfl

theorem eraseStack_edges (g : Graph L) : g.eraseStack.edges = g.edges := rfl

theorem hasNode_eraseStack (g : Graph L) (n : Val) : g.eraseStack.hasNode n = g.hasNode n := by
  simp only [Graph.hasNode, Graph.eraseStack, List.any_map]
  rfl

theorem mem_eraseStack {g : Graph L} {n : Val} {b : Attrs} :
    (n, b) ∈ g.eraseStack.nodes ↔ ∃ a, (n, a) ∈ g.nodes ∧ b = { a with initialStack := none } := by
  simp only [Graph.eraseStack, List.mem_map, Prod.mk.injEq]
  constructor
  · rintro ⟨⟨m, a⟩, hm, rfl, rfl⟩
    exact ⟨a, hm, rfl⟩
  · rintro ⟨a, ha, rfl⟩
    exact ⟨(n, a), ha, rfl, rfl⟩

theorem Inv.eraseStack {qs : List Val} {g : Graph L} (h : Inv start final qs g) :
    Inv start final qs g.eraseStack := by
  refine ⟨h.edges, fun n b hb => ?_, fun q hq => (hasNode_eraseStack g q).trans (h.nodes q hq)⟩
  obtain ⟨a, ha, rfl⟩ := mem_eraseStack.1 hb
  exact h.marks n a ha

theorem noStack_eraseStack (g : Graph L) : NoStack g.eraseStack := by
  intro n b hb
  obtain ⟨a, _, rfl⟩ := mem_eraseStack.1 hb
  rfl

/-- the start stack symbol `PDA.from_networkx` reads from the nodes (`none` = an exception) -/
def readStack (J : Json) (g : Graph (List Char)) : Option (Option Val) :=
  if g.hasNode hiddenStack then
    match (g.attrs hiddenStack).initialStack with
    | some txt => (J.loads txt).map some
    | none =>
      if (g.attrs hiddenStack).isFinal.isSome then some none else
      match (g.attrs hiddenStack).label with
      | some (.str txt) => (J.loads txt.toList).map some
      | some (.int _) => none
      | none => none
  else some none

theorem readStack_attr (J : Json) {g : Graph (List Char)} {txt : List Char}
    (h : ∀ b, (hiddenStack, b) ∈ g.nodes → b.initialStack = some txt) (hn : g.hasNode hiddenStack = true) :
    readStack J g = (J.loads txt).map some := by
  simp [readStack, hn, h _ (attrs_mem hn)]

theorem readStack_state (J : Json) {g : Graph (List Char)}
    (h : ∀ b, (hiddenStack, b) ∈ g.nodes → b.initialStack = none ∧ b.isFinal.isSome = true) :
    readStack J g = some none := by
  cases hn : g.hasNode hiddenStack with
  | false => simp [readStack, hn]
  | true =>
    have := h _ (attrs_mem hn)
    simp [readStack, hn, this.1, this.2]

theorem readStack_label (J : Json) {g : Graph (List Char)} {txt : String}
    (h : ∀ b, (hiddenStack, b) ∈ g.nodes → b.initialStack = none ∧ b.isFinal = none ∧ b.label = some (.str txt))
    (hn : g.hasNode hiddenStack = true) :
    readStack J g = (J.loads txt.toList).map some := by
  have := h _ (attrs_mem hn)
  simp [readStack, hn, this.1, this.2.1, this.2.2]

end Pfl.Nx.Lem
