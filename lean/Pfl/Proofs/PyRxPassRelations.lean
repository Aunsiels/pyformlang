/-
The first three passes (`_replace_shortcuts`, `_escape_in_brackets`, `_preprocess_brackets`) as
relations between a piece of text and the tokens a pass makes of it, and their composition `Front`,
through which everything later sees them; the character a token stands for, and the meaning of a
union of tokens.
-/
import Pfl.Proofs.PyRxBackPasses
import Pfl.Proofs.PyRegexLemmas
namespace Pfl.PyRx.E2E.S3
open Pfl.RegexReader.Lem Pfl.Rx Pfl.PyPass

theorem sing_lift {R : List Tok → List Tok → Prop} {Q : Char → Prop}
    (happ : ∀ {s1 s2 l1 l2}, R s1 l1 → R s2 l2 → R (s1 ++ s2) (l1 ++ l2)) (hnil : R [] [])
    (hch : ∀ c, Q c → R [[c]] [[c]]) : ∀ s : List Char, (∀ c ∈ s, Q c) → R (sing s) (sing s)
  | [], _ => hnil
  | c :: r, h => happ (hch c (h c (by simp))) (sing_lift happ hnil hch r (fun d hd => h d (by simp [hd])))

/-! The first three passes as relations between a piece of text and the tokens a pass makes of it (for the second
and third pass the text is that of the tokens the pass before made, `s.flatten`).  All are closed under `++`. -/

/-- outside escapes, inside (`inb`) or outside a set -/
def P1 (inb : Bool) (t : List Char) (l : List Tok) : Prop :=
  ∀ rest acc, replaceShortcutsGo (t ++ rest) inb false acc =
    replaceShortcutsGo rest inb false (l.reverse ++ acc)

theorem P1.nil (inb : Bool) : P1 inb [] [] := fun _ _ => rfl

theorem P1.append {inb : Bool} {t1 t2 : List Char} {l1 l2 : List Tok} (h1 : P1 inb t1 l1)
    (h2 : P1 inb t2 l2) : P1 inb (t1 ++ t2) (l1 ++ l2) := by
  intro rest acc
  rw [List.append_assoc, h1, h2]
  simp

theorem P1.ch (inb : Bool) (c : Char) (h1 : c ≠ ' ') (h2 : c ≠ '\\') (h3 : c ≠ '[')
    (h4 : inb = true → c ≠ ']') : P1 inb [c] [[c]] := by
  intro rest acc
  cases inb with
  | false => simp [replaceShortcutsGo, h1, h2, h3]
  | true => simp [replaceShortcutsGo, h1, h2, h3, h4 rfl]

theorem P1.blank (inb : Bool) : P1 inb [' '] [['\\', ' ']] := by
  intro rest acc
  simp [replaceShortcutsGo]

/-- an escaped character that is no letter or digit: not a key of `SHORTCUTS` (`\d`, `\s`, `\w`) -/
theorem P1.esc (inb : Bool) (c : Char) (h1 : c ≠ ' ') (h2 : c.isAlphanum = false) :
    P1 inb ['\\', c] [['\\'], [c]] := by
  intro rest acc
  have e : ∀ d : Char, d.isAlphanum = true → (d == c) = false := fun d hd => by
    simpa using alnum_ne d c hd h2
  have : shortcuts.find? (fun p => p.1 == ['\\', c]) = none := by
    simp [shortcuts, List.find?, e 'd' (by decide), e 's' (by decide), e 'w' (by decide)]
  simp [replaceShortcutsGo, h1, this]

theorem P1.short (c : Char) (p : Tok × Tok) (h1 : c ≠ ' ')
    (h2 : shortcuts.find? (fun p => p.1 == ['\\', c]) = some p) : P1 false ['\\', c] [p.2] := by
  intro rest acc
  simp [replaceShortcutsGo, h1, h2]

theorem P1.set {body : List Char} {l : List Tok} (h : P1 true body l) :
    P1 false ('[' :: (body ++ [']'])) (['['] :: (l ++ [[']']])) := by
  intro rest acc
  have s1 : ∀ r a, replaceShortcutsGo ('[' :: r) false false a =
      replaceShortcutsGo r true false (['['] :: a) := by
    intro r a; simp [replaceShortcutsGo]
  have s2 : ∀ r a, replaceShortcutsGo (']' :: r) true false a =
      replaceShortcutsGo r false false ([']'] :: a) := by
    intro r a; simp [replaceShortcutsGo]
  have e : '[' :: (body ++ [']']) ++ rest = '[' :: (body ++ ']' :: rest) := by simp
  rw [e, s1, h, s2]
  simp

theorem P1.run {t : List Char} {l : List Tok} (h : P1 false t l) : replaceShortcuts t = l.flatten := by
  have := h [] []
  simp only [List.append_nil] at this
  rw [replaceShortcuts, this]
  simp [replaceShortcutsGo, joinR]

/-- the loop, inside (`inb`) or outside a set; its step cannot fail, so it is a plain `foldl` and no `Pushes` -/
def P2 (inb : Bool) (s l : List Tok) : Prop :=
  NoBsT l ∧ ∀ rt, escNext rt = false →
    s.flatten.foldl escapeInBracketsStep (rt, inb) = (l.reverse ++ rt, inb)

theorem P2.nil (inb : Bool) : P2 inb [] [] := ⟨NoBsT.nil, fun _ _ => rfl⟩

theorem P2.append {inb : Bool} {s1 s2 l1 l2 : List Tok} (h1 : P2 inb s1 l1)
    (h2 : P2 inb s2 l2) : P2 inb (s1 ++ s2) (l1 ++ l2) := by
  refine ⟨h1.1.append h2.1, fun rt hrt => ?_⟩
  rw [List.flatten_append, List.foldl_append, h1.2 rt hrt, h2.2 _ (escNext_toks l1 h1.1 rt hrt)]
  simp

theorem P2.ch (inb : Bool) (c : Char) (h1 : c ≠ '\\') (h2 : c ≠ '[')
    (h3 : inb = true → c ≠ ']' ∧ c ∉ toEscapeInBrackets) : P2 inb [[c]] [[c]] := by
  refine ⟨NoBsT.single (by simpa using h1), fun rt hrt => ?_⟩
  cases inb with
  | false => simp [escapeInBracketsStep, h2, pushSym_of rt c hrt]
  | true => simp [escapeInBracketsStep, h2, hrt, h3 rfl, pushSym_of rt c hrt]

theorem P2.esc (inb : Bool) (c : Char) : P2 inb [['\\', c]] [['\\', c]] := by
  refine ⟨NoBsT.single (by simp), fun rt hrt => ?_⟩
  have hte : '\\' ∉ toEscapeInBrackets := by decide
  have s1 : escapeInBracketsStep (rt, inb) '\\' = (['\\'] :: rt, inb) := by
    cases inb <;> simp [escapeInBracketsStep, hrt, hte, pushSym_of rt '\\' hrt]
  have s2 : escapeInBracketsStep (['\\'] :: rt, inb) c = (['\\', c] :: rt, inb) := by
    cases inb <;> simp [escapeInBracketsStep, escNext_bs, pushSym_esc]
  show List.foldl escapeInBracketsStep (rt, inb) ['\\', c] = _
  simp only [List.foldl_cons, List.foldl_nil]
  rw [s1, s2]
  simp

theorem P2.chEsc (c : Char) (h1 : c ∈ toEscapeInBrackets) : P2 true [[c]] [['\\', c]] := by
  have hc : c ≠ '[' ∧ c ≠ ']' := by
    constructor <;> (rintro rfl; revert h1; decide)
  refine ⟨NoBsT.single (by simp), fun rt hrt => ?_⟩
  simp [escapeInBracketsStep, hc.1, hc.2, hrt, h1]

theorem P2.set {body l : List Tok} (h : P2 true body l) :
    P2 false (['['] :: (body ++ [[']']])) (['['] :: (l ++ [[']']])) := by
  refine ⟨(NoBsT.single (by simp)).append (h.1.append (NoBsT.single (by simp))), fun rt hrt => ?_⟩
  have s1 : escapeInBracketsStep (rt, false) '[' = (['['] :: rt, true) := by
    have : '[' ∉ toEscapeInBrackets := by decide
    simp [escapeInBracketsStep, hrt, this, pushSym_of rt '[' hrt]
  have e1 : escNext (['['] :: rt) = false := by simp [escNext]
  have e2 : escNext (l.reverse ++ ['['] :: rt) = false := escNext_toks l h.1 _ e1
  have s2 : escapeInBracketsStep (l.reverse ++ ['['] :: rt, true) ']' =
      ([']'] :: (l.reverse ++ ['['] :: rt), false) := by
    simp [escapeInBracketsStep, e2, pushSym_of _ ']' e2]
  have e : (['['] :: (body ++ [[']']])).flatten = '[' :: (body.flatten ++ [']']) := by simp
  rw [e, List.foldl_cons, s1, List.foldl_append, h.2 _ e1, List.foldl_cons, List.foldl_nil, s2]
  simp

theorem P2.run {s l : List Tok} (h : P2 false s l) : escapeInBrackets s.flatten = l.flatten := by
  have := h.2 [] rfl
  simp only [List.append_nil] at this
  rw [escapeInBrackets, this]
  simp [joinR]

/-- the state of `_preprocess_brackets` with `w` the list written to: `regex_temp` outside a set, the
characters collected so far inside a top-level one (`inb`) -/
def st3 : Bool → RToks → RToks → RToks × List RToks
  | false, _, w => (w, [])
  | true, rt, w => (rt, [w])

def P3 (inb : Bool) (s l : List Tok) : Prop := ∀ rt, Pushes preprocessBracketsStep (st3 inb rt) s l

theorem P3.nil (inb : Bool) : P3 inb [] [] := fun _ => .nil

theorem P3.append {inb : Bool} {s1 s2 l1 l2 : List Tok} (h1 : P3 inb s1 l1) (h2 : P3 inb s2 l2) :
    P3 inb (s1 ++ s2) (l1 ++ l2) := fun rt => (h1 rt).append (h2 rt)

theorem P3.ch (inb : Bool) (c : Char) (h1 : c ≠ '\\') (h2 : c ≠ '[')
    (h3 : inb = true → c ≠ ']' ∧ c ≠ '|') : P3 inb [[c]] [[c]] := by
  refine fun rt => ⟨NoBsT.single (by simpa using h1), fun w hw => ?_⟩
  cases inb with
  | false =>
    simp [st3, preprocessBracketsStep, h2, pushSym_of w c hw, pure, Except.pure]
    rfl
  | true =>
    simp [st3, preprocessBracketsStep, h2, h3 rfl, hw, pure, Except.pure]
    rfl

theorem P3.esc (inb : Bool) (c : Char) : P3 inb [['\\', c]] [['\\', c]] := by
  refine fun rt => ⟨NoBsT.single (by simp), fun w hw => ?_⟩
  have s1 : preprocessBracketsStep (st3 inb rt w) '\\' = .ok (st3 inb rt (['\\'] :: w)) := by
    cases inb <;> simp [st3, preprocessBracketsStep, hw, pushSym_of w '\\' hw]
  have s2 : preprocessBracketsStep (st3 inb rt (['\\'] :: w)) c = .ok (st3 inb rt (['\\', c] :: w)) := by
    cases inb
    · simp [st3, preprocessBracketsStep, escNext_bs, pushSym_esc]
    · by_cases hc : c = ']'
      · subst hc; simp [st3, preprocessBracketsStep, escNext_bs, pushSym_esc]
      · simp [st3, preprocessBracketsStep, escNext_bs, pushSym_esc, hc]
  show List.foldlM preprocessBracketsStep (st3 inb rt w) ['\\', c] = _
  simp only [List.foldlM_cons, List.foldlM_nil, s1]
  show (preprocessBracketsStep (st3 inb rt (['\\'] :: w)) c >>= fun s => pure s) = _
  rw [s2]
  rfl

theorem P3.bar : P3 true [['|']] [['\\', '|']] := by
  refine fun rt => ⟨NoBsT.single (by simp), fun w hw => ?_⟩
  simp [st3, preprocessBracketsStep, hw, pure, Except.pure]
  rfl

theorem P3.set {body l content : List Tok} (h : P3 true body l)
    (hc : preprocessBracketsContent l = .ok content) (hnb : NoBsT content) :
    P3 false (['['] :: (body ++ [[']']])) (['('] :: (content ++ [[')']])) := by
  refine fun _ => ⟨(NoBsT.single (by simp)).append (hnb.append (NoBsT.single (by simp))), fun rt hrt => ?_⟩
  have s1 : preprocessBracketsStep (rt, []) '[' = .ok (rt, [[]]) := by
    simp [preprocessBracketsStep, hrt]
  have e2 : escNext (l.reverse ++ []) = false := escNext_toks l (h rt).1 [] rfl
  have s2 : preprocessBracketsStep (rt, [l.reverse ++ []]) ']' =
      .ok ([')'] :: (content.reverse ++ (['('] :: rt)), []) := by
    simp only [preprocessBracketsStep, e2]
    simp [hc, bind, Except.bind]
  have e : (['['] :: (body ++ [[']']])).flatten = '[' :: (body.flatten ++ [']']) := by simp
  show List.foldlM preprocessBracketsStep (rt, []) _ = _
  rw [e, List.foldlM_cons, s1]
  show List.foldlM preprocessBracketsStep (st3 true rt []) (body.flatten ++ [']']) = _
  rw [List.foldlM_append, (h rt).2 [] rfl]
  show List.foldlM preprocessBracketsStep (rt, [l.reverse ++ []]) [']'] = _
  rw [List.foldlM_cons, s2]
  simp [st3, pure, Except.pure, bind, Except.bind]

theorem P3.run {s l : List Tok} (h : P3 false s l) : preprocessBrackets s.flatten = .ok l.flatten := by
  have := (h []).run
  simp only [st3] at this
  simp only [preprocessBrackets, this]
  show Except.ok (joinR l.reverse) = _
  simp [joinR]

/-- The front of `transform` as one relation, closed under `++` like the three it is made of: the text `t`
passes the ASCII guard, and `_replace_shortcuts`, `_escape_in_brackets`, `_preprocess_brackets` one after the
other map it to the tokens `l` (inside a set, `inb`, the third pass collects them).  Nothing later asks what the
text looks like between the passes. -/
def Front (inb : Bool) (t : List Char) (l : List Tok) : Prop :=
  (∀ c ∈ t, c.toNat < 128) ∧ ∃ l1 l2, P1 inb t l1 ∧ P2 inb l1 l2 ∧ P3 inb l2 l

theorem Front.nil (inb : Bool) : Front inb [] [] :=
  ⟨fun _ h => (nomatch h), [], [], P1.nil inb, P2.nil inb, P3.nil inb⟩

theorem Front.append {inb : Bool} {t1 t2 : List Char} {l1 l2 : List Tok} (h1 : Front inb t1 l1)
    (h2 : Front inb t2 l2) : Front inb (t1 ++ t2) (l1 ++ l2) := by
  obtain ⟨a1, _, _, p1, q1, r1⟩ := h1
  obtain ⟨a2, _, _, p2, q2, r2⟩ := h2
  exact ⟨fun c hc => (List.mem_append.mp hc).elim (a1 c) (a2 c), _, _, p1.append p2, q1.append q2,
    r1.append r2⟩

theorem Front.ch (c : Char) (h : Ordinary c) : Front false [c] [[c]] :=
  ⟨by simpa using h.2.2.2, _, _, P1.ch false c h.1 h.2.1 h.2.2.1 (fun e => nomatch e),
    P2.ch false c h.2.1 h.2.2.1 (fun e => nomatch e), P3.ch false c h.2.1 h.2.2.1 (fun e => nomatch e)⟩

theorem Front.sing : ∀ s : List Char, (∀ c ∈ s, Ordinary c) → Front false s (sing s)
  | [], _ => Front.nil false
  | c :: r, h => (Front.ch c (h c (by simp))).append (Front.sing r fun d hd => h d (by simp [hd]))

theorem Front.esc (inb : Bool) (c : Char) (h0 : c.toNat < 128) (h : c ≠ ' ' ∧ c.isAlphanum = false) :
    Front inb ['\\', c] [['\\', c]] :=
  ⟨by simpa using h0, _, _, P1.esc inb c h.1 h.2, P2.esc inb c, P3.esc inb c⟩

theorem Front.blank (inb : Bool) : Front inb [' '] [['\\', ' ']] :=
  ⟨by simp, _, _, P1.blank inb, P2.esc inb ' ', P3.esc inb ' '⟩

/-- a plain character inside a set: the second pass escapes `( + * ) ? . $`, the third `|` -/
theorem Front.inSet (c : Char) (h0 : c.toNat < 128) (h1 : c ≠ ' ') (h2 : c ≠ '\\') (h3 : c ≠ '[')
    (h4 : c ≠ ']') : Front true [c]
      [if c ∈ toEscapeInBrackets then ['\\', c] else if c = '|' then ['\\', '|'] else [c]] := by
  have p1 := P1.ch true c h1 h2 h3 (fun _ => h4)
  have h0' : ∀ d ∈ [c], d.toNat < 128 := by simpa using h0
  by_cases he : c ∈ toEscapeInBrackets
  · rw [if_pos he]
    exact ⟨h0', _, _, p1, P2.chEsc c he, P3.esc true c⟩
  · have p2 := P2.ch true c h2 h3 (fun _ => ⟨h4, he⟩)
    rw [if_neg he]
    by_cases hb : c = '|'
    · rw [if_pos hb]
      subst hb
      exact ⟨h0', _, _, p1, p2, P3.bar⟩
    · rw [if_neg hb]
      exact ⟨h0', _, _, p1, p2, P3.ch true c h2 h3 (fun _ => ⟨h4, hb⟩)⟩

theorem Front.set {body : List Char} {bc content : List Tok} (h : Front true body bc)
    (hc : preprocessBracketsContent bc = .ok content) (hnb : NoBsT content) :
    Front false ('[' :: (body ++ [']'])) (['('] :: (content ++ [[')']])) := by
  obtain ⟨a, _, _, p, q, r⟩ := h
  refine ⟨fun c hc => ?_, _, _, P1.set p, P2.set q, P3.set r hc hnb⟩
  simp only [List.mem_cons, List.mem_append, List.not_mem_nil, or_false] at hc
  rcases hc with rfl | hc | rfl
  · decide
  · exact a c hc
  · decide

/-- A shortcut `\d`, `\s`, `\w` whose entry in `SHORTCUTS` is what the first pass makes of the text `t`: from
then on it is that text.  The first pass is a function (`P1.run`), so the text in between need not be named. -/
theorem Front.short {k : Char} {t : List Char} {l : List Tok} (h0 : k.toNat < 128) (h1 : k ≠ ' ')
    (h2 : shortcuts.find? (fun p => p.1 == ['\\', k]) = some (['\\', k], replaceShortcuts t))
    (h : Front false t l) : Front false ['\\', k] l := by
  obtain ⟨_, _, y, p1, q, r⟩ := h
  refine ⟨by simpa using h0, _, y, P1.short k _ h1 h2, ?_, r⟩
  rw [P1.run p1]
  exact ⟨q.1, by simpa using q.2⟩

theorem Front.run {t : List Char} {l : List Tok} {s4 s5 s6 : Tok} (h : Front false t l)
    (h4 : preprocessPositiveClosure l.flatten = .ok s4) (h5 : preprocessOptional s4 = .ok s5)
    (h6 : separate s5 = .ok s6) : transform t = .ok (lstripBackspace s6) := by
  obtain ⟨a, _, _, p, q, r⟩ := h
  exact transform_eq t _ s4 s5 s6 a (by rw [P1.run p, P2.run q, P3.run r]) h4 h5 h6

def tokChar (t : Tok) : Char := (t.getLast?).getD ' '

theorem leaf_esc (c : Char) : E.leaf ['\\', c] = PyRx.sym c := by
  rw [E.leaf, toNode_esc, PyRx.sym, String.singleton_eq_ofList]

theorem leaf_pl (c : Char) (h : IsPl [c]) : E.leaf [c] = PyRx.sym c := by
  rw [E.leaf, toNode_pl h (one_ne_epsilon c), PyRx.sym, String.singleton_eq_ofList]

/-- the token `t` is the character `d`, written plain or, if it is no letter or digit, with a backslash -/
def Wr (d : Char) (t : Tok) : Prop :=
  (t = ['\\', d] ∧ d.isAlphanum = false) ∨ (t = [d] ∧ d ∉ mustEsc)

theorem Wr.tokChar {d : Char} {t : Tok} (h : Wr d t) : tokChar t = d := by
  rcases h with ⟨rfl, _⟩ | ⟨rfl, _⟩ <;> rfl

theorem Wr.leaf {d : Char} {t : Tok} (h : Wr d t) : E.leaf t = PyRx.sym (S3.tokChar t) := by
  rw [h.tokChar]
  rcases h with ⟨rfl, _⟩ | ⟨rfl, h⟩
  · exact leaf_esc d
  · exact leaf_pl d (isPl_plain d h)

theorem altc_denote : ∀ ts : List Tok, ts ≠ [] → ∀ ws,
    (Denote (E.tree (altc ts)) ws ↔ ∃ t ∈ ts, Denote (E.leaf t) ws)
  | [], h, _ => absurd rfl h
  | [t], _, ws => by simp [altc, E.tree]
  | t :: t' :: r, _, ws => by
    have e : altc (t :: t' :: r) = .alt (.tok t) (altc (t' :: r)) := rfl
    rw [e, E.tree, Rx.Lem.alt_denote, altc_denote (t' :: r) (by simp) ws]
    simp [E.tree]

theorem altc_anyOf (ts : List Tok) (cs : List Char) (hne : ts ≠ [])
    (h : ∀ t ∈ ts, E.leaf t = PyRx.sym (tokChar t))
    (hc : ∀ c, (∃ t ∈ ts, tokChar t = c) ↔ c ∈ cs) : Eqv (E.tree (altc ts)) (anyOf cs) := by
  intro ws
  rw [altc_denote ts hne, Lem.anyOf_denote]
  constructor
  · rintro ⟨t, ht, hd⟩
    rw [h t ht, PyRx.sym, Rx.Lem.sym_denote] at hd
    exact ⟨tokChar t, (hc _).mp ⟨t, ht, rfl⟩, hd⟩
  · rintro ⟨c, hcm, hw⟩
    obtain ⟨t, ht, rfl⟩ := (hc c).mpr hcm
    refine ⟨t, ht, ?_⟩
    rw [h t ht, PyRx.sym, Rx.Lem.sym_denote]
    exact hw

theorem utok_plain (c : Char) (h : c ∉ mustEsc) (h8 : c ≠ '\x08') : UTok true [c] := by
  by_cases hb : c = '{'
  · exact Or.inr (by rw [hb])
  · refine Or.inl ⟨Or.inl ⟨c, rfl, tk1_iff.mpr ⟨h, hb, h8⟩⟩, ?_⟩
    intro e
    simp only [List.cons.injEq, and_true] at e
    exact h (by rw [e]; decide)

theorem utok_esc (c : Char) (h : c.isAlphanum = false) : UTok true ['\\', c] :=
  Or.inl ⟨Or.inr (Or.inr (Or.inr (Or.inl ⟨c, rfl, h, fun e => by simp at e⟩))), by simp⟩

end Pfl.PyRx.E2E.S3
