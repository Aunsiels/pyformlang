/-
Helper lemmas for C06 (state elimination, `Pfl/Model/ToRegex.lean`).  Languages are predicates
`Lg := List String → Prop`; a graph whose edges carry languages has a path semantics `LRun`;
eliminating a state at the level of edge languages (`Eelim`) preserves `LRun` between the other
states, and says what a run into the eliminated state looks like, so the two-state graph is read off
by eliminating the final state; the model's operations are shown to compute these language-level
ones, and the graph `toGraph` builds is named (`GA`) and compared with the automaton's runs.
-/
import Pfl.Model.ToRegex
import Pfl.Spec.FA
import Pfl.Spec.Regex
import Pfl.Proofs.RegexLemmas
namespace Pfl
namespace ToRegex
namespace Lem
open Rx

abbrev Lg := List String → Prop

def Leps : Lg := fun u => u = []
def Lempty : Lg := fun _ => False
def Lcat (A B : Lg) : Lg := fun u => ∃ a b, u = a ++ b ∧ A a ∧ B b
def Lalt (A B : Lg) : Lg := fun u => A u ∨ B u

inductive LStar (A : Lg) : Lg
  | nil : LStar A []
  | cons {u v : List String} : A u → LStar A v → LStar A (u ++ v)

def ODen : Option Rx → Lg
  | none => Lempty
  | some r => Denote r

@[simp] theorem ODen_none : ODen none = Lempty := rfl
@[simp] theorem ODen_some (r : Rx) : ODen (some r) = Denote r := rfl

theorem LStar.append {A : Lg} {u v : List String} (h1 : LStar A u) (h2 : LStar A v) :
    LStar A (u ++ v) := by
  induction h1 with
  | nil => simpa using h2
  | cons ha _ ih => rw [List.append_assoc]; exact .cons ha ih

theorem LStar.one {A : Lg} {u : List String} (h : A u) : LStar A u := by
  have := LStar.cons h (LStar.nil (A := A))
  simpa using this

theorem LStar.mono_ne {A B : Lg} (h : ∀ u, u ≠ [] → A u → B u) {w : List String}
    (hw : LStar A w) : LStar B w := by
  induction hw with
  | nil => exact .nil
  | @cons u v ha _ ih =>
    by_cases hu : u = []
    · subst hu; simpa using ih
    · exact .cons (h u hu ha) ih

theorem LStar.mono {A B : Lg} (h : ∀ u, A u → B u) {w : List String}
    (hw : LStar A w) : LStar B w := hw.mono_ne (fun u _ => h u)

theorem LStar_congr_ne {A B : Lg} (h : ∀ u, u ≠ [] → (A u ↔ B u)) : LStar A = LStar B := by
  ext w
  exact ⟨fun hw => hw.mono_ne (fun u hu => (h u hu).mp),
    fun hw => hw.mono_ne (fun u hu => (h u hu).mpr)⟩

@[simp] theorem Lcat_eps_left (A : Lg) : Lcat Leps A = A := by
  ext u
  constructor
  · rintro ⟨a, b, rfl, ha, hb⟩
    cases ha
    simpa using hb
  · intro h; exact ⟨[], u, rfl, rfl, h⟩

@[simp] theorem Lcat_eps_right (A : Lg) : Lcat A Leps = A := by
  ext u
  constructor
  · rintro ⟨a, b, rfl, ha, hb⟩
    cases hb
    simpa using ha
  · intro h; exact ⟨u, [], by simp, h, rfl⟩

@[simp] theorem Lcat_empty_left (A : Lg) : Lcat Lempty A = Lempty := by
  ext u
  constructor
  · rintro ⟨a, b, _, ha, _⟩; exact ha
  · exact False.elim

@[simp] theorem Lcat_empty_right (A : Lg) : Lcat A Lempty = Lempty := by
  ext u
  constructor
  · rintro ⟨a, b, _, _, hb⟩; exact hb
  · exact False.elim

theorem Lcat_assoc (A B C : Lg) : Lcat (Lcat A B) C = Lcat A (Lcat B C) := by
  ext u
  constructor
  · rintro ⟨ab, c, rfl, ⟨a, b, rfl, ha, hb⟩, hc⟩
    exact ⟨a, b ++ c, by simp, ha, b, c, rfl, hb, hc⟩
  · rintro ⟨a, bc, rfl, ha, b, c, rfl, hb, hc⟩
    exact ⟨a ++ b, c, by simp, ⟨a, b, rfl, ha, hb⟩, hc⟩

@[simp] theorem Lalt_empty_right (A : Lg) : Lalt A Lempty = A := by
  ext u
  exact or_iff_left_of_imp False.elim

@[simp] theorem Lalt_empty_left (A : Lg) : Lalt Lempty A = A := by
  ext u
  exact or_iff_right_of_imp False.elim

@[simp] theorem LStar_empty : LStar Lempty = Leps := by
  ext w
  constructor
  · intro h
    cases h with
    | nil => rfl
    | cons ha _ => exact ha.elim
  · intro h; cases h; exact .nil

@[simp] theorem LStar_eps : LStar Leps = Leps :=
  (LStar_congr_ne fun _ hu => ⟨fun h => absurd h hu, False.elim⟩).trans LStar_empty

@[simp] theorem LStar_alt_eps (A : Lg) : LStar (Lalt Leps A) = LStar A := by
  apply LStar_congr_ne
  intro u hu
  constructor
  · rintro (h | h)
    · exact absurd h hu
    · exact h
  · intro h; exact Or.inr h

@[simp] theorem den_eps : Denote .eps = Leps := by
  ext u
  exact Rx.Lem.eps_denote u

@[simp] theorem den_empty : Denote .empty = Lempty := by
  ext u
  exact ⟨fun h => Rx.Lem.empty_denote u h, fun h => h.elim⟩

@[simp] theorem den_cat (a b : Rx) : Denote (.cat a b) = Lcat (Denote a) (Denote b) := by
  ext u
  exact Rx.Lem.cat_denote a b u

@[simp] theorem den_alt (a b : Rx) : Denote (.alt a b) = Lalt (Denote a) (Denote b) := by
  ext u
  exact Rx.Lem.alt_denote a b u

theorem den_star_fwd : ∀ (r : Rx) (w : List String), Denote r w → ∀ a, r = .star a →
    LStar (Denote a) w := by
  intro r w h
  induction h with
  | starNil => intro a _; exact .nil
  | starCons h1 _ _ ih2 =>
    intro a h
    cases h
    exact .cons h1 (ih2 _ rfl)
  | _ => intro a h; cases h

@[simp] theorem den_star (a : Rx) : Denote (.star a) = LStar (Denote a) := by
  ext u
  constructor
  · intro h; exact den_star_fwd _ _ h a rfl
  · intro h
    induction h with
    | nil => exact .starNil
    | cons ha _ ih => exact .starCons ha ih

theorem den_foldl_alt (ls : List Rx) : ∀ (l : Rx) (u : List String),
    Denote (ls.foldl Rx.alt l) u ↔ Denote l u ∨ ∃ x ∈ ls, Denote x u := by
  induction ls with
  | nil => intro l u; simp
  | cons y ys ih =>
    intro l u
    rw [List.foldl_cons, ih, den_alt]
    simp only [Lalt, List.mem_cons, exists_eq_or_imp]
    exact or_assoc

def altList : List Rx → Option Rx
  | [] => none
  | l :: ls => some (ls.foldl Rx.alt l)

theorem oden_altList (xs : List Rx) (u : List String) :
    ODen (altList xs) u ↔ ∃ x ∈ xs, Denote x u := by
  cases xs with
  | nil => simp [altList, Lempty]
  | cons l ls =>
    simp only [altList, ODen_some, den_foldl_alt, List.mem_cons, exists_eq_or_imp]

section Graph
variable {τ : Type}

inductive LRun (E : τ → τ → Lg) : τ → List String → τ → Prop
  | nil (p : τ) : LRun E p [] p
  | step {p r s : τ} {u v : List String} : E p r u → LRun E r v s → LRun E p (u ++ v) s

theorem LRun.trans {E : τ → τ → Lg} {p r s : τ} {u v : List String}
    (h1 : LRun E p u r) (h2 : LRun E r v s) : LRun E p (u ++ v) s := by
  induction h1 with
  | nil => simpa using h2
  | step he _ ih => rw [List.append_assoc]; exact .step he (ih h2)

theorem LRun.edge {E : τ → τ → Lg} {p r : τ} {u : List String} (h : E p r u) : LRun E p u r := by
  simpa using LRun.step h (LRun.nil r)

theorem LRun.star {E : τ → τ → Lg} {p : τ} {u : List String} (h : LStar (E p p) u) :
    LRun E p u p := by
  induction h with
  | nil => exact .nil _
  | cons ha _ ih => exact .step ha ih

theorem LRun.snoc {E : τ → τ → Lg} {p r s : τ} {u v : List String} (h : LRun E p u r)
    (he : E r s v) : LRun E p (u ++ v) s :=
  h.trans (.edge he)

theorem LRun.snoc_induction {E : τ → τ → Lg} {p : τ}
    {motive : ∀ u s, LRun E p u s → Prop} (nil : motive [] p (.nil p))
    (snoc : ∀ {r s u v} (h : LRun E p u r) (he : E r s v), motive u r h →
      motive (u ++ v) s (LRun.snoc h he))
    {u : List String} {s : τ} (h : LRun E p u s) : motive u s h := by
  suffices ∀ {x u s} (h : LRun E x u s) {w} (hw : LRun E p w x), motive w x hw →
      motive (w ++ u) s (hw.trans h) from this h (.nil p) nil
  intro x u s h
  induction h with
  | nil => intro w hw hm; simpa using hm
  | step he hr ih =>
    intro w hw hm
    simpa using ih (LRun.snoc hw he) (snoc hw he hm)

/-- edge languages after eliminating `q` -/
def Eelim (E : τ → τ → Lg) (q : τ) : τ → τ → Lg := fun p r u =>
  p ≠ q ∧ r ≠ q ∧ (E p r u ∨ Lcat (E p q) (Lcat (LStar (E q q)) (E q r)) u)

theorem elim_bwd {E : τ → τ → Lg} {q : τ} {p s : τ} {u : List String}
    (h : LRun (Eelim E q) p u s) : LRun E p u s := by
  induction h with
  | nil => exact .nil _
  | step he _ ih =>
    obtain ⟨_, _, he | ⟨a, bc, rfl, ha, b, c, rfl, hb, hc⟩⟩ := he
    · exact .step he ih
    · exact ((LRun.edge ha).trans ((LRun.star hb).trans (LRun.edge hc))).trans ih

/-- every edge of `E` leaves a state in `P` -/
def SInv (P : τ → Prop) (E : τ → τ → Lg) : Prop :=
  ∀ p r u, E p r u → P p

theorem SInv.mono {P Q : τ → Prop} {E : τ → τ → Lg} (h : SInv P E) (hPQ : ∀ x, P x → Q x) : SInv Q E :=
  fun p r u he => hPQ p (h p r u he)

theorem SInv.elim {P : τ → Prop} {E : τ → τ → Lg} (h : SInv P E) (q : τ) :
    SInv (fun x => P x ∧ x ≠ q) (Eelim E q) := by
  rintro p r u ⟨hp, _, he | ⟨a, _, _, ha, _⟩⟩
  · exact ⟨h _ _ _ he, hp⟩
  · exact ⟨h _ _ _ ha, hp⟩

theorem elim_fwd (E : τ → τ → Lg) (q : τ) {p s : τ} {u : List String} (hp : p ≠ q)
    (h : LRun E p u s) :
    (s ≠ q → LRun (Eelim E q) p u s) ∧
    (s = q → ∃ v r c b, u = v ++ (c ++ b) ∧ LRun (Eelim E q) p v r ∧ r ≠ q ∧ E r q c ∧
      LStar (E q q) b) := by
  induction h using LRun.snoc_induction with
  | nil => exact ⟨fun _ => .nil _, fun h => absurd h hp⟩
  | @snoc r s u v _ he ih =>
    by_cases hrq : r = q
    · obtain ⟨v', r', c, b, rfl, hrun, hr', hc, hb⟩ := ih.2 hrq
      subst hrq
      refine ⟨fun hs => ?_, fun hs => ⟨v', r', c, b ++ v, by simp, hrun, hr', hc, ?_⟩⟩
      · simpa using LRun.snoc hrun ⟨hr', hs, Or.inr ⟨c, b ++ v, rfl, hc, b, v, rfl, hb, he⟩⟩
      · subst hs; exact hb.append (.one he)
    · refine ⟨fun hs => LRun.snoc (ih.1 hrq) ⟨hrq, hs, Or.inl he⟩, fun hs => ?_⟩
      subst hs
      exact ⟨u, r, v, [], by simp, ih.1 hrq, hrq, he, .nil⟩

theorem elim_iff (E : τ → τ → Lg) (q : τ) {p s : τ} (hp : p ≠ q) (hs : s ≠ q) (u : List String) :
    LRun (Eelim E q) p u s ↔ LRun E p u s :=
  ⟨elim_bwd, fun h => (elim_fwd E q hp h).1 hs⟩

theorem one_state (E : τ → τ → Lg) (s : τ) (hE : SInv (· = s) E) {t : τ} {u : List String}
    (h : LRun E s u t) (ht : t = s) : LStar (E s s) u := by
  induction h using LRun.snoc_induction with
  | nil => exact .nil
  | snoc _ he ih =>
    subst ht
    obtain rfl := hE _ _ _ he
    exact (ih rfl).append (.one he)

/-- the language read off a two-state graph: the final state is eliminated, which leaves loops at
the start state, then one edge to the final state and loops there -/
def twoLang (SS SE ES EE : Lg) : Lg :=
  Lcat (LStar (Lalt SS (Lcat SE (Lcat (LStar EE) ES)))) (Lcat SE (LStar EE))

theorem two_state (E : τ → τ → Lg) (s f : τ) (hne : s ≠ f) (hE : SInv (fun x => x = s ∨ x = f) E)
    (u : List String) :
    LRun E s u f ↔ twoLang (E s s) (E s f) (E f s) (E f f) u := by
  constructor
  · intro h
    obtain ⟨v, r, c, b, rfl, hv, hr, hc, hb⟩ := (elim_fwd E f hne h).2 rfl
    obtain rfl : r = s := (hE _ _ _ hc).resolve_right hr
    have hv := one_state _ r ((SInv.elim hE f).mono fun x hx => hx.1.resolve_right hx.2) hv rfl
    exact ⟨v, c ++ b, rfl, hv.mono fun _ h => h.2.2, c, b, rfl, hc, hb⟩
  · rintro ⟨a, _, rfl, ha, c, d, rfl, hc, hd⟩
    exact (elim_bwd (LRun.star (ha.mono fun _ h => ⟨hne, hne, h⟩))).trans
      ((LRun.edge hc).trans (LRun.star hd))

end Graph

/-- `get_temp` leaves out every factor that is the string "epsilon" (`se`, `ee*`, `es`); the language
is the one of the full product `se · ee* · es` whatever was left out.  The cases: `se = ε` or not,
`ee = ε` or not (the star is dropped), then `es` absent (no path back: `temp` is the empty string),
`es = ε`, or a proper regex. -/
theorem getTemp_spec (se : Rx) (es : Option Rx) (ee : Rx) :
    Denote (getTemp se es ee).2 = Lcat (Denote se) (LStar (Denote ee)) ∧
    ODen (getTemp se es ee).1 = Lcat (Lcat (Denote se) (LStar (Denote ee))) (ODen es) := by
  unfold getTemp
  by_cases h1 : se = .eps <;> by_cases h2 : ee = .eps
  · subst h1 h2
    cases es with
    | none => simp
    | some e =>
      by_cases h3 : e = .eps
      · subst h3; simp
      · simp [h3]
  · subst h1
    cases es with
    | none => simp [h2]
    | some e =>
      by_cases h3 : e = .eps
      · subst h3; simp [h2]
      · simp [h2, h3]
  · subst h2
    cases es with
    | none => simp [h1]
    | some e =>
      by_cases h3 : e = .eps
      · subst h3; simp [h1]
      · simp [h1, h3]
  · cases es with
    | none => simp [h1, h2]
    | some e =>
      by_cases h3 : e = .eps
      · subst h3; simp [h1, h2]
      · simp [h1, h2, h3]

/-- the same for `get_regex_sub`: `part0` is `(ss + temp)*` with `ss` left out when it is ε, `temp`
when it is absent, and the whole star when nothing or only ε is left -/
theorem regexSub_spec (ss : Rx) (se es : Option Rx) (ee : Rx) :
    ODen (regexSub ss se es ee) = twoLang (Denote ss) (ODen se) (ODen es) (Denote ee) := by
  cases se with
  | none => simp [regexSub, twoLang]
  | some se =>
    have h := getTemp_spec se es ee
    dsimp only [regexSub]
    generalize getTemp se es ee = g at h ⊢
    obtain ⟨temp, part1⟩ := g
    obtain ⟨hp, ht⟩ := h
    simp only at hp ht
    simp only [ODen_some, den_cat, twoLang, hp]
    congr 1
    rw [← Lcat_assoc, ← ht]
    by_cases h1 : ss = .eps
    · subst h1
      cases temp with
      | none => simp
      | some t =>
        by_cases h3 : t = .eps
        · subst h3; simp
        · simp [h3]
    · cases temp with
      | none => simp [h1]
      | some t => simp [h1]

section Model
variable {τ : Type} [DecidableEq τ]

/-- the language carried by the edges from `p` to `r` -/
def EL (es : Edges τ) : τ → τ → Lg := fun p r u => ∃ l, (p, l, r) ∈ es ∧ Denote l u

omit [DecidableEq τ] in
theorem oden_labels {es : Edges τ} {p r : τ} {xs : List Rx} (h : ∀ l, l ∈ xs ↔ (p, l, r) ∈ es) :
    ODen (altList xs) = EL es p r := by
  ext u
  rw [oden_altList]
  simp only [h]
  rfl

theorem mem_labels (es : Edges τ) (p r : τ) (l : Rx) :
    l ∈ ((es.filter (·.1 = p)).filter (·.2.2 = r)).map (·.2.1) ↔ (p, l, r) ∈ es := by
  simp only [List.mem_map, List.mem_filter, decide_eq_true_eq]
  constructor
  · rintro ⟨⟨p', l', r'⟩, ⟨⟨he, rfl⟩, rfl⟩, rfl⟩
    exact he
  · intro he
    exact ⟨(p, l, r), ⟨⟨he, rfl⟩, rfl⟩, rfl⟩

theorem labelOf_spec (es : Edges τ) (p r : τ) : ODen (labelOf es p r) = EL es p r := by
  refine oden_labels (xs := (es.filter fun e => e.1 = p ∧ e.2.2 = r).map (·.2.1)) fun l => ?_
  simp

theorem orEdges_eq (states : List τ) (es : Edges τ) :
    orEdges states es = states.flatMap fun p =>
      ((es.filter (·.1 = p)).map (·.2.2)).eraseDups.filterMap fun r =>
        (altList (((es.filter (·.1 = p)).filter (·.2.2 = r)).map (·.2.1)).eraseDups).map
          fun l => (p, l, r) := by
  unfold orEdges
  congr 1
  funext p
  dsimp only
  congr 1
  funext r
  generalize (((es.filter (·.1 = p)).filter (·.2.2 = r)).map (·.2.1)).eraseDups = X
  cases X <;> rfl

theorem oden_exists {o : Option Rx} {u : List String} (h : ODen o u) : ∃ l, o = some l ∧ Denote l u := by
  cases o with
  | none => exact h.elim
  | some l => exact ⟨l, rfl, h⟩

/-- the label `orEdges` puts on the merged edge from `p` to `r` -/
theorem oden_orLabel (es : Edges τ) (p r : τ) (u : List String) :
    ODen (altList (((es.filter (·.1 = p)).filter (·.2.2 = r)).map (·.2.1)).eraseDups) u ↔
      EL es p r u := by
  rw [oden_labels fun l => List.mem_eraseDups.trans (mem_labels es p r l)]

theorem orEdges_spec (states : List τ) (es : Edges τ) (p r : τ) (u : List String) :
    EL (orEdges states es) p r u ↔ p ∈ states ∧ EL es p r u := by
  unfold EL
  rw [orEdges_eq]
  simp only [List.mem_flatMap, List.mem_filterMap, Option.map_eq_some_iff, Prod.mk.injEq]
  constructor
  · rintro ⟨l, ⟨p', hp', r', _, l', hl', rfl, rfl, rfl⟩, hd⟩
    exact ⟨hp', (oden_orLabel es p' r' u).mp (hl' ▸ hd)⟩
  · rintro ⟨hp, x, he, hd⟩
    obtain ⟨l, hl, hd'⟩ := oden_exists ((oden_orLabel es p r u).mpr ⟨x, he, hd⟩)
    refine ⟨l, ⟨p, hp, r, ?_, l, hl, rfl, rfl, rfl⟩, hd'⟩
    exact List.mem_eraseDups.mpr (List.mem_map.mpr ⟨(p, x, r), by simp [he], rfl⟩)

def wrap (loop : List Rx) (x : Rx) : Rx :=
  match loop with
  | [] => x
  | l :: ls => Rx.cat (Rx.star (ls.foldl Rx.alt l)) x

theorem den_wrap (loop : List Rx) (x : Rx) :
    Denote (wrap loop x) = Lcat (LStar (ODen (altList loop))) (Denote x) := by
  cases loop <;> simp [wrap, altList]

/-- the edges of `removeState` before merging -/
def elimEdges (es : Edges τ) (q : τ) : Edges τ :=
  let outs := es.filter (·.1 = q)
  let loop := (outs.filter (·.2.2 = q)).map (·.2.1)
  let outs' : List (Rx × τ) := (outs.filter (·.2.2 ≠ q)).map fun e => (wrap loop e.2.1, e.2.2)
  let ins := es.filter fun e => e.2.2 = q ∧ e.1 ≠ q
  let rest := es.filter fun e => e.1 ≠ q ∧ e.2.2 ≠ q
  rest ++ ins.flatMap fun e => outs'.map fun o => (e.1, Rx.cat e.2.1 o.1, o.2)

theorem removeState_eq (states : List τ) (es : Edges τ) (q : τ) :
    removeState states es q =
      (states.filter (· ≠ q), orEdges (states.filter (· ≠ q)) (elimEdges es q)) := rfl

theorem orEdges_spec' {states : List τ} {es : Edges τ} (hI : SInv (· ∈ states) (EL es)) :
    EL (orEdges states es) = EL es := by
  funext p r u
  rw [orEdges_spec]
  exact propext ⟨fun h => h.2, fun h => ⟨hI _ _ _ h, h⟩⟩

theorem elimEdges_spec (es : Edges τ) (q : τ) : EL (elimEdges es q) = Eelim (EL es) q := by
  have hw : ∀ x, Denote (wrap (((es.filter (·.1 = q)).filter (·.2.2 = q)).map (·.2.1)) x) =
      Lcat (LStar (EL es q q)) (Denote x) := fun x => by
    rw [den_wrap, oden_labels (mem_labels es q q)]
  funext p r u
  apply propext
  unfold EL Eelim elimEdges
  simp only [List.mem_append, List.mem_filter, List.mem_flatMap, List.mem_map, decide_eq_true_eq]
  constructor
  · rintro ⟨l, ⟨he, hp, hr⟩ | ⟨⟨p', l1, r'⟩, ⟨he, rfl, hp⟩, _, ⟨⟨q', x, r''⟩, ⟨⟨he', rfl⟩, hr⟩, rfl⟩, h⟩, hd⟩
    · exact ⟨hp, hr, Or.inl ⟨l, he, hd⟩⟩
    · cases h
      rw [den_cat, hw] at hd
      obtain ⟨a, bc, rfl, ha, b, c, rfl, hb, hc⟩ := hd
      exact ⟨hp, hr, Or.inr ⟨a, b ++ c, rfl, ⟨l1, he, ha⟩, b, c, rfl, hb, x, he', hc⟩⟩
  · rintro ⟨hp, hr, ⟨l, he, hd⟩ | ⟨a, bc, rfl, ⟨l1, he, ha⟩, b, c, rfl, hb, x, he', hc⟩⟩
    · exact ⟨l, Or.inl ⟨he, hp, hr⟩, hd⟩
    · refine ⟨_, Or.inr ⟨(p, l1, q), ⟨he, rfl, hp⟩, _, ⟨(q, x, r), ⟨⟨he', rfl⟩, hr⟩, rfl⟩, rfl⟩, ?_⟩
      rw [den_cat, hw]
      exact ⟨a, b ++ c, rfl, ha, b, c, rfl, hb, hc⟩

theorem removeState_spec {st : List τ × Edges τ} (hI : SInv (· ∈ st.1) (EL st.2)) (q : τ) :
    SInv (· ∈ (removeState st.1 st.2 q).1) (EL (removeState st.1 st.2 q).2) ∧
      EL (removeState st.1 st.2 q).2 = Eelim (EL st.2) q := by
  have hin : SInv (· ∈ st.1.filter (· ≠ q)) (EL (elimEdges st.2 q)) := elimEdges_spec st.2 q ▸
    (hI.elim q).mono fun x hx => List.mem_filter.mpr ⟨hx.1, decide_eq_true hx.2⟩
  rw [removeState_eq]
  dsimp only
  rw [orEdges_spec' hin]
  exact ⟨hin, elimEdges_spec st.2 q⟩

theorem simple_spec (es : Edges τ) (s f : τ) (hE : SInv (fun x => x = s ∨ x = f) (EL es))
    (u : List String) :
    ODen (simple es s f) u ↔ LRun (EL es) s u f := by
  unfold simple
  by_cases hsf : s = f
  · subst hsf
    rw [if_pos rfl]
    refine Iff.trans ?_ ⟨LRun.star, fun h => one_state (EL es) s (hE.mono fun x hx => hx.elim id id) h rfl⟩
    rw [← labelOf_spec]
    cases labelOf es s s with
    | none => simp
    | some l =>
      by_cases hl : l = .eps
      · subst hl; simp
      · simp [hl]
  · rw [if_neg hsf, regexSub_spec, two_state (EL es) s f hsf hE, ← labelOf_spec, ← labelOf_spec,
      ← labelOf_spec, ← labelOf_spec]
    cases labelOf es s s <;> cases labelOf es f f <;> simp [twoLang]

theorem elimAll_spec (s f : τ) (u : List String) (vs : List τ) : ∀ st : List τ × Edges τ,
    SInv (· ∈ st.1) (EL st.2) → (∀ x ∈ vs, x ≠ s ∧ x ≠ f) → (∀ x ∈ st.1, x ∉ vs → x = s ∨ x = f) →
    (ODen (simple (vs.foldl (fun st q => removeState st.1 st.2 q) st).2 s f) u ↔
      LRun (EL st.2) s u f) := by
  induction vs with
  | nil =>
    intro st hI _ hall
    exact simple_spec _ _ _ (hI.mono fun x hx => hall x hx List.not_mem_nil) u
  | cons q vs ih =>
    intro st hI hv hall
    obtain ⟨hin, hel⟩ := removeState_spec hI q
    obtain ⟨hs, hf⟩ := hv q List.mem_cons_self
    rw [List.foldl_cons, ih _ hin fun x hx => hv x (List.mem_cons_of_mem _ hx), hel,
      elim_iff _ _ hs.symm hf.symm]
    intro x hx hxv
    obtain ⟨hx, hq⟩ := List.mem_filter.mp hx
    exact hall x hx (List.not_mem_cons_of_ne_of_not_mem (of_decide_eq_true hq) hxv)

theorem regexFor_spec (states : List τ) (es : Edges τ) (start final : τ) (order : List τ)
    (hI : SInv (· ∈ states) (EL es)) (u : List String) :
    ODen (regexFor states es start final order) u ↔ LRun (EL es) start u final := by
  have h0 := orEdges_spec' hI
  refine (elimAll_spec start final u _ (states, orEdges states es) (h0 ▸ hI) ?_
    fun x hx hxv => ?_).trans (h0 ▸ Iff.rfl)
  · simp only [List.mem_append, List.mem_eraseDups, List.mem_filter, decide_eq_true_eq]
    rintro x (⟨_, _, h⟩ | ⟨_, h1, h2, _⟩)
    · exact h
    · exact ⟨h1, h2⟩
  · rw [List.mem_append, not_or, List.mem_filter] at hxv
    refine Decidable.byContradiction fun h => ?_
    rw [not_or] at h
    exact hxv.2 ⟨hx, decide_eq_true ⟨h.1, h.2, hxv.1⟩⟩

end Model

section Automaton
variable {σ : Type} [DecidableEq σ]

def lab (symName : Nat → String) : Option Nat → Rx
  | none => .eps
  | some a => .sym (symName a)

def baseEdges (A : ENFA σ) (symName : Nat → String) : Edges (Option σ) :=
  A.delta.eraseDups.map fun t => (some t.1, lab symName t.2.1, some t.2.2)

/-- the initial graph when a fresh start state `none` is put in front of the states `ss` -/
def freshEdges (A : ENFA σ) (symName : Nat → String) (ss : List σ) : Edges (Option σ) :=
  baseEdges A symName ++ ss.map fun s => (none, Rx.eps, some s)

theorem toGraph_eq (A : ENFA σ) (symName : Nat → String) :
    A.toGraph symName =
      match A.starts.eraseDups with
      | [] => (A.states.map some, baseEdges A symName, none)
      | [s] => (A.states.map some, baseEdges A symName, some (some s))
      | ss => (A.states.map some ++ [none], freshEdges A symName ss, some none) := by
  rfl

/-- edge languages of the automaton with a fresh start `none` in front of the states `ss` -/
def GA (A : ENFA σ) (symName : Nat → String) (ss : List σ) : Option σ → Option σ → Lg
  | some p, some r => fun u => ∃ a, (p, a, r) ∈ A.delta ∧ Denote (lab symName a) u
  | none, some s => fun u => s ∈ ss ∧ u = []
  | _, none => Lempty

theorem EL_fresh (A : ENFA σ) (symName : Nat → String) (ss : List σ) :
    EL (freshEdges A symName ss) = GA A symName ss := by
  funext x y u
  apply propext
  unfold EL freshEdges baseEdges
  simp only [List.mem_append, List.mem_map, List.mem_eraseDups, Prod.mk.injEq, Prod.exists]
  constructor
  · rintro ⟨l, ⟨p, a, r, h, rfl, rfl, rfl⟩ | ⟨s, hs, rfl, rfl, rfl⟩, hd⟩
    · exact ⟨a, h, hd⟩
    · exact ⟨hs, (Rx.Lem.eps_denote u).mp hd⟩
  · rcases x with _ | p <;> rcases y with _ | r
    · exact False.elim
    · rintro ⟨hs, rfl⟩; exact ⟨.eps, Or.inr ⟨r, hs, rfl, rfl, rfl⟩, .eps⟩
    · exact False.elim
    · rintro ⟨a, h, hd⟩; exact ⟨_, Or.inl ⟨p, a, r, h, rfl, rfl, rfl⟩, hd⟩

omit [DecidableEq σ] in
theorem Run.cons_lab {A : ENFA σ} (symName : Nat → String) {p r f : σ} {a : Option Nat} {w : List Nat}
    {u : List String} (h : (p, a, r) ∈ A.delta) (hd : Denote (lab symName a) u) (hw : A.Run r w f) :
    ∃ w', u ++ w.map symName = w'.map symName ∧ A.Run p w' f := by
  cases a with
  | none => cases hd; exact ⟨w, rfl, .eps h hw⟩
  | some a => cases hd; exact ⟨a :: w, rfl, .step h hw⟩

omit [DecidableEq σ] in
theorem run_some (A : ENFA σ) (symName : Nat → String) (ss : List σ) (p f : σ) (u : List String) :
    LRun (GA A symName ss) (some p) u (some f) ↔ ∃ w, u = w.map symName ∧ A.Run p w f := by
  constructor
  · intro h
    generalize hx : some p = x, hy : some f = y at h
    induction h generalizing p with
    | nil => cases hx; cases hy; exact ⟨[], rfl, .nil _⟩
    | @step _ r _ a v he _ ih =>
      subst hx
      rcases r with _ | r
      · exact he.elim
      · obtain ⟨c, hmem, hd⟩ := he
        obtain ⟨w, rfl, hw⟩ := ih r rfl hy
        exact Run.cons_lab symName hmem hd hw
  · rintro ⟨w, rfl, h⟩
    induction h with
    | nil => exact .nil _
    | @eps q r _ _ hmem _ ih => exact .step (show GA A symName ss (some q) (some r) [] from ⟨none, hmem, .eps⟩) ih
    | @step q r _ a _ hmem _ ih =>
      exact .step (show GA A symName ss (some q) (some r) [symName a] from ⟨some a, hmem, .sym _⟩) ih

omit [DecidableEq σ] in
theorem run_none (A : ENFA σ) (symName : Nat → String) (ss : List σ) (f : σ) (u : List String) :
    LRun (GA A symName ss) none u (some f) ↔ ∃ w, u = w.map symName ∧ ∃ s ∈ ss, A.Run s w f := by
  constructor
  · intro h
    cases h with
    | @step _ r _ a v he hr =>
      rcases r with _ | s
      · exact he.elim
      · obtain ⟨hs, rfl⟩ := he
        obtain ⟨w, hw, hr⟩ := (run_some A symName ss s f v).mp hr
        exact ⟨w, hw, s, hs, hr⟩
  · rintro ⟨w, rfl, s, hs, hr⟩
    exact .step (show GA A symName ss none (some s) [] from ⟨hs, rfl⟩)
      ((run_some A symName ss s f _).mpr ⟨w, rfl, hr⟩)

omit [DecidableEq σ] in
theorem GA_sinv (A : ENFA σ) (hA : ∀ t ∈ A.delta, t.1 ∈ A.states) (symName : Nat → String) (ss : List σ)
    (sts : List (Option σ)) (hs : ∀ s ∈ A.states, some s ∈ sts) (hn : ss ≠ [] → none ∈ sts) :
    SInv (· ∈ sts) (GA A symName ss) := by
  rintro (_ | p) (_ | r) u h
  · exact h.elim
  · exact hn (List.ne_nil_of_mem h.1)
  · exact h.elim
  · obtain ⟨a, hm, _⟩ := h
    exact hs p (hA _ hm)

theorem toGraph_spec (A : ENFA σ) (hA : ∀ t ∈ A.delta, t.1 ∈ A.states) (symName : Nat → String) :
    match A.toGraph symName with
    | (_, _, none) => ∀ s, s ∉ A.starts
    | (sts, es, some st) => SInv (· ∈ sts) (EL es) ∧ ∀ f u, LRun (EL es) st u (some f) ↔
        ∃ w, u = w.map symName ∧ ∃ s ∈ A.starts, A.Run s w f := by
  have hstarts : ∀ s, s ∈ A.starts ↔ s ∈ A.starts.eraseDups := fun s => List.mem_eraseDups.symm
  have hbase : baseEdges A symName = freshEdges A symName [] := (List.append_nil _).symm
  rw [toGraph_eq]
  rcases h0 : A.starts.eraseDups with _ | ⟨s0, _ | ⟨s1, ss⟩⟩
  · intro s hs
    rw [hstarts, h0] at hs
    cases hs
  · dsimp only
    rw [hbase, EL_fresh]
    refine ⟨GA_sinv A hA symName [] _ (fun _ => List.mem_map_of_mem) (absurd rfl), fun f u => ?_⟩
    simp only [run_some, hstarts, h0, List.mem_singleton, exists_eq_left]
  · dsimp only
    rw [EL_fresh]
    refine ⟨GA_sinv A hA symName _ _ (fun _ h => List.mem_append_left _ (List.mem_map_of_mem h))
      fun _ => List.mem_append_right _ (List.mem_singleton_self _), fun f u => ?_⟩
    simp only [run_none, hstarts, h0]

def altE : List Rx → Rx
  | [] => .empty
  | r :: rs => rs.foldl Rx.alt r

theorem den_altE (xs : List Rx) (u : List String) :
    Denote (altE xs) u ↔ ∃ x ∈ xs, Denote x u := by
  cases xs with
  | nil => simp [altE, Lempty]
  | cons l ls => simp only [altE, den_foldl_alt, List.mem_cons, exists_eq_or_imp]

/-- of `A.WF` only this much is needed: `orEdges` walks over `A.states`, so an edge leaving a state
that is not listed would be lost -/
theorem toRegexRx_lang_of_src (A : ENFA σ) (hA : ∀ t ∈ A.delta, t.1 ∈ A.states) (symName : Nat → String)
    (order : σ → List (Option σ)) (u : List String) :
    Rx.Denote (A.toRegexRx symName order) u ↔ ∃ w, u = w.map symName ∧ A.Lang w := by
  unfold ENFA.toRegexRx
  have hspec := toGraph_spec A hA symName
  generalize A.toGraph symName = g at hspec ⊢
  obtain ⟨sts, es, _ | st⟩ := g
  · dsimp only at hspec ⊢
    constructor
    · intro h; simp [Lempty] at h
    · rintro ⟨w, _, s, hs, _⟩; exact absurd hs (hspec s)
  · dsimp only at hspec ⊢
    obtain ⟨hI, hrun⟩ := hspec
    have hR := fun f => (regexFor_spec sts es st (some f) (order f) hI u).trans (hrun f u)
    change Denote (altE (List.filterMap (fun f => regexFor sts es st (some f) (order f))
      A.finals.eraseDups)) u ↔ _
    rw [den_altE]
    constructor
    · rintro ⟨x, hx, hd⟩
      obtain ⟨f, hf, hfx⟩ := List.mem_filterMap.mp hx
      obtain ⟨w, hw, s, hs, hr⟩ := (hR f).mp (hfx ▸ hd)
      exact ⟨w, hw, s, hs, f, List.mem_eraseDups.mp hf, hr⟩
    · rintro ⟨w, hw, s, hs, f, hf, hr⟩
      obtain ⟨x, hx, hd⟩ := oden_exists ((hR f).mpr ⟨w, hw, s, hs, hr⟩)
      exact ⟨x, List.mem_filterMap.mpr ⟨f, List.mem_eraseDups.mpr hf, hx⟩, hd⟩

theorem toRegexRx_lang (A : ENFA σ) (hA : A.WF) (symName : Nat → String)
    (order : σ → List (Option σ)) (u : List String) :
    Rx.Denote (A.toRegexRx symName order) u ↔ ∃ w, u = w.map symName ∧ A.Lang w :=
  toRegexRx_lang_of_src A hA.delta_src symName order u

end Automaton

end Lem
end ToRegex
end Pfl
