/-
Substitution of grammars for terminals and the closure operations built on it (C10): the copies of
receiver and operands inside `G.substitute subst` (`Embeds`), and what the result is with the names
forgotten (`Substituted`, `substitute_spec`), from which the language theorems follow.
-/
import Pfl.Proofs.CFGBase
import Pfl.Proofs.CFGClean
import Mathlib.Data.List.Nodup
import Pfl.Props.C09_Clean
import Std.Data.String.ToNat
namespace Pfl
namespace CFG

/-- `w` is obtained from the terminal word `u` by replacing every occurrence of a substituted
terminal by a word of its grammar (other terminals stay) -/
inductive SubstWord (subst : List (String × CFG)) : List String → List String → Prop
  | nil : SubstWord subst [] []
  | keep {t : String} {u w : List String} :
      (∀ e ∈ subst, e.1 ≠ t) → SubstWord subst u w → SubstWord subst (t :: u) (t :: w)
  | repl {t : String} {H : CFG} {v u w : List String} :
      (t, H) ∈ subst → H.Lang v → SubstWord subst u w → SubstWord subst (t :: u) (v ++ w)

/-- hypotheses of `substitute_lang`; every substituted grammar has a start symbol (the library
raises `KeyError` when one has none; the model leaves the terminal in place).  Nothing is asked
about the spelling of terminals and variables: a terminal may be spelled like a variable of any
grammar involved, the renaming only ever touches variables and the substituted terminals. -/
structure SubstOK (G : CFG) (subst : List (String × CFG)) : Prop where
  wfG : G.WF
  wfH : ∀ e ∈ subst, e.2.WF
  keys : (subst.map (·.1)).Nodup
  startH : ∀ e ∈ subst, e.2.start ≠ none

namespace Sub

def sname (v : String) (i : Nat) : String := v ++ "#SUBS#" ++ toString i

theorem hash_not_mem_digits (i : Nat) : '#' ∉ Nat.toDigits 10 i := by
  intro h
  have := Nat.isDigit_of_mem_toDigits (by decide) (by decide) h
  exact absurd this (by decide)

theorem sname_inj {v v' : String} {i j : Nat} (h : sname v i = sname v' j) : v = v' ∧ i = j := by
  have h2 := congrArg String.toList h
  simp only [sname, String.toList_append, Nat.toString_eq_repr, Nat.toList_repr] at h2
  have e : "#SUBS#".toList = ['#', 'S', 'U', 'B', 'S'] ++ ['#'] := by decide
  rw [e] at h2
  simp only [← List.append_assoc] at h2
  simp only [List.append_assoc _ ['#'] _, List.singleton_append] at h2
  obtain ⟨h3, h4⟩ := append_cons_inj_right (hash_not_mem_digits i) (hash_not_mem_digits j) h2
  constructor
  · exact String.toList_injective (List.append_cancel_right h3)
  · exact Nat.repr_injective (String.toList_injective (by rwa [Nat.toList_repr, Nat.toList_repr]))

theorem mem_renameTable {vars : List String} {idx : Nat} {e : String × String}
    (h : e ∈ renameTable vars idx) : e.1 ∈ vars ∧ ∃ i, i < vars.length ∧ e.2 = sname e.1 (idx + i) := by
  unfold renameTable at h
  rw [List.mem_map] at h
  obtain ⟨⟨v, i⟩, hm, rfl⟩ := h
  have h1 := (List.of_mem_zip hm).1
  have h2 := (List.of_mem_zip hm).2
  simp only [List.mem_range] at h2
  exact ⟨h1, i, h2, rfl⟩

theorem renameTable_fst (vars : List String) (idx : Nat) :
    (renameTable vars idx).map (·.1) = vars := by
  unfold renameTable
  rw [List.map_map]
  have : ((fun x : String × String => x.1) ∘ fun x : String × Nat =>
      match x with | (v, i) => (v, v ++ "#SUBS#" ++ toString (idx + i))) = (·.1) := by
    funext x; rfl
  rw [this, List.map_fst_zip]
  simp

theorem find_renameTable_none {vars : List String} {idx : Nat} {v : String} (h : v ∉ vars) :
    (renameTable vars idx).find? (fun e => e.1 = v) = none := by
  rw [List.find?_eq_none]
  intro e he
  have := (mem_renameTable he).1
  simp only [decide_eq_true_eq]
  rintro rfl
  exact h this

theorem mem_lookupName {tbl : List (String × String)} {v : String} (h : v ∈ tbl.map (·.1)) :
    (v, lookupName tbl v) ∈ tbl := by
  unfold lookupName
  cases hf : tbl.find? (fun e => e.1 = v) with
  | none =>
    obtain ⟨e, he, rfl⟩ := List.mem_map.1 h
    exact absurd (List.find?_eq_none.1 hf e he) (by simp)
  | some e =>
    have h2 := List.find?_some hf
    rw [decide_eq_true_eq] at h2
    subst h2
    exact List.mem_of_find?_eq_some hf

theorem lookupName_mem {vars : List String} {idx : Nat} {v : String} (h : v ∈ vars) :
    ∃ i, i < vars.length ∧ lookupName (renameTable vars idx) v = sname v (idx + i) :=
  (mem_renameTable (mem_lookupName (by rwa [renameTable_fst]))).2

theorem renameSym_var (tbl fin : List (String × String)) (v : String) :
    renameSym tbl fin (.var v) = .var (lookupName tbl v) := by
  simp only [renameSym, lookupName]
  cases tbl.find? (fun e => e.1 = v) <;> rfl

theorem renameSym_ter_none {tbl fin : List (String × String)} {t : String}
    (h2 : fin.find? (fun e => e.1 = t) = none) :
    renameSym tbl fin (.ter t) = .ter t := by
  simp [renameSym, h2]

theorem renameSym_ter_some {tbl fin : List (String × String)} {t : String} {e : String × String}
    (h2 : fin.find? (fun e => e.1 = t) = some e) :
    renameSym tbl fin (.ter t) = .var e.2 := by
  simp [renameSym, h2]

/-- the operands with the first index of their block of renamed variables -/
def blocks : Nat → List (String × CFG) → List (String × CFG × Nat)
  | _, [] => []
  | idx, (t, H) :: rest => (t, H, idx) :: blocks (idx + H.vars.length) rest

def blkTbl (b : String × CFG × Nat) : List (String × String) := renameTable b.2.1.vars b.2.2

def blkProds (b : String × CFG × Nat) : List Prod :=
  b.2.1.prods.map fun p => (lookupName (blkTbl b) p.1, p.2.map (renameSym (blkTbl b) []))

def blkFin (b : String × CFG × Nat) : List (String × String) :=
  match b.2.1.start with
  | some s => [(b.1, lookupName (blkTbl b) s)]
  | none => []

theorem fold_eq (f : Nat × List Prod × List (String × String) → String × CFG →
      Nat × List Prod × List (String × String))
    (hf : ∀ idx prods final t H, f (idx, prods, final) (t, H) =
      (idx + H.vars.length, prods ++ blkProds (t, H, idx), final ++ blkFin (t, H, idx))) :
    ∀ (subst : List (String × CFG)) (idx : Nat) (prods : List Prod) (final : List (String × String)),
      ∃ n, subst.foldl f (idx, prods, final) =
        (n, prods ++ (blocks idx subst).flatMap blkProds, final ++ (blocks idx subst).flatMap blkFin) := by
  intro subst
  induction subst with
  | nil => intro idx prods final; exact ⟨idx, by simp [blocks]⟩
  | cons tc rest ih =>
    intro idx prods final
    obtain ⟨t, H⟩ := tc
    rw [List.foldl_cons, hf]
    obtain ⟨n, hn⟩ := ih (idx + H.vars.length) (prods ++ blkProds (t, H, idx)) (final ++ blkFin (t, H, idx))
    exact ⟨n, by rw [hn]; simp [blocks]⟩

def recvTbl (G : CFG) : List (String × String) := renameTable G.vars 0

def finalOf (G : CFG) (subst : List (String × CFG)) : List (String × String) :=
  (blocks G.vars.length subst).flatMap blkFin

def ownProds (G : CFG) (subst : List (String × CFG)) : List Prod :=
  G.prods.map fun p => (lookupName (recvTbl G) p.1, p.2.map (renameSym (recvTbl G) (finalOf G subst)))

theorem substitute_prods (G : CFG) (subst : List (String × CFG)) :
    (G.substitute subst).prods =
      ((blocks G.vars.length subst).flatMap blkProds ++ ownProds G subst).eraseDups := by
  unfold substitute
  simp only
  generalize hfold : List.foldl _ (G.vars.length, ([] : List Prod), ([] : List (String × String))) subst = r
  obtain ⟨n, hn⟩ : ∃ n, r = (n, [] ++ (blocks G.vars.length subst).flatMap blkProds,
      [] ++ (blocks G.vars.length subst).flatMap blkFin) := by
    rw [← hfold]
    refine fold_eq _ ?_ _ _ _ _
    intros; rfl
  subst hn
  rfl

theorem substitute_start (G : CFG) (subst : List (String × CFG)) :
    (G.substitute subst).start = G.start.map (lookupName (recvTbl G)) := rfl

theorem mem_substitute_prods (G : CFG) (subst : List (String × CFG)) (h : String) (body : List Sym) :
    (h, body) ∈ (G.substitute subst).prods ↔
      (∃ b ∈ blocks G.vars.length subst, ∃ q ∈ b.2.1.prods,
        lookupName (blkTbl b) q.1 = h ∧ q.2.map (renameSym (blkTbl b) []) = body) ∨
      ∃ q ∈ G.prods, lookupName (recvTbl G) q.1 = h ∧
        q.2.map (renameSym (recvTbl G) (finalOf G subst)) = body := by
  rw [substitute_prods, List.mem_eraseDups, List.mem_append, List.mem_flatMap]
  simp only [blkProds, ownProds, List.mem_map, Prod.mk.injEq]

theorem mem_blocks {b : String × CFG × Nat} : ∀ {subst : List (String × CFG)} {idx : Nat},
    b ∈ blocks idx subst → (b.1, b.2.1) ∈ subst ∧ idx ≤ b.2.2 := by
  intro subst
  induction subst with
  | nil => intro idx h; simp [blocks] at h
  | cons tc rest ih =>
    intro idx h
    obtain ⟨t, H⟩ := tc
    simp only [blocks, List.mem_cons] at h
    rcases h with rfl | h
    · exact ⟨by simp, Nat.le_refl _⟩
    · obtain ⟨h1, h2⟩ := ih h
      exact ⟨List.mem_cons_of_mem _ h1, by omega⟩

theorem blocks_of_mem {t : String} {H : CFG} : ∀ {subst : List (String × CFG)} (idx : Nat),
    (t, H) ∈ subst → ∃ i, (t, H, i) ∈ blocks idx subst := by
  intro subst
  induction subst with
  | nil => intro idx h; simp at h
  | cons tc rest ih =>
    intro idx h
    obtain ⟨t0, H0⟩ := tc
    rcases List.mem_cons.1 h with h | h
    · simp only [Prod.mk.injEq] at h
      obtain ⟨rfl, rfl⟩ := h
      exact ⟨idx, by simp [blocks]⟩
    · obtain ⟨i, hi⟩ := ih (idx + H0.vars.length) h
      exact ⟨i, by simp [blocks, hi]⟩

theorem blocks_overlap {b b' : String × CFG × Nat} {j : Nat} :
    ∀ {subst : List (String × CFG)} {idx : Nat},
    b ∈ blocks idx subst → b' ∈ blocks idx subst →
    b.2.2 ≤ j → j < b.2.2 + b.2.1.vars.length → b'.2.2 ≤ j → j < b'.2.2 + b'.2.1.vars.length →
    b = b' := by
  intro subst
  induction subst with
  | nil => intro idx h; simp [blocks] at h
  | cons tc rest ih =>
    intro idx h h' h1 h2 h3 h4
    obtain ⟨t, H⟩ := tc
    simp only [blocks, List.mem_cons] at h h'
    rcases h with rfl | h <;> rcases h' with rfl | h'
    · rfl
    · have := (mem_blocks h').2
      simp only at h2
      omega
    · have := (mem_blocks h).2
      simp only at h4
      omega
    · exact ih h h' h1 h2 h3 h4

theorem mem_fin {e : String × String} {subst : List (String × CFG)} {idx : Nat} :
    e ∈ (blocks idx subst).flatMap blkFin ↔
      ∃ b ∈ blocks idx subst, ∃ s, b.2.1.start = some s ∧ e = (b.1, lookupName (blkTbl b) s) := by
  rw [List.mem_flatMap]
  refine exists_congr fun b => and_congr_right fun _ => ?_
  unfold blkFin
  cases b.2.1.start with
  | none => exact iff_of_false List.not_mem_nil (fun ⟨_, h, _⟩ => nomatch h)
  | some s =>
    rw [List.mem_singleton]
    exact ⟨fun h => ⟨s, rfl, h⟩, fun ⟨_, h, he⟩ => by cases h; exact he⟩

theorem find_fin_some {t : String} {H : CFG} {subst : List (String × CFG)} (idx : Nat)
    (hk : (subst.map (·.1)).Nodup) (hst : ∀ e ∈ subst, e.2.start ≠ none) (h : (t, H) ∈ subst) :
    ∃ i s, (t, H, i) ∈ blocks idx subst ∧ H.start = some s ∧
      ((blocks idx subst).flatMap blkFin).find? (fun e => e.1 = t) =
        some (t, lookupName (blkTbl (t, H, i)) s) := by
  obtain ⟨i, hi⟩ := blocks_of_mem idx h
  obtain ⟨s, hs⟩ := Option.ne_none_iff_exists'.1 (hst _ h)
  cases hf : ((blocks idx subst).flatMap blkFin).find? (fun e => e.1 = t) with
  | none =>
    exact absurd (List.find?_eq_none.1 hf _ (mem_fin.2 ⟨_, hi, s, hs, rfl⟩)) (by simp)
  | some e =>
    obtain ⟨⟨t', H', i'⟩, hb, s', hs', rfl⟩ := mem_fin.1 (List.mem_of_find?_eq_some hf)
    have ht := List.find?_some hf
    rw [decide_eq_true_eq] at ht
    cases ht
    cases List.inj_on_of_nodup_map hk (mem_blocks hb).1 h rfl
    exact ⟨i', s', hb, hs', rfl⟩

theorem find_fin_none {t : String} {subst : List (String × CFG)} (idx : Nat)
    (h : ∀ e ∈ subst, e.1 ≠ t) :
    ((blocks idx subst).flatMap blkFin).find? (fun e => e.1 = t) = none := by
  rw [List.find?_eq_none]
  intro e he
  obtain ⟨b, hb, s, _, rfl⟩ := mem_fin.1 he
  simp only [decide_eq_true_eq]
  exact h _ (mem_blocks hb).1

theorem lookup_eq {vars vars' : List String} {idx idx' : Nat} {v v' : String} (hv : v ∈ vars)
    (hv' : v' ∈ vars')
    (h : lookupName (renameTable vars idx) v = lookupName (renameTable vars' idx') v') :
    v = v' ∧ ∃ j, idx ≤ j ∧ j < idx + vars.length ∧ idx' ≤ j ∧ j < idx' + vars'.length := by
  obtain ⟨i, hi, e⟩ := lookupName_mem (idx := idx) hv
  obtain ⟨i', hi', e'⟩ := lookupName_mem (idx := idx') hv'
  rw [e, e'] at h
  obtain ⟨h1, h2⟩ := sname_inj h
  exact ⟨h1, idx + i, Nat.le_add_right _ _, Nat.add_lt_add_left hi _,
    h2 ▸ Nat.le_add_right _ _, h2 ▸ Nat.add_lt_add_left hi' _⟩

theorem lookup_blk_eq {subst : List (String × CFG)} {idx : Nat} {b b' : String × CFG × Nat}
    {v v' : String} (hb : b ∈ blocks idx subst) (hb' : b' ∈ blocks idx subst)
    (hv : v ∈ b.2.1.vars) (hv' : v' ∈ b'.2.1.vars)
    (h : lookupName (blkTbl b) v = lookupName (blkTbl b') v') : b = b' ∧ v = v' := by
  obtain ⟨h1, j, a1, a2, a3, a4⟩ := lookup_eq hv hv' h
  exact ⟨blocks_overlap hb hb' a1 a2 a3 a4, h1⟩

theorem lookup_blk_ne_recv {G : CFG} {subst : List (String × CFG)} {b : String × CFG × Nat}
    {v v' : String} (hb : b ∈ blocks G.vars.length subst)
    (hv : v ∈ b.2.1.vars) (hv' : v' ∈ G.vars) :
    lookupName (blkTbl b) v ≠ lookupName (recvTbl G) v' := by
  intro h
  obtain ⟨_, j, a1, _, _, a4⟩ := lookup_eq hv hv' h
  have := (mem_blocks hb).2
  omega

theorem lookup_recv_inj {G : CFG} {v v' : String} (hv : v ∈ G.vars) (hv' : v' ∈ G.vars)
    (h : lookupName (recvTbl G) v = lookupName (recvTbl G) v') : v = v' :=
  (lookup_eq hv hv' h).1

theorem renameSym_op_ter (tbl : List (String × String)) (t : String) :
    renameSym tbl [] (.ter t) = .ter t :=
  renameSym_ter_none (by simp)

/-- `K` sits inside `S` under a renaming `σ` of its symbols (variables go to variables, `ρ`): every
production of `K` is one of `S`, and a production of `S` whose head is the image of a declared
variable of `K` is the image of a production of `K`.  `G.substitute subst` is made of such copies:
one of each operand (`embeds_blk`) and one of the receiver (`embeds_recv`); `bwd` is where the
names of different copies must not meet. -/
structure Embeds (K S : CFG) (σ : Sym → Sym) (ρ : String → String) : Prop where
  var : ∀ v, σ (.var v) = .var (ρ v)
  fwd : ∀ p ∈ K.prods, (ρ p.1, p.2.map σ) ∈ S.prods
  bwd : ∀ v ∈ K.vars, ∀ body', (ρ v, body') ∈ S.prods →
    ∃ body, (v, body) ∈ K.prods ∧ body' = body.map σ

/-- below the leaves `u` of a tree of `K` hang trees of `S` that together spell `w` -/
abbrev Below (S : CFG) (σ : Sym → Sym) (u w : List String) : Prop :=
  S.GenList (u.map fun t => σ (.ter t)) w

theorem Embeds.up {K S : CFG} {σ : Sym → Sym} {ρ : String → String} (e : Embeds K S σ ρ) :
    (∀ s u, K.Gen s u → ∀ w, Below S σ u w → S.Gen (σ s) w) ∧
    (∀ body u, K.GenList body u → ∀ w, Below S σ u w → S.GenList (body.map σ) w) := by
  apply Clean.gen_ind
  · intro t w hw; exact genList_singleton.1 hw
  · intro h body u hp _ ih w hw
    rw [e.var]
    exact .var (e.fwd _ hp) (ih w hw)
  · intro w hw; exact hw
  · intro s u w₁ w₂ _ _ ih₁ ih₂ w hw
    rw [Below, List.map_append] at hw
    obtain ⟨x₁, x₂, rfl, h1, h2⟩ := (genList_append_iff ..).1 hw
    exact .cons (ih₁ _ h1) (ih₂ _ h2)

/-- A tree of `S` under the image of a variable of `K` is cut where it leaves the image of `K`:
at a variable the production comes from `K` (`bwd`); at a leaf `t` of `K` the whole subtree under
`σ (.ter t)` is kept as it is, whatever `σ` does to `t`. -/
theorem Embeds.down {K S : CFG} {σ : Sym → Sym} {ρ : String → String} (e : Embeds K S σ ρ)
    (hK : K.WF) :
    (∀ s' w, S.Gen s' w → ∀ v ∈ K.vars, s' = .var (ρ v) → ∃ u, K.Gen (.var v) u ∧ Below S σ u w) ∧
    (∀ u' w, S.GenList u' w → ∀ body, (∀ v, Sym.var v ∈ body → v ∈ K.vars) → u' = body.map σ →
      ∃ u, K.GenList body u ∧ Below S σ u w) := by
  apply Clean.gen_ind
  · intro t v _ he; cases he
  · intro h' body' w hp _ ih v hv he
    cases he
    obtain ⟨body, hq, rfl⟩ := e.bwd v hv body' hp
    obtain ⟨u, hu, hw⟩ := ih body (hK.var_mem _ hq) rfl
    exact ⟨u, .var hq hu, hw⟩
  · intro body _ he
    cases body with
    | nil => exact ⟨[], .nil, .nil⟩
    | cons _ _ => cases he
  · intro s' u' w₁ w₂ hs' _ ih₁ ih₂ body hv he
    cases body with
    | nil => cases he
    | cons s body =>
      rw [List.map_cons, List.cons.injEq] at he
      have h1 : ∃ u₁, K.Gen s u₁ ∧ Below S σ u₁ w₁ := by
        cases s with
        | ter t => exact ⟨[t], .ter t, genList_singleton.2 (show S.Gen (σ (.ter t)) w₁ from he.1 ▸ hs')⟩
        | var v => exact ih₁ v (hv v List.mem_cons_self) (he.1.trans (e.var v))
      obtain ⟨u₁, h1, h2⟩ := h1
      obtain ⟨u₂, h3, h4⟩ := ih₂ body (fun x hx => hv x (List.mem_cons_of_mem _ hx)) he.2
      exact ⟨u₁ ++ u₂, .cons h1 h3, by rw [Below, List.map_append]; exact genList_append h2 h4⟩

theorem Embeds.gen_iff {K S : CFG} {σ : Sym → Sym} {ρ : String → String} (e : Embeds K S σ ρ)
    (hK : K.WF) {v : String} (hv : v ∈ K.vars) (w : List String) :
    S.Gen (.var (ρ v)) w ↔ ∃ u, K.Gen (.var v) u ∧ Below S σ u w :=
  ⟨fun h => (e.down hK).1 _ _ h v hv rfl, fun ⟨u, hu, hw⟩ => e.var v ▸ e.up.1 _ u hu w hw⟩

theorem embeds_blk {G : CFG} {subst : List (String × CFG)} (hG : G.WF) (hwfs : ∀ e ∈ subst, e.2.WF)
    {b : String × CFG × Nat} (hb : b ∈ blocks G.vars.length subst) :
    Embeds b.2.1 (G.substitute subst) (renameSym (blkTbl b) []) (lookupName (blkTbl b)) where
  var := renameSym_var _ _
  fwd p hp := (mem_substitute_prods G subst _ _).2 (Or.inl ⟨b, hb, p, hp, rfl, rfl⟩)
  bwd v hv body' hp := by
    rcases (mem_substitute_prods G subst _ _).1 hp with ⟨b', hb', q, hq, e1, e2⟩ | ⟨q, hq, e1, _⟩
    · obtain ⟨rfl, rfl⟩ := lookup_blk_eq hb' hb ((hwfs _ (mem_blocks hb').1).head_mem q hq) hv e1
      exact ⟨q.2, hq, e2.symm⟩
    · exact absurd e1.symm (lookup_blk_ne_recv hb hv (hG.head_mem q hq))

theorem embeds_recv {G : CFG} {subst : List (String × CFG)} (ok : SubstOK G subst) :
    Embeds G (G.substitute subst) (renameSym (recvTbl G) (finalOf G subst))
      (lookupName (recvTbl G)) where
  var := renameSym_var _ _
  fwd p hp := (mem_substitute_prods G subst _ _).2 (Or.inr ⟨p, hp, rfl, rfl⟩)
  bwd v hv body' hp := by
    rcases (mem_substitute_prods G subst _ _).1 hp with ⟨b', hb', q, hq, e1, _⟩ | ⟨q, hq, e1, e2⟩
    · exact absurd e1 (lookup_blk_ne_recv hb' ((ok.wfH _ (mem_blocks hb').1).head_mem q hq) hv)
    · cases lookup_recv_inj (ok.wfG.head_mem q hq) hv e1
      exact ⟨q.2, hq, e2.symm⟩

theorem op_iff {G : CFG} {subst : List (String × CFG)} (ok : SubstOK G subst)
    {b : String × CFG × Nat} (hb : b ∈ blocks G.vars.length subst) {v : String}
    (hv : v ∈ b.2.1.vars) (w : List String) :
    (G.substitute subst).Gen (.var (lookupName (blkTbl b) v)) w ↔ b.2.1.Gen (.var v) w := by
  rw [(embeds_blk ok.wfG ok.wfH hb).gen_iff (ok.wfH _ (mem_blocks hb).1) hv]
  simp only [Below, renameSym_op_ter, genList_map_ter_iff, exists_eq_right]

/-- What `G.substitute subst` is once the names are forgotten: `S` holds a copy of `G` under `σ`/`ρ`
in which a kept terminal is itself and a substituted one has become a symbol that generates the
language of its grammar.  The language theorems use nothing else. -/
structure Substituted (G : CFG) (subst : List (String × CFG)) (S : CFG) (σ : Sym → Sym)
    (ρ : String → String) : Prop where
  emb : Embeds G S σ ρ
  start : S.start = G.start.map ρ
  keep : ∀ t, (∀ e ∈ subst, e.1 ≠ t) → σ (.ter t) = .ter t
  repl : ∀ e ∈ subst, ∀ w, S.Gen (σ (.ter e.1)) w ↔ e.2.Lang w

/-- `keys` is needed here only: the table of substituted terminals is searched from the front. -/
theorem substitute_spec {G : CFG} {subst : List (String × CFG)} (ok : SubstOK G subst) :
    ∃ σ ρ, Substituted G subst (G.substitute subst) σ ρ := by
  refine ⟨_, _, embeds_recv ok, substitute_start G subst,
    fun t hk => renameSym_ter_none (find_fin_none _ hk), ?_⟩
  rintro ⟨t, H⟩ he w
  obtain ⟨i, s, hb, hs, hf⟩ := find_fin_some G.vars.length ok.keys ok.startH he
  rw [show renameSym (recvTbl G) (finalOf G subst) (.ter t) = _ from renameSym_ter_some hf,
    op_iff ok hb ((ok.wfH _ he).start_mem s hs), lang_of_start hs]

section
variable {G S : CFG} {subst : List (String × CFG)} {σ : Sym → Sym} {ρ : String → String}

theorem Substituted.below (h : Substituted G subst S σ ρ) {u w : List String} :
    Below S σ u w ↔ SubstWord subst u w := by
  constructor
  · intro hb
    induction u generalizing w with
    | nil => cases hb; exact .nil
    | cons t u ih =>
      obtain ⟨w₁, w₂, rfl, h1, h2⟩ := genList_cons_iff.1 hb
      by_cases hk : ∀ e ∈ subst, e.1 ≠ t
      · cases (h.keep t hk ▸ h1 : S.Gen (.ter t) w₁)
        exact .keep hk (ih h2)
      · simp only [ne_eq, not_forall, not_not] at hk
        obtain ⟨e, he, rfl⟩ := hk
        exact .repl he ((h.repl e he _).1 h1) (ih h2)
  · intro hsw
    induction hsw with
    | nil => exact .nil
    | keep hk _ ih =>
      exact .cons (w₁ := [_]) (show S.Gen (σ (.ter _)) _ from (h.keep _ hk).symm ▸ .ter _) ih
    | repl he hv _ ih => exact .cons ((h.repl _ he _).2 hv) ih

theorem Substituted.lang_of_start (h : Substituted G subst S σ ρ) {s : String}
    (hs : G.start = some s) (w : List String) : S.Lang w ↔ S.Gen (.var (ρ s)) w :=
  CFG.lang_of_start (by rw [h.start, hs]; rfl) w

theorem Substituted.lang (h : Substituted G subst S σ ρ) (hG : G.WF) (w : List String) :
    S.Lang w ↔ ∃ u, G.Lang u ∧ SubstWord subst u w := by
  cases hs : G.start with
  | none => simp [Lang, h.start, hs]
  | some s =>
    simp only [h.lang_of_start hs, CFG.lang_of_start hs, h.emb.gen_iff hG (hG.start_mem s hs),
      h.below]

/-- The copy of a variable of `G` has the productions of that variable with every symbol replaced
by its image: with `repl` for the leaves this is the hypothesis of `gen_alt_iff`, `gen_cat_iff`,
`gen_star_iff`, so a template (`union`, `concatenate`, the closures) is read in the result itself. -/
theorem Substituted.prods_iff (h : Substituted G subst S σ ρ) {v : String} (hv : v ∈ G.vars)
    (body' : List Sym) :
    (ρ v, body') ∈ S.prods ↔ ∃ body, (v, body) ∈ G.prods ∧ body' = body.map σ :=
  ⟨h.emb.bwd v hv body', fun ⟨_, hq, e⟩ => e ▸ h.emb.fwd _ hq⟩

end

theorem unionT_prods : unionT.prods =
    [("#STARTUNION#", [.ter "#0UNION#"]), ("#STARTUNION#", [.ter "#1UNION#"])] := rfl
theorem concT_prods : concT.prods = [("#STARTCONC#", [.ter "#0CONC#", .ter "#1CONC#"])] := rfl
theorem closT_prods : closT.prods =
    [("#STARTCLOS#", [.ter "#1CLOS#"]), ("#STARTCLOS#", [.var "#STARTCLOS#", .var "#STARTCLOS#"]),
     ("#STARTCLOS#", [])] := rfl
theorem posClosT_prods : posClosT.prods =
    [("#STARTPOSCLOS#", [.ter "#1POSCLOS#", .var "#VARPOSCLOS#"]),
     ("#VARPOSCLOS#", [.var "#VARPOSCLOS#", .var "#VARPOSCLOS#"]),
     ("#VARPOSCLOS#", [.ter "#1POSCLOS#"]), ("#VARPOSCLOS#", [])] := rfl

theorem ok_pair {T G H : CFG} {a b : String} (hT : T.WF) (hab : a ≠ b) (hG : G.WF) (hH : H.WF)
    (sG : G.start ≠ none) (sH : H.start ≠ none) : SubstOK T [(a, G), (b, H)] where
  wfG := hT
  wfH := List.forall_mem_cons.2 ⟨hG, List.forall_mem_singleton.2 hH⟩
  keys := List.nodup_cons.2 ⟨fun h => hab (List.mem_singleton.1 h), List.nodup_singleton b⟩
  startH := List.forall_mem_cons.2 ⟨sG, List.forall_mem_singleton.2 sH⟩

theorem ok_single {T G : CFG} {a : String} (hT : T.WF) (hG : G.WF) (sG : G.start ≠ none) :
    SubstOK T [(a, G)] where
  wfG := hT
  wfH := List.forall_mem_singleton.2 hG
  keys := List.nodup_singleton a
  startH := List.forall_mem_singleton.2 sG

end Sub
end CFG
end Pfl
