/-
C14 — `LLOneParser.get_llone_parse_tree` always returns: the stack machine (`parseLoop`, whose fuel
counts machine steps) stops on EVERY well-formed grammar and every input, although the library does
not check that the grammar is LL(1) (a cell with exactly one production is used, any other cell
raises NotParsableException) and although the grammar may be left recursive, have unit cycles,
ε-productions, non-generating or unreachable symbols.

Why (`Pfl/Proofs/LL1TerminationDescent.lean`, `descent`): a step that expands a variable `X` under
the lookahead `a` uses the ONLY production `p` of the cell `(X, a)`.
* If `X` is nullable and `a ∈ FOLLOW(X)`, the production that justifies the nullability of `X` at
  least height is in the cell, so it is `p`: the whole body is nullable at smaller heights, with `a`
  in FOLLOW.
* Otherwise `a ∈ FIRST(X)`, and the production that justifies this at least height is in the cell,
  so it is `p = X → α Z β` with `α` nullable and `a ∈ FIRST(Z)` at a smaller height; the symbols of
  `α` are nullable with `a` in their FOLLOW (first case), and nothing behind `Z` can surface before
  input is consumed, because a symbol with `a` in FIRST is never popped without consuming input
  (`nofirst`).
So between two consumed input symbols the symbols on a path of open expansions strictly descend
in a well-founded order, no variable repeats on such a path, and the run is bounded
(`Pfl/Proofs/LL1TerminationRun.lean`).  The facts on FIRST / FOLLOW / the table that this uses hold
without assuming that the symbols generate (`Pfl/Proofs/LL1TerminationSets.lean`).

The bound `parseFuel` is `(|w| + 1) · (V + 1) · (1 + L · (1 + L + … + L^V)) + 1` with `V` the
number of variables and `L` the longest body.  The factor exponential in `V` is needed: with
`X₁ → X₂ X₂, …, X_{V-1} → X_V X_V, X_V → ε` the empty word takes `2^V` steps (`steps_double`).
-/
import Pfl.Props.C14_Lib
import Pfl.Props.C01_Termination
import Pfl.Props.C09_Clean
import Pfl.Proofs.LL1TerminationRun
namespace Pfl
namespace LL1Lib
open CFG Lem _root_.Pfl.LL1Lib.Term
open Pfl.Term (firstFuel followFuel)

/-- unfolding equation of `epsCost L d = 1 + L + … + L^d` -/
theorem epsCost_eq (L d : Nat) : epsCost L (d + 1) = 1 + L * epsCost L d := rfl

/-- machine steps that always suffice for the word `w`: `V` variables, longest body `L` -/
def parseFuel (G : CFG) (w : List String) : Nat :=
  parseSteps (maxBody G) G.vars.length w.length

theorem parseFuel_eq (G : CFG) (w : List String) :
    parseFuel G w =
      (1 + maxBody G * epsCost (maxBody G) G.vars.length) * (G.vars.length + 1) * (w.length + 1) + 1 :=
  rfl

theorem body_le_maxBody (G : CFG) (p : Pfl.Prod) (hp : p ∈ G.prods) : p.2.length ≤ maxBody G :=
  le_maxBody hp

/-- the stack machine stops, whatever the grammar (the table may come from a grammar that is not
LL(1), left recursive, with useless symbols …): a symbol on top of any stack is processed (popped
completely, or NotParsableException) within the bound -/
theorem parseLoop_segment (G : CFG) (hG : G.WF) (fuel₀ : Nat) (tb : List (String × Look × Pfl.Prod))
    (htb : table G fuel₀ = some tb) (x : Sym) (w : List String) :
    ∃ n, n + 1 ≤ parseFuel G w ∧
      ((∀ fuel stack out, parseLoop tb (fuel + n) (some x :: stack) w out = some none) ∨
       ∃ c, c ≤ w.length ∧ ∀ fuel stack out, ∃ out',
          parseLoop tb (fuel + n) (some x :: stack) w out = parseLoop tb fuel stack (w.drop c) out') := by
  obtain ⟨f, fo, H⟩ := facts_of_table G hG fuel₀ tb htb
  obtain ⟨n, c, ok, hD, hc, _, hb⟩ := sym_total H w x
  refine ⟨n, Nat.le_trans (Nat.succ_le_succ hb) (Bd_le_parseSteps _ _ _ _ hc), ?_⟩
  cases ok with
  | false => exact Or.inl fun fuel stack out => (hD fuel stack out).elim fun _ e => e
  | true => exact Or.inr ⟨c, hc, hD⟩

theorem parseLoop_isSome (G : CFG) (hG : G.WF) (fuel₀ : Nat) (tb : List (String × Look × Pfl.Prod))
    (htb : table G fuel₀ = some tb) (s : String) (w : List String) (fuel : Nat)
    (hf : parseFuel G w ≤ fuel) :
    (parseLoop tb fuel [some (.var s), none] w []).isSome := by
  obtain ⟨n, hn, h⟩ := parseLoop_segment G hG fuel₀ tb htb (.var s) w
  obtain ⟨k, rfl⟩ := Nat.exists_eq_add_of_le' (Nat.le_trans hn hf)
  rw [← Nat.add_assoc, Nat.add_right_comm]
  rcases h with h | ⟨c, _, h⟩
  · rw [h (k + 1) [none] []]; rfl
  · -- the start symbol has been popped: the end marker decides
    obtain ⟨out', e⟩ := h (k + 1) [none] []
    rw [e, parseLoop_eof]
    split <;> rfl

/-- the tree is rebuilt from a leftmost sequence with a fuel of one more than its length -/
theorem buildTree_isSome (fuel : Nat) (s : Sym) (ss : List Sym) (ps : List Pfl.Prod)
    (w : List String) (h : Lm (s :: ss) ps w) (hf : ps.length + 1 ≤ fuel) :
    (buildTree fuel s ps).isSome := by
  obtain ⟨t, ps', e, _⟩ := RecDescent.Lem.build_lm true fuel s ss ps w h hf
  rw [buildTree_eq_build, e]; rfl

theorem parse_tree_of_emitted (G : CFG) (w : List String) (fuel : Nat) (ps : List Pfl.Prod)
    (h : emitted G w fuel = some (some ps)) :
    ∃ t, parse G w fuel = some (some t) ∧ G.treeValid t w = true := by
  have hp := parse_of_emitted G w fuel
  rwa [h] at hp

/-- total correctness: with enough fuel the answer is NotParsableException or a parse tree of `w`.
The stack machine answers (`parseLoop_isSome`), and `parse` follows it (`parse_of_emitted`). -/
theorem parse_total (G : CFG) (hG : G.WF) (w : List String) (fuel : Nat)
    (hf1 : firstFuel G ≤ fuel) (hf2 : followFuel G ≤ fuel) (hf3 : parseFuel G w ≤ fuel) :
    parse G w fuel = some none ∨
      ∃ t, parse G w fuel = some (some t) ∧ G.treeValid t w = true := by
  have he : (emitted G w fuel).isSome := by
    obtain ⟨tb, htb⟩ := Option.isSome_iff_exists.mp (table_isSome G fuel hf1 hf2)
    unfold emitted
    cases G.start with
    | none => rfl
    | some s => rw [htb]; exact parseLoop_isSome G hG fuel tb htb s w fuel hf3
  have hp := parse_of_emitted G w fuel
  split at hp
  · next e => rw [e] at he; cases he
  · exact Or.inl hp
  · exact Or.inr hp

/-- `get_llone_parse_tree` terminates on every well-formed grammar (without a start symbol the
answer is NotParsableException at once, see `parse_no_start`) -/
theorem parse_isSome (G : CFG) (hG : G.WF) (w : List String) (fuel : Nat)
    (hf1 : firstFuel G ≤ fuel) (hf2 : followFuel G ≤ fuel) (hf3 : parseFuel G w ≤ fuel) :
    (parse G w fuel).isSome := by
  rcases parse_total G hG w fuel hf1 hf2 hf3 with h | ⟨t, h, _⟩ <;> rw [h] <;> rfl

/-- in particular for every grammar object of the library (`CFG.__init__` registers the symbols) -/
theorem parse_isSome_mk' (vars ters : List String) (start : String) (prods : List Pfl.Prod)
    (w : List String) (fuel : Nat)
    (hf1 : firstFuel (mk' vars ters (some start) prods) ≤ fuel)
    (hf2 : followFuel (mk' vars ters (some start) prods) ≤ fuel)
    (hf3 : parseFuel (mk' vars ters (some start) prods) w ≤ fuel) :
    (parse (mk' vars ters (some start) prods) w fuel).isSome :=
  parse_isSome _ (mk'_wf _ _ _ _) w fuel hf1 hf2 hf3

/-- (`some none`: NotParsableException) -/
theorem parse_no_start (G : CFG) (h : G.start = none) (w : List String) (fuel : Nat) :
    parse G w fuel = some none := by
  unfold parse
  rw [h]

/-- `S → A A, A → B B, B → ε` -/
def dbl3 : CFG :=
  CFG.mk' [] [] (some "S") [("S", [.var "A", .var "A"]), ("A", [.var "B", .var "B"]), ("B", [])]

/-- `S → A A, A → B B, B → C C, C → ε` -/
def dbl4 : CFG :=
  CFG.mk' [] [] (some "S")
    [("S", [.var "A", .var "A"]), ("A", [.var "B", .var "B"]), ("B", [.var "C", .var "C"]), ("C", [])]

/-- left recursion -/
def leftRec : CFG := CFG.mk' [] [] (some "S") [("S", [.var "S", .ter "a"]), ("S", [.ter "a"])]

/-- left recursion hidden behind a nullable variable -/
def hiddenRec : CFG :=
  CFG.mk' [] [] (some "S") [("S", [.var "A", .var "S", .ter "a"]), ("S", [.ter "b"]), ("A", [])]

/-- a unit cycle -/
def unitCycle : CFG :=
  CFG.mk' [] [] (some "S") [("S", [.var "A"]), ("A", [.var "S"]), ("A", [.ter "a"])]

/-- a non-generating left-recursive variable whose cells hold a single production each -/
def selfLoop : CFG := CFG.mk' [] [] (some "S") [("S", [.var "A", .var "S"]), ("A", [.ter "a"]), ("A", [])]

/-- not LL(1), still used by the library -/
def notLL1 : CFG :=
  CFG.mk' [] [] (some "S") [("S", [.ter "a", .var "S"]), ("S", [.ter "a"]), ("S", [.ter "b"])]

theorem examples_wf : dbl3.WF ∧ dbl4.WF ∧ leftRec.WF ∧ hiddenRec.WF ∧ unitCycle.WF ∧ selfLoop.WF ∧
    notLL1.WF :=
  ⟨mk'_wf _ _ _ _, mk'_wf _ _ _ _, mk'_wf _ _ _ _, mk'_wf _ _ _ _, mk'_wf _ _ _ _, mk'_wf _ _ _ _,
    mk'_wf _ _ _ _⟩

/-- the fuels of the theorem on the examples -/
theorem examples_fuel :
    (firstFuel dbl3, followFuel dbl3, parseFuel dbl3 []) = (15, 19, 125) ∧
    (firstFuel dbl4, followFuel dbl4, parseFuel dbl4 []) = (24, 34, 316) ∧
    (firstFuel hiddenRec, followFuel hiddenRec, parseFuel hiddenRec ["b", "a"]) = (20, 101, 361) := by
  decide +kernel

theorem fuels_le {a b c a' b' c' n : Nat} (h : (a, b, c) = (a', b', c')) (ha : a' ≤ n) (hb : b' ≤ n)
    (hc : c' ≤ n) : a ≤ n ∧ b ≤ n ∧ c ≤ n := by
  cases h; exact ⟨ha, hb, hc⟩

/-- non-vacuity of `parse_isSome` / `parse_total` -/
example : (parse hiddenRec ["b", "a"] 361).isSome :=
  have h := fuels_le (n := 361) examples_fuel.2.2 (by decide) (by decide) (by decide)
  parse_isSome hiddenRec examples_wf.2.2.2.1 _ 361 h.1 h.2.1 h.2.2

/-- the step bound must be exponential in the number of variables: with bodies of length 2 the
empty word takes exactly 8 steps with three variables and 16 with four -/
theorem steps_double :
    ((table dbl3 19).map fun tb =>
      ((parseLoop tb 7 [some (.var "S"), none] [] []).isSome,
       (parseLoop tb 8 [some (.var "S"), none] [] []).isSome)) = some (false, true) ∧
    ((table dbl4 34).map fun tb =>
      ((parseLoop tb 15 [some (.var "S"), none] [] []).isSome,
       (parseLoop tb 16 [some (.var "S"), none] [] []).isSome)) = some (false, true) := by
  decide +kernel

/-- `some false`: NotParsableException, `some true`: a tree, `none`: out of fuel -/
def outcome (r : Option (Option PTree)) : Option Bool := r.map Option.isSome

/-- left recursion, open or hidden, unit cycles and useless loops end in NotParsableException,
because the cell met holds two productions or none -/
theorem recursion_rejected :
    outcome (parse leftRec ["a"] 100) = some false ∧
    outcome (parse leftRec ["a", "a"] 100) = some false ∧
    outcome (parse hiddenRec ["b"] 361) = some false ∧
    outcome (parse hiddenRec ["b", "a"] 361) = some false ∧
    outcome (parse unitCycle ["a"] 100) = some false ∧
    outcome (parse selfLoop ["a"] 100) = some false ∧
    outcome (parse selfLoop [] 100) = some false := by
  decide +kernel

/-- a grammar that is not LL(1) still yields trees for the words that only meet single-entry
cells -/
theorem notLL1_used :
    isLLOne notLL1 100 = some false ∧
    emitted notLL1 ["b"] 100 = some (some [("S", [.ter "b"])]) ∧
    emitted notLL1 ["a", "b"] 100 = some none := by
  decide +kernel

theorem notLL1_tree : ∃ t, parse notLL1 ["b"] 100 = some (some t) ∧ notLL1.treeValid t ["b"] = true :=
  parse_tree_of_emitted notLL1 ["b"] 100 _ notLL1_used.2.1

theorem dbl3_emitted :
    emitted dbl3 [] 125 = some (some [("S", [.var "A", .var "A"]), ("A", [.var "B", .var "B"]),
      ("B", []), ("B", []), ("A", [.var "B", .var "B"]), ("B", []), ("B", [])]) := by
  decide +kernel

theorem dbl3_tree : ∃ t, parse dbl3 [] 125 = some (some t) ∧ dbl3.treeValid t [] = true :=
  parse_tree_of_emitted dbl3 [] 125 _ dbl3_emitted

end LL1Lib
end Pfl
