/-
C20 — the edge labels written by `to_networkx` for PDAs and transducers are read back by
`from_networkx` as the same components, for component texts that keep clear of the separators.
-/
import Pfl.Model.LabelCodec
import Pfl.Proofs.LabelSplit
namespace Pfl
namespace LabelCodec
open Pfl.LabelCodec.Lem

/-- exact side conditions: the first occurrence of each separator is the one written -/
theorem readPdaLabel_pdaLabel (i f t : List Char)
    (h1 : ¬ sepArrow <:+: i ++ sepArrow.dropLast)
    (h2 : ¬ sepArrow <:+: f ++ sepSlash ++ t)
    (h3 : ¬ sepSlash <:+: f ++ sepSlash.dropLast)
    (h4 : ¬ sepSlash <:+: t) :
    readPdaLabel (pdaLabel i f t) = some (i, f, t) := by
  have e : pdaLabel i f t = i ++ sepArrow ++ (f ++ sepSlash ++ t) := by
    simp only [pdaLabel, List.append_assoc]
  unfold readPdaLabel
  rw [e, split_pair sepArrow i _ h1 h2]
  simp only
  rw [split_pair sepSlash f t h3 h4]

theorem readFstLabel_fstLabel (i o : List Char)
    (h1 : ¬ sepArrow <:+: i ++ sepArrow.dropLast)
    (h2 : ¬ sepArrow <:+: o) :
    readFstLabel (fstLabel i o) = some (i, o) := by
  unfold readFstLabel fstLabel
  rw [split_pair sepArrow i o h1 h2]

/-- a simple sufficient class (what property C20 quantifies over, seen through `json.dumps`):
texts in which a blank is never followed by '-' or '/', which do not end with a blank and do not
start with "-> " (the last condition is needed: see `readPdaLabel_clear_needs_prefix_condition`) -/
def Clear (s : List Char) : Prop :=
  ¬ [' ', '-'] <:+: s ∧ ¬ [' ', '/'] <:+: s ∧ s.getLast? ≠ some ' ' ∧ ¬ ['-', '>', ' '] <+: s

namespace Lem

theorem clear_arrow_dropLast {s : List Char} (h : Clear s) :
    ¬ sepArrow <:+: s ++ sepArrow.dropLast := by
  rw [sepArrow_eq]
  exact not_infix_append_dropLast h.1 h.2.2.1

theorem clear_slash_dropLast {s : List Char} (h : Clear s) :
    ¬ sepSlash <:+: s ++ sepSlash.dropLast := by
  rw [sepSlash_eq]
  exact not_infix_append_dropLast h.2.1 h.2.2.1

theorem clear_arrow {s : List Char} (h : Clear s) : ¬ sepArrow <:+: s := by
  intro hi
  rw [sepArrow_eq] at hi
  exact h.1 ((List.prefix_append [' ', '-'] ['>', ' ']).isInfix.trans hi)

theorem clear_slash {s : List Char} (h : Clear s) : ¬ sepSlash <:+: s := by
  intro hi
  rw [sepSlash_eq] at hi
  exact h.2.1 ((List.prefix_append [' ', '/'] [' ']).isInfix.trans hi)

theorem clear_arrow_mid {f t : List Char} (hf : Clear f) (ht : Clear t) :
    ¬ sepArrow <:+: f ++ sepSlash ++ t := by
  intro hi
  rw [List.append_assoc, sepArrow_eq, sepSlash_eq] at hi
  rcases infix_append_cases hi with h' | ⟨h', -⟩ | h'
  · exact hf.1 h'
  · exact hf.2.2.1 h'
  · have h'' : [' ', '-', '>', ' '] <:+: ' ' :: '/' :: ' ' :: t := h'
    rw [List.infix_cons_iff, List.infix_cons_iff, List.infix_cons_iff] at h''
    rcases h'' with h'' | h'' | h'' | h''
    · simp [List.cons_prefix_cons] at h''
    · simp [List.cons_prefix_cons] at h''
    · rw [List.cons_prefix_cons] at h''
      exact ht.2.2.2 h''.2
    · exact clear_arrow ht (by rw [sepArrow_eq]; exact h'')

end Lem

theorem readPdaLabel_pdaLabel_clear (i f t : List Char) (hi : Clear i) (hf : Clear f) (ht : Clear t) :
    readPdaLabel (pdaLabel i f t) = some (i, f, t) :=
  readPdaLabel_pdaLabel i f t (clear_arrow_dropLast hi) (clear_arrow_mid hf ht)
    (clear_slash_dropLast hf) (clear_slash ht)

theorem readFstLabel_fstLabel_clear (i o : List Char) (hi : Clear i) (ho : Clear o) :
    readFstLabel (fstLabel i o) = some (i, o) :=
  readFstLabel_fstLabel i o (clear_arrow_dropLast hi) (clear_arrow ho)

/-- the side conditions matter: a component containing the separator is not read back -/
theorem readFstLabel_counterexample :
    readFstLabel (fstLabel "\"a -> b\"".toList "[]".toList) = none := by
  decide +kernel

/-- the fourth conjunct of `Clear` is needed: three texts satisfying the first three conjuncts
whose label is not read back (the trailing blank of " / " and a stack text starting with "-> "
form a new " -> "): "1 -> a / -> x" splits into "1", "a /", "x" -/
theorem readPdaLabel_clear_needs_prefix_condition :
    (∀ s ∈ ["1".toList, "a".toList, "-> x".toList],
      ¬ [' ', '-'] <:+: s ∧ ¬ [' ', '/'] <:+: s ∧ s.getLast? ≠ some ' ') ∧
    readPdaLabel (pdaLabel "1".toList "a".toList "-> x".toList) = none := by
  decide +kernel

end LabelCodec
end Pfl
