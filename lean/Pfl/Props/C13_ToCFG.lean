/-
C13 / C11 — the triple construction `to_cfg` generates what the PDA accepts by empty stack;
the product with a deterministic automaton accepts the intersection by final state.
-/
import Pfl.Props.C13_Modes
import Pfl.Proofs.FABase
import Pfl.Proofs.PDAToCFG
namespace Pfl
namespace PDA
open Pfl.CFG Pfl.PDA.ToCFG
variable {σ γ τ : Type} [DecidableEq σ] [DecidableEq γ] [DecidableEq τ]

/-- `to_cfg` generates the language accepted by empty stack, when the triple names are unambiguous
(`hinj`) and none is the start name `#StartCFG#` (`hstart`) -/
theorem toCFG_lang (P : PDA σ γ) (hP : P.WF) (ns : σ → String) (ng : γ → String)
    (hinj : ∀ q x p q' x' p', q ∈ P.states → p ∈ P.states → q' ∈ P.states → p' ∈ P.states →
      x ∈ P.stack → x' ∈ P.stack →
      tripleName ns ng q x p = tripleName ns ng q' x' p' → q = q' ∧ x = x' ∧ p = p')
    (hstart : ∀ q ∈ P.states, ∀ x ∈ P.stack, ∀ p ∈ P.states, tripleName ns ng q x p ≠ "#StartCFG#")
    (C : CFG) (h : P.toCFG ns ng = some C) (w : List String) :
    C.Lang w ↔ P.AccEmpty w := by
  rw [lang_of_start (toCFG_start h)]
  constructor
  · intro hg
    obtain ⟨body, hp, hb⟩ := gen_var_iff.1 hg
    rcases (mem_toCFG_prods h _).1 hp with ⟨s, z, p, hs, hz, hpp, he⟩ |
      ⟨q, a, x, q₁, push, p, body', ht, hpp, _, he⟩
    · simp only [Prod.mk.injEq, true_and] at he
      subst he
      rw [genList_singleton] at hb
      exact ⟨s, z, p, hs, hz, steps_of_gen hP hinj hstart h hb s z p (hP.start s hs)
        (hP.startStack z hz) hpp rfl⟩
    · simp only [Prod.mk.injEq] at he
      exact absurd he.1.symm (hstart q (hP.src _ ht) x (hP.pop _ ht) p hpp)
  · rintro ⟨s, z, q, hs, hz, hr⟩
    have hp : Pops P s w [z] q := pops_of_steps hr rfl rfl
    have hq : q ∈ P.states := pops_end hP hp (hP.start s hs)
    exact Gen.var ((mem_toCFG_prods h _).2 (Or.inl ⟨s, z, q, hs, hz, hq, rfl⟩))
      (gen_of_pops hP h hq hp)

/-- `PDA.intersection` with an ε-free automaton that has at most one start state; its transitions may
branch, since the product keeps every successor -/
theorem inter_lang_of (P : PDA σ γ) (hP : P.WF) (D : ENFA τ)
    (hst : ∀ p ∈ D.starts, ∀ q ∈ D.starts, p = q) (eD : D.EpsFree)
    (symOf : String → Option Nat) (fuel : Nat) (Q : PDA (σ × τ) γ)
    (h : P.inter D symOf fuel = some Q) (w : List String) :
    Q.AccFinal w ↔ P.AccFinal w ∧ ∃ ks, w.mapM symOf = some ks ∧ D.Lang ks := by
  obtain ⟨s, d, seen, hs, hd, hQ⟩ := inter_spec h
  have hdm : d ∈ D.starts := List.mem_of_head? hd
  constructor
  · rintro ⟨s₀, z, f, β, hs₀, hz, hf, hr⟩
    cases hQ.start.symm.trans hs₀
    obtain ⟨_, hf1, hf2⟩ := (hQ.finals f).1 hf
    obtain ⟨h1, ks, hks, hrun⟩ := inter_steps_sound hQ hr rfl
    exact ⟨⟨s, z, f.1, β, hs, hQ.startStack ▸ hz, hf1, h1⟩, ks, hks, d, hdm, f.2, hf2, hrun⟩
  · rintro ⟨⟨s', z, f, β, hs', hz, hf, hr⟩, ks, hks, d', hd', f', hf', hrun⟩
    cases hs.symm.trans hs'
    cases hst d' hd' d hdm
    obtain ⟨h1, h2⟩ := inter_steps_complete hP eD hQ hr rfl d f' hQ.seen_start ⟨ks, hks, hrun⟩
    exact ⟨(s, d), z, (f, f'), β, hQ.start, hQ.startStack.trans hz, (hQ.finals _).2 ⟨h1, hf, hf'⟩, h2⟩

/-- `PDA.intersection` with a deterministic ε-free automaton -/
theorem inter_lang (P : PDA σ γ) (hP : P.WF) (D : ENFA τ) (hD : D.Deterministic) (eD : D.EpsFree)
    (symOf : String → Option Nat) (fuel : Nat) (Q : PDA (σ × τ) γ)
    (h : P.inter D symOf fuel = some Q) (w : List String) :
    Q.AccFinal w ↔ P.AccFinal w ∧ ∃ ks, w.mapM symOf = some ks ∧ D.Lang ks :=
  inter_lang_of P hP D hD.1 eD symOf fuel Q h w

end PDA
end Pfl

