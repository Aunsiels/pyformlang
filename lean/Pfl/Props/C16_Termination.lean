/-
C16 — termination (fuel sufficiency) of `FST.translate`.

The exploration pops configurations `(remaining input, generated output, state)`; a configuration
already seen is skipped (its pop still consumes fuel), a new one is expanded once and pushes at most
`|delta|` successors.  Hence `|starts| + |delta| * N` pops are enough when all configurations met
lie in a set of `N` configurations.  With `L = maxOut T` (the longest output of a transition) the
configurations whose generated word has length at most `B` number at most

  `cfgCount T w B = (|w| + 1) * ((|delta| * L + 1) ^ B * (|starts| + |delta|))`

(suffixes of `w` × words of length ≤ `B` over the ≤ `|delta| * L` output symbols of `delta` ×
start states and targets of transitions) and `fuelFor T w B = |starts| + |delta| * cfgCount T w B`.

(T1) `translate_bounded_isSome`: with `max_length = m` every generated word has length at most
     `m + L * (|w| + 1)`; no hypothesis on the transducer.
(T2) `translate_isSome`: without bound, when ε-cycles are silent an ε-path writes at most
     `|delta| * L` symbols (`eps_out_le`: once it has left a state for the last time it is rid of the
     transitions out of it), so every generated word has length at most
     `silentBound T w = (|delta| * L + L) * |w| + |delta| * L`.
(T3) `translate_total`: total correctness; `translate_diverges`: with an output-writing ε-loop
     and no bound the model runs out of every fuel (the generator of the library runs for ever).

Helper lemmas: `Pfl/Proofs/FSTTermination.lean`, `Pfl/Proofs/FSTTerminationBounds.lean`
(namespace `Pfl.FST.Term`).
-/
import Pfl.Proofs.FSTTerminationBounds
import Pfl.Props.C16_FST

namespace Pfl
namespace FST
open Lem Term
variable {σ : Type} [DecidableEq σ]

/-- with `max_length = m` the exploration ends within
`|starts| + |delta| * cfgCount T w (m + L * (|w| + 1))` pops, for every transducer -/
theorem translate_bounded_isSome (T : FST σ) (w : List String) (m fuel : Nat)
    (hf : fuelFor T w (m + maxOut T * (w.length + 1)) ≤ fuel) :
    (T.translate w (some m) fuel).isSome :=
  Term.translate_bounded_isSome T w m fuel hf

omit [DecidableEq σ] in
/-- the bound of (T1) spelled out -/
theorem bounded_fuel_eq (T : FST σ) (w : List String) (m : Nat) :
    fuelFor T w (m + maxOut T * (w.length + 1)) =
      T.starts.length + T.delta.length * ((w.length + 1) *
        ((T.delta.length * maxOut T + 1) ^ (m + maxOut T * (w.length + 1)) *
          (T.starts.length + T.delta.length))) := rfl

/-- an ε-path of a transducer with silent ε-cycles writes at most `|delta| * L` symbols -/
theorem eps_out_le (T : FST σ) (hS : EpsCyclesSilent T) (q r : σ) (o : List String)
    (h : T.Path q [] o r) : o.length ≤ T.delta.length * maxOut T :=
  Term.eps_out_le hS h

/-- without length bound the exploration ends within
`|starts| + |delta| * cfgCount T w (silentBound T w)` pops when ε-cycles write nothing -/
theorem translate_isSome (T : FST σ) (hS : EpsCyclesSilent T) (w : List String) (fuel : Nat)
    (hf : fuelFor T w (silentBound T w) ≤ fuel) : (T.translate w none fuel).isSome :=
  translate_isSome_of_inv T w none _ (fun _ => True) (fun _ _ => reached_length hS)
    (fun _ _ _ _ => trivial) (fun _ _ => trivial) hf

omit [DecidableEq σ] in
/-- the bound of (T2) spelled out -/
theorem silent_fuel_eq (T : FST σ) (w : List String) :
    fuelFor T w (silentBound T w) =
      T.starts.length + T.delta.length * ((w.length + 1) *
        ((T.delta.length * maxOut T + 1) ^
            ((T.delta.length * maxOut T + maxOut T) * w.length + T.delta.length * maxOut T) *
          (T.starts.length + T.delta.length))) := rfl

omit [DecidableEq σ] in
/-- a decidable sufficient criterion for `EpsCyclesSilent`: a rank that no ε-move increases and
every writing ε-move decreases -/
theorem epsCyclesSilent_of_rank (T : FST σ) (rk : σ → Nat)
    (h : ∀ t ∈ T.delta, t.2.1 = none →
      rk t.2.2.1 ≤ rk t.1 ∧ (t.2.2.2 ≠ [] → rk t.2.2.1 < rk t.1)) : EpsCyclesSilent T := by
  have aux : ∀ {q r : σ} {i o : List String}, T.Path q i o r → i = [] →
      rk r ≤ rk q ∧ (rk q ≤ rk r → o = []) := by
    intro q r i o hp
    induction hp with
    | nil q => exact fun _ => ⟨Nat.le_refl _, fun _ => rfl⟩
    | read he _ _ => intro hi; cases hi
    | @eps q r s i o o' he _ ih =>
      intro hi
      obtain ⟨h1, h2⟩ := ih hi
      obtain ⟨h3, h4⟩ := h _ he rfl
      dsimp only at h3 h4
      refine ⟨Nat.le_trans h1 h3, fun hle => ?_⟩
      rw [h2 (Nat.le_trans h3 hle), List.append_nil]
      exact Decidable.byContradiction fun ho => Nat.not_lt.mpr (Nat.le_trans hle h1) (h4 ho)
  exact fun q o hp => (aux hp rfl).2 (Nat.le_refl _)

/-- for a transducer with silent ε-cycles and fuel above the bound, `translate` answers, and the
answer lists exactly the outputs of `w` -/
theorem translate_total (T : FST σ) (hS : EpsCyclesSilent T) (w : List String) (fuel : Nat)
    (hf : fuelFor T w (silentBound T w) ≤ fuel) :
    ∃ outs, T.translate w none fuel = some outs ∧ ∀ o, o ∈ outs ↔ T.Rel w o := by
  obtain ⟨outs, h⟩ := Option.isSome_iff_exists.mp (translate_isSome T hS w fuel hf)
  exact ⟨outs, h, translate_exact T w fuel outs h⟩

/-- one state with an ε-loop that writes `x` -/
def loopX : FST String :=
  { states := ["q"], inputs := [], outputs := ["x"], starts := ["q"], finals := ["q"]
    delta := [("q", none, "q", ["x"])] }

theorem loopX_wf : loopX.WF := by
  constructor <;> decide

theorem loopX_not_silent : ¬ EpsCyclesSilent loopX := by
  intro h
  have := h "q" ["x"] (path_eps_one (by decide))
  cases this

/-- with an output-writing ε-loop and no length bound the exploration never ends: the model is out
of fuel for every fuel and every input word -/
theorem translate_diverges (w : List String) (fuel : Nat) : loopX.translate w none fuel = none :=
  translate_none_of_chain List.mem_cons_self (fun k => (w, List.replicate k "x", "q")) rfl
    (fun k => (mem_next (ml := none)).mpr
      (.inr ⟨"q", ["x"], List.mem_cons_self, nofun, by rw [List.replicate_succ']⟩))
    (fun k => Nat.le_of_eq List.length_replicate.symm) fuel

/-- (T1) applies to the diverging transducer: `fuelFor loopX [] (2 + 1 * 1) = 17` -/
example : (loopX.translate [] (some 2) 17).isSome :=
  translate_bounded_isSome loopX [] 2 17 (by decide +kernel)

example : fuelFor loopX [] (2 + maxOut loopX * 1) = 17 ∧
    loopX.translate [] (some 2) 17 = some [[], ["x"], ["x", "x"]] ∧
    loopX.translate [] (some 2) 3 = some [[], ["x"], ["x", "x"]] ∧
    loopX.translate [] (some 2) 2 = none := by decide +kernel

/-- a silent ε-loop at `p`, a writing ε-move `p → q` that lies on no cycle, and a reading move -/
def silentEx : FST String :=
  { states := ["p", "q"], inputs := ["a"], outputs := ["b", "c"], starts := ["p"], finals := ["q"]
    delta := [("p", none, "p", []), ("p", some "a", "q", ["b"]), ("p", none, "q", ["c"]),
      ("q", some "a", "q", [])] }

theorem silentEx_silent : EpsCyclesSilent silentEx :=
  epsCyclesSilent_of_rank silentEx (fun s => if s = "p" then 1 else 0) (by decide)

theorem silentEx_fuel : fuelFor silentEx ["a"] (silentBound silentEx ["a"]) = 78125001 := by
  decide +kernel

/-- (T2), (T3) on `silentEx` -/
example : (silentEx.translate ["a"] none 78125001).isSome :=
  translate_isSome silentEx silentEx_silent ["a"] 78125001 (by rw [silentEx_fuel])

example : ∃ outs, silentEx.translate ["a"] none 78125001 = some outs ∧
    ∀ o, o ∈ outs ↔ silentEx.Rel ["a"] o :=
  translate_total silentEx silentEx_silent ["a"] 78125001 (by rw [silentEx_fuel])

/-- the value: `a ↦ c` (ε-move to `q` first, then read) and `a ↦ b` (read in `p`); 5 pops are
needed (four configurations and one that was already seen) -/
example : silentEx.translate ["a"] none 78125001 = some [["c"], ["b"]] ∧
    silentEx.translate ["a"] none 5 = some [["c"], ["b"]] ∧
    silentEx.translate ["a"] none 4 = none := by decide +kernel

/-- the hypothesis of (T2) cannot be dropped, and the ε-path bound is met with equality -/
example : ¬ EpsCyclesSilent loopX := loopX_not_silent

example : silentEx.Path "p" [] ["c"] "q" ∧ 1 ≤ silentEx.delta.length * maxOut silentEx :=
  ⟨path_eps_one (by decide), by decide⟩

end FST
end Pfl
