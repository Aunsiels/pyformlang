/-
C18 — termination of the Earley recogniser of FCFG on agreement grammars: the
`while chart[i]` loops end.  `fuel` bounds the number of pops of one chart column; with
`fuel ≥ earleyFuel vals spec w` (explicit: the number of keys `(production, begin, dot)` of a column
times the number of valuations of the leaves of a feature record, plus one) `contains(w)` answers,
and by `earley_exact` the answer is membership in the instantiated grammar.

Why: a state is pushed on a column only when `processed.add` accepts it, i.e. when no state stored
under the same key subsumes it.  Two records with the same pattern (which symbol records coincide,
which leaves coincide, the values of the leaves) subsume each other (`Term.subsumes_of_pat`).  The
symbol records of a state's record are pairwise distinct and its leaves coincide exactly as those
of its production do (`Term.Sh`, with the production's record read in the start store; kept by
`copy` and by `unify`), so the pattern
is determined by the values of the leaves: at most `(|vals|+2)^(L+1)` accepted states under a key.
Feature-free grammars: all patterns under a key are equal, at most one accepted state per key.
-/
import Pfl.Props.C18_EarleyComplete
import Pfl.Proofs.EarleyTerminationPlain
import Pfl.Proofs.EarleyTerminationBuild
namespace Pfl
namespace Earley

/-- the longest body (at least 1: the dummy rule `Gamma → S`) -/
def maxBody (spec : Spec) : Nat := (spec.map (·.2.length)).foldl max 1

/-- the fuel that suffices: per column at most `(|spec|+1)·(|w|+1)·(L+1)` keys, under a key at most
`(|vals|+2)^(L+1)` states (`L` the longest body: a record has `L+1` symbol records, each without
leaf, with an unbound leaf or with a leaf bound to a value); one more unit for the final test of
the empty column -/
def earleyFuel (vals : List String) (spec : Spec) (w : List String) : Nat :=
  Term.colBoundT spec.length w.length (maxBody spec) vals.length + 1

theorem earleyFuel_eq (vals : List String) (spec : Spec) (w : List String) :
    earleyFuel vals spec w =
      (spec.length + 1) * (w.length + 1) * (maxBody spec + 1) *
        (vals.length + 2) ^ (maxBody spec + 1) + 1 := rfl

namespace Term
open Lem FsDag FsDag.Lem Cmp

theorem foldl_max_le (l : List Nat) : ∀ (a : Nat), a ≤ l.foldl max a ∧ ∀ x ∈ l, x ≤ l.foldl max a := by
  induction l with
  | nil => intro a; simp
  | cons y l ih =>
    intro a
    rw [List.foldl_cons]
    obtain ⟨h1, h2⟩ := ih (max a y)
    refine ⟨by omega, fun x hx => ?_⟩
    rcases List.mem_cons.1 hx with rfl | hx
    · omega
    · exact h2 x hx

theorem one_le_maxBody (spec : Spec) : 1 ≤ maxBody spec := (foldl_max_le _ 1).1

theorem body_le_maxBody {spec : Spec} {pr : (String × Feat) × List (Sym × Feat)} (h : pr ∈ spec) :
    pr.2.length ≤ maxBody spec :=
  (foldl_max_le _ 1).2 _ (List.mem_map.2 ⟨pr, h, rfl⟩)

theorem spec_facts {vals : List String} {spec : Spec} {featured : Bool}
    (h : GoodSpec vals spec featured) (w : List String) :
    ∃ rk0, TC (Glue.ctx vals spec featured w) vals (maxBody spec) ∧
      StartOK (Glue.ctx vals spec featured w) (maxBody spec) (buildGrammar spec "S").1 rk0 ∧
      (∀ k, TSh (buildGrammar spec "S").1 (prodOf (Glue.ctx vals spec featured w).G k).feats
        (prodOf (Glue.ctx vals spec featured w).G k).feats) ∧
      (featured = false → PlainSt (buildGrammar spec "S").1) := by
  obtain ⟨rk0, hbo, h0⟩ := CGlue.built h w
  have hC := Glue.ctxOK h w
  have htc : TC (Glue.ctx vals spec featured w) vals (maxBody spec) := by
    refine ⟨fun v hv => hv, fun k => ?_⟩
    rw [body_prX hC, List.length_map]
    cases hk : (Glue.ctx vals spec featured w).spec[k]? with
    | none => rw [prX_gamma hk]; exact one_le_maxBody spec
    | some pr =>
      rw [prX_spec hk]
      exact body_le_maxBody (List.mem_of_getElem? (show spec[k]? = some pr from hk))
  exact ⟨rk0, htc,
    ⟨h0, fun k p hp => (hbo.prod hp).elim fun pr h =>
        PR.rootLab h.2.1 (body_le_maxBody (List.mem_of_getElem? h.1)),
      PR.rootLab hbo.gam.1 (one_le_maxBody spec)⟩,
    fun k => (hbo.prOf k).elim fun _ hPR => TSh.refl_of fun _ _ _ => PR.slots hPR,
    fun hf => by subst hf; exact hbo.inv.plainSt (CGlue.specSrc_plain h)⟩

end Term

open Term in
/-- on the agreement grammars of the harness the recogniser answers within the fuel
`earleyFuel vals spec w` (per-column bound on the pops of `while chart[i]`) -/
theorem containsSpec_isSome (vals : List String) (spec : Spec) (featured : Bool)
    (h : GoodSpec vals spec featured) (w : List String) (fuel : Nat)
    (hfuel : earleyFuel vals spec w ≤ fuel) : (containsSpec spec "S" w fuel).isSome = true := by
  obtain ⟨rk0, htc, h0, hsdo, _⟩ := spec_facts h w
  show (contains (Glue.ctx vals spec featured w).G (buildGrammar spec "S").1
      (Glue.ctx vals spec featured w).word fuel).isSome = true
  exact contains_total_feat (Glue.ctxOK h w) htc h0 hsdo hfuel

/-- the fuel that suffices for a feature-free grammar: the number of keys of a column (at most
one state is accepted under a key) plus one -/
def earleyFuelPlain (spec : Spec) (w : List String) : Nat :=
  (spec.length + 1) * (w.length + 1) * (maxBody spec + 1) + 1

open Term in
/-- feature-free grammars: under one key the first accepted state subsumes every later
one, so a column holds at most one state per key -/
theorem containsSpec_isSome_plain (vals : List String) (spec : Spec) (h : GoodSpec vals spec false)
    (w : List String) (fuel : Nat) (hfuel : earleyFuelPlain spec w ≤ fuel) :
    (containsSpec spec "S" w fuel).isSome = true := by
  obtain ⟨rk0, htc, h0, hsdo, hp⟩ := spec_facts h w
  show (contains (Glue.ctx vals spec false w).G (buildGrammar spec "S").1
      (Glue.ctx vals spec false w).word fuel).isSome = true
  exact contains_total_plain (Glue.ctxOK h w) htc h0 hsdo (hp rfl) hfuel

/-- total correctness: with enough fuel the recogniser answers, and the answer is membership in the
instantiated grammar -/
theorem earley_total (vals : List String) (spec : Spec) (featured : Bool)
    (h : GoodSpec vals spec featured) (hinj : featured = true → InstNamesInjective vals spec)
    (w : List String) (fuel : Nat) (hfuel : earleyFuel vals spec w ≤ fuel) :
    ∃ b, containsSpec spec "S" w fuel = some b ∧
      (b = true ↔ (instantiate vals spec featured).Lang w) := by
  have hs := containsSpec_isSome vals spec featured h w fuel hfuel
  obtain ⟨b, hb⟩ := Option.isSome_iff_exists.1 hs
  exact ⟨b, hb, earley_exact vals spec featured h hinj w fuel b hb⟩

/-- feature-free grammars: the fuel "number of keys of a column plus one" suffices and no condition
on the names is needed -/
theorem earley_total_plain (vals : List String) (spec : Spec) (h : GoodSpec vals spec false)
    (w : List String) (fuel : Nat) (hfuel : earleyFuelPlain spec w ≤ fuel) :
    ∃ b, containsSpec spec "S" w fuel = some b ∧
      (b = true ↔ (instantiate vals spec false).Lang w) := by
  have hs := containsSpec_isSome_plain vals spec h w fuel hfuel
  obtain ⟨b, hb⟩ := Option.isSome_iff_exists.1 hs
  exact ⟨b, hb, earley_exact vals spec false h (fun hf => by simp at hf) w fuel b hb⟩

/-- the grammars of the harness (values `s`, `p`): no condition on the names is needed -/
theorem earley_total_harness (spec : Spec) (featured : Bool) (h : GoodSpec ["s", "p"] spec featured)
    (w : List String) (fuel : Nat) (hfuel : earleyFuel ["s", "p"] spec w ≤ fuel) :
    ∃ b, containsSpec spec "S" w fuel = some b ∧
      (b = true ↔ (instantiate ["s", "p"] spec featured).Lang w) :=
  earley_total ["s", "p"] spec featured h (fun _ => instNamesInjective_harness spec) w fuel hfuel

/-- the verdict does not depend on the fuel once it suffices -/
theorem earley_fuel_irrelevant (vals : List String) (spec : Spec) (featured : Bool)
    (h : GoodSpec vals spec featured) (hinj : featured = true → InstNamesInjective vals spec)
    (w : List String) (f1 f2 : Nat) (h1 : earleyFuel vals spec w ≤ f1)
    (h2 : earleyFuel vals spec w ≤ f2) : containsSpec spec "S" w f1 = containsSpec spec "S" w f2 := by
  obtain ⟨b1, e1, i1⟩ := earley_total vals spec featured h hinj w f1 h1
  obtain ⟨b2, e2, i2⟩ := earley_total vals spec featured h hinj w f2 h2
  rw [e1, e2, Bool.eq_iff_iff.2 (i1.trans i2.symm)]

end Earley
end Pfl
