/-
C19 — an automaton object edited through the public API behaves as the value it stands for.
Model: `Pfl/Model/FAObject.lean` (the private fields, the transition table as the dict of dicts it is —
`remove_transition` of the nondeterministic table leaves an emptied entry behind, the deterministic table
refuses ε and a second target before anything is registered and deletes keys —, the overrides of
`DeterministicFiniteAutomaton`).  Specification: the same history on plain sets (`absStep`).

* `run_refines`: after any history of mutator calls the object stands for the value obtained by set
  insertions and removals (same states, symbols, marks in the same order; same set of transitions,
  nothing repeated) and its table has the shape `TInv`;
* `step_error_iff`, `step_error_abs`, `remT_result`: when a call raises, what the returned integer says;
* `numTransitions_eq`, `tfDeterministic_iff`, `mem_call_iff`, `det_functional`: the table queries are
  functions of the set of transitions present — entries emptied by removals never count;
* `run_wf`, `run_dfa`, `new_wf`, `mk_wf`: everything the public API can build stands for a well-formed
  value (the hypothesis `ENFA.WF` of the theorems of C01–C04), a `DeterministicFiniteAutomaton` object for a
  deterministic ε-free one (the hypotheses of `acceptsD_iff`, of the deterministic complement, of `minimize`);
* `mkT_wf`: the constructor called with a pre-filled transition function registers its states and symbols
  (otherwise `copy`, `to_deterministic`, `is_empty`, …, which iterate the registered sets, would ignore
  the transitions);
* `history_independent`: two histories leading to the same sets give objects that answer alike
  (language, determinism verdict, number of transitions, successors).
-/
import Pfl.Spec.FAObject
import Pfl.Proofs.FAObject
import Pfl.Proofs.FAObjectQ
import Pfl.Proofs.FAObjectWF
namespace Pfl
namespace FAObj

/-- the table invariant is kept by every mutator call that returns -/
theorem step_tinv {o o' : Obj} {op : Op} {n : Nat} (h : TInv o.det o.trans)
    (hs : step o op = .ok (o', n)) : TInv o'.det o'.trans ∧ o'.det = o.det :=
  have h := P.step_spec h (P.refines_self h) hs
  ⟨h.2.2.1, h.2.1⟩

/-- one call refines the plain set operation -/
theorem step_refines {o o' : Obj} {s : Abs} {op : Op} {n : Nat} (hi : TInv o.det o.trans)
    (hr : Refines o s) (hs : step o op = .ok (o', n)) : Refines o' (absStep o.det s op) :=
  (P.step_spec hi hr hs).2.2.2.1

/-- a call raises exactly when the automaton is deterministic and the new transition is an ε-move
or gives the (state, symbol) pair a second target; the value is then unchanged as well -/
theorem step_error_iff {o : Obj} {s : Abs} (hi : TInv o.det o.trans) (hr : Refines o s) (op : Op) :
    (∃ e, step o op = .error e) ↔
      ∃ q a r, op = .addT q a r ∧ o.det = true ∧ (a = none ∨ ∃ r', r' ≠ r ∧ (q, a, r') ∈ s.delta) :=
  P.step_error_iff hi hr op

theorem step_error_abs {o : Obj} {s : Abs} {op : Op} {e : Err} (hi : TInv o.det o.trans)
    (hr : Refines o s) (hs : step o op = .error e) : absStep o.det s op = s :=
  (P.step_spec hi hr hs).2

/-- (1) refinement: after any history of mutator calls on a fresh object, the object stands for the
value obtained by plain set insertions and removals — the same states, symbols, start and final
states (in the same order), the same set of transitions, nothing repeated; empty entries left behind
by `remove_transition` never show -/
theorem run_refines (det : Bool) (ops : List Op) :
    Refines (run (new det) ops) (absRun det absNew ops) ∧
      TInv det (run (new det) ops).trans ∧ (run (new det) ops).det = det :=
  P.run_refines det ops

/-- the integer returned by `remove_transition` says whether the transition was present -/
theorem remT_result {o o' : Obj} {s : Abs} {q r n : Nat} {a : Option Nat} (hi : TInv o.det o.trans)
    (hr : Refines o s) (hs : step o (.remT q a r) = .ok (o', n)) :
    (n = 1 ↔ (q, a, r) ∈ s.delta) ∧ (n = 0 ∨ n = 1) :=
  P.remT_result hi hr hs

/-- (2) `get_number_transitions()` counts the transitions present -/
theorem numTransitions_eq (T : Table) :
    numTransitions T = (edges T).length :=
  PQ.numTransitions_eq T

/-- (3) `is_deterministic()` of the transition function: at most one target per (state, symbol) among
the transitions present — entries emptied by removals do not count -/
theorem tfDeterministic_iff {det : Bool} {T : Table} (hi : TInv det T) :
    tfDeterministic T = true ↔ Functional (edges T) :=
  PQ.tfDeterministic_iff hi

/-- (4) `self._transition_function(q, a)` returns the targets of the transitions present -/
theorem mem_call_iff {det : Bool} {T : Table} (hi : TInv det T) (q r : Nat) (a : Option Nat) :
    r ∈ call T q a ↔ (q, a, r) ∈ edges T :=
  PQ.mem_call_iff hi q r a

/-- (5) a table with the invariant of a `DeterministicFiniteAutomaton` has at most one target per
(state, symbol) and no ε-transition -/
theorem det_functional {T : Table} (hi : TInv true T) :
    Functional (edges T) ∧ ∀ t ∈ edges T, t.2.1 ≠ none :=
  PQ.det_functional hi

/-- two values with the same sets accept the same words -/
theorem lang_congr {A B : ENFA Nat} (hs : ∀ q, q ∈ A.starts ↔ q ∈ B.starts)
    (hf : ∀ q, q ∈ A.finals ↔ q ∈ B.finals) (hd : ∀ t, t ∈ A.delta ↔ t ∈ B.delta) (w : List Nat) :
    A.Lang w ↔ B.Lang w :=
  ENFA.lang_congr hs hf hd w

/-- (6) history independence: two histories that lead to the same sets of start states, final
states and transitions give objects that answer alike — same language, same determinism verdict,
same number of transitions, same successors — whatever was added and removed on the way -/
theorem history_independent (det : Bool) (ops₁ ops₂ : List Op)
    (hs : ∀ q, q ∈ (absRun det absNew ops₁).starts ↔ q ∈ (absRun det absNew ops₂).starts)
    (hf : ∀ q, q ∈ (absRun det absNew ops₁).finals ↔ q ∈ (absRun det absNew ops₂).finals)
    (hd : ∀ t, t ∈ (absRun det absNew ops₁).delta ↔ t ∈ (absRun det absNew ops₂).delta) :
    let o₁ := run (new det) ops₁
    let o₂ := run (new det) ops₂
    (∀ w, (toENFA o₁).Lang w ↔ (toENFA o₂).Lang w) ∧
    tfDeterministic o₁.trans = tfDeterministic o₂.trans ∧
    numTransitions o₁.trans = numTransitions o₂.trans ∧
    ∀ q a r, r ∈ call o₁.trans q a ↔ r ∈ call o₂.trans q a :=
  PQ.history_independent det ops₁ ops₂ hs hf hd

/-- a fresh object stands for a well-formed value and has a table of the right shape -/
theorem new_wf (det : Bool) : (toENFA (new det)).WF ∧ TInv det (new det).trans :=
  ⟨by constructor <;> exact fun _ h => absurd h List.not_mem_nil, P.tinv_nil det⟩

/-- so does an object built by the constructor from sets of states, symbols, start and final states -/
theorem mk_wf (det : Bool) (states syms starts finals : List Nat) :
    (toENFA (mk det states syms starts finals)).WF ∧ TInv det (mk det states syms starts finals).trans ∧
      (mk det states syms starts finals).det = det ∧
      (det = true → (mk det states syms starts finals).starts.length ≤ 1) := by
  refine ⟨⟨?_, ?_, fun _ h => absurd h List.not_mem_nil, fun _ h => absurd h List.not_mem_nil,
    fun _ h => absurd h List.not_mem_nil⟩, P.tinv_nil det, rfl, ?_⟩
  · intro q hq
    exact List.mem_eraseDups.2 (List.mem_append.2 (Or.inr hq))
  · intro q hq
    exact List.mem_eraseDups.2
      (List.mem_append.2 (Or.inl (List.mem_append.2 (Or.inr (List.mem_eraseDups.1 hq)))))
  · rintro rfl
    exact List.length_take_le 1 starts

/-- a mutator call keeps well-formedness: states and symbols are registered before they are used and
nothing ever unregisters them -/
theorem step_wf {o o' : Obj} {op : Op} {n : Nat} (hi : TInv o.det o.trans) (hwf : (toENFA o).WF)
    (hs : step o op = .ok (o', n)) : (toENFA o').WF :=
  PW.wf_of_refines (step_refines hi (P.refines_self hi) hs) (PW.absStep_wf o.det op hwf)

/-- (7) every object reachable from a well-formed one by a history of mutator calls stands for a
well-formed value: the hypothesis `WF` of the theorems of C01–C04 holds for everything the public API
can build -/
theorem run_wf (o : Obj) (ops : List Op) (hi : TInv o.det o.trans) (hwf : (toENFA o).WF) :
    (toENFA (run o ops)).WF ∧ TInv o.det (run o ops).trans ∧ (run o ops).det = o.det :=
  PW.run_wf o ops hi hwf

/-- (8) a `DeterministicFiniteAutomaton` object, whatever is done to it through the API, stands for a
deterministic, ε-free, well-formed value: the hypotheses of `acceptsD_iff`, of the complement of
deterministic automata and of `minimize` -/
theorem run_dfa (o : Obj) (ops : List Op) (hd : o.det = true) (hi : TInv true o.trans)
    (hwf : (toENFA o).WF) (hs : o.starts.length ≤ 1) :
    (toENFA (run o ops)).WF ∧ (toENFA (run o ops)).Deterministic ∧ (toENFA (run o ops)).EpsFree :=
  PW.run_dfa o ops hd hi hwf hs

/-- in particular: any history on a fresh automaton of either kind -/
theorem api_wf (det : Bool) (ops : List Op) : (toENFA (run (new det) ops)).WF :=
  (run_wf (new det) ops (new_wf det).2 (new_wf det).1).1

theorem api_dfa (ops : List Op) :
    (toENFA (run (new true) ops)).Deterministic ∧ (toENFA (run (new true) ops)).EpsFree :=
  (run_dfa (new true) ops rfl (new_wf true).2 (new_wf true).1 (by decide)).2

/-- the constructor called with a pre-filled transition function of the right shape builds a well-formed
object -/
theorem mkT_wf (det : Bool) (states syms starts finals : List Nat) (T : Table) (hT : TInv det T) :
    (toENFA (mkT det states syms starts finals T)).WF ∧
      TInv det (mkT det states syms starts finals T).trans ∧
      (mkT det states syms starts finals T).det = det := by
  obtain ⟨hwf, _, hdet, _⟩ := mk_wf det states syms starts finals
  refine ⟨?_, hT, hdet⟩
  refine PW.wf_mono hwf (fun q hq => List.mem_eraseDups.2 (List.mem_append.2 (Or.inl hq)))
    (fun x hx => List.mem_eraseDups.2 (List.mem_append.2 (Or.inl hx))) (fun _ => Or.inl)
    (fun _ => Or.inl) fun t ht => Or.inr ⟨?_, ?_, fun a ha => ?_⟩
  · exact List.mem_eraseDups.2 (List.mem_append.2 (Or.inr (List.mem_flatMap.2 ⟨t, ht, List.mem_cons_self⟩)))
  · exact List.mem_eraseDups.2 (List.mem_append.2 (Or.inr (List.mem_flatMap.2
      ⟨t, ht, List.mem_cons_of_mem _ List.mem_cons_self⟩)))
  · exact List.mem_eraseDups.2 (List.mem_append.2 (Or.inr (List.mem_filterMap.2 ⟨t, ht, ha⟩)))

/-- non-vacuity: the history `add(0,a,1); remove(0,a,1); add(0,a,2)` on a nondeterministic table leaves the
entry of `(0, a)` with the single target `2` (the emptied entry is reused), one transition, a
deterministic table; on a deterministic automaton a second target is refused and changes nothing -/
example :
    (run (new false) [.addT 0 (some 0) 1, .remT 0 (some 0) 1, .addT 0 (some 0) 2]).trans = [(0, [(some 0, [2])])] ∧
    tfDeterministic (run (new false) [.addT 0 (some 0) 1, .remT 0 (some 0) 1, .addT 0 (some 0) 2]).trans = true ∧
    (run (new false) [.addT 0 (some 0) 1, .remT 0 (some 0) 1]).trans = [(0, [(some 0, [])])] ∧
    (run (new true) [.addT 0 (some 0) 1, .addT 0 (some 0) 2, .addT 0 none 2]).trans = [(0, [(some 0, [1])])] :=
  ⟨rfl, rfl, rfl, rfl⟩

end FAObj
end Pfl
