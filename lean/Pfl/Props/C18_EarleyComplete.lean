/-
C18 — completeness of the Earley recogniser of FCFG on agreement grammars: whenever
`contains(w)` answers, it answers True for every word generated by the instantiated grammar.
Together with `earley_sound`: the answer is exactly membership.

The instantiated grammar names the instance of `X` at value `v` by `X ++ "_" ++ v`; when a value
contains an underscore two different instances can get the same name (`S_a` at `b` and `S` at `a_b`),
the instantiated grammar then generates more than the feature grammar.  This is an artefact of the
specification side (`instName`), not of the library; completeness is stated for specifications
whose instance names are injective (`InstNamesInjective`, always true for the values `s`, `p` of
the harness) and `earley_complete_needs_injective_names` records the counterexample.
-/
import Pfl.Props.C18_Earley
import Pfl.Props.C08_Oracle
import Pfl.Proofs.EarleyCompleteMain
import Pfl.Proofs.EarleyCompleteBuild
namespace Pfl
namespace Earley

/-- the non-terminal names of a specification, the start symbol included -/
def specNames (spec : Spec) : List String :=
  "S" :: spec.flatMap fun pr => pr.1.1 :: pr.2.filterMap fun it => match it.1 with
    | .var x => some x
    | .ter _ => none

/-- different instances of non-terminals get different names in the instantiated grammar -/
def InstNamesInjective (vals : List String) (spec : Spec) : Prop :=
  ∀ X ∈ specNames spec, ∀ X' ∈ specNames spec, ∀ v ∈ vals, ∀ v' ∈ vals,
    X ++ "_" ++ v = X' ++ "_" ++ v' → X = X' ∧ v = v'

instance (vals : List String) (spec : Spec) : Decidable (InstNamesInjective vals spec) := by
  unfold InstNamesInjective; infer_instance

/-- values of one common length give injective instance names: the value is the suffix of that
length, the variable what precedes the underscore -/
theorem instNamesInjective_of_length {vals : List String} {n : Nat}
    (hn : ∀ v ∈ vals, v.length = n) (spec : Spec) : InstNamesInjective vals spec := by
  intro X _ X' _ v hv v' hv' h
  have h' := congrArg String.toList h
  simp only [String.toList_append] at h'
  rw [List.append_assoc, List.append_assoc] at h'
  have hl : ("_".toList ++ v.toList).length = ("_".toList ++ v'.toList).length := by
    simp only [List.length_append, String.length_toList, hn v hv, hn v' hv']
  obtain ⟨h1, h2⟩ := List.append_inj' h' hl
  exact ⟨String.toList_inj.1 h1, String.toList_inj.1 (List.append_cancel_left h2)⟩

/-- for the two values of the harness the instance names of every specification are injective -/
theorem instNamesInjective_harness (spec : Spec) : InstNamesInjective ["s", "p"] spec :=
  instNamesInjective_of_length (n := 1) (by decide) spec

/-- the counterexample specification `S_a[b] → a` over the values `b`, `a_b` -/
def ceSpec : Spec := [(("S_a", some "b"), [(Sym.ter "a", none)])]

/-- without injective instance names completeness fails: for `S_a[b] → a` with the values `b` and
`a_b` the instantiated grammar has `Start → S_a_b → a` (the instance of `S` at `a_b` and the instance
of `S_a` at `b` share their name) whereas the feature grammar has no rule for `S` at all -/
theorem earley_complete_needs_injective_names :
    GoodSpec ["b", "a_b"] ceSpec true ∧ (instantiate ["b", "a_b"] ceSpec true).Lang ["a"] ∧
      containsSpec ceSpec "S" ["a"] 10 = some false ∧ ¬ InstNamesInjective ["b", "a_b"] ceSpec := by
  refine ⟨⟨by simp, ?_, by decide +kernel, by decide +kernel⟩,
    (CFG.cfgMem_iff _ ["a"] 10 true (by decide +kernel)).mp rfl, by decide +kernel, ?_⟩
  · intro pr hpr
    simp only [ceSpec, List.mem_singleton] at hpr
    subst hpr
    refine ⟨rfl, ?_⟩
    intro it hit
    simp only [List.mem_singleton] at hit
    subst hit
    rfl
  · decide +kernel

/-- non-vacuity: the names are injective for the values of the harness -/
example : InstNamesInjective ["s", "p"]
    [(("S", some "?x"), [(Sym.var "A", some "?x"), (Sym.ter "a", none)]), (("A", some "s"), [])] := by
  decide +kernel

namespace CGlue
open Lem FsDag FsDag.Lem Cmp

theorem valOfFeat_const {env : Lem.Env} {v : String} (h : isVarName v = false) :
    valOfFeat env v = v := by
  unfold valOfFeat; rw [if_neg (by simp [h])]

theorem valOfFeat_mem (vals : List String) : ∀ (xs : List String) (env : Lem.Env),
    env ∈ envs vals xs → ∀ x ∈ xs, isVarName x = true → valOfFeat env x ∈ vals := by
  intro xs
  induction xs with
  | nil => intro env _ x hx; simp at hx
  | cons y ys ih =>
    intro env henv x hx hq
    simp only [envs, List.mem_flatMap, List.mem_map] at henv
    obtain ⟨e, he, v, hv, rfl⟩ := henv
    unfold valOfFeat
    rw [if_pos hq]
    by_cases hxy : y = x
    · subst hxy; simpa using hv
    · have hx' : x ∈ ys := by
        rcases List.mem_cons.1 hx with h | h
        · exact absurd h.symm hxy
        · exact h
      have := ih e he x hx' hq
      unfold valOfFeat at this
      rw [if_pos hq] at this
      simpa [List.find?_cons, hxy] using this

theorem featVal_mem {vals : List String} {spec : Spec} {featured : Bool}
    (h : GoodSpec vals spec featured) {pr : (String × Feat) × List (Sym × Feat)} (hpr : pr ∈ spec)
    {env : Lem.Env} (he : env ∈ envs vals (prodVars pr)) {v : String}
    (hv : some v ∈ pr.1.2 :: pr.2.map (·.2)) : valOfFeat env v ∈ vals := by
  cases hq : isVarName v with
  | true => exact valOfFeat_mem vals _ env he v (Glue.mem_prodVars hq hv) hq
  | false => rw [valOfFeat_const hq]; exact h.consts pr hpr _ hv v rfl hq

theorem head_mem_names {spec : Spec} {pr : (String × Feat) × List (Sym × Feat)} (hpr : pr ∈ spec) :
    pr.1.1 ∈ specNames spec := by
  unfold specNames
  exact List.mem_cons_of_mem _ (List.mem_flatMap.2 ⟨pr, hpr, List.mem_cons_self ..⟩)

theorem var_mem_names {spec : Spec} {pr : (String × Feat) × List (Sym × Feat)} (hpr : pr ∈ spec)
    {X : String} {f : Feat} (hit : (Sym.var X, f) ∈ pr.2) : X ∈ specNames spec := by
  unfold specNames
  refine List.mem_cons_of_mem _ (List.mem_flatMap.2 ⟨pr, hpr, List.mem_cons_of_mem _ ?_⟩)
  rw [List.mem_filterMap]
  exact ⟨(Sym.var X, f), hit, rfl⟩

theorem name_ne_start (X u : String) : X ++ "_" ++ u ≠ "Start" := by
  intro h
  have h1 : '_' ∈ (X ++ "_" ++ u).toList := by simp [String.toList_append]
  rw [h] at h1
  revert h1; decide

theorem name_inj {vals : List String} {spec : Spec} {featured : Bool}
    (hinj : featured = true → InstNamesInjective vals spec) {X X' : String} {f f' : Feat}
    {env env' : Lem.Env} (hX : X ∈ specNames spec) (hX' : X' ∈ specNames spec)
    (hf : f.isSome = featured) (hf' : f'.isSome = featured)
    (hv : ∀ v, f = some v → valOfFeat env v ∈ vals)
    (hv' : ∀ v, f' = some v → valOfFeat env' v ∈ vals)
    (h : nmOf valOfFeat env X f = nmOf valOfFeat env' X' f') :
    X = X' ∧ f.map (valOfFeat env) = f'.map (valOfFeat env') := by
  cases f with
  | none =>
    cases f' with
    | none => exact ⟨h, rfl⟩
    | some v' => rw [← hf] at hf'; exact nomatch hf'
  | some v =>
    cases f' with
    | none => rw [← hf] at hf'; exact nomatch hf'
    | some v' =>
      have := hinj hf.symm X hX X' hX' _ (hv v rfl) _ (hv' v' rfl) h
      exact ⟨this.1, congrArg some this.2⟩

theorem inst_of_occ {vals : List String} {spec : Spec} {featured : Bool}
    (h : GoodSpec vals spec featured) (hinj : featured = true → InstNamesInjective vals spec)
    {X : String} {f : Feat} {env : Lem.Env} (hX : X ∈ specNames spec) (hf : f.isSome = featured)
    (hv : ∀ v, f = some v → valOfFeat env v ∈ vals) {body : List Sym}
    (hmem : (nmOf valOfFeat env X f, body) ∈ (instantiate vals spec featured).prods) :
    ∃ (k' : Nat) (pr' : (String × Feat) × List (Sym × Feat)) (env' : Lem.Env),
      spec[k']? = some pr' ∧ (∃ pr, spec[k']? = some pr ∧ env' ∈ envs vals (prodVars pr)) ∧
      pr'.1.1 = X ∧ f.map (valOfFeat env) = pr'.1.2.map (valOfFeat env') ∧
      body = ibody valOfFeat env' pr'.2 := by
  rcases Glue.mem_instantiate.1 hmem with ⟨pr', hpr', env', he', hname, hbody⟩ | ⟨hft, v0, _, hname, _⟩
  · obtain ⟨k', hk2⟩ := List.getElem?_of_mem hpr'
    obtain ⟨hXX, hag⟩ := name_inj hinj hX (head_mem_names hpr') hf (h.uniform pr' hpr').1 hv
      (fun v hv => featVal_mem h hpr' he' (by rw [← hv]; exact List.mem_cons_self ..)) hname
    exact ⟨k', pr', env', hk2, ⟨pr', hk2, he'⟩, hXX.symm, hag, hbody⟩
  · rw [hft] at hf
    obtain ⟨v, rfl⟩ := Option.isSome_iff_exists.1 hf
    exact absurd hname (name_ne_start _ _)

theorem tgtOK {vals : List String} {spec : Spec} {featured : Bool}
    (h : GoodSpec vals spec featured) (hinj : featured = true → InstNamesInjective vals spec)
    (w : List String) : TgtOK (Glue.ctx vals spec featured w) := by
  constructor
  · intro k pr env d X f body hk ⟨pr0, hk0, henv⟩ hit hmem
    have hk' : spec[k]? = some pr := hk
    obtain rfl : pr = pr0 := Option.some.inj (hk'.symm.trans hk0)
    have hprmem : pr ∈ spec := List.mem_of_getElem? hk'
    have hitmem : (Sym.var X, f) ∈ pr.2 := List.mem_of_getElem? hit
    exact inst_of_occ h hinj (var_mem_names hprmem hitmem) ((h.uniform pr hprmem).2 _ hitmem)
      (fun v hv => featVal_mem h hprmem henv
        (List.mem_cons_of_mem _ (List.mem_map.2 ⟨_, hitmem, by rw [hv]⟩))) hmem
  · intro hL
    change (instantiate vals spec featured).Lang w at hL
    rw [CFG.lang_of_start (Glue.instantiate_start vals spec featured)] at hL
    obtain ⟨body, hb, hgl⟩ := CFG.gen_var_iff.1 hL
    -- the word is generated by the body of a production of `S`, plain or at a value
    obtain ⟨f, hf, hv, body, hb, hgl⟩ : ∃ f : Feat, f.isSome = featured ∧
        (∀ v, f = some v → valOfFeat [] v ∈ vals) ∧ ∃ body, (nmOf valOfFeat [] "S" f, body) ∈
          (instantiate vals spec featured).prods ∧ (instantiate vals spec featured).GenList body w := by
      cases featured with
      | false => exact ⟨none, rfl, fun _ => nofun, body, hb, hgl⟩
      | true =>
        -- `Start → S_v`
        rcases Glue.mem_instantiate.1 hb with ⟨pr', hpr', env', _, hname, _⟩ | ⟨_, v0, hv0, _, rfl⟩
        · obtain ⟨v', hv'⟩ := Option.isSome_iff_exists.1 (h.uniform pr' hpr').1
          rw [hv'] at hname
          exact absurd hname.symm (name_ne_start _ _)
        · rw [CFG.genList_singleton] at hgl
          obtain ⟨body2, hb2, hgl2⟩ := CFG.gen_var_iff.1 hgl
          have hval : valOfFeat [] v0 = v0 := by unfold valOfFeat; split <;> rfl
          have hnm : nmOf valOfFeat [] "S" (some v0) = "S_" ++ v0 := by rw [Glue.nmOf_S, hval]
          exact ⟨some v0, rfl, fun v hp => by cases hp; rw [hval]; exact hv0, body2, hnm ▸ hb2, hgl2⟩
    obtain ⟨k', pr', env', hk2, he', h1, _, rfl⟩ :=
      inst_of_occ h hinj (List.mem_cons_self ..) hf hv hb
    exact ⟨k', pr', env', hk2, he', h1.trans (buildGrammar_start spec "S").symm, hgl⟩

theorem feat_none {vals : List String} {spec : Spec} (h : GoodSpec vals spec false)
    {pr : (String × Feat) × List (Sym × Feat)} (hpr : pr ∈ spec) :
    ∀ f ∈ pr.1.2 :: pr.2.map (·.2), f = none := by
  obtain ⟨h1, h2⟩ := h.uniform pr hpr
  intro f hf
  rcases List.mem_cons.1 hf with rfl | hf
  · simpa using h1
  · obtain ⟨⟨sym, f'⟩, hit, rfl⟩ := List.mem_map.1 hf
    have := h2 _ hit
    cases sym with
    | var x => simpa using this
    | ter t => exact this

/-- the features of a specification -/
def specSrc (spec : Spec) : String → Prop := fun v =>
  ∃ pr ∈ spec, some v ∈ pr.1.2 :: pr.2.map (·.2)

theorem specSrc_plain {vals : List String} {spec : Spec} (h : GoodSpec vals spec false) (v : String) :
    ¬ specSrc spec v :=
  fun ⟨_, hpr, hv⟩ => nomatch feat_none h hpr _ hv

/-- what the completeness and the termination proof use about the store and the grammar built from
a specification -/
theorem built {vals : List String} {spec : Spec} {featured : Bool}
    (h : GoodSpec vals spec featured) (w : List String) :
    ∃ rk0, BuiltOK (specSrc spec) spec (buildGrammar spec "S").1 (buildGrammar spec "S").2 rk0 ∧
      StartC (Glue.ctx vals spec featured w) (buildGrammar spec "S").1 rk0 := by
  obtain ⟨rk0, hbo⟩ := build_shape (Src := specSrc spec) spec "S" fun pr hpr v hv => ⟨pr, hpr, hv⟩
  obtain ⟨d, hd⟩ := List.exists_mem_of_ne_nil vals h.valsNe
  have hw0 := hbo.inv.wfs
  -- the atoms of the built store are the constants of the specification
  refine ⟨rk0, hbo, ⟨Glue.invS h w hbo,
      hbo.inv.sx fun v ⟨pr, hpr, hv⟩ hq => h.consts pr hpr _ hv v rfl (Bool.eq_false_iff.2 hq),
      fun hf => ?_, fun k p env hp ⟨pr, hk, henv⟩ => ?_, fun k p hp => ?_⟩,
    ⟨hbo.gam.1.lt, hbo.gam.2⟩, pr_paths (prX_gamma (List.getElem?_eq_none (Nat.le_refl _))) hbo.gam.1⟩
  · -- a feature-free specification has no constants
    change featured = false at hf
    subst hf
    exact hbo.inv.noval (specSrc_plain h)
  · obtain ⟨pr1, hk1, hPR, _⟩ := hbo.prod hp
    obtain rfl : pr = pr1 := Option.some.inj (Eq.trans (Eq.symm hk) hk1)
    have hprmem : pr ∈ spec := List.mem_of_getElem? hk1
    exact pr_cov hw0.inv.acyc hk hPR env hd
      (fun f hf v hv hq => ⟨valOfFeat_const (Bool.eq_false_iff.2 hq),
        h.consts pr hprmem f hf v hv (Bool.eq_false_iff.2 hq)⟩)
      (fun f hf v hv _ => featVal_mem h hprmem henv (by rw [← hv]; exact hf))
  · obtain ⟨pr, hk, hPR, _⟩ := hbo.prod hp
    exact pr_paths (prX_spec hk) hPR

end CGlue

theorem earley_complete (vals : List String) (spec : Spec) (featured : Bool) (h : GoodSpec vals spec featured)
    (hinj : featured = true → InstNamesInjective vals spec)
    (w : List String) (hmem : (instantiate vals spec featured).Lang w)
    (fuel : Nat) (b : Bool) (hc : containsSpec spec "S" w fuel = some b) : b = true := by
  obtain ⟨rk0, _, h0⟩ := CGlue.built h w
  obtain ⟨d, hd⟩ := List.exists_mem_of_ne_nil vals h.valsNe
  exact Cmp.contains_complete (Glue.ctxOK h w) (CGlue.tgtOK h hinj w) h0 (d := d) hd hmem hc

/-- feature-free grammars: no condition on the names is needed -/
theorem earley_complete_plain (vals : List String) (spec : Spec) (h : GoodSpec vals spec false)
    (w : List String) (hmem : (instantiate vals spec false).Lang w)
    (fuel : Nat) (b : Bool) (hc : containsSpec spec "S" w fuel = some b) : b = true :=
  earley_complete vals spec false h (fun hf => by simp at hf) w hmem fuel b hc

/-- the grammars of the harness (values `s`, `p`): no condition on the names is needed -/
theorem earley_complete_harness (spec : Spec) (featured : Bool)
    (h : GoodSpec ["s", "p"] spec featured) (w : List String)
    (hmem : (instantiate ["s", "p"] spec featured).Lang w)
    (fuel : Nat) (b : Bool) (hc : containsSpec spec "S" w fuel = some b) : b = true :=
  earley_complete ["s", "p"] spec featured h (fun _ => instNamesInjective_harness spec) w hmem fuel b hc

/-- the verdict is exactly membership in the instantiated grammar -/
theorem earley_exact (vals : List String) (spec : Spec) (featured : Bool) (h : GoodSpec vals spec featured)
    (hinj : featured = true → InstNamesInjective vals spec)
    (w : List String) (fuel : Nat) (b : Bool) (hc : containsSpec spec "S" w fuel = some b) :
    b = true ↔ (instantiate vals spec featured).Lang w := by
  constructor
  · intro hb; subst hb; exact earley_sound vals spec featured h w fuel hc
  · intro hm; exact earley_complete vals spec featured h hinj w hm fuel b hc

end Earley
end Pfl
