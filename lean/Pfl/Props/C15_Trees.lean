/-
C15 / C14 — the tree and derivation checkers are sound and complete; the derivation listings
of a well-formed tree are real leftmost / rightmost derivations.
-/
import Pfl.Oracle.Trees
import Pfl.Proofs.CFGBase
import Pfl.Proofs.Trees
namespace Pfl
namespace CFG
open Pfl.CFG.Trees

/-- a tree accepted by the checker witnesses derivability -/
theorem treeValid_sound (G : CFG) (t : PTree) (w : List String) (h : G.treeValid t w = true) :
    G.Lang w := by
  obtain ⟨⟨s, hs, hr⟩, hw, rfl⟩ := (treeValid_iff G t w).mp h
  exact (lang_iff_gen G _).mpr ⟨s, hs, hr ▸ wfT_gen G t hw⟩

/-- every generated word has a tree accepted by the checker -/
theorem treeValid_complete (G : CFG) (w : List String) (h : G.Lang w) :
    ∃ t, G.treeValid t w = true := by
  obtain ⟨s, hs, hg⟩ := (lang_iff_gen G w).mp h
  obtain ⟨t, e, hw, hy⟩ := gen_tree G hg
  exact ⟨t, (treeValid_iff G t w).mpr ⟨⟨s, hs, e⟩, hw, hy⟩⟩

theorem wellFormedT_gen (G : CFG) (t : PTree) (h : G.wellFormedT t = true) :
    G.Gen t.sym (yieldT t) := wfT_gen G t h

theorem leftStep_derives (G : CFG) (u v : List Sym) (h : G.leftStep u v = true) : G.Derives u v := by
  obtain ⟨pre, h, post, body, _, rfl, hp, rfl⟩ := (leftStep_iff G u v).mp h
  have := Derives.context pre post (Derives.prod hp)
  simpa using this

theorem rightStep_derives (G : CFG) (u v : List Sym) (h : G.rightStep u v = true) : G.Derives u v := by
  rw [rightStep_eq] at h
  exact (derives_reverse_iff (H := revG G) rfl).mpr (leftStep_derives _ _ _ h)

/-- an accepted listing is a derivation of the word from the root symbol -/
theorem derivationValid_sound (G : CFG) (left : Bool) (root : Sym) (lines : List (List Sym))
    (w : List String) (h : G.derivationValid left root lines w = true) :
    G.Derives [root] (w.map .ter) := by
  unfold derivationValid at h
  rw [Bool.and_eq_true, Bool.and_eq_true, decide_eq_true_eq, decide_eq_true_eq] at h
  obtain ⟨⟨h1, h2⟩, h3⟩ := h
  refine chain_derives G _ ?_ lines _ _ h1 h2 h3
  intro u v huv
  cases left with
  | true => exact leftStep_derives G u v (by simpa using huv)
  | false => exact rightStep_derives G u v (by simpa using huv)

/-- `get_leftmost_derivation` of a well-formed tree is accepted by the checker -/
theorem leftmostD_valid (G : CFG) (t : PTree) (h : G.wellFormedT t = true) :
    G.derivationValid true t.sym (leftmostD t) (yieldT t) = true := by
  obtain ⟨hc, hl⟩ := leftmostD_spec G t h
  obtain ⟨tl, htl⟩ := leftmostD_head t
  simp only [derivationValid, if_true, Bool.and_eq_true, decide_eq_true_eq, hc, hl, and_true]
  rw [htl]; simp

/-- `get_rightmost_derivation` of a well-formed tree is accepted by the checker -/
theorem rightmostD_valid (G : CFG) (t : PTree) (h : G.wellFormedT t = true) :
    G.derivationValid false t.sym (rightmostD t) (yieldT t) = true := by
  obtain ⟨hc, hl⟩ := leftmostD_spec (revG G) (mirrorT t) (wfT_mirror G t h)
  obtain ⟨tl, htl⟩ := leftmostD_head (mirrorT t)
  have hm := chain_map (leftStep (revG G)) (rightStep G) List.reverse
    (fun u v huv => by rw [rightStep_eq]; simpa using huv) _ hc
  unfold derivationValid
  rw [Bool.and_eq_true, Bool.and_eq_true, decide_eq_true_eq, decide_eq_true_eq]
  simp only [Bool.false_eq_true, if_false]
  unfold rightmostD
  refine ⟨⟨?_, ?_⟩, hm⟩
  · rw [htl, mirrorT_sym]; simp
  · rw [List.getLast?_map, hl, yieldT_mirror]; simp

end CFG
end Pfl
