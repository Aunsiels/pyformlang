/-
Termination (fuel sufficiency): explicit bounds under which the fuel-driven models always answer,
i.e. the loops of the library terminate.  Together with the partial-correctness theorems ("whenever
the model answers, the answer is right") this gives total correctness.

* subset construction `ENFA.toDet` (C01)            — `toDet_isSome`, `toDet_isSome_anyKey`
* LL(1) worklists `firstSet` / `followSet` (C14)    — `firstSet_isSome`, `followSet_isSome`
* marking loop of `IndexedGrammar.is_empty` (C17)   — `isEmptyLib_isSome`

Helper lemmas: `Pfl/Proofs/FATermination.lean`, `TerminationLL1.lean`, `TerminationIndexed.lean`
(namespace `Pfl.Term`).
-/
import Pfl.Proofs.FATermination
import Pfl.Proofs.TerminationLL1
import Pfl.Proofs.TerminationIndexed
import Pfl.Props.C01_Names
import Pfl.Props.C14_Lib
import Pfl.Props.C17_Lib

namespace Pfl

/-! ## subset construction

The model's subsets are duplicate-free lists whose order depends on the path by which the subset
was reached; the worklist compares them by `key`.  `KeyCongr A key`: the key of a duplicate-free
list of states does not depend on its order (`∀ S T, S.Nodup → S ⊆ A.states → S ~ T → key S = key T`).
-/

namespace ENFA
open Pfl.Names
open Pfl.Term (KeyCongr)
section T1
variable {σ κ : Type} [DecidableEq σ] [DecidableEq κ]

/-- the subset construction answers with fuel `2 ^ |Q|` when the naming function does not see the
order of a subset -/
theorem toDet_isSome (A : ENFA σ) (h : A.WF) (key : List σ → κ) (hc : KeyCongr A key)
    (useE : Bool) (fuel : Nat) (hf : 2 ^ A.states.length ≤ fuel) :
    (A.toDet key useE fuel).isSome := by
  refine Term.toDet_isSome_of A h key (A.states.eraseDups.sublists.map key) ?_ useE fuel ?_
  · intro S hS hSt
    obtain ⟨l, hl, hp⟩ := Term.perm_sublist_of_nodup A.states S hS hSt
    exact List.mem_map.mpr ⟨l, hl, (hc S l hS hSt hp).symm⟩
  · rw [List.length_map]
    exact Nat.le_trans (Term.length_sublists_eraseDups_le _) hf

/-- for an arbitrary naming function: fuel `2 ^ |Q| * |Q|!` (arrangements of subsets) -/
theorem toDet_isSome_anyKey (A : ENFA σ) (h : A.WF) (key : List σ → κ)
    (useE : Bool) (fuel : Nat) (hf : 2 ^ A.states.length * A.states.length.factorial ≤ fuel) :
    (A.toDet key useE fuel).isSome := by
  refine Term.toDet_isSome_of A h key
    ((A.states.eraseDups.sublists.flatMap List.permutations).map key) ?_ useE fuel ?_
  · intro S hS hSt
    obtain ⟨l, hl, hp⟩ := Term.perm_sublist_of_nodup A.states S hS hSt
    exact List.mem_map.mpr ⟨S, List.mem_flatMap.mpr ⟨l, hl, List.mem_permutations.mpr hp⟩, rfl⟩
  · -- a sub-list `l` has `|l|! ≤ |Q|!` arrangements
    have h1 := length_flatMap_le A.states.eraseDups.sublists List.permutations
      A.states.length.factorial (fun l hl => by
        rw [List.length_permutations]
        exact Nat.factorial_le (Nat.le_trans (List.mem_sublists.mp hl).length_le
          (Term.eraseDups_length_le _)))
    rw [List.length_map]
    exact Nat.le_trans h1 (Nat.le_trans
      (Nat.mul_le_mul_right _ (Term.length_sublists_eraseDups_le _)) hf)

/-- the library's `to_single_state` sorts the names: it is order-blind for all names -/
theorem mergeName_keyCongr (A : ENFA σ) (names : σ → List Char) :
    KeyCongr A (mergeName names) :=
  fun _ _ _ _ hp => mergeName_perm names hp

/-- `to_deterministic` with the library's naming terminates within `2 ^ |Q|` rounds -/
theorem toDet_named_isSome (A : ENFA σ) (h : A.WF) (names : σ → List Char) (useE : Bool)
    (fuel : Nat) (hf : 2 ^ A.states.length ≤ fuel) :
    (A.toDet (mergeName names) useE fuel).isSome :=
  toDet_isSome A h _ (mergeName_keyCongr A names) useE fuel hf

/-- total correctness of `to_deterministic` (clean names): it answers, and the answer is a
deterministic ε-free automaton for the same language -/
theorem toDet_named_total (A : ENFA σ) (h : A.WF) (names : σ → List Char)
    (hn : Clean A.states names) (fuel : Nat) (hf : 2 ^ A.states.length ≤ fuel) :
    ∃ D, A.toDet (mergeName names) true fuel = some D ∧ D.Deterministic ∧ D.EpsFree ∧
      ∀ w, D.Lang w ↔ A.Lang w := by
  refine Term.total_of_isSome (toDet_named_isSome A h names true fuel hf) fun D hD => ?_
  obtain ⟨h1, h2⟩ := toDet_shape A _ true fuel D hD
  exact ⟨h1, h2, toDet_named_lang_partial A h names hn fuel D hD⟩

end T1

/-! ### the bound `2 ^ |Q| + 1` is false for a key that is merely injective (`KeyInj`)

Three states, all of them initial, one symbol per arrangement `L` of a non-empty subset with
`i ─a_L→ L[i]`: from `[0, 1, 2]` the symbol `a_L` leads to the list `L`, so all 15 arrangements are
reached, and with `key = id` (which satisfies `KeyInj`) all of them are processed. -/

def arrangements3 : List (List Nat) :=
  [[0], [1], [2], [0, 1], [1, 0], [0, 2], [2, 0], [1, 2], [2, 1],
   [0, 1, 2], [0, 2, 1], [1, 0, 2], [1, 2, 0], [2, 0, 1], [2, 1, 0]]

def orderCex : ENFA Nat :=
  { states := [0, 1, 2], syms := List.range 15, starts := [0, 1, 2], finals := []
    delta := arrangements3.zipIdx.flatMap fun La => La.1.zipIdx.map fun qi => (qi.2, some La.2, qi.1) }

theorem orderCex_wf : orderCex.WF := by
  -- the `Decidable` instance of `WF` tests every edge against every symbol; the label of each
  -- edge is looked up directly instead
  have h : ∀ t ∈ orderCex.delta, ∀ a ∈ t.2.1, a ∈ orderCex.syms := by decide +kernel
  exact ⟨by decide +kernel, by decide +kernel, by decide +kernel, by decide +kernel,
    fun t ht a ha => h t ht a ha⟩

theorem orderCex_keyInj : orderCex.KeyInj (id : List Nat → List Nat) := by
  intro S T _ _ h q
  simp only [id] at h
  rw [h]

/-- `KeyInj` is not enough for `2 ^ |Q| + 1`: 15 rounds are needed (and `2 ^ 3 * 3! = 48` are
enough by `toDet_isSome_anyKey`) -/
theorem detSeen_order_counterexample :
    2 ^ orderCex.states.length + 1 = 9 ∧
    orderCex.detSeen id false 9 = none ∧ orderCex.detSeen id false 14 = none ∧
    (orderCex.detSeen id false 15).isSome = true := by decide +kernel

/-- non-vacuity of `toDet_isSome_anyKey` -/
example : (orderCex.toDet id false 48).isSome :=
  toDet_isSome_anyKey orderCex orderCex_wf id false 48 (by decide)

/-- non-vacuity of `toDet_named_isSome` / `toDet_isSome` (5 states: fuel 32) -/
example : (d01.toDet (mergeName d01Names) true 32).isSome :=
  toDet_named_isSome d01 (by decide) d01Names true 32 (by decide)

/-- the bound is tight up to one round: two states, three non-empty subsets, three rounds -/
def tightDet : ENFA Nat :=
  { states := [0, 1], syms := [0, 1, 2], starts := [0], finals := [1]
    delta := [(0, some 0, 0), (0, some 0, 1), (0, some 1, 1), (1, some 2, 0)] }

theorem tightDet_rounds :
    tightDet.detSeen (mergeName' fun q => if q = 0 then ['a'] else ['b']) false 2 = none ∧
    (tightDet.detSeen (mergeName' fun q => if q = 0 then ['a'] else ['b']) false 3).isSome = true := by
  decide +kernel

end ENFA

/-! ## the LL(1) worklists

A head is pushed on the `SetQueue` only when a FIRST set grew, and the queue holds every head at
most once.  With `V` different heads and `t` terminals the FIRST sets hold at most `V * (t + 1)`
members in total, and `firstFuel G = V * (t + 1) * (V + 1) + V` rounds are enough.  For FOLLOW:
`K` different symbols in bodies, sets over the terminals, `Epsilon` and `$`:
`followFuel G = K * (t + 2) * (K + 2) + K + 1`.  A bound `V * (t + 1) + V` is false
(`firstSet_linear_bound_false`). -/

namespace LL1Lib
open Pfl.Term (heads bodySyms firstFuel followFuel)
section T2

theorem firstFuel_eq (G : CFG) :
    firstFuel G = (heads G).length * (G.ters.length + 1) * ((heads G).length + 1) + (heads G).length :=
  rfl

theorem followFuel_eq (G : CFG) :
    followFuel G = (bodySyms G).length * (G.ters.length + 2) * ((bodySyms G).length + 2)
      + (bodySyms G).length + 1 :=
  rfl

/-- `get_first_set` terminates: `V * (t + 1) * (V + 1) + V` rounds, `V` the number of different
heads of productions, `t` the number of terminals -/
theorem firstSet_isSome (G : CFG) (fuel : Nat) (hf : firstFuel G ≤ fuel) :
    (firstSet G fuel).isSome :=
  Term.firstSet_isSome G fuel hf

/-- `get_follow_set` terminates (the model uses the same fuel for both worklists) -/
theorem followSet_isSome (G : CFG) (fuel : Nat) (hf1 : firstFuel G ≤ fuel)
    (hf2 : followFuel G ≤ fuel) : (followSet G fuel).isSome :=
  Term.followSet_isSome G fuel hf1 hf2

theorem heads_length_le (G : CFG) (hG : G.WF) : (heads G).length ≤ G.vars.length := by
  apply (nodup_eraseDups _).length_le_of_subset
  intro h hh
  obtain ⟨p, hp, rfl⟩ := List.mem_map.mp (List.mem_eraseDups.mp hh)
  exact hG.head_mem p hp

theorem bodySyms_length_le (G : CFG) (hG : G.WF) :
    (bodySyms G).length ≤ G.vars.length + G.ters.length := by
  have := (nodup_eraseDups (G.prods.flatMap (·.2))).length_le_of_subset
    (l₂ := G.vars.map Sym.var ++ G.ters.map Sym.ter) (by
      intro s hs
      obtain ⟨p, hp, hsp⟩ := List.mem_flatMap.mp (List.mem_eraseDups.mp hs)
      cases s with
      | var v => exact List.mem_append_left _ (List.mem_map.mpr ⟨v, hG.var_mem p hp v hsp, rfl⟩)
      | ter t => exact List.mem_append_right _ (List.mem_map.mpr ⟨t, hG.ter_mem p hp t hsp, rfl⟩))
  simpa [bodySyms] using this

/-- in terms of the declared variables and terminals: `n * (t + 1) * (n + 1) + n` -/
theorem firstSet_isSome_wf (G : CFG) (hG : G.WF) (fuel : Nat)
    (hf : G.vars.length * (G.ters.length + 1) * (G.vars.length + 1) + G.vars.length ≤ fuel) :
    (firstSet G fuel).isSome := by
  apply firstSet_isSome G fuel
  have h := heads_length_le G hG
  rw [firstFuel_eq]
  exact Nat.le_trans (Nat.add_le_add
    (Nat.mul_le_mul (Nat.mul_le_mul_right _ h) (Nat.succ_le_succ h)) h) hf

/-- both worklists, in terms of the declared variables and terminals (`m = n + t`):
`m * (t + 2) * (m + 2) + m + 1` -/
theorem followSet_isSome_wf (G : CFG) (hG : G.WF) (fuel : Nat)
    (hf : (G.vars.length + G.ters.length) * (G.ters.length + 2) *
        (G.vars.length + G.ters.length + 2) + (G.vars.length + G.ters.length) + 1 ≤ fuel) :
    (followSet G fuel).isSome := by
  have hb := bodySyms_length_le G hG
  have h : (heads G).length ≤ G.vars.length + G.ters.length :=
    Nat.le_trans (heads_length_le G hG) (Nat.le_add_right _ _)
  -- both bounds are monotone in every factor
  apply followSet_isSome G fuel
  · rw [firstFuel_eq]
    refine Nat.le_trans ?_ hf
    rw [Nat.add_assoc]
    exact Nat.add_le_add (Nat.mul_le_mul (Nat.mul_le_mul h (Nat.le_succ _))
      (Nat.le_trans (Nat.succ_le_succ h) (Nat.le_succ _))) (Nat.le_trans h (Nat.le_succ _))
  · rw [followFuel_eq]
    exact Nat.le_trans (Nat.add_le_add_right (Nat.add_le_add
      (Nat.mul_le_mul (Nat.mul_le_mul_right _ hb) (Nat.add_le_add_right hb 2)) hb) 1) hf

/-- hence the parsing table and the LL(1) test are always produced -/
theorem table_isSome (G : CFG) (fuel : Nat) (hf1 : firstFuel G ≤ fuel) (hf2 : followFuel G ≤ fuel) :
    (table G fuel).isSome := by
  obtain ⟨F, hF⟩ := Option.isSome_iff_exists.mp (firstSet_isSome G fuel hf1)
  obtain ⟨Fo, hFo⟩ := Option.isSome_iff_exists.mp (followSet_isSome G fuel hf1 hf2)
  unfold table
  rw [hF, hFo]
  rfl

theorem isLLOne_isSome (G : CFG) (fuel : Nat) (hf1 : firstFuel G ≤ fuel)
    (hf2 : followFuel G ≤ fuel) : (isLLOne G fuel).isSome := by
  unfold isLLOne
  rw [Option.isSome_map]
  exact table_isSome G fuel hf1 hf2

/-- five variables that all mention each other, one terminal each -/
def fullG : CFG :=
  let vs := ["A", "B", "C", "D", "E"]
  CFG.mk' vs ["a", "b", "c", "d", "e"] (some "A")
    ((vs.zip ["a", "b", "c", "d", "e"]).flatMap fun vt =>
      (vt.1, [Sym.ter vt.2]) :: vs.map fun v => (vt.1, [Sym.var v]))

/-- a bound linear in the number of variables, `V * (t + 1) + V`, is false: here `V = t = 5`,
`V * (t + 1) + V = 35`, and the worklist needs 40 rounds (`firstFuel = 185`) -/
theorem firstSet_linear_bound_false :
    (heads fullG).length = 5 ∧ fullG.ters.length = 5 ∧ firstFuel fullG = 185 ∧
    firstSet fullG 39 = none ∧ (firstSet fullG 40).isSome = true := by decide +kernel

/-- non-vacuity of `firstSet_isSome`, `followSet_isSome` -/
example : (firstSet fullG 185).isSome :=
  firstSet_isSome fullG 185 (Nat.le_of_eq firstSet_linear_bound_false.2.2.1)

example : (followSet fullG 851).isSome :=
  followSet_isSome fullG 851 (by rw [firstSet_linear_bound_false.2.2.1]; decide) (by decide +kernel)

end T2

end LL1Lib

/-! ## the marking loop of `IndexedGrammar.is_empty`

Every pass that reports a modification adds a set to some `marked[A]`; the sets are canonical
sub-lists of the `n` non-terminals, so the table holds at most `n * 2 ^ n` sets, and it starts with
at least `n`. -/

namespace IG
open Pfl.IG.Lib Pfl.IG.LibP
open Pfl.Term (loop_isSome initTable_wft total_initTable)
section T3

/-- sharp form: `n * 2 ^ n - n + 1` passes -/
theorem isEmptyLibO_isSome (G : IG) (ord : List SetS → List SetS) (hord : OrdOK ord) (fuel : Nat)
    (hf : G.nonTerminals.length * 2 ^ G.nonTerminals.length + 1 ≤ fuel + G.nonTerminals.length) :
    (isEmptyLibO ord G fuel).isSome := by
  unfold isEmptyLibO
  apply loop_isSome hord G fuel _ (initTable_wft G)
  have := total_initTable G
  omega

/-- the library's loop (insertion order) answers for fuel `≥ |N| * 2 ^ |N| + 2` -/
theorem isEmptyLib_isSome (G : IG) (fuel : Nat)
    (hf : G.nonTerminals.length * 2 ^ G.nonTerminals.length + 2 ≤ fuel) :
    (isEmptyLib G fuel).isSome :=
  isEmptyLibO_isSome G id ordOK_id fuel (by omega)

/-- total correctness of `is_empty()`: it answers, and the answer is right -/
theorem isEmptyLib_total (G : IG) (fuel : Nat)
    (hf : G.nonTerminals.length * 2 ^ G.nonTerminals.length + 2 ≤ fuel) :
    ∃ b, isEmptyLib G fuel = some b ∧ (b = true ↔ ¬ G.NonEmpty) :=
  Term.total_of_isSome (isEmptyLib_isSome G fuel hf) (isEmptyLib_iff G fuel)

/-- non-vacuity: five non-terminals, `5 * 2 ^ 5 + 2 = 162` -/
example : (isEmptyLib nvLib1 162).isSome := isEmptyLib_isSome nvLib1 162 (by decide +kernel)

example : (isEmptyLibO List.reverse nvLib2 156).isSome :=
  isEmptyLibO_isSome nvLib2 List.reverse (fun _ _ => List.mem_reverse) 156 (by decide +kernel)

end T3
end IG

end Pfl
