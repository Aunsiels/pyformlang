/-
C12 — generating / nullable / reachable symbols, emptiness and ε-membership are exact.
-/
import Pfl.Proofs.CFGBase
import Pfl.Proofs.CFGClasses
namespace Pfl
namespace CFG

theorem mem_generating_iff (G : CFG) (hG : G.WF) (s : Sym) :
    s ∈ G.generating ↔
      (∃ t, s = .ter t ∧ t ∈ G.ters) ∨ (∃ v w, s = .var v ∧ G.Gen (.var v) w) := by
  constructor
  · intro h
    obtain ⟨w, hg, hw⟩ := (mem_generating G s).1 h
    cases s with
    | ter t => exact Or.inl ⟨t, rfl, hw t (gen_ter_iff.1 hg ▸ List.mem_singleton_self t)⟩
    | var v => exact Or.inr ⟨v, w, rfl, hg⟩
  · rintro (⟨t, rfl, ht⟩ | ⟨v, w, rfl, hg⟩)
    · exact mem_generating_of_gen hG (.ter t) fun _ e => Sym.ter.inj e ▸ ht
    · exact mem_generating_of_gen hG hg nofun

theorem mem_nullable_iff (G : CFG) (s : Sym) :
    s ∈ G.nullable ↔ ∃ v, s = .var v ∧ G.Gen (.var v) [] := by
  rw [mem_nullable]
  refine ⟨fun h => ?_, fun ⟨v, e, h⟩ => e ▸ h⟩
  cases s with
  | ter t => cases h
  | var v => exact ⟨v, rfl, h⟩

/-- the reachable symbols are those occurring in a sentential form derivable from the start -/
theorem mem_reachable_iff (G : CFG) (s : Sym) :
    s ∈ G.reachable ↔
      ∃ st, G.start = some st ∧ ∃ u v, G.Derives [.var st] (u ++ [s] ++ v) := by
  refine ⟨reachable_ind (Q := Occurs G) (fun st hst => ⟨st, hst, [], [], .refl _⟩)
    fun _ _ hp _ ih _ hz => ih.step hp hz, ?_⟩
  rintro ⟨st, hst, u, v, hd⟩
  refine (mem_reachable_reach G s).2 ⟨st, hst, derives_closed G (fun x => Reach G.rnext (Sym.var st) x)
    (fun x y hx hy => Reach.tail hx hy) hd ?_ s (by simp)⟩
  intro x hx; simp at hx; subst hx; exact Reach.refl _

theorem isEmpty_iff (G : CFG) (hG : G.WF) : G.isEmpty = true ↔ ∀ w, ¬ G.Lang w := by
  unfold isEmpty
  cases hst : G.start with
  | none =>
    simp only [true_iff]
    intro w hw
    obtain ⟨s, hs, _⟩ := (lang_iff_gen G w).mp hw
    rw [hst] at hs; cases hs
  | some st =>
    simp only [decide_eq_true_eq]
    rw [mem_generating_iff G hG]
    constructor
    · intro h w hw
      obtain ⟨s, hs, hg⟩ := (lang_iff_gen G w).mp hw
      rw [hst] at hs; cases hs
      exact h (Or.inr ⟨_, w, rfl, hg⟩)
    · rintro h (⟨t, e, _⟩ | ⟨v, w, e, hg⟩)
      · cases e
      · cases e
        exact h w ((lang_iff_gen G w).mpr ⟨_, hst, hg⟩)

theorem generateEpsilon_iff (G : CFG) : G.generateEpsilon = true ↔ G.Lang [] := by
  unfold generateEpsilon
  rw [lang_iff_gen]
  cases hst : G.start with
  | none => simp
  | some st =>
    simp only [decide_eq_true_eq]
    rw [mem_nullable_iff]
    constructor
    · rintro ⟨v, e, hg⟩; cases e; exact ⟨_, rfl, hg⟩
    · rintro ⟨s, hs, hg⟩; cases hs; exact ⟨_, rfl, hg⟩

theorem generating_nodup (G : CFG) (h : G.ters.Nodup) : G.generating.Nodup := by
  unfold generating
  refine iter_inv G.closeStep List.Nodup (closeStep_nodup G) _ _ ?_
  exact List.Pairwise.map Sym.ter (fun a b hab e => hab (by cases e; rfl)) h

theorem nullable_nodup (G : CFG) : G.nullable.Nodup := by
  unfold nullable
  exact iter_inv G.closeStep List.Nodup (closeStep_nodup G) _ _ List.nodup_nil

end CFG
end Pfl
