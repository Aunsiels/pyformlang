/-
C09 / C12 / C19 — totality of the fuelled models: explicit fuel bounds under which
`to_normal_form` (hence `contains`, `get_words`, `is_finite`) and the counter worklist behind
`get_generating_symbols` / `get_nullable_symbols` always answer, i.e. the library's recursion and
loops terminate.

`to_normal_form` recurses on the cleaned grammar
`G.remove_useless_symbols().remove_epsilon().remove_useless_symbols()
   .eliminate_unit_productions().remove_useless_symbols()`;
the point is that this grammar passes the test that guards the recursion (no nullable symbol, only
the reflexive unit pairs, no unit production, every registered symbol generating and reachable —
compared through the *sizes* of the sets) or has no production, so the recursion depth is at most
one.  (With a `Variable.__eq__` that holds against a terminal of the same value the test fails — and
the recursion never ends — on grammars where a variable and a terminal share a value.)  No well-formedness hypothesis is needed:
whatever `G` is, the cleaned grammar comes out of the constructor (`mk'`).
-/
import Pfl.Props.C09_CNF
import Pfl.Props.C12_Words
import Pfl.Props.C19_Counters
import Pfl.Proofs.CFGTermination
namespace Pfl
namespace CFG
open Pfl.CFG.Term

/-- the clean-up chain ends in a grammar on which `to_normal_form` returns at once -/
theorem cleaned_isFastPath_or_empty (G : CFG) :
    (G.removeUseless.removeEpsilon.removeUseless.elimUnit.removeUseless).isFastPath = true ∨
    (G.removeUseless.removeEpsilon.removeUseless.elimUnit.removeUseless).prods.length = 0 :=
  cleaned_fast G

theorem toNormalForm_one (G : CFG) : G.toNormalForm 1 =
    if G.isFastPath then some (mk' [] [] G.start (G.decompose G.singleTerminals).eraseDups)
    else if G.prods.length = 0 then some G else none := by
  rw [toNormalForm]; rfl

theorem toNormalForm_of_guard (G : CFG) (h : G.isFastPath = true ∨ G.prods.length = 0) (k : Nat) :
    G.toNormalForm (k + 1) = G.toNormalForm 1 := by
  rw [toNormalForm, toNormalForm_one]
  rcases h with h | h
  · rw [if_pos h, if_pos h]
  · rw [if_pos h, if_pos h]

/-- the recursion depth is at most one: the recursive call is on the cleaned grammar, which passes
the guard or is empty (`cleaned_fast`), so it is answered as with fuel 1 -/
theorem toNormalForm_add_two (G : CFG) (k : Nat) : G.toNormalForm (k + 2) =
    if G.isFastPath then some (mk' [] [] G.start (G.decompose G.singleTerminals).eraseDups)
    else if G.prods.length = 0 then some G else (cleaned G).toNormalForm 1 := by
  rw [toNormalForm, ← toNormalForm_of_guard _ (cleaned_fast G) k]; rfl

/-- the bound 2 is the smallest: with fuel 1 the model answers exactly on the grammars that need
no clean-up -/
theorem toNormalForm_one_isSome_iff (G : CFG) :
    (G.toNormalForm 1).isSome ↔ (G.isFastPath = true ∨ G.prods.length = 0) := by
  rw [toNormalForm_one]
  split
  · rename_i h1; simp [h1]
  · split
    · rename_i h2; simp [h2]
    · rename_i h1 h2; simp [h1, h2]

/-- `to_normal_form` terminates with recursion depth at most one: fuel 2 always suffices.
Holds for every grammar; in particular for every well-formed one. -/
theorem toNormalForm_isSome (G : CFG) (fuel : Nat) (hf : 2 ≤ fuel) : (G.toNormalForm fuel).isSome := by
  obtain ⟨k, rfl⟩ : ∃ k, fuel = k + 2 := ⟨fuel - 2, by omega⟩
  rw [toNormalForm_add_two]
  split
  · rfl
  · split
    · rfl
    · exact (toNormalForm_one_isSome_iff _).mpr (cleaned_fast G)

/-- in particular for every well-formed grammar (`_hG` is not used) -/
theorem toNormalForm_isSome_wf (G : CFG) (_hG : G.WF) (fuel : Nat) (hf : 2 ≤ fuel) :
    (G.toNormalForm fuel).isSome := toNormalForm_isSome G fuel hf

theorem toNormalForm_fuel_indep (G : CFG) (fuel : Nat) (hf : 2 ≤ fuel) :
    G.toNormalForm fuel = G.toNormalForm 2 := by
  obtain ⟨k, rfl⟩ : ∃ k, fuel = k + 2 := ⟨fuel - 2, by omega⟩
  rw [toNormalForm_add_two G k, toNormalForm_add_two G 0]

theorem contains_isSome (G : CFG) (w : List String) (fuel : Nat) (hf : 2 ≤ fuel) :
    (G.contains w fuel).isSome := by
  unfold contains
  split
  · rfl
  · rw [Option.isSome_map]; exact toNormalForm_isSome G fuel hf

theorem isFinite_isSome (G : CFG) (fuel : Nat) (hf : 2 ≤ fuel) : (G.isFinite fuel).isSome := by
  unfold isFinite
  rw [Option.isSome_map]; exact toNormalForm_isSome G fuel hf

/-- `get_words(n)`: the loop runs for the lengths `2, …, n`, so fuel `max 2 n` suffices
(2 for the normal form, `n` for the loop: `n - 1` rounds and the final test) -/
theorem getWords_isSome (G : CFG) (n fuel : Nat) (hf : 2 ≤ fuel) (hn : n ≤ fuel) :
    (G.getWords (some n) fuel).isSome := by
  unfold getWords
  simp only
  split
  · rfl
  · obtain ⟨N, hN⟩ := Option.isSome_iff_exists.mp (toNormalForm_isSome G fuel hf)
    rw [hN]
    simp only
    split
    · rfl
    · exact wordsLoop_isSome N _ n fuel 2 0 _ _ (by omega) (by omega)

/-- every symbol is pushed at most once (it enters `found` when pushed), and what is pushed is a
seed or the head of an impact entry: the loop pops at most `|variables|` symbols (and the terminals
when they are seeded); the counters `rem` play no role -/
theorem genCounters_isSome_general (G : CFG) (nullable : Bool) (rem : Remaining) (imp : Impacts)
    (added : List String) (fuel : Nat)
    (hadd : ∀ a ∈ added, a ∈ G.vars) (himp : ∀ e ∈ imp, e.2.1 ∈ G.vars)
    (hf : G.vars.length + (if nullable then 0 else G.ters.length) ≤ fuel) :
    (G.genCounters nullable rem imp added fuel).isSome := by
  have := Ctr.genCounters_run G nullable rem imp added fuel
    (· ∈ G.vars.map Sym.var ++ (if nullable then [] else G.ters.map Sym.ter))
    (fun h i _ hne _ _ => by
      -- a slot that is hit has its head among the variables, whatever its counter says
      obtain ⟨s, hs⟩ := List.exists_mem_of_ne_nil _ hne
      exact List.mem_append_left _
        (List.mem_map_of_mem (himp (s, h, i) ((Ctr.mem_occ imp h i s).mp hs))))
    (List.append_subset.mpr ⟨List.subset_append_of_subset_left _ (List.map_subset _ hadd),
      List.subset_append_right _ _⟩)
  split at this
  · next hc => rw [hc]; rfl
  · -- out of fuel: the fuel was short of every list that holds the symbols that can be popped
    refine absurd (this _ fun _ hx => hx) (Nat.not_lt.mpr ?_)
    cases nullable <;> simpa using hf

/-- on the tables built from a well-formed grammar (with any state `rem` of the counters) the
worklist answers for every fuel `≥ |variables| + |terminals|` -/
theorem genCounters_isSome (G : CFG) (hG : G.WF) (nullable : Bool) (rem : Remaining) (fuel : Nat)
    (hf : G.vars.length + G.ters.length ≤ fuel) :
    (G.genCounters nullable rem G.buildTables.2.1 G.buildTables.2.2 fuel).isSome :=
  genCounters_isSome_general G nullable rem _ _ fuel (buildTables_heads G hG).1 (buildTables_heads G hG).2
    (by cases nullable <;> simp <;> omega)

/-- for the nullable symbols the variables alone bound the number of rounds -/
theorem genCounters_nullable_isSome (G : CFG) (hG : G.WF) (rem : Remaining) (fuel : Nat)
    (hf : G.vars.length ≤ fuel) :
    (G.genCounters true rem G.buildTables.2.1 G.buildTables.2.2 fuel).isSome :=
  genCounters_isSome_general G true rem _ _ fuel (buildTables_heads G hG).1 (buildTables_heads G hG).2
    (by simpa using hf)

/-- `get_words()` without length bound on a grammar with a finite language: the stopping rule
(`2 * total_no_modification > current_length + 1`) fires.  All words of the normal form `N` have length
`≤ L = 2 ^ |N.variables|`; the loop computes the rows up to `L` and then needs `L + 2` empty rows:
fuel `2 * L + 1` -/
theorem getWords_unbounded_isSome (G : CFG) (hG : G.WF) (hfin : ∃ n, ∀ w, G.Lang w → w.length ≤ n)
    (N : CFG) (hN : G.toNormalForm 2 = some N) (fuel : Nat)
    (hf : 2 ^ (N.vars.length + 1) + 1 ≤ fuel) : (G.getWords none fuel).isSome := by
  have hpos : 1 ≤ 2 ^ N.vars.length := Nat.one_le_two_pow
  rw [Nat.pow_succ] at hf
  have hN' : G.toNormalForm fuel = some N := by
    rw [toNormalForm_fuel_indep G fuel (by omega)]; exact hN
  have hnf := toNormalForm_isNormalForm G hG 2 N hN
  have hwf := Words.toNormalForm_wf G hG 2 N hN
  have hL := normalForm_bounded G hG hfin 2 N hN
  unfold getWords
  simp only [reduceCtorEq, if_false, hN']
  split
  · rfl
  · exact wordsLoop_none_isSome hnf hwf _ (2 ^ N.vars.length) hL fuel 2 0 _ _ (Words.Rows.init hnf hwf)
      (by omega) (fun _ => by omega) (fun _ => by omega)

/-- an answer lists the language, and a list has a longest member -/
theorem getWords_unbounded_finite (G : CFG) (hG : G.WF) (fuel : Nat)
    (h : (G.getWords none fuel).isSome) : ∃ n, ∀ w, G.Lang w → w.length ≤ n := by
  obtain ⟨ws, hws⟩ := Option.isSome_iff_exists.mp h
  obtain ⟨n, hn⟩ := lengths_bounded ws
  exact ⟨n, fun w hw => hn w (((getWords_exact_unbounded G hG fuel ws hws).2 w).mpr hw)⟩

/-- on an infinite language the generator never finishes (as it should: it keeps yielding) -/
theorem getWords_unbounded_none (G : CFG) (hG : G.WF) (hinf : ∀ n, ∃ w, G.Lang w ∧ n < w.length)
    (fuel : Nat) : G.getWords none fuel = none := by
  refine Option.not_isSome_iff_eq_none.mp fun h => ?_
  obtain ⟨n, hn⟩ := getWords_unbounded_finite G hG fuel h
  obtain ⟨w, hw, hl⟩ := hinf n
  exact Nat.not_le_of_lt hl (hn w hw)

/-- `get_words()` terminates exactly on the finite languages -/
theorem getWords_unbounded_terminates_iff (G : CFG) (hG : G.WF) :
    (∃ fuel, (G.getWords none fuel).isSome) ↔ ∃ n, ∀ w, G.Lang w → w.length ≤ n := by
  refine ⟨fun ⟨fuel, h⟩ => getWords_unbounded_finite G hG fuel h, fun hfin => ?_⟩
  obtain ⟨N, hN⟩ := Option.isSome_iff_exists.mp (toNormalForm_isSome G 2 (Nat.le_refl _))
  exact ⟨_, getWords_unbounded_isSome G hG hfin N hN _ (Nat.le_refl _)⟩

/-- S → A B, A → a | ε, B → A | b S, C → C: ε-production, unit production, useless symbol -/
def termG : CFG := mk' [] [] (some "S")
  [("S", [.var "A", .var "B"]), ("A", [.ter "a"]), ("A", []), ("B", [.var "A"]),
   ("B", [.ter "b", .var "S"]), ("C", [.var "C"])]

theorem eq_of_fields {G H : CFG}
    (h : G.vars = H.vars ∧ G.ters = H.ters ∧ G.start = H.start ∧ G.prods = H.prods) : G = H := by
  cases G; cases H; simp only [mk.injEq]; exact h

/-- what the clean-up chain leaves of `termG` (duplicates as the model's lists have them) -/
def termC : CFG := ⟨["S", "A", "B"], ["a", "b"], some "S",
  [("S", [.var "A", .var "B"]), ("A", [.ter "a"]), ("B", [.ter "b"]), ("B", [.ter "b", .var "S"]),
   ("S", [.var "A", .var "B"]), ("A", [.ter "a"]), ("B", [.ter "b"]), ("B", [.ter "b", .var "S"]),
   ("S", [.ter "a"]), ("S", [.ter "b"]), ("S", [.ter "b", .var "S"]), ("B", [.ter "a"])]⟩

def termN : CFG := ⟨["S", "A", "B", "b#CNF#"], ["a", "b"], some "S",
  [("S", [.var "A", .var "B"]), ("A", [.ter "a"]), ("B", [.ter "b"]), ("B", [.var "b#CNF#", .var "S"]),
   ("S", [.ter "a"]), ("S", [.ter "b"]), ("S", [.var "b#CNF#", .var "S"]), ("B", [.ter "a"]),
   ("b#CNF#", [.ter "b"])]⟩

theorem termG_cleaned : cleaned termG = termC := eq_of_fields (by decide +kernel)

theorem termG_not_fast : termG.isFastPath = false := by decide +kernel

/-- that `termC` passes the guard needs no evaluation: it is a cleaned grammar with productions -/
theorem termC_fast : termC.isFastPath = true := by
  have h := cleaned_fast termG
  rw [termG_cleaned] at h
  exact h.resolve_right (by decide)

theorem termG_nf : termG.toNormalForm 2 = some termN := by
  rw [toNormalForm_add_two termG 0, termG_not_fast, termG_cleaned, toNormalForm_one, termC_fast]
  exact congrArg some (eq_of_fields (by decide +kernel))

/-- the recursion is really entered on `termG` (guard fails, productions present, fuel 1 is not
enough), the cleaned grammar passes the guard with productions left, and fuel 2 answers -/
example : termG.isFastPath = false ∧ termG.prods.length = 6 ∧ termG.toNormalForm 1 = none ∧
    (termG.removeUseless.removeEpsilon.removeUseless.elimUnit.removeUseless).isFastPath = true ∧
    (termG.removeUseless.removeEpsilon.removeUseless.elimUnit.removeUseless).prods.length = 12 := by
  refine ⟨termG_not_fast, rfl, ?_, ?_⟩
  · rw [toNormalForm_one, termG_not_fast]; rfl
  · show (cleaned termG).isFastPath = true ∧ (cleaned termG).prods.length = 12
    rw [termG_cleaned]
    exact ⟨termC_fast, rfl⟩

example : (termG.toNormalForm 2).isSome := toNormalForm_isSome termG 2 (Nat.le_refl _)
example : (termG.toNormalForm 2).map (·.prods.length) = some 9 := by rw [termG_nf]; rfl
example : termG.contains ["a", "b", "a"] 2 = some true := by
  unfold contains; rw [termG_nf]; decide +kernel
example : (termG.contains ["a", "b", "a"] 2).isSome := contains_isSome termG _ 2 (Nat.le_refl _)
example : (termG.isFinite 2).isSome := isFinite_isSome termG 2 (Nat.le_refl _)
example : (termG.getWords (some 3) 3).isSome := getWords_isSome termG 3 3 (by omega) (Nat.le_refl _)
/-- the loop bound is attained: `get_words(3)` does not answer with fuel 2 -/
example : termG.getWords (some 3) 2 = none ∧ (termG.getWords (some 3) 3).isSome := by
  refine ⟨?_, getWords_isSome termG 3 3 (by omega) (Nat.le_refl _)⟩
  unfold getWords; rw [termG_nf]; decide +kernel

/-- the second branch: a start symbol that generates nothing leaves no production -/
def termG0 : CFG := mk' ["S"] ["a"] (some "S") [("S", [.var "S"])]
example : termG0.isFastPath = false ∧
    (termG0.removeUseless.removeEpsilon.removeUseless.elimUnit.removeUseless).isFastPath = false ∧
    (termG0.removeUseless.removeEpsilon.removeUseless.elimUnit.removeUseless).prods.length = 0 ∧
    (termG0.toNormalForm 2).isSome := by decide +kernel

theorem termG_wf : termG.WF := mk'_wf _ _ _ _

/-- `termG` has 4 variables and 2 terminals: fuel 6 -/
example : (termG.genCounters false termG.buildTables.1 termG.buildTables.2.1 termG.buildTables.2.2 6).isSome :=
  genCounters_isSome termG termG_wf false _ 6 (by decide +kernel)

/-- S → a b: both terminals and then the variable are popped, 3 = |vars| + |ters| rounds; the bound is
attained (fuel 2 is not enough) -/
def termG1 : CFG := mk' [] [] (some "S") [("S", [.ter "a", .ter "b"])]
example : termG1.vars.length + termG1.ters.length = 3 ∧
    termG1.genCounters false termG1.buildTables.1 termG1.buildTables.2.1 termG1.buildTables.2.2 2 = none ∧
    (termG1.genCounters false termG1.buildTables.1 termG1.buildTables.2.1 termG1.buildTables.2.2 3).isSome := by
  decide +kernel

/-- finite language {ab}: `is_finite` says so, hence `get_words()` stops -/
example : ∃ fuel, (termG1.getWords none fuel).isSome :=
  (getWords_unbounded_terminates_iff termG1 (mk'_wf _ _ _ _)).mpr
    ((isFinite_iff termG1 (mk'_wf _ _ _ _) 2 true (by decide +kernel)).mp rfl)
example : (termG1.getWords none 5).isSome := by decide +kernel

theorem termG_infinite : termG.isFinite 2 = some false := by
  unfold isFinite; rw [termG_nf]; decide +kernel

/-- infinite language: `termG.is_finite()` is false, so `get_words()` runs out of any fuel -/
example (fuel : Nat) : termG.getWords none fuel = none := by
  refine getWords_unbounded_none termG termG_wf (fun n => ?_) fuel
  by_contra hc
  have hfin : ∃ n, ∀ w, termG.Lang w → w.length ≤ n :=
    ⟨n, fun w hw => Nat.le_of_not_lt fun hl => hc ⟨w, hw, hl⟩⟩
  exact absurd ((isFinite_iff termG termG_wf 2 false termG_infinite).mpr hfin) (by simp)

end CFG
end Pfl
