/-
Non-vacuity witnesses for the property theorems of `Pfl/Props/*.lean`; continued in
`NonVacuity2.lean` (`C18_Dag`, `C17_Inter`, `C16_ToFST`, `C06_ToRegex`, `C03_Regexable`,
`C15_RecDescent`, `C07_Desugar`, `C20_Labels`, `C20_Boxes`).  Not here but next to their theorems: the
witnesses of the object models (`C19_*`), of `C17_Lib`, `C18_Earley*`, `C20_Text` / `C20_Networkx` /
`C20_Ebnf`, `C15_CYKTree` / `C15_EarleyTree` (with `Pfl/Proofs/EarleyTreeNV.lean`) and of the
termination files (`C01_`, `C03_`, `C09_`, `C14_`, `C16_Termination`).

For every hypothesis bundle / side condition assumed by the theorems it serves this file exhibits a concrete,
non-trivial object satisfying it, and for every fuelled model function whose theorems read
"if `f … fuel = some x` then …" a concrete input on which the function does return `some`
(so that none of the implications is vacuously true).  A witness that is an instance of a theorem of the
development (a verdict that totality and correctness give from a cheaper fact, a value another witness has
computed) is derived from it; everything else is evaluated by the kernel (`decide`, `decide +kernel`, `rfl`,
`simp` and short manual proofs; no `sorry`, no `native_decide`).

Sections are grouped by property; each names the theorems it serves.
-/
import Pfl.Props.C01_Accepts
import Pfl.Props.C01_Det
import Pfl.Props.C01_EpsCopy
import Pfl.Props.C01_Names
import Pfl.Props.C02_Hopcroft
import Pfl.Props.C02_Iso
import Pfl.Props.C02_Min
import Pfl.Props.C03_Bool
import Pfl.Props.C03_Ref
import Pfl.Props.C03_Regexable
import Pfl.Props.C03_Rev
import Pfl.Props.C04_Oracle
import Pfl.Props.C04_Preds
import Pfl.Props.C04_Words
import Pfl.Props.C05_Compose
import Pfl.Props.C05_Reader
import Pfl.Props.C05_Regex
import Pfl.Props.C05_ToCFG
import Pfl.Props.C06_ToRegex
import Pfl.Props.C07_Desugar
import Pfl.Props.C08_Oracle
import Pfl.Props.C09_CNF
import Pfl.Props.C09_Clean
import Pfl.Props.C09_Termination
import Pfl.Props.C10_Reverse
import Pfl.Props.C10_Substitute
import Pfl.Props.C11_BarHillel
import Pfl.Props.C11_Regex
import Pfl.Props.C12_Classes
import Pfl.Props.C12_Words
import Pfl.Props.C13_Modes
import Pfl.Props.C13_Oracle
import Pfl.Props.C13_ToCFG
import Pfl.Props.C14_LL1
import Pfl.Props.C14_Lib
import Pfl.Props.C15_RecDescent
import Pfl.Props.C15_Trees
import Pfl.Props.C16_FST
import Pfl.Props.C16_ToFST
import Pfl.Props.C17_Indexed
import Pfl.Props.C18_Unify
import Pfl.Props.C19_Counters
import Pfl.Props.C20_Boxes
import Pfl.Props.C20_Codec
import Pfl.Props.C20_Labels
import Pfl.Proofs.PDATermination
import Mathlib.Data.Nat.Pairing

namespace Pfl
namespace NonVacuity

def isSomeSome {α : Type} : Option (Option α) → Bool
  | some (some _) => true
  | _ => false

theorem exists_of_isSomeSome {α : Type} {x : Option (Option α)} (h : isSomeSome x = true) :
    ∃ t, x = some (some t) := by
  match x, h with
  | some (some t), _ => exact ⟨t, rfl⟩

theorem forall_mem_one {α : Type} {p : α → Prop} {a : α} (ha : p a) : ∀ e ∈ [a], p e :=
  List.forall_mem_singleton.2 ha
theorem forall_mem_two {α : Type} {p : α → Prop} {a b : α} (ha : p a) (hb : p b) : ∀ e ∈ [a, b], p e :=
  List.forall_mem_cons.2 ⟨ha, forall_mem_one hb⟩

theorem keyInj_id {σ : Type} (A : ENFA σ) : A.KeyInj id := fun S T _ _ h q => by
  have : S = T := h
  rw [this]

/-- Boolean form of `CFG.WF` -/
def wfCheck (G : CFG) : Bool :=
  (G.prods.all fun p => decide (p.1 ∈ G.vars) && p.2.all fun s =>
    match s with
    | .var v => decide (v ∈ G.vars)
    | .ter t => decide (t ∈ G.ters)) &&
  (match G.start with
   | none => true
   | some s => decide (s ∈ G.vars))

theorem wf_of_check (G : CFG) (h : wfCheck G = true) : G.WF := by
  simp only [wfCheck, Bool.and_eq_true, List.all_eq_true, decide_eq_true_eq] at h
  obtain ⟨hp, hs⟩ := h
  refine ⟨fun p hm => (hp p hm).1, fun p hm v hv => ?_, fun p hm t ht => ?_, fun s hst => ?_⟩
  · simpa using (hp p hm).2 _ hv
  · simpa using (hp p hm).2 _ ht
  · rw [hst] at hs; simpa using hs

/-- Boolean form of `CFG.AllGenerating` (through `mem_iter_closeStep_iff`) -/
def genCheck (G : CFG) : Bool :=
  G.prods.all fun p => decide (Sym.var p.1 ∈ G.generating) && p.2.all fun s => decide (s ∈ G.generating)

theorem allGenerating_of_check (G : CFG) (h : genCheck G = true) : G.AllGenerating := by
  simp only [genCheck, Bool.and_eq_true, List.all_eq_true, decide_eq_true_eq] at h
  have gen : ∀ s ∈ G.generating, ∃ w, G.Gen s w := fun s hs =>
    ((CFG.mem_iter_closeStep_iff G G.ters s).1 hs).imp fun _ => And.left
  exact fun p hp => ⟨gen _ (h p hp).1, fun s hs => gen s ((h p hp).2 s hs)⟩

/-- `CFG` derives no decidable equality; grammars are compared field by field -/
local instance : DecidableEq CFG := fun M N =>
  decidable_of_iff (M.vars = N.vars ∧ M.ters = N.ters ∧ M.start = N.start ∧ M.prods = N.prods)
    (by cases M; cases N; simp)

local instance {σ : Type} [DecidableEq σ] : DecidableEq (ENFA σ) := fun A B =>
  decidable_of_iff (A.states = B.states ∧ A.syms = B.syms ∧ A.starts = B.starts ∧ A.finals = B.finals ∧
    A.delta = B.delta) (by cases A; cases B; simp)

/-- Boolean form of `PDA.WF` -/
def pdaWfCheck {σ γ : Type} [DecidableEq σ] [DecidableEq γ] (P : PDA σ γ) : Bool :=
  (P.delta.all fun t => decide (t.1 ∈ P.states) && decide (t.2.2.2.1 ∈ P.states) &&
    decide (t.2.2.1 ∈ P.stack) && t.2.2.2.2.all (fun x => decide (x ∈ P.stack)) &&
    (match t.2.1 with
     | none => true
     | some c => decide (c ∈ P.inputs))) &&
  (match P.start with
   | none => true
   | some s => decide (s ∈ P.states)) &&
  (match P.startStack with
   | none => true
   | some z => decide (z ∈ P.stack)) &&
  P.finals.all fun f => decide (f ∈ P.states)

theorem pda_wf_of_check {σ γ : Type} [DecidableEq σ] [DecidableEq γ] (P : PDA σ γ)
    (h : pdaWfCheck P = true) : P.WF := by
  simp only [pdaWfCheck, Bool.and_eq_true, List.all_eq_true, decide_eq_true_eq] at h
  obtain ⟨⟨⟨hd, hs⟩, hz⟩, hf⟩ := h
  refine ⟨fun t ht => (hd t ht).1.1.1.1, fun t ht => (hd t ht).1.1.1.2, fun t ht => (hd t ht).1.1.2,
    fun t ht => (hd t ht).1.2, fun t ht c hc => ?_, fun s hst => ?_, fun z hzt => ?_, hf⟩
  · have := (hd t ht).2
    rw [hc] at this; simpa using this
  · rw [hst] at hs; simpa using hs
  · rw [hzt] at hz; simpa using hz

/-- Boolean form of `FST.WF` -/
def fstWfCheck {σ : Type} [DecidableEq σ] (T : FST σ) : Bool :=
  T.starts.all (fun q => decide (q ∈ T.states)) && T.finals.all (fun q => decide (q ∈ T.states)) &&
  T.delta.all (fun t => decide (t.1 ∈ T.states) && decide (t.2.2.1 ∈ T.states))

theorem fst_wf_of_check {σ : Type} [DecidableEq σ] (T : FST σ) (h : fstWfCheck T = true) : T.WF := by
  simp only [fstWfCheck, Bool.and_eq_true, List.all_eq_true, decide_eq_true_eq] at h
  exact ⟨h.1.1, h.1.2, fun t ht => (h.2 t ht).1, fun t ht => (h.2 t ht).2⟩

/-- A text is determined by what stands before its first `c`, behind its last `d`, and between the two.
Every printed triple of the models (`[p|a|r]`, `(p, 'x', q)`, `(p, ('terminal', 'x'), q)`) is read back this
way: the state names avoid the separators, the middle text need not. -/
theorem frame_inj (c d : Char) {l l' m m' r r' : List Char} (hl : c ∉ l) (hl' : c ∉ l') (hr : d ∉ r)
    (hr' : d ∉ r') (h : l ++ c :: (m ++ d :: r) = l' ++ c :: (m' ++ d :: r')) : l = l' ∧ m = m' ∧ r = r' := by
  obtain ⟨h1, h2⟩ := append_cons_inj_left hl hl' h
  obtain ⟨h3, h4⟩ := append_cons_inj_right hr hr' h2
  exact ⟨h1, h3, h4⟩

theorem ne_of_head {s t : String} {c d : Char} {l l' : List Char} (hs : s.toList = c :: l)
    (ht : t.toList = d :: l') (h : c ≠ d) : s ≠ t := by
  rintro rfl
  rw [hs, List.cons.injEq] at ht
  exact h ht.1

theorem nv_toString_inj : ∀ p q : Nat, toString p = toString q → p = q :=
  fun _ _ h => Nat.repr_injective h

theorem tripleName_toList {σ γ : Type} (ns : σ → String) (ng : γ → String) (q : σ) (x : γ) (p : σ) :
    (PDA.tripleName ns ng q x p).toList =
      '[' :: ((ns q).toList ++ '|' :: ((ng x).toList ++ '|' :: ((ns p).toList ++ [']']))) := by
  have e1 : "[".toList = ['['] := rfl
  have e2 : "|".toList = ['|'] := rfl
  have e3 : "]".toList = [']'] := rfl
  simp only [PDA.tripleName, String.toList_append, e1, e2, e3, List.cons_append, List.nil_append,
    List.append_assoc]

/-- triple names `[q|x|p]` are unambiguous when no state name contains `|`, whatever the middle text
(the name-injectivity hypothesis of `toCFG_lang`, `interD_lang`, `interRegex_lang`) -/
theorem tripleName_inj {σ γ : Type} (ns : σ → String) (ng : γ → String) (sts : List σ)
    (hc : ∀ q ∈ sts, '|' ∉ (ns q).toList) (hns : ∀ p ∈ sts, ∀ q ∈ sts, ns p = ns q → p = q)
    {q p q' p' : σ} {x x' : γ} (hq : q ∈ sts) (hp : p ∈ sts) (hq' : q' ∈ sts) (hp' : p' ∈ sts)
    (h : PDA.tripleName ns ng q x p = PDA.tripleName ns ng q' x' p') : q = q' ∧ ng x = ng x' ∧ p = p' := by
  have h' := congrArg String.toList h
  rw [tripleName_toList, tripleName_toList, List.cons.injEq] at h'
  have hb : ∀ p ∈ sts, '|' ∉ (ns p).toList ++ [']'] := fun p hp hm => by
    rcases List.mem_append.mp hm with hm | hm
    · exact hc p hp hm
    · simp at hm
  obtain ⟨h1, h2, h3⟩ := frame_inj '|' '|' (hc q hq) (hc q' hq') (hb p hp) (hb p' hp') h'.2
  exact ⟨hns q hq q' hq' (String.toList_injective h1), String.toList_injective h2,
    hns p hp p' hp' (String.toList_injective (List.append_cancel_right h3))⟩

theorem tripleName_ne_start {σ : Type} (nm : σ → String) (p : σ) (a : String) (r : σ) :
    PDA.tripleName nm id p a r ≠ "Start" :=
  ne_of_head (tripleName_toList nm id p a r) (l' := ['t', 'a', 'r', 't']) String.toList_ofList (by decide)

/-- an injective coding of symbol texts by numbers (iterated Cantor pairing of the code points):
the hypothesis `hcode : ∀ s t, code s = code t → s = t` of `regexAccepts_iff`, `interRegex_lang` -/
def codeL : List Nat → Nat
  | [] => 0
  | a :: l => Nat.pair a (codeL l) + 1

def codeInj (s : String) : Nat := codeL (s.toList.map Char.toNat)

theorem codeL_inj : ∀ l l' : List Nat, codeL l = codeL l' → l = l'
  | [], [], _ => rfl
  | [], _ :: _, h => by simp [codeL] at h
  | _ :: _, [], h => by simp [codeL] at h
  | a :: l, b :: l', h => by
    simp only [codeL, Nat.add_right_cancel_iff, Nat.pair_eq_pair] at h
    rw [h.1, codeL_inj l l' h.2]

theorem nv_codeInj : ∀ s t, codeInj s = codeInj t → s = t := by
  intro s t h
  apply String.toList_injective
  have := codeL_inj _ _ h
  exact List.map_injective_iff.mpr (fun a b hab => Char.toNat_inj.mp hab) this

/-- `symOf` agreeing with the coding (`hsym` of `interRegex_lang`) -/
def symOfInj : String → Option Nat := fun s => some (codeInj s)
theorem nv_symOfInj : ∀ s, symOfInj s = some (codeInj s) := fun _ => rfl

/-- a `symName` / `code` pair with `code (symName a) = a` (`hcode` of `unionR_lang`, `concatR_lang`,
`starR_lang`, `toRegex_roundtrip_lang`): unary notation and length -/
def unaryName (a : Nat) : String := String.ofList (List.replicate a 'x')
theorem nv_code_symName : ∀ a, String.length (unaryName a) = a := by
  intro a; simp [unaryName]

/-! ## 1. Finite automata (C01 – C04) -/
section FA
open ENFA

/-- four states, an ε-edge out of the start state, an ε-edge back, nondeterminism on symbol `0` -/
def enfa1 : ENFA Nat :=
  { states := [0, 1, 2, 3], syms := [0, 1], starts := [0], finals := [3],
    delta := [(0, none, 1), (0, some 0, 1), (0, some 0, 2), (1, some 1, 3), (2, some 1, 3),
              (3, none, 0)] }

def enfa2 : ENFA Nat :=
  { states := [0, 1, 2], syms := [0, 1, 2], starts := [0], finals := [2],
    delta := [(0, some 0, 1), (1, none, 2), (2, some 1, 2), (2, some 2, 0)] }

/-- a DFA in which `1`, `2` (and `4`) are Nerode-equivalent and `4` is unreachable -/
def dfa1 : ENFA Nat :=
  { states := [0, 1, 2, 3, 4], syms := [0, 1], starts := [0], finals := [3],
    delta := [(0, some 0, 1), (0, some 1, 2), (1, some 0, 3), (2, some 0, 3), (3, some 1, 3),
              (4, some 0, 3)] }

/-- a trim, reduced, acyclic DFA (language `{00, 11}`) -/
def dfa2 : ENFA Nat :=
  { states := [0, 1, 2, 3], syms := [0, 1], starts := [0], finals := [3],
    delta := [(0, some 0, 1), (0, some 1, 2), (1, some 0, 3), (2, some 1, 3)] }

/-- the partition Hopcroft's loop returns on `dfa1` -/
def dfa1Groups : List (List (Option Nat)) := [[some 3], [some 0], [some 1, some 2, some 4], [none]]

-- `WF` (all C01–C04 theorems with `hA : A.WF`), on a genuinely nondeterministic ε-NFA
theorem nv_enfa1_wf : enfa1.WF := by decide
theorem nv_enfa1_has_eps : (0, none, 1) ∈ enfa1.delta := by decide
theorem nv_enfa1_nondet : ¬ enfa1.Deterministic := by
  rw [← isDeterministicE_iff enfa1 nv_enfa1_wf]; decide
theorem nv_enfa1_lang : enfa1.Lang [0, 1, 1] ∧ ¬ enfa1.Lang [0, 0] := by
  rw [← member_iff, ← member_iff]; decide
theorem nv_enfa2_wf : enfa2.WF := by decide

-- `WF ∧ Deterministic ∧ EpsFree ∧ states.Nodup` (+ `starts ≠ []`, fresh trash state):
-- `hopcroft_isNerodePartition`, `minimize_hopcroft_*`, `minimizeOf_*`, `copyD_lang`, `acceptsD_iff`,
-- `complementRaw_lang(_dfa)`, `isoWalk_*`, `isEquivalent_exact`
theorem nv_dfa1_wf : dfa1.WF := by decide
theorem nv_dfa1_epsFree : dfa1.EpsFree := by unfold EpsFree; decide
theorem nv_dfa1_det : dfa1.Deterministic :=
  (isDeterministicN_iff dfa1 nv_dfa1_epsFree).mp (by decide)
theorem nv_dfa1_nodup : dfa1.states.Nodup := by decide
theorem nv_dfa1_starts : dfa1.starts ≠ [] := by decide
theorem nv_dfa1_trash : 9 ∉ dfa1.states := by decide
theorem nv_dfa1_unreachable : 4 ∈ dfa1.states ∧ 4 ∉ dfa1.reachable := by decide

-- `toDet_lang`, `toDet_lang_noEps`, `toDet_shape`, `canonS_keyInj`, `complementRef_*`
theorem nv_keyInj_id : enfa1.KeyInj id := keyInj_id enfa1
theorem nv_toDet_id : (enfa1.toDet id true 100).map (·.states) = some [[0, 1], [3, 0, 1], [1, 2]] := by
  decide +kernel
theorem nv_toDet_canon : (enfa1.toDet enfa1.canonS true 100).map (·.delta) = some
    [([0, 1], some 0, [1, 2]), ([0, 1], some 1, [0, 1, 3]), ([1, 2], some 1, [0, 1, 3]),
     ([0, 1, 3], some 0, [1, 2]), ([0, 1, 3], some 1, [0, 1, 3])] := by decide +kernel
theorem nv_reverse_epsFree : dfa1.reverse.EpsFree := by unfold EpsFree; decide +kernel
theorem nv_reverse_wf : dfa1.reverse.WF := reverse_wf dfa1 nv_dfa1_wf
theorem nv_toDet_noEps : (dfa1.reverse.toDet id false 100).isSome := by decide +kernel
theorem nv_complementRef :
    (enfa1.complementRef [7] 100).isSome ∧ (∃ q ∈ [7], q ∉ enfa1.states) := by decide +kernel

-- `mergeName_keyInj`, `toDet_named_lang_partial`, `pairName_inj`: clean names
def names1 : Nat → List Char := fun n => (toString n).toList
theorem nv_names_clean : Names.Clean enfa1.states names1 := by unfold Names.Clean; decide +kernel
theorem nv_toDet_named : (enfa1.toDet (Names.mergeName names1) true 100).map (·.states) =
    some ["0;1".toList, "0;1;3".toList, "1;2".toList] := by
  rw [Names.mergeName_eq_mergeName']; decide +kernel

-- `mapStates_lang`: a renaming injective on the states
theorem nv_mapStates_inj : ∀ p ∈ dfa1.states, ∀ q ∈ dfa1.states, (fun n => 2 * n + 1) p = (fun n => 2 * n + 1) q → p = q := by
  decide

-- `inter_lang`, `inter_wf`
theorem nv_inter : (enfa1.inter enfa2 100).map (·.finals) = some [(3, 2)] := by decide +kernel

-- `langDiff_none_iff`, `langDiff_some`
theorem nv_langDiff_some : enfa1.langDiff enfa2 100 = some (some [0]) := by decide +kernel
theorem nv_langDiff_none : enfa1.langDiff enfa1.removeEps 100 = some none := by decide +kernel

-- `hopcroft_isNerodePartition`, `hopcroft_groups_nodup`, `hopcroft_isSome`, `minimize_hopcroft_*`
theorem nv_hopcroft : dfa1.hopcroft 50 = some dfa1Groups := by decide +kernel
theorem nv_hopcroft_fuel : dfa1.syms.length * (dfa1.states.length + 2) < 50 := by decide
theorem nv_hopcroft_key : ∀ g ∈ dfa1Groups, ∀ g' ∈ dfa1Groups,
    (id g : List (Option Nat)) = id g' → g = g' := fun _ _ _ _ h => h
theorem nv_minimizeOf_states :
    (dfa1.minimizeOf dfa1Groups id []).states = [[some 0], [some 3], [some 1, some 2, some 4]] := by
  decide +kernel

-- `sameRight_iff`, `nerodeGroups_spec`, `isReduced_iff`, `minimizeOf_*` (hypothesis `IsNerodePartition`)
theorem nv_sameRight : dfa1.sameRight 50 (some 1) (some 2) = some true ∧
    dfa1.sameRight 50 (some 0) (some 1) = some false := by decide +kernel
theorem nv_nerodeGroups :
    dfa1.nerodeGroups 50 = some [[none], [some 0], [some 1, some 2, some 4], [some 3]] := by
  decide +kernel
theorem nv_isNerodePartition : dfa1.IsNerodePartition (dfa1Groups.filter (· ≠ [])) :=
  hopcroft_isNerodePartition dfa1 nv_dfa1_wf nv_dfa1_det nv_dfa1_epsFree nv_dfa1_nodup 50 _ nv_hopcroft
theorem nv_isReduced_false : dfa1.isReduced 50 = some false := by decide +kernel
/-- `sameRight_iff` and `isReduced_iff` instantiated: two distinct Nerode-equivalent states -/
theorem nv_dfa1_nerode_pair : (1 : Nat) ≠ 2 ∧ dfa1.Nerode (some 1) (some 2) :=
  ⟨by decide, (sameRight_iff dfa1 nv_dfa1_wf 50 (some 1) (some 2) (by decide) (by decide) true
    nv_sameRight.1).mp rfl⟩
theorem nv_dfa1_not_reduced : ¬ dfa1.Reduced := by
  rw [← isReduced_iff dfa1 nv_dfa1_wf 50 false nv_isReduced_false]; decide
theorem nv_isReduced_true : (dfa1.minimizeOf dfa1Groups id []).isReduced 50 = some true := by
  decide +kernel

-- `isoWalk_true`, `isoWalk_false` (needs `Trim`, `Reduced` for the second automaton),
-- `isEquivalent_exact`, `checkIso_iff`, `isIso_lang`
theorem nv_dfa2_wf : dfa2.WF := by decide
theorem nv_dfa2_epsFree : dfa2.EpsFree := by unfold EpsFree; decide
theorem nv_dfa2_det : dfa2.Deterministic := (isDeterministicN_iff dfa2 nv_dfa2_epsFree).mp (by decide)
theorem nv_dfa2_trim : dfa2.Trim := by
  intro t ht
  rw [← mem_leadingToFinal_iff]
  revert t
  decide
/-- Hopcroft's partition of `dfa2` has singleton classes only -/
theorem nv_dfa2_reduced : dfa2.Reduced :=
  reduced_of_singletons dfa2 nv_dfa2_wf _
    (hopcroft_isNerodePartition dfa2 nv_dfa2_wf nv_dfa2_det nv_dfa2_epsFree (by decide) 50
      [[some 3], [none], [some 2], [some 0], [some 1]] (by decide +kernel))
    (by decide) (by decide)
theorem nv_isoWalk_true :
    (dfa1.minimizeOf dfa1Groups id []).isoWalk
      (dfa1.minimizeOf [[none], [some 0], [some 1, some 2, some 4], [some 3]] id []) 50 = some true := by
  decide +kernel
theorem nv_isoWalk_false : (dfa1.minimizeOf dfa1Groups id []).isoWalk dfa2 50 = some false := by
  decide +kernel
theorem nv_checkIso : dfa2.checkIso dfa2 [(0, 0), (1, 1), (2, 2), (3, 3)] = true := by decide +kernel

-- `isAcyclic_iff`, `acceptedWords_exact`, `acceptedWords_exact_unbounded`
theorem nv_isAcyclic : enfa1.isAcyclic 50 = some false ∧ dfa2.isAcyclic 50 = some true := by
  decide +kernel
theorem nv_acceptedWords : enfa1.acceptedWords (some 3) 100 =
    some [[1], [0, 1], [1, 1], [1, 0, 1], [0, 1, 1], [1, 1, 1]] := by decide +kernel
theorem nv_acceptedWords_unbounded : dfa2.acceptedWords none 100 = some [[0, 0], [1, 1]] := by
  decide +kernel

end FA

/-! ## 2. Context-free grammars (C08 – C12, C14, C15, C19) -/
section Grammars
open CFG

/-- ε-production (`A → ε`), unit production (`B → A`) and a useless symbol (`U`) -/
def g1 : CFG :=
  { vars := ["S", "A", "B", "U"], ters := ["a", "b"], start := some "S"
    prods := [("S", [.var "A", .var "B"]), ("A", [.ter "a", .var "A"]), ("A", []),
              ("B", [.var "A"]), ("B", [.ter "b"]), ("U", [.var "U", .ter "a"])] }

/-- the same without the useless symbol: all symbols generating, all heads reachable -/
def g2 : CFG :=
  { vars := ["S", "A", "B"], ters := ["a", "b"], start := some "S"
    prods := [("S", [.var "A", .var "B"]), ("A", [.ter "a", .var "A"]), ("A", []),
              ("B", [.var "A"]), ("B", [.ter "b"])] }

/-- an LL(1) grammar with an ε-production and a unit production: `S → a S b | T`, `T → c | ε` -/
def g3 : CFG :=
  { vars := ["S", "T"], ters := ["a", "b", "c"], start := some "S"
    prods := [("S", [.ter "a", .var "S", .ter "b"]), ("S", [.var "T"]), ("T", [.ter "c"]), ("T", [])] }

/-- a finite language: `{aa, ab, ba, bb}` -/
def gFin : CFG :=
  { vars := ["S", "A"], ters := ["a", "b"], start := some "S"
    prods := [("S", [.var "A", .var "A"]), ("A", [.ter "a"]), ("A", [.ter "b"])] }

/-- DFA for `a* b` over the codes `a ↦ 0`, `b ↦ 1` -/
def dfaAB : ENFA Nat :=
  { states := [0, 1], syms := [0, 1], starts := [0], finals := [1],
    delta := [(0, some 0, 0), (0, some 1, 1)] }

/-- DFA for `a* b b` -/
def dfaABB : ENFA Nat :=
  { states := [0, 1, 2], syms := [0, 1], starts := [0], finals := [2],
    delta := [(0, some 0, 0), (0, some 1, 1), (1, some 1, 2)] }

def symOfAB : String → Option Nat := fun s => if s = "a" then some 0 else if s = "b" then some 1 else none

-- `WF` (all CFG theorems), with ε-production, unit production and useless symbol
theorem nv_g1_wf : g1.WF := wf_of_check g1 (by decide +kernel)
theorem nv_g1_features : ("A", []) ∈ g1.prods ∧ ("B", [.var "A"]) ∈ g1.prods ∧
    Sym.var "U" ∉ g1.generating ∧ Sym.var "U" ∉ g1.reachable := by decide +kernel
theorem nv_g2_wf : g2.WF := wf_of_check g2 (by decide +kernel)
theorem nv_g3_wf : g3.WF := wf_of_check g3 (by decide +kernel)
theorem nv_gFin_wf : gFin.WF := wf_of_check gFin (by decide +kernel)
-- `generating_nodup`
theorem nv_g1_ters_nodup : g1.ters.Nodup := by decide +kernel

-- `AllGenerating` + reachability: `mem_firstSets_iff`, `mem_followSets_iff`, `firstSet_spec`,
-- `followSet_spec`, `table_spec`, `isLLOne_iff` (also `prods.Nodup`)
theorem nv_g2_allGenerating : g2.AllGenerating := allGenerating_of_check g2 (by decide +kernel)
theorem nv_g2_reach : ∀ p ∈ g2.prods, Sym.var p.1 ∈ g2.reachable := by decide +kernel
theorem nv_g3_allGenerating : g3.AllGenerating := allGenerating_of_check g3 (by decide +kernel)
theorem nv_g3_reach : ∀ p ∈ g3.prods, Sym.var p.1 ∈ g3.reachable := by decide +kernel
theorem nv_g3_nodup : g3.prods.Nodup := by decide +kernel

-- `toNormalForm_lang`, `toNormalForm_isNormalForm`, `cyk_iff`, `contains_iff`
/-- the Chomsky normal form that `to_normal_form` computes for `g1` -/
def g1NF : CFG :=
  { vars := ["S", "A", "B", "a#CNF#"], ters := ["a", "b"], start := some "S"
    prods := [("S", [.var "A", .var "B"]), ("A", [.ter "a"]), ("A", [.var "a#CNF#", .var "A"]),
              ("B", [.ter "b"]), ("S", [.ter "a"]), ("S", [.var "a#CNF#", .var "A"]), ("S", [.ter "b"]),
              ("B", [.ter "a"]), ("B", [.var "a#CNF#", .var "A"]), ("a#CNF#", [.ter "a"])] }
/-- `contains`, `is_finite` and `get_words` below rewrite with this equation instead of evaluating
`to_normal_form` inside a larger `decide` -/
theorem g1_toNormalForm (fuel : Nat) (hf : 2 ≤ fuel) : g1.toNormalForm fuel = some g1NF := by
  rw [toNormalForm_fuel_indep g1 fuel hf]
  decide +kernel
/-- `g2` is `g1` without its useless symbol, which is the first thing `to_normal_form` removes -/
theorem g2_toNormalForm (fuel : Nat) (hf : 2 ≤ fuel) : g2.toNormalForm fuel = some g1NF := by
  have h1 : g1.removeUseless = g2 := by decide +kernel
  have h2 : g2.removeUseless = g2 := by decide +kernel
  obtain ⟨k, rfl⟩ : ∃ k, fuel = k + 2 := ⟨fuel - 2, by omega⟩
  rw [← g1_toNormalForm (k + 2) hf, toNormalForm_add_two, toNormalForm_add_two,
    if_neg (by decide +kernel), if_neg (by decide +kernel), if_neg (by decide +kernel),
    if_neg (by decide +kernel), Term.cleaned, Term.cleaned, h1, h2]
theorem nv_toNormalForm : (g1.toNormalForm 10).map (·.prods.length) = some 10 ∧
    (g1.toNormalForm 10).map (·.isNormalForm) = some true := by
  rw [g1_toNormalForm 10 (by decide)]; decide +kernel
theorem nv_contains : g1.contains ["a", "b"] 10 = some true ∧ g1.contains ["b", "a"] 10 = some false ∧
    g1.contains [] 10 = some true := by
  unfold contains; rw [g1_toNormalForm 10 (by decide)]; decide +kernel

-- `cfgMem_iff`, `mem_langUpTo_iff`, `langUpTo_nodup` (C08)
theorem nv_cfgMem : g1.cfgMem ["a", "b"] 20 = some true ∧ g1.cfgMem ["b", "b"] 20 = some false := by
  decide +kernel
theorem nv_langUpTo : g1.langUpTo 2 20 = some [[], ["a"], ["b"], ["a", "a"], ["a", "b"]] := by
  decide +kernel

-- `getWords_exact`, `getWords_exact_unbounded`, `isFinite_iff`
theorem nv_getWords : g1.getWords (some 3) 20 =
    some [[], ["a"], ["b"], ["a", "b"], ["a", "a"], ["a", "a", "a"], ["a", "a", "b"]] := by
  unfold getWords; rw [g1_toNormalForm 20 (by decide)]; decide +kernel
theorem nv_getWords_unbounded :
    gFin.getWords none 20 = some [["a", "a"], ["a", "b"], ["b", "a"], ["b", "b"]] := by decide +kernel
theorem nv_isFinite : gFin.isFinite 20 = some true ∧ g1.isFinite 20 = some false := by
  unfold isFinite; rw [g1_toNormalForm 20 (by decide)]; decide +kernel

-- `interD_lang`: every hypothesis discharged for `g2`, the DFA `a* b` and `nm := toString`
theorem nv_dfaAB : dfaAB.WF ∧ dfaAB.EpsFree ∧ dfaAB.Deterministic := by
  have he : dfaAB.EpsFree := by unfold ENFA.EpsFree; decide
  exact ⟨by decide, he, (ENFA.isDeterministicN_iff dfaAB he).mp (by decide)⟩
theorem nv_interD_hinj : ∀ (p : Nat) (a : String) (r p' : Nat) (a' : String) (r' : Nat),
    p ∈ dfaAB.states → r ∈ dfaAB.states → p' ∈ dfaAB.states → r' ∈ dfaAB.states →
    PDA.tripleName toString id p a r = PDA.tripleName toString id p' a' r' →
    p = p' ∧ a = a' ∧ r = r' :=
  fun _ _ _ _ _ _ hp hr hp' hr' h =>
    tripleName_inj toString id dfaAB.states (fun q _ hm => absurd (Fresh.toString_isDigit q _ hm) (by decide))
      (fun p _ q _ => nv_toString_inj p q) hp hr hp' hr' h
theorem nv_interD_hstart : ∀ (p : Nat) (a : String) (r : Nat),
    PDA.tripleName toString id p a r ≠ "Start" :=
  tripleName_ne_start toString
theorem nv_interD : (g2.interD dfaAB symOfAB toString 10).map (·.prods.length) = some 39 := by
  unfold interD; rw [g2_toNormalForm 10 (by decide)]; decide +kernel
/-- the theorem `interD_lang` fully instantiated: the result generates `a b` -/
theorem nv_interD_lang : ∃ R, g2.interD dfaAB symOfAB toString 10 = some R ∧ R.Lang ["a", "b"] := by
  obtain ⟨R, hR, -⟩ := Option.map_eq_some_iff.mp nv_interD
  refine ⟨R, hR, (interD_lang g2 nv_g2_wf dfaAB nv_dfaAB.1 nv_dfaAB.2.2 nv_dfaAB.2.1 symOfAB toString
    nv_interD_hinj nv_interD_hstart 10 R hR ["a", "b"]).mpr ⟨?_, [0, 1], by decide +kernel, ?_⟩⟩
  · exact (contains_iff g2 nv_g2_wf ["a", "b"] 10 true
      (by unfold contains; rw [g2_toNormalForm 10 (by decide)]; decide +kernel)).mp rfl
  · rw [← ENFA.member_iff]; decide

-- `substitute_lang` (`SubstOK`), `union_lang`, `concatenate_lang`, `closure_lang`, `posClosure_lang`
theorem nv_substOK : SubstOK g3 [("c", g2), ("b", gFin)] :=
  ⟨nv_g3_wf, forall_mem_two nv_g2_wf nv_gFin_wf, by decide +kernel, forall_mem_two (by decide) (by decide)⟩
theorem nv_union_hyps : g2.start ≠ none ∧ gFin.start ≠ none := by decide +kernel
/-- a grammar whose terminal `"S"` is spelled like its variable `"S"` (`Variable.__eq__` tells
them apart): the hypotheses of `substitute_lang` / `union_lang` hold for it as well -/
def gSame : CFG :=
  { vars := ["S"], ters := ["S", "a"], start := some "S"
    prods := [("S", [.ter "S", .var "S"]), ("S", [.ter "a"])] }
theorem nv_gSame_wf : gSame.WF := wf_of_check gSame (by decide +kernel)
theorem nv_substOK_same : SubstOK gSame [("S", gSame)] :=
  ⟨nv_gSame_wf, forall_mem_one nv_gSame_wf, by decide +kernel, forall_mem_one (by decide)⟩
/-- `union_lang` instantiated with it: the word `S a` (terminals) is in the union with `g2` -/
theorem nv_union_same : (gSame.union g2).Lang ["S", "a"] :=
  (union_lang gSame g2 nv_gSame_wf nv_g2_wf (by decide) (by decide) ["S", "a"]).mpr
    (Or.inl ((cfgMem_iff gSame ["S", "a"] 20 true (by decide +kernel)).mp rfl))

-- `firstSet_spec`, `firstSet_ter`, `followSet_spec`, `table_spec`, `isLLOne_iff`, `parse_valid` (C14_Lib),
-- `llParse_valid` (C14_LL1)
open LL1Lib in
theorem nv_ll1lib : (firstSet g3 50).isSome ∧ (followSet g3 50).isSome ∧
    (table g3 50).map (·.length) = some 7 ∧ isLLOne g3 50 = some true ∧ isLLOne g2 50 = some false := by
  decide +kernel
open LL1Lib in
theorem nv_ll1lib_parse : ∃ t, LL1Lib.parse g3 ["a", "c", "b"] 50 = some (some t) := by
  have hs : g3.start = some "S" := rfl
  -- table and stack machine are run together, once; `buildTree` is then unfolded on the production list
  obtain ⟨tb, htb, hpl⟩ := Option.bind_eq_some_iff.mp
    (show (table g3 50).bind (fun tb => parseLoop tb 50 [some (.var "S"), none] ["a", "c", "b"] []) =
      some (some [("S", [.ter "a", .var "S", .ter "b"]), ("S", [.var "T"]), ("T", [.ter "c"])]) by
    decide +kernel)
  unfold LL1Lib.parse
  rw [hs]
  simp only
  rw [htb]
  simp only [hpl]
  simp [buildTree, buildTree.sons]
theorem nv_llParse : (g3.llParse ["a", "c", "b"] 50).isSome := by decide +kernel

-- `parse_valid`, `parse_refuses_only_nonmembers` (C15_RecDescent), leftmost and rightmost
theorem nv_rdSub (left : Bool) : RecDescent.rdSub g3 left 5 ["a", "c", "b"] [.var "S"] =
    some (some [("S", [.ter "a", .var "S", .ter "b"]), ("S", [.var "T"]), ("T", [.ter "c"])]) := by
  cases left <;>
  simp [RecDescent.rdSub, RecDescent.rdSub.tryAll, RecDescent.rdMatch, RecDescent.indexToExtend, g3,
    List.findIdx?_cons]
theorem nv_rd_parse (left : Bool) :
    ∃ t, RecDescent.parse g3 ["a", "c", "b"] left 5 = some (some t) := by
  have hs : g3.start = some "S" := rfl
  unfold RecDescent.parse
  rw [hs]
  simp only [nv_rdSub]
  cases left <;> simp [RecDescent.build, RecDescent.build.sons]
theorem nv_rd_refuse : RecDescent.parse g3 ["a", "c"] true 5 = some none := by
  have hs : g3.start = some "S" := rfl
  unfold RecDescent.parse
  rw [hs]
  simp [RecDescent.rdSub, RecDescent.rdSub.tryAll, RecDescent.rdMatch, RecDescent.indexToExtend, g3,
    List.findIdx?_cons]

-- `treeValid_sound`, `wellFormedT_gen`, `derivationValid_sound`, `leftmostD_valid`, `rightmostD_valid`
def t3 : PTree :=
  .node (.var "S") [.node (.ter "a") [], .node (.var "S") [.node (.var "T") [.node (.ter "c") []]],
    .node (.ter "b") []]
theorem nv_treeValid : g3.treeValid t3 ["a", "c", "b"] = true ∧ g3.wellFormedT t3 = true := by
  decide +kernel
theorem nv_derivationValid : g3.derivationValid true (.var "S")
    [[.var "S"], [.ter "a", .var "S", .ter "b"], [.ter "a", .var "T", .ter "b"],
     [.ter "a", .ter "c", .ter "b"]] ["a", "c", "b"] = true ∧
    g3.derivationValid false (.var "S") (rightmostD t3) ["a", "c", "b"] = true := by decide +kernel

-- `genCounters_restores`, `genCounters_generating`, `genCounters_nullable`, `genCounters_history`
theorem nv_genCounters :
    g1.genCounters false g1.buildTables.1 g1.buildTables.2.1 g1.buildTables.2.2 50 =
      some ([.var "A", .ter "a", .ter "b", .var "B", .var "S"],
        [("S", [2]), ("A", [2]), ("B", [1, 1]), ("U", [2])]) ∧
    g1.genCounters true g1.buildTables.1 g1.buildTables.2.1 g1.buildTables.2.2 50 =
      some ([.var "A", .var "B", .var "S"], [("S", [2]), ("A", [2]), ("B", [1, 1]), ("U", [2])]) := by
  decide +kernel

end Grammars

/-! ## 3. Pushdown automata (C13, C11) -/
section Pushdown
open PDA

/-- `aⁿ bⁿ` (`n ≥ 1`), accepted both by final state and by empty stack -/
def pda1 : PDA String String :=
  { states := ["q0", "q1", "qf"], inputs := ["a", "b"], stack := ["Z", "A"], start := some "q0",
    startStack := some "Z", finals := ["qf"],
    delta := [("q0", some "a", "Z", "q0", ["A", "Z"]), ("q0", some "a", "A", "q0", ["A", "A"]),
              ("q0", some "b", "A", "q1", []), ("q1", some "b", "A", "q1", []),
              ("q1", none, "Z", "qf", [])] }

-- `WF`: `toFinalState_lang`, `toEmptyStack_lang`, `toCFG_lang`, `inter_lang`, `interRegex_lang`
theorem nv_pda1_wf : pda1.WF := pda_wf_of_check pda1 (by decide +kernel)

-- `toCFG_lang`: result and both naming hypotheses for `ns = ng = id`
theorem nv_pda1_toCFG : (pda1.toCFG id id).map (·.prods.length) = some 18 := by decide +kernel
theorem nv_pda1_toCFG_hinj : ∀ q x p q' x' p', q ∈ pda1.states → p ∈ pda1.states → q' ∈ pda1.states →
    p' ∈ pda1.states → x ∈ pda1.stack → x' ∈ pda1.stack →
    tripleName id id q x p = tripleName id id q' x' p' → q = q' ∧ x = x' ∧ p = p' :=
  fun _ _ _ _ _ _ hq hp hq' hp' _ _ h =>
    tripleName_inj id id pda1.states (by decide +kernel) (fun _ _ _ _ h => h) hq hp hq' hp' h
theorem nv_pda1_toCFG_hstart : ∀ q ∈ pda1.states, ∀ x ∈ pda1.stack, ∀ p ∈ pda1.states,
    tripleName id id q x p ≠ "#StartCFG#" := by decide +kernel

-- `accEmpty_iff`, `accFinal_iff`
theorem nv_pda1_acc : pda1.accFinal ["a", "a", "b", "b"] 20 = some true ∧
    pda1.accEmpty ["a", "a", "b", "b"] 20 = some true ∧
    pda1.accEmpty ["a", "b", "b"] 20 = some false ∧
    pda1.accFinal ["a", "b", "b"] 20 = some false := by decide +kernel

-- `inter_lang` (C13_ToCFG): deterministic ε-free automaton, `inter` returns, and accepts a common word
theorem nv_dfaABB : dfaABB.WF ∧ dfaABB.EpsFree ∧ dfaABB.Deterministic := by
  have he : dfaABB.EpsFree := by unfold ENFA.EpsFree; decide
  exact ⟨by decide, he, (ENFA.isDeterministicN_iff dfaABB he).mp (by decide)⟩
theorem nv_pda1_inter : (pda1.inter dfaABB symOfAB 20).map (·.finals) = some [("qf", 2)] := by
  decide +kernel
theorem nv_pda1_inter_acc :
    ((pda1.inter dfaABB symOfAB 20).bind fun Q => Q.accFinal ["a", "a", "b", "b"] 20) = some true := by
  decide +kernel

-- `toFinalState_lang`, `toEmptyStack_lang`, `ofCFG_lang` (freshness of the `#TERM#` names)
theorem nv_pda1_modes : pda1.toFinalState.accFinal ["a", "b"] 20 = some true ∧
    pda1.toEmptyStack.accEmpty ["a", "b"] 20 = some true := by decide +kernel
theorem nv_ofCFG_fresh : ∀ t ∈ g2.ters, ("#TERM#" ++ t) ∉ g2.vars := by decide +kernel
theorem nv_ofCFG_acc : (ofCFG g2).accEmpty ["a", "b"] 30 = some true := by decide +kernel

end Pushdown

/-! ## 4. Regular expressions (C05, C07, C11, C20_Boxes) -/
section Regexes
open RegexReader

theorem plainSym_of (s : String) (h1 : s.toList ≠ [])
    (h2 : s.toList.all (fun c => decide (c ≠ ' ') && decide (c ≠ '\\') && !isSpecialChar c) = true)
    (h3 : s ≠ "epsilon") : PlainSym s := by
  refine ⟨h1, fun c hc => ?_, h3⟩
  have := List.all_eq_true.mp h2 c hc
  simp only [Bool.and_eq_true, decide_eq_true_eq, Bool.not_eq_true'] at this
  exact ⟨this.1.1, this.1.2, this.2⟩

/-- nested stars, ε, multi-character and capitalised symbols -/
def rxNested : Rx := .star (.cat (.star (.alt (.sym "ab") (.star (.sym "c")))) (.alt .eps (.sym "Dd")))

/-- `(a|b)* c` -/
def rxSmall : Rx := .cat (.star (.alt (.sym "a") (.sym "b"))) (.sym "c")

-- `parse_repr` (`PlainRx`), and the reader on a hand-written text
theorem nv_plainRx_nested : PlainRx rxNested := by
  refine ⟨⟨plainSym_of _ ?_ ?_ ?_, plainSym_of _ ?_ ?_ ?_⟩, trivial, plainSym_of _ ?_ ?_ ?_⟩ <;>
    decide +kernel
theorem nv_parse_repr : parse 20 (Rx.repr' rxNested).toList = .ok rxNested := by decide +kernel
theorem nv_parse_text : parse 20 "(a b|c)* d (e*)* | $".toList = .ok
    (.alt (.cat (.star (.alt (.cat (.sym "a") (.sym "b")) (.sym "c")))
      (.cat (.sym "d") (.star (.star (.sym "e"))))) .eps) := by decide +kernel
theorem nv_parse_error : parse 20 "a)".toList = .error .misformed := by decide +kernel

-- `matches_iff`, `thompson_*`, `regexAccepts_iff` (injective `code`)
theorem nv_rx_matches : rxSmall.matches ["a", "b", "c"] = true ∧ rxSmall.matches ["c", "a"] = false := by
  decide +kernel
theorem nv_regexAccepts : (rxSmall.thompson codeInj 0).1.acceptsE
    (["a", "b", "c"].map fun s => some (codeInj s)) = true :=
  (Rx.regexAccepts_iff rxSmall codeInj nv_codeInj 0 _).mpr ((Rx.matches_iff _ _).mp nv_rx_matches.1)

-- `toCFG_lang` (C05_ToCFG): a start symbol that is no node name
theorem nv_rx_toCFG_start : ∀ k, "S" ≠ Rx.nodeName k := by
  intro k h
  have h' := congrArg String.toList h
  simp only [Rx.nodeName, String.toList_append] at h'
  have e1 : "S".toList = ['S'] := rfl
  have e2 : "A".toList = ['A'] := rfl
  rw [e1, e2] at h'
  simp at h'
/-- `contains` answers (`contains_isSome`), rightly (`contains_iff`), and the word matches (`toCFG_lang`) -/
theorem nv_rx_toCFG : (rxSmall.toCFG "S").contains ["a", "b", "c"] 10 = some true := by
  obtain ⟨b, hb⟩ := Option.isSome_iff_exists.mp
    (CFG.contains_isSome (rxSmall.toCFG "S") ["a", "b", "c"] 10 (by decide))
  rw [hb, (CFG.contains_iff _ (Rx.toCFG_wf rxSmall "S") _ 10 b hb).mpr
    ((Rx.toCFG_lang rxSmall "S" nv_rx_toCFG_start _).mpr ((Rx.matches_iff _ _).mp nv_rx_matches.1))]

-- `box_lang` (C20_Boxes): Thompson, subset construction (`key := id`), Hopcroft (`name := id`)
theorem nv_box_keyInj : (rxSmall.thompson codeInj 0).1.KeyInj id := keyInj_id _
/-- the subset automaton of the Thompson automaton of `(a|b)* c` (symbols are the codes of `a`, `b`, `c`) -/
def detBoxV : ENFA (List Nat) :=
  let q := [0, 2, 4, 6, 8, 3]; let qa := [7, 5, 4, 2, 3, 6, 8]; let qb := [9, 5, 4, 2, 3, 6, 8]
  { states := [q, [1], qa, qb], syms := [9507, 9703, 9901], starts := [q], finals := [[1]]
    delta := [(q, some 9507, qa), (q, some 9703, qb), (q, some 9901, [1]), (qa, some 9507, qa),
              (qa, some 9703, qb), (qa, some 9901, [1]), (qb, some 9507, qa), (qb, some 9703, qb),
              (qb, some 9901, [1])] }
/-- what follows rewrites with this equation and computes with the value `detBoxV` -/
theorem box_toDet : (rxSmall.thompson codeInj 0).1.toDet id true 100 = some detBoxV := by decide +kernel
theorem nv_box_toDet : ((rxSmall.thompson codeInj 0).1.toDet id true 100).isSome := by
  rw [box_toDet]; rfl
theorem detBoxV_hopcroft : (detBoxV.hopcroft 100).isSome :=
  ENFA.hopcroft_isSome detBoxV (by decide) 100 (by decide)
theorem nv_box_hopcroft :
    (((rxSmall.thompson codeInj 0).1.toDet id true 100).bind fun D => D.hopcroft 100).isSome := by
  rw [box_toDet, Option.bind_some]; exact detBoxV_hopcroft

-- `CFG.interRegex_lang` (C11_Regex) and `PDA.interRegex_lang` (C05_Compose): the determinised Thompson
-- automaton of `(a|b)* c`, one-character state names, and the products with `g3` / `pda1`
def detBox : ENFA (List Nat) :=
  match (rxSmall.thompson codeInj 0).1.toDet id true 100 with
  | some D => D
  | none => { states := [], syms := [], starts := [], finals := [], delta := [] }
theorem detBox_eq : detBox = detBoxV := by rw [detBox, box_toDet]
theorem nv_detBox : (rxSmall.thompson codeInj 0).1.toDet id true 100 = some detBox := by
  rw [detBox_eq]; exact box_toDet
/-- the `i`-th state of `detBox` is called by the `i`-th capital letter -/
def nmBox (S : List Nat) : String := String.singleton (Char.ofNat (65 + detBox.states.idxOf S))
theorem nmBox_eq : nmBox = fun S => String.singleton (Char.ofNat (65 + detBoxV.states.idxOf S)) := by
  unfold nmBox; rw [detBox_eq]
theorem nv_interRegex_hinj : ∀ (p : List Nat) (a : String) (q p' : List Nat) (a' : String) (q' : List Nat),
    p ∈ detBox.states → q ∈ detBox.states → p' ∈ detBox.states → q' ∈ detBox.states →
    PDA.tripleName nmBox id p a q = PDA.tripleName nmBox id p' a' q' → p = p' ∧ a = a' ∧ q = q' :=
  fun _ _ _ _ _ _ hp hq hp' hq' h =>
    tripleName_inj nmBox id detBox.states (by rw [nmBox_eq, detBox_eq]; decide +kernel)
      (by rw [nmBox_eq, detBox_eq]; decide +kernel) hp hq hp' hq' h
theorem nv_interRegex_hstart : ∀ (p : List Nat) (a : String) (q : List Nat),
    PDA.tripleName nmBox id p a q ≠ "Start" :=
  tripleName_ne_start nmBox
theorem nv_interRegex_cfg : (g3.interD detBox symOfInj nmBox 10).isSome :=
  Term2.interD_isSome g3 detBox symOfInj nmBox 10 (by decide)
theorem nv_interRegex_pda : (pda1.inter detBox symOfInj 30).isSome := by rw [detBox_eq]; decide +kernel

-- `desugar_denote`, `matches_iff_Matches` (`WellFormed`), with `{m,n}`, a set with a range, a negated set
def pyPat : PyRx.P :=
  .cat (.rep (.set false [.range 'a' 'c', .ch 'x']) 1 2) (.plus (.set true [.short 'd', .ch 'a']))
theorem nv_py_wellFormed : PyRx.WellFormed pyPat := ⟨⟨trivial, by decide⟩, trivial⟩
theorem nv_py_matches :
    (PyRx.desugar "abcx019_".toList pyPat).matches (PyRx.word "bx_c".toList) = true ∧
    (PyRx.desugar "abcx019_".toList pyPat).matches (PyRx.word "bxa9".toList) = false := by
  decide +kernel

end Regexes

/-! ## 5. Transducers (C16) and indexed grammars (C17) -/
section Transducers

/-- nondeterministic, with an ε-input move; shares the state name `q0` with `fstB` -/
def fstA : FST String :=
  { states := ["q0", "q1"], inputs := ["a", "b"], outputs := ["x", "y"], starts := ["q0"],
    finals := ["q1"],
    delta := [("q0", some "a", "q0", ["x"]), ("q0", some "a", "q1", ["y", "y"]), ("q0", none, "q1", []),
              ("q1", some "b", "q1", ["x"])] }

def fstB : FST String :=
  { states := ["q0", "q2"], inputs := ["b"], outputs := ["z"], starts := ["q0"], finals := ["q2"],
    delta := [("q0", some "b", "q2", ["z"]), ("q2", none, "q0", [])] }

-- `union_rel`, `concatenate_rel`, `kleeneStar_rel`, `rename_injective`
theorem nv_fstA : fstA.WF ∧ fstA.states.Nodup := ⟨fst_wf_of_check _ (by decide +kernel), by decide +kernel⟩
theorem nv_fstB : fstB.WF ∧ fstB.states.Nodup := ⟨fst_wf_of_check _ (by decide +kernel), by decide +kernel⟩
theorem nv_fst_shared : "q0" ∈ fstA.states ∧ "q0" ∈ fstB.states ∧
    (fstA.union fstB).states = ["q0", "q00", "q1", "q2"] := by decide +kernel

-- `translate_exact`, `relOutputs_iff`
theorem nv_translate :
    fstA.translate ["a", "a", "b"] none 50 = some [["x", "y", "y", "x"], ["x", "x", "x"]] ∧
    fstB.kleeneStar.translate ["b", "b"] none 50 = some [["z", "z"]] := by decide +kernel
theorem nv_relOutputs :
    fstA.relOutputs ["a", "a", "b"] 50 = some [["x", "y", "y", "x"], ["x", "x", "x"]] ∧
    (fstA.union fstB).relOutputs ["b"] 50 = some [["x"], ["z"]] ∧
    (fstA.concatenate fstB).relOutputs ["a", "b", "b"] 50 =
      some [["y", "y", "z", "z"], ["y", "y", "x", "z"], ["x", "z", "z"], ["x", "x", "z"]] := by
  decide +kernel

/-- all four rule kinds; `S[] ⇒ T[g] ⇒ T[fg] ⇒ A[fg] B[fg] ⇒* a a` -/
def ig1 : IG :=
  { start := "S"
    rules := [.prod "S" "T" "g", .prod "T" "T" "f", .dup "T" "A" "B", .cons "f" "A" "A",
              .cons "g" "A" "E", .cons "f" "B" "B", .cons "g" "B" "E", .end_ "E" "a"] }

/-- the same with `B` waiting for an index `h` that is never pushed: empty language -/
def ig2 : IG :=
  { start := "S"
    rules := [.prod "S" "T" "g", .prod "T" "T" "f", .dup "T" "A" "B", .cons "f" "A" "A",
              .cons "g" "A" "E", .cons "f" "B" "B", .cons "h" "B" "E", .end_ "E" "a"] }

-- `isEmpty_iff`, `marks_sound`, `marks_complete`, `derivable_sound`
theorem nv_ig_isEmpty : ig1.isEmpty 20 = some false ∧ ig2.isEmpty 20 = some true := by decide +kernel
theorem nv_ig_marks : (ig1.markSaturate 20 ig1.initMarks).map (·.length) = some 9 := by decide +kernel
theorem nv_ig_derivable : ig1.derivable 10 "S" [] = true := by decide +kernel

end Transducers

/-! ## 6. Feature structures (C18) -/
section Features
open FS

def fsA : FS := .node [("agr", .node [("num", .atom "sg"), ("per", .unspec)]), ("cat", .atom "np")]
def fsB : FS := .node [("agr", .node [("per", .atom "3")]), ("case", .atom "nom")]
def fsC : FS := .node [("agr", .node [("num", .atom "pl")])]

theorem agree_node {fs gs : List (String × FS)}
    (h : ∀ e ∈ fs, ∀ y, lookup e.1 gs = some y → Agree e.2 y) : Agree (.node fs) (.node gs) :=
  .node _ _ fun _ _ y hx hy => h _ (Lem.lookup_some_mem hx) y hy

-- `WT` (`unify_none_iff`, `unify_facts`, `unify_wt`, `unify_comm`)
theorem nv_fsA_wt : WT fsA :=
  .node _ (by decide) (forall_mem_two (.node _ (by decide) (forall_mem_two (.atom _) .unspec)) (.atom _))
theorem nv_fsB_wt : WT fsB :=
  .node _ (by decide) (forall_mem_two (.node _ (by decide) (forall_mem_one (.atom _))) (.atom _))
theorem nv_fsC_wt : WT fsC :=
  .node _ (by decide) (forall_mem_one (.node _ (by decide) (forall_mem_one (.atom _))))

-- two structures that `Agree` and unify
theorem nv_fsAB_agree : Agree fsA fsB :=
  -- `agr`: both records (`num` is missing on the right, `per` unspecified on the left); `cat`: missing on the right
  agree_node (forall_mem_two
    (fun y hy => by
      cases hy
      exact agree_node (forall_mem_two (fun y hy => by cases hy) (fun y _ => .unspecL y)))
    (fun y hy => by cases hy))
theorem nv_fsAB_unify : ∃ c, unify fsA fsB = some c := by
  simp [unify, unifyFields, lookup, fsA, fsB]

-- two structures that `Agree` in type and conflict in value
theorem nv_fsAC_agree : Agree fsA fsC :=
  agree_node (forall_mem_two
    (fun y hy => by
      cases hy
      exact agree_node (forall_mem_two (fun y hy => by cases hy; exact .atom _ _) (fun y _ => .unspecL y)))
    (fun y hy => by cases hy))
theorem nv_fsAC_conflict : Conflict fsA fsC :=
  ⟨["agr", "num"], "sg", "pl", by simp [fsA, facts, facts.factsL], by simp [fsC, facts, facts.factsL],
    by decide⟩
theorem nv_fsAC_unify : unify fsA fsC = none := by
  simp [unify, unifyFields, lookup, fsA, fsC]

end Features

/-! ## 7. Codecs (C20) -/
section Codecs
open Codec LabelCodec

-- `read_varToText`, `read_terToText`, `read_capitalised_unmarked` (`Plain`, not an ε spelling)
theorem nv_plain_lower : Plain "expr".toList := ⟨by decide, by decide +kernel⟩
theorem nv_plain_capital : Plain "Plus".toList := ⟨by decide, by decide +kernel⟩
theorem nv_plain_quoted : Plain "\"x\"".toList := ⟨by decide, by decide +kernel⟩
theorem nv_not_eps : "Plus".toList ∉ epsilonSpellings ∧ "expr".toList ∉ epsilonSpellings := by
  decide +kernel
theorem nv_codec_marks : varToText "expr".toList = "\"VAR:expr\"".toList ∧
    terToText "Plus".toList = "\"TER:Plus\"".toList := by decide +kernel

-- `readPdaLabel_pdaLabel_clear`, `readFstLabel_fstLabel_clear` (`Clear`), on JSON-looking texts
theorem nv_clear_json_string : Clear "\"a\"".toList := by unfold Clear; decide +kernel
theorem nv_clear_json_list : Clear "[\"X\", \"Y\"]".toList := by unfold Clear; decide +kernel
theorem nv_clear_empty_list : Clear "[]".toList := by unfold Clear; decide +kernel
theorem nv_pdaLabel : readPdaLabel (pdaLabel "\"a\"".toList "\"Z\"".toList "[\"X\", \"Y\"]".toList) =
    some ("\"a\"".toList, "\"Z\"".toList, "[\"X\", \"Y\"]".toList) := by decide +kernel

end Codecs

end NonVacuity
end Pfl
