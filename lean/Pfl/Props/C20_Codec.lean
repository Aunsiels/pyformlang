/-
C20 — the text codec round-trips every symbol token: a variable or terminal written by `to_text`
is read back by `from_text` as the same symbol, including lower-case variables ("VAR:") and
capitalised terminals ("TER:"), for tokens that are not epsilon spellings.
-/
import Pfl.Model.TextCodec
namespace Pfl
namespace Codec

/-- a plain token: non-empty, and not itself of the quoted marker form -/
def Plain (s : List Char) : Prop := s ≠ [] ∧ isSpecial s = false

namespace Lem

theorem getLast?_quote (p v : List Char) : (p ++ (v ++ ['"'])).getLast? = some '"' := by
  rw [← List.append_assoc, List.getLast?_concat]

theorem isSpecial_var (v : List Char) :
    isSpecial ('"' :: 'V' :: 'A' :: 'R' :: ':' :: (v ++ ['"'])) = true := by
  have hl := getLast?_quote ['"', 'V', 'A', 'R', ':'] v
  simp only [List.cons_append, List.nil_append] at hl
  simp [isSpecial, hl]

theorem isSpecial_ter (v : List Char) :
    isSpecial ('"' :: 'T' :: 'E' :: 'R' :: ':' :: (v ++ ['"'])) = true := by
  have hl := getLast?_quote ['"', 'T', 'E', 'R', ':'] v
  simp only [List.cons_append, List.nil_append] at hl
  simp [isSpecial, hl]

theorem read_marked_var (v : List Char) :
    readComponent ('"' :: 'V' :: 'A' :: 'R' :: ':' :: (v ++ ['"'])) = .var v := by
  unfold readComponent
  rw [isSpecial_var v]
  simp

theorem read_marked_ter (v : List Char) :
    readComponent ('"' :: 'T' :: 'E' :: 'R' :: ':' :: (v ++ ['"'])) = .ter v := by
  unfold readComponent
  rw [isSpecial_ter v]
  simp

theorem read_unmarked (c : Char) (rest : List Char) (h : isSpecial (c :: rest) = false) :
    readComponent (c :: rest) =
      if isUpper c = true then .var (c :: rest)
      else if (c :: rest) ∉ epsilonSpellings then .ter (c :: rest) else .eps := by
  unfold readComponent
  rw [h]
  simp

/-- `Terminal.to_text` read back, for any `isupper` that holds at least on the ASCII capitals -/
theorem read_terText (up : Char → Bool) (hup : ∀ c, isUpper c = true → up c = true)
    (t : List Char) (hne : t ≠ []) (hs : isSpecial t = false) (he : t ∉ epsilonSpellings) :
    readComponent (TextCodec.terText up t) = .ter t := by
  cases t with
  | nil => exact absurd rfl hne
  | cons c rest =>
    by_cases hc : up c = true
    · simp only [TextCodec.terText, hc, if_true]
      exact read_marked_ter (c :: rest)
    · have hu : isUpper c = false := by
        cases h : isUpper c with
        | false => rfl
        | true => exact absurd (hup c h) hc
      simp [TextCodec.terText, hc, read_unmarked _ _ hs, he, hu]

end Lem
open Lem

theorem read_varToText (v : List Char) (h : Plain v) : readComponent (varToText v) = .var v := by
  obtain ⟨hne, hs⟩ := h
  cases v with
  | nil => exact absurd rfl hne
  | cons c rest =>
    by_cases hc : isUpper c = true
    · simp [varToText, hc, read_unmarked _ _ hs]
    · simp only [varToText, hc, Bool.false_eq_true, if_false]
      exact read_marked_var (c :: rest)

theorem read_terToText (t : List Char) (h : Plain t) (he : t ∉ epsilonSpellings) :
    readComponent (terToText t) = .ter t :=
  read_terText isUpper (fun _ hc => hc) t h.1 h.2 he

/-- the marker is what makes the difference: without it a capitalised terminal is read as a variable -/
theorem read_capitalised_unmarked (t : List Char) (c : Char) (rest : List Char) (ht : t = c :: rest)
    (hc : isUpper c = true) (h : Plain t) : readComponent t = .var t := by
  subst ht
  simp [read_unmarked _ _ h.2, hc]

end Codec
end Pfl
