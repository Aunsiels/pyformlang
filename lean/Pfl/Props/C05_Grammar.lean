/-
C05 — the reader implements the documented grammar of pyformlang's regular expressions: tokens
(plain symbols, escaped characters `\c`, `$` for epsilon) separated by blanks, juxtaposition is
concatenation, `|` is union with the lowest precedence, `*` is postfix, parentheses group.
For every expression `e` of that grammar (`E`, well-formed: a starred operand is an atom, a
concatenation operand is not a union) the text is read as the tree of `e` — whatever the nesting,
not only for the fully parenthesised text that `str()` prints (`parse_repr`).
-/
import Pfl.Proofs.ReaderGrammar
import Pfl.Proofs.PyRxTokenText
namespace Pfl
namespace RegexReader
open Pfl.PyRx.E2E

theorem parse_grammar (e : E) (h : E.WF A3 e) (fuel : Nat) (hf : E.need e ≤ fuel) :
    parse fuel (joinBlank (E.flat e)) = .ok (E.tree e) :=
  parse_joinBlank (fun _ => A3.isSym) e h fuel hf

/-- example: `a b | c *` is the union of `a.b` and `c*` -/
example : E.tree (.alt (.cat (.tok ['a']) (.tok ['b'])) (.star (.tok ['c']))) =
    .alt (.cat (.sym "a") (.sym "b")) (.star (.sym "c")) := by decide

end RegexReader
end Pfl
