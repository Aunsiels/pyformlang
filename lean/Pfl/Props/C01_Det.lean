/-
C01 — `to_deterministic` (with and without ε-closure) keeps the language, and its result is
deterministic and ε-free.  Helper lemmas: `Pfl/Proofs/FADet.lean`.
-/
import Pfl.Proofs.FABase
import Pfl.Proofs.FADet
namespace Pfl
namespace ENFA
variable {σ κ : Type} [DecidableEq σ] [DecidableEq κ]

/- `KeyInj A key` (`Pfl/Proofs/FADet.lean`): the naming function separates different sets of states
of `A`. -/

/-- subset construction with ε-closure (`EpsilonNFA.to_deterministic`) -/
theorem toDet_lang (A : ENFA σ) (h : A.WF) (key : List σ → κ) (hk : A.KeyInj key)
    (fuel : Nat) (D : ENFA κ) (hD : A.toDet key true fuel = some D) (w : List Nat) :
    D.Lang w ↔ A.Lang w :=
  toDet_lang_of A h key hk true (Or.inl rfl) fuel D hD w

/-- subset construction without closure (`NondeterministicFiniteAutomaton.to_deterministic`) -/
theorem toDet_lang_noEps (A : ENFA σ) (h : A.WF) (he : A.EpsFree) (key : List σ → κ)
    (hk : A.KeyInj key) (fuel : Nat) (D : ENFA κ) (hD : A.toDet key false fuel = some D)
    (w : List Nat) : D.Lang w ↔ A.Lang w :=
  toDet_lang_of A h key hk false (Or.inr he) fuel D hD w

theorem toDet_shape (A : ENFA σ) (key : List σ → κ) (useE : Bool) (fuel : Nat) (D : ENFA κ)
    (hD : A.toDet key useE fuel = some D) : D.Deterministic ∧ D.EpsFree := by
  obtain ⟨seen, hs, rfl⟩ := toDet_eq A key useE fuel D hD
  exact ⟨detOf_deterministic A key useE seen (detSeen_inj A key useE fuel seen hs),
    detOf_epsFree A key useE seen⟩

end ENFA
end Pfl
