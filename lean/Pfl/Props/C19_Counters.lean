/-
C19 / C12 — the counter-based worklist computes the same sets as the saturation model, and leaves
the cached counters exactly as it found them, so any history of calls answers like a fresh object.
-/
import Pfl.Model.CFGCounters
import Pfl.Props.C12_Classes
import Pfl.Proofs.CFGCounters
namespace Pfl
namespace CFG
open Pfl.CFG.Ctr

/-- the restore pass undoes every decrement: the cached counters are unchanged, whatever they were -/
theorem genCounters_restores (G : CFG) (nullable : Bool) (rem : Remaining) (imp : Impacts)
    (added : List String) (fuel : Nat) (found : List Sym) (rem' : Remaining)
    (hwf : ∀ e ∈ imp, ∃ l, (e.2.1, l) ∈ rem ∧ e.2.2 < l.length)
    (hnd : (rem.map (·.1)).Nodup)
    (hpos : ∀ e ∈ rem, ∀ n ∈ e.2, 0 < n)
    (h : G.genCounters nullable rem imp added fuel = some (found, rem')) : rem' = rem := by
  have _ := hwf
  exact genCounters_rem_eq G nullable rem imp added fuel found rem' hnd hpos h

/-- on the tables built from the grammar, the generating run returns the generating symbols -/
theorem genCounters_generating (G : CFG) (hG : G.WF) (fuel : Nat) (found : List Sym) (rem' : Remaining)
    (h : G.genCounters false G.buildTables.1 G.buildTables.2.1 G.buildTables.2.2 fuel = some (found, rem'))
    (s : Sym) : s ∈ found ↔ s ∈ G.generating := by
  have _ := hG
  exact counters_main G false fuel found rem' h s

/-- and the nullable run the nullable symbols -/
theorem genCounters_nullable (G : CFG) (fuel : Nat) (found : List Sym) (rem' : Remaining)
    (h : G.genCounters true G.buildTables.1 G.buildTables.2.1 G.buildTables.2.2 fuel = some (found, rem'))
    (s : Sym) : s ∈ found ↔ s ∈ G.nullable := by
  exact counters_main G true fuel found rem' h s

/-- history independence: after any run the tables are the built ones again, so a later run
(of either kind) answers exactly like the first run on a fresh object -/
theorem genCounters_history (G : CFG) (n1 n2 : Bool) (fuel1 fuel2 : Nat) (f1 : List Sym) (r1 : Remaining)
    (h1 : G.genCounters n1 G.buildTables.1 G.buildTables.2.1 G.buildTables.2.2 fuel1 = some (f1, r1)) :
    G.genCounters n2 r1 G.buildTables.2.1 G.buildTables.2.2 fuel2 =
      G.genCounters n2 G.buildTables.1 G.buildTables.2.1 G.buildTables.2.2 fuel2 := by
  rw [genCounters_rem_eq G n1 _ _ _ fuel1 f1 r1 (buildTables_hnd G) (buildTables_hpos G) h1]

end CFG
end Pfl
