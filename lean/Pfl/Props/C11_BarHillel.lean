/-
C11 — `CFG.intersection` with a deterministic automaton generates exactly the words generated by
the grammar and accepted by the automaton.
-/
import Pfl.Model.BarHillel
import Pfl.Props.C09_CNF
import Pfl.Props.C12_Classes
import Pfl.Props.C04_Preds
import Pfl.Props.C01_Accepts
import Pfl.Proofs.BarHillel
namespace Pfl
namespace CFG
open Pfl.CFG.BH
variable {τ : Type} [DecidableEq τ]

theorem interD_lang (G : CFG) (hG : G.WF) (D : ENFA τ) (hD : D.WF) (dD : D.Deterministic) (eD : D.EpsFree)
    (symOf : String → Option Nat) (nm : τ → String)
    (hinj : ∀ p a r p' a' r', p ∈ D.states → r ∈ D.states → p' ∈ D.states → r' ∈ D.states →
      PDA.tripleName nm id p a r = PDA.tripleName nm id p' a' r' → p = p' ∧ a = a' ∧ r = r')
    (hstart : ∀ p a r, PDA.tripleName nm id p a r ≠ "Start")
    (fuel : Nat) (R : CFG) (h : G.interD D symOf nm fuel = some R) (w : List String) :
    R.Lang w ↔ G.Lang w ∧ ∃ ks, w.mapM symOf = some ks ∧ D.Lang ks := by
  by_cases hE : D.isEmpty = true
  · unfold interD at h
    rw [if_pos hE] at h
    cases h
    have hno := (ENFA.isEmpty_iff D hD).1 hE
    constructor
    · rintro ⟨s, hs, _⟩
      cases hs
    · rintro ⟨_, ks, _, hl⟩
      exact absurd hl (hno ks)
  · obtain ⟨N, hN, hRstart, hprods⟩ := interD_some hE h
    have hnf := toNormalForm_isNormalForm G hG fuel N hN
    have hlang := toNormalForm_lang G hG fuel N hN
    have htri := triple_iff N hnf D hD dD eD symOf nm hinj hstart R _ (fun _ => StartProd.head) hprods
    rw [lang_of_start hRstart]
    constructor
    · intro hg
      obtain ⟨body, hp, hb⟩ := gen_var_iff.1 hg
      rcases (hprods _).1 hp with hm | ⟨s0, st, f, h0, hst, hf, he⟩ | ⟨he, hg0, hd0⟩
      · exact absurd rfl (binProds_head N D symOf nm hstart _ hm)
      · cases he
        have hs0 := List.mem_of_head? h0
        rw [genList_singleton] at hb
        obtain ⟨hgN, ks, hks, hrun⟩ :=
          (htri s0 f st w (hD.starts_sub _ hs0) (hD.finals_sub _ hf)).1 hb
        exact ⟨((hlang w).1 ((lang_iff_gen N w).2 ⟨st, hst, hgN⟩)).1, ks, hks, s0, hs0, f, hf, hrun⟩
      · cases he
        rw [genList_nil_iff] at hb
        subst hb
        exact ⟨hg0, [], mapM_nil_some.2 rfl, hd0⟩
    · rintro ⟨hgl, ks, hks, hdl⟩
      by_cases hw : w = []
      · subst hw
        rw [mapM_nil_some] at hks
        subst hks
        exact Gen.var ((hprods _).2 (.inr (.inr ⟨rfl, hgl, hdl⟩))) GenList.nil
      · obtain ⟨st, hst, hgN⟩ := (lang_iff_gen N w).1 ((hlang w).2 ⟨hgl, hw⟩)
        obtain ⟨s0, hs0, f, hf, hrun⟩ := hdl
        have hg := (htri s0 f st w (hD.starts_sub _ hs0) (hD.finals_sub _ hf)).2
          ⟨hgN, ks, hks, hrun⟩
        -- the one start state is the one the model takes
        exact Gen.var ((hprods _).2 (.inr (.inl
          ⟨s0, st, f, (dD.head?_starts_iff s0).2 hs0, hst, hf, rfl⟩))) (genList_singleton.2 hg)

end CFG
end Pfl
