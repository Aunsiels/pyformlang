/-
C01 — `remove_epsilon_transitions` keeps the language and yields an ε-free automaton; `copy`
(of an `EpsilonNFA`, of a `DeterministicFiniteAutomaton`) keeps the language.
Helper lemmas: `Pfl/Proofs/FAEpsCopy.lean`.
-/
import Pfl.Proofs.FABase
import Pfl.Proofs.FAEpsCopy
namespace Pfl
namespace ENFA
variable {σ κ : Type} [DecidableEq σ] [DecidableEq κ]

theorem removeEps_lang (A : ENFA σ) (h : A.WF) (w : List Nat) :
    A.removeEps.Lang w ↔ A.Lang w := by
  unfold Lang
  constructor
  · rintro ⟨s, hs, hfin⟩
    obtain ⟨s0, hs0, hreach⟩ := (mem_removeEps_starts A s).mp hs
    have hs' : s ∈ A.states := Run.mem_states h hreach (h.starts_sub _ hs0)
    obtain ⟨f, hf, hr⟩ := (removeEps_run_final A h w s hs').mp hfin
    exact ⟨s0, hs0, f, hf, Run.append hreach hr⟩
  · rintro ⟨s, hs, hfin⟩
    exact ⟨s, (mem_removeEps_starts A s).mpr ⟨s, hs, .nil s⟩,
      (removeEps_run_final A h w s (h.starts_sub _ hs)).mpr hfin⟩

theorem removeEps_epsFree (A : ENFA σ) : A.removeEps.EpsFree :=
  removeEps_epsFree' A

theorem copyE_lang (A : ENFA σ) (h : A.WF) (w : List Nat) : A.copyE.Lang w ↔ A.Lang w :=
  lang_congr (fun q => by unfold copyE; rw [mem_ofParts_starts])
    (fun q => by unfold copyE; rw [mem_ofParts_finals]) (mem_copyE_delta A h) w

theorem copyD_lang (A : ENFA σ) (h : A.WF) (hd : A.Deterministic) (he : A.EpsFree)
    (w : List Nat) : A.copyD.Lang w ↔ A.Lang w :=
  lang_congr (mem_copyD_starts A hd)
    (fun q => by unfold copyD; rw [mem_ofParts_finals]) (mem_copyD_delta A h hd he) w

end ENFA
end Pfl
