/-
C17 — the intersection of an indexed grammar with a regular language (triple construction over
the states of the identity transducer, model `Pfl/Model/IndexedInter.lean`) is non-empty exactly
when some word derivable from "S" with the empty stack is accepted (read) by the transducer.
-/
import Pfl.Model.IndexedInter
import Pfl.Spec.Indexed
import Pfl.Spec.FST
import Pfl.Proofs.FSTLemmas
import Pfl.Props.C17_Indexed
import Pfl.Proofs.IndexedInterLemmas
namespace Pfl
namespace IG
variable {σ : Type} [DecidableEq σ]

theorem inter_nonEmpty (T : FST σ) (rs : σ → String) (G : IG) (h : InterOK T rs G) :
    (inter T rs G).NonEmpty ↔ ∃ w, G.Gen "S" [] w ∧ ∃ o, T.Rel w o := by
  show (Inter.pre T rs G).removeUseless.NonEmpty ↔ _
  rw [removeUseless_nonEmpty]
  exact Inter.pre_nonEmpty h

/-- words and plain derivability agree -/
theorem derivable_iff_gen (G : IG) (a : String) (st : List String) :
    G.Derivable a st ↔ ∃ w, G.Gen a st w := by
  constructor
  · intro h
    induction h with
    | end_ hr => exact ⟨_, Gen.end_ hr⟩
    | prod hr _ ih => obtain ⟨w, hw⟩ := ih; exact ⟨w, Gen.prod hr hw⟩
    | cons hr _ ih => obtain ⟨w, hw⟩ := ih; exact ⟨w, Gen.cons hr hw⟩
    | dup hr _ _ ih1 ih2 =>
      obtain ⟨u, hu⟩ := ih1; obtain ⟨v, hv⟩ := ih2; exact ⟨u ++ v, Gen.dup hr hu hv⟩
  · rintro ⟨w, h⟩
    induction h with
    | end_ hr => exact Derivable.end_ hr
    | prod hr _ ih => exact Derivable.prod hr ih
    | cons hr _ ih => exact Derivable.cons hr ih
    | dup hr _ _ ih1 ih2 => exact Derivable.dup hr ih1 ih2

end IG
end Pfl
