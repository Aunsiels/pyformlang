/-
C07 — lemmas about the executable model of the textual passes of `PythonRegex.__init__`
(`Pfl/Model/PyRegexPasses.lean`).  The model is tied to the library by differential testing
(`tools/pypasses_diff.py`).  Here: a few exact outputs, and that a word without any character a pass
reacts to (letters and digits in particular) goes through the whole pipeline unchanged up to the
separating blanks: each pass is described by a relation between a piece of text and its tokens
(`Pfl/Proofs/PyRxPassRelations.lean` and the files before it), and such a word is the case in which
every token is a single character that the pass copies.
-/
import Pfl.Proofs.PyRxFrontPasses
namespace Pfl
namespace PyPass

/-- Lets the kernel alone compare the result of the passes with the expected one (`decide +kernel`);
with `rfl` the elaborator would evaluate the pipeline too, and it is the slower evaluator. -/
local instance : DecidableEq (Except Err Tok)
  | .ok a, .ok b => decidable_of_iff (a = b) (by simp)
  | .error a, .error b => decidable_of_iff (a = b) (by simp)
  | .ok _, .error _ => isFalse (by simp)
  | .error _, .ok _ => isFalse (by simp)

theorem transform_plus : transform "a+".toList = .ok "a a *".toList := by decide +kernel

theorem transform_group_rep : transform "(a|b){2}".toList = .ok "( a | b ) ( a | b )".toList := by
  decide +kernel

theorem transform_between : transform "a{0,2}".toList = .ok "$ ( a | $ ) ( a | $ )".toList := by
  decide +kernel

theorem transform_set_opt : transform "[a-c]?".toList = .ok "( a | b | c | $ )".toList := by
  decide +kernel

theorem transform_digit : transform "\\d".toList = .ok "( 0 | 1 | 2 | 3 | 4 | 5 | 6 | 7 | 8 | 9 )".toList := by
  decide +kernel

/-- `PythonRegex("+")` passes `re.compile`?  No, but the passes themselves die with an `IndexError`. -/
theorem transform_lonely_plus : transform "+".toList = .error .indexError := by decide +kernel

theorem transform_hex_unsupported : transform "\\x41".toList = .error .unsupported := by decide +kernel

/-- letters and digits -/
def plainChars : List Char := digits ++ asciiLower ++ asciiUpper

theorem replaceGo_id (old new : Tok) (a : Char) (o : Tok) (ho : old = a :: o) (s : Tok) (hs : a ∉ s) :
    replaceGo old new s 0 = s := by
  induction s with
  | nil => rfl
  | cons c r ih =>
    have hne : ¬ (a = c) := fun e => hs (by simp [e])
    have : old.isPrefixOf (c :: r) = false := by
      subst ho
      simp [List.isPrefixOf, hne]
    simp only [replaceGo, this]
    simp [ih (fun h => hs (by simp [h]))]

/-- characters none of the passes reacts to: what the front copies, then one character for each later pass,
`.` for `_separate`, the backspace for the final strip -/
def Inert (c : Char) : Prop :=
  PyRx.E2E.Ordinary c ∧ c ≠ '+' ∧ c ≠ '{' ∧ c ≠ '?' ∧ c ≠ '.' ∧ c ≠ '\x08'

open Pfl.PyRx.E2E Pfl.PyRx.E2E.S3 in
/-- The front (`Front`: the ASCII guard and passes 1–3) maps an inert word to its one-character tokens `sing s`,
and each later pass, as the relation that describes it, maps these to themselves (`Front.sing`, `sing_lift`:
true of every character, closed under `++`); `_separate` then joins them with blanks. -/
theorem transform_inert (s : List Char) (h : ∀ c ∈ s, Inert c) :
    transform s = .ok (join [' '] (sing s)) := by
  have hf : Front false s (sing s) := Front.sing s fun c hc => (h c hc).1
  have p4 : PCT (sing s) (sing s) :=
    sing_lift Pushes.append Pushes.nil (fun c hc => PCT.ch c ⟨hc.2.1, hc.1.2.1⟩) s h
  have p4b : AR (sing s) (sing s) := sing_lift AR.append (fun _ _ => rfl)
    (fun c (hc : Inert c) => ar_one [c] (by simpa using hc.2.2.1)) s h
  have p5 : OP (sing s) (sing s) :=
    sing_lift Pushes.append Pushes.nil (fun c hc => OP.ch c ⟨hc.2.2.2.1, hc.1.2.1⟩) s h
  have hmap : (sing s).map expT = sing s := by
    rw [sing, List.map_map]
    exact List.map_congr_left fun c hc => by simp [expT, (h c hc).2.2.2.2.1]
  rw [hf.run (PCT.run p4 p4b) p5.run
    (separate_toks (sing s) (fun t ht => by
      obtain ⟨c, hc, rfl⟩ := List.mem_map.mp ht
      exact fin_ch c (h c hc).1.2.1))]
  by_cases hs : s = []
  · subst hs; rfl
  · rw [lstrip_toks (sing s) (by simpa [sing] using hs) (fun t ht => by
      obtain ⟨c, hc, rfl⟩ := List.mem_map.mp ht
      exact plain_ch c (by simpa using (h c hc).2.2.2.2.2)), hmap]

theorem plainChars_alnum : ∀ c ∈ plainChars, c.isAlphanum = true := by decide +kernel

open Pfl.PyRx.E2E in
theorem alnum_inert (c : Char) (h : c.isAlphanum = true) : Inert c :=
  ⟨alnum_ordinary h, alnum_ne c _ h (by decide), alnum_ne c _ h (by decide), alnum_ne c _ h (by decide),
    alnum_ne c _ h (by decide), alnum_ne c _ h (by decide)⟩

/-- A word of letters and digits goes through the seven passes unchanged, up to the blanks inserted by
`_separate`. -/
theorem transform_plain (s : List Char) (h : ∀ c ∈ s, c ∈ plainChars) :
    transform s = .ok (join [' '] (sing s)) :=
  transform_inert s fun c hc => alnum_inert c (plainChars_alnum c (h c hc))

theorem transform_letter : ∀ c ∈ digits ++ asciiLower ++ asciiUpper, transform? [c] = some [c] := by
  intro c hc
  have hp : ∀ d ∈ [c], d ∈ plainChars := fun d hd => List.mem_singleton.mp hd ▸ hc
  rw [transform?, transform_plain [c] hp]
  rfl

end PyPass
end Pfl
