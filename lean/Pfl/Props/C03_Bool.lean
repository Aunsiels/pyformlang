/-
C03 — intersection and complement of automata compute the set-theoretic result.
-/
import Pfl.Proofs.FABase
import Pfl.Proofs.FABool
namespace Pfl
namespace ENFA
variable {σ τ : Type} [DecidableEq σ] [DecidableEq τ]

theorem inter_lang (A : ENFA σ) (B : ENFA τ) (hA : A.WF) (hB : B.WF) (fuel : Nat)
    (P : ENFA (σ × τ)) (h : A.inter B fuel = some P) (w : List Nat) :
    P.Lang w ↔ A.Lang w ∧ B.Lang w := by
  obtain ⟨seen, hbfs, hst, hfin, hdl⟩ := inter_spec A B fuel P h
  have hseen := mem_bfs_iff _ _ _ _ hbfs
  have hnoeps : ∀ x y, (x, none, y) ∉ P.delta := by
    intro x y hxy
    obtain ⟨_, a, _, _, ha, _⟩ := (hdl x none y).mp hxy
    cases ha
  have hfwd : ∀ x w y, P.Run x w y → RunC A x.1 w y.1 ∧ RunC B x.2 w y.2 := by
    intro x w y hr
    induction hr with
    | nil q => exact ⟨RunC.nil _, RunC.nil _⟩
    | eps he _ _ => exact absurd he (hnoeps _ _)
    | step he _ ih =>
      obtain ⟨_, a, _, _, ha, h1, h2⟩ := (hdl _ _ _).mp he
      cases ha
      obtain ⟨r1, hr1, he1⟩ := (mem_ecloseL_iff A _ _).mp h1
      obtain ⟨r2, hr2, he2⟩ := (mem_ecloseL_iff B _ _).mp h2
      exact ⟨RunC.cons ((mem_succs A _ _ _).mp hr1) he1 ih.1,
        RunC.cons ((mem_succs B _ _ _).mp hr2) he2 ih.2⟩
  have hbwd : ∀ w x y, x ∈ seen → RunC A x.1 w y.1 → RunC B x.2 w y.2 → P.Run x w y := by
    intro w
    induction w with
    | nil =>
      rintro ⟨x1, x2⟩ ⟨y1, y2⟩ _ h1 h2
      cases h1; cases h2; exact Run.nil _
    | cons a w ih =>
      rintro ⟨x1, x2⟩ ⟨y1, y2⟩ hx h1 h2
      cases h1 with
      | @cons _ r1 r1' _ _ _ hd1 he1 hc1 =>
      cases h2 with
      | @cons _ r2 r2' _ _ _ hd2 he2 hc2 =>
      have ha : a ∈ A.syms := hA.delta_sym _ hd1 a rfl
      have hb : a ∈ B.syms := hB.delta_sym _ hd2 a rfl
      have m1 : r1' ∈ A.ecloseL (A.succs x1 (some a)) :=
        (mem_ecloseL_iff A _ _).mpr ⟨r1, (mem_succs A _ _ _).mpr hd1, he1⟩
      have m2 : r2' ∈ B.ecloseL (B.succs x2 (some a)) :=
        (mem_ecloseL_iff B _ _).mpr ⟨r2, (mem_succs B _ _ _).mpr hd2, he2⟩
      have hedge : ((x1, x2), some a, (r1', r2')) ∈ P.delta :=
        (hdl _ _ _).mpr ⟨hx, a, ha, hb, rfl, m1, m2⟩
      have hnext : (r1', r2') ∈ seen := by
        obtain ⟨s, hs, hreach⟩ := (hseen _).mp hx
        exact (hseen _).mpr ⟨s, hs, Reach.tail hreach
          ((mem_interNext A B _ _).mpr ⟨a, ha, hb, m1, m2⟩)⟩
      exact Run.step hedge (ih (r1', r2') (y1, y2) hnext hc1 hc2)
  rw [lang_iff_runC A, lang_iff_runC B]
  constructor
  · rintro ⟨s, hs, f, hf, hr⟩
    have := hfwd _ _ _ hr
    exact ⟨⟨s.1, ((hst s).mp hs).1, f.1, ((hfin f).mp hf).1, this.1⟩,
      ⟨s.2, ((hst s).mp hs).2, f.2, ((hfin f).mp hf).2, this.2⟩⟩
  · rintro ⟨⟨s1, hs1, f1, hf1, h1⟩, ⟨s2, hs2, f2, hf2, h2⟩⟩
    refine ⟨(s1, s2), (hst _).mpr ⟨hs1, hs2⟩, (f1, f2), (hfin _).mpr ⟨hf1, hf2⟩, ?_⟩
    refine hbwd w (s1, s2) (f1, f2) ?_ h1 h2
    exact (hseen _).mpr ⟨(s1, s2), (mem_prod _ _ _ _).mpr ⟨hs1, hs2⟩, Reach.refl _⟩

/-- flip-and-complete is the complement relative to the automaton's own alphabet, for
deterministic automata with a start state and a fresh trash state -/
theorem complementRaw_lang (A : ENFA σ) (hA : A.WF) (hd : A.Deterministic)
    (hs : A.starts ≠ []) (trash : σ) (ht : trash ∉ A.states) (w : List Nat) :
    (A.complementRaw A.copyE trash).Lang w ↔ (∀ a ∈ w, a ∈ A.syms) ∧ ¬ A.Lang w :=
  complementRaw_core A A.copyE hA hd hs trash ht
    (fun q => mem_ofParts_starts _ _ _ q) (fun q => mem_ofParts_finals _ _ _ q)
    (mem_copyE_delta A hA) w

theorem complementRaw_lang_dfa (A : ENFA σ) (hA : A.WF) (hd : A.Deterministic) (he : A.EpsFree)
    (hs : A.starts ≠ []) (trash : σ) (ht : trash ∉ A.states) (w : List Nat) :
    (A.complementRaw A.copyD trash).Lang w ↔ (∀ a ∈ w, a ∈ A.syms) ∧ ¬ A.Lang w :=
  complementRaw_core A A.copyD hA hd hs trash ht
    (mem_copyD_starts A hd) (fun q => mem_ofParts_finals _ _ _ q)
    (mem_copyD_delta A hA hd he) w

end ENFA
end Pfl
