/-
C15 — the tree side of the CYK table: whatever the iteration orders, the node returned by
`get_parse_tree` is a parse tree of the word in the normal form, and a tree is returned exactly when the
recogniser says yes.
-/
import Pfl.Model.CYKTree
import Pfl.Props.C15_Trees
import Pfl.Proofs.CFGCYK
import Pfl.Proofs.CYKTree
namespace Pfl
namespace CFG
open Pfl.CFG.CYKT

/-- every tree handed out is a parse tree of the word in the grammar the table was built for -/
theorem cykTree_valid (N : CFG) (w : List String) (hw : w ≠ []) (t : PTree)
    (h : cykTree N w = some t) : N.treeValid t w = true := by
  unfold cykTree at h
  split at h
  · simp at h
  · cases hs : N.start with
    | none => rw [hs] at h; simp at h
    | some s =>
      rw [hs] at h
      simp only at h
      have hmem : t ∈ look (cykTableT N w) 0 w.length := List.mem_of_find?_eq_some h
      have hroot := List.find?_some h
      simp only [decide_eq_true_eq] at hroot
      obtain ⟨g1, g2, g3⟩ := (top_decor N w hw).1 t hmem
      rw [List.drop_zero, List.take_length] at g3
      exact (Trees.treeValid_iff N t w).mpr ⟨⟨s, hs, hroot ▸ g1⟩, g2, g3⟩

/-- a tree exists exactly when the recogniser accepts: the heads of a cell of trees are the variables of the
recogniser's cell -/
theorem cykTree_isSome_iff (N : CFG) (w : List String) (hw : w ≠ []) :
    (cykTree N w).isSome = cyk N w := by
  unfold cykTree cyk
  split
  · rfl
  · cases hs : N.start with
    | none => rfl
    | some s =>
      simp only
      rw [Bool.eq_iff_iff, List.find?_isSome, decide_eq_true_eq]
      simp only [decide_eq_true_eq]
      exact (top_decor N w hw).2 s

/-- `get_cnf_parse_tree`: the tree is a parse tree of `w` in the normal form of the grammar -/
theorem cnfParseTree_valid (G : CFG) (w : List String) (hw : w ≠ []) (fuel : Nat) (N : CFG) (t : PTree)
    (hN : G.toNormalForm fuel = some N) (h : G.cnfParseTree w fuel = some (some t)) :
    N.treeValid t w = true := by
  unfold cnfParseTree at h
  rw [hN] at h
  simp only [Option.map_some, Option.some.injEq] at h
  exact cykTree_valid N w hw t h

/-- non-vacuity: the example grammar yields a tree for `a a b` -/
example : (cykTree (CFG.mk' [] [] (some "S") [("S", [.var "A", .var "B"]), ("S", [.var "A", .var "S"]),
    ("A", [.ter "a"]), ("B", [.ter "b"]), ("S", [.ter "b"])]) ["a", "a", "b"]).isSome = true := by
  decide +kernel

end CFG
end Pfl
