/-
C09 — remove_useless_symbols, remove_epsilon, eliminate_unit_productions keep the language
(the empty word excepted for remove_epsilon) and have the promised shape.
-/
import Pfl.Proofs.CFGClean
namespace Pfl
namespace CFG

theorem mk'_prods (vars ters : List String) (start : Option String) (prods : List Prod) :
    (mk' vars ters start prods).prods = prods ∧ (mk' vars ters start prods).start = start := by
  exact ⟨rfl, rfl⟩

theorem removeUseless_lang (G : CFG) (hG : G.WF) (w : List String) :
    G.removeUseless.Lang w ↔ G.Lang w := by
  exact Clean.removeUseless_lang G hG w

/-- in the result every symbol of every production is generating and reachable -/
theorem removeUseless_useful (G : CFG) (hG : G.WF) :
    ∀ p ∈ G.removeUseless.prods, ∀ s ∈ Sym.var p.1 :: p.2,
      s ∈ G.removeUseless.generating ∧ s ∈ G.removeUseless.reachable := by
  intro p hp s hs
  obtain ⟨hp₁, hr⟩ := (Clean.mem_removeUseless_prods G p).mp hp
  obtain ⟨-, hg₁, hg₂⟩ := (Clean.mem_usefulTmp_prods G p).mp hp₁
  rcases List.mem_cons.mp hs with rfl | hs
  · exact Clean.useful_survives G hG hg₁ hr
  · exact Clean.useful_survives G hG (hg₂ s hs)
      (Clean.reachable_step (h := p.1) (body := p.2) hp₁ hr hs)

theorem removeEpsilon_lang (G : CFG) (w : List String) :
    G.removeEpsilon.Lang w ↔ G.Lang w ∧ w ≠ [] := by
  exact Clean.removeEpsilon_lang G w

theorem removeEpsilon_noEps (G : CFG) : ∀ p ∈ G.removeEpsilon.prods, p.2 ≠ [] := by
  exact Clean.removeEpsilon_noEps G

theorem elimUnit_lang (G : CFG) (hG : G.WF) (w : List String) : G.elimUnit.Lang w ↔ G.Lang w := by
  exact Clean.elimUnit_lang G hG w

theorem elimUnit_noUnit (G : CFG) : ∀ p ∈ G.elimUnit.prods, isUnit p = false := by
  exact Clean.elimUnit_noUnit G

end CFG
end Pfl
