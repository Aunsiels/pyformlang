/-
C17 — the library's own marking loop (`IndexedGrammar.is_empty()` as written: rule-by-rule
passes, subset shortcuts and delayed additions in `_duplication_processing`, `addrec_bis` /
`addrec_ter`, the 'is it useful' branch, the edge case, the early stops), modelled step by step in
`Pfl/Model/IndexedMark.lean`, is exact: whenever it answers, the verdict is emptiness of the
language.  Hence the verdict depends neither on the order of the rules nor on the order in which
Python iterates its sets.
-/
import Pfl.Spec.Indexed
import Pfl.Proofs.IndexedMarkClosed
import Pfl.Props.C17_Indexed
namespace Pfl
namespace IG
open Pfl.IG.Lib Pfl.IG.LibP Pfl.IG.Lem

theorem closed_of_pass {G : IG} {ord : List SetS → List SetS} (hord : OrdOK ord) {T : Table}
    (hinit : Sub (initTable G) T)
    (hm : (pass ord G (libRules G) T false).2.1 = false)
    (hs : (pass ord G (libRules G) T false).2.2 = false) :
    (pass ord G (libRules G) T false).1 = T ∧ ClosedR G (Marked T) := by
  obtain ⟨_, h1, h2⟩ := pass_clean hord G (libRules G) T false hm hs
  refine ⟨h1, fun a E h => hinit a E (mem_get_initTable.mpr h), fun r hr => ?_⟩
  cases r with
  | cons f a b => trivial
  | _ => exact h2 _ (mem_libRules.mpr ⟨hr, rfl⟩)

theorem loop_iff {G : IG} {ord : List SetS → List SetS} (hord : OrdOK ord) :
    ∀ (fuel : Nat) (T : Table) (b : Bool), Sub (initTable G) T → GoodT G T →
      loop ord G fuel T = some b → (b = true ↔ ¬ G.NonEmpty) := by
  intro fuel T
  have hpass := pass_sound (G := G) hord
  fun_induction loop ord G fuel T with
  | case1 => exact fun _ _ _ h => nomatch h
  | case2 fuel T res hs =>
    -- the early stop: the start symbol is marked
    rintro _ _ hgood ⟨⟩
    exact ⟨fun hf => absurd hf Bool.false_ne_true, fun hn => absurd ((hpass T hgood).2.2 hs) hn⟩
  | case3 fuel T res hs hm ih =>
    intro b hinit hgood h
    exact ih b (hinit.trans (hpass T hgood).1) (hpass T hgood).2.1 h
  | case4 fuel T res hs hm =>
    -- a pass that changed nothing: the table is closed
    rintro _ hinit hgood ⟨⟩
    obtain ⟨h1, hcl⟩ := closed_of_pass hord hinit (Bool.eq_false_iff.mpr hm)
      (Bool.eq_false_iff.mpr hs)
    rw [h1]
    simp only [Bool.not_eq_true', decide_eq_false_iff_not]
    exact not_congr (hcl.iff hgood)

/-- exactness of the library loop for every iteration order of the sets -/
theorem isEmptyLibO_iff (G : IG) (ord : List SetS → List SetS)
    (hord : ∀ l x, x ∈ ord l ↔ x ∈ l) (fuel : Nat) (b : Bool)
    (h : isEmptyLibO ord G fuel = some b) : b = true ↔ ¬ G.NonEmpty :=
  loop_iff hord fuel (initTable G) b (Sub.refl _) (initTable_good G) h

/-- `is_empty()` as the library computes it: whenever the loop answers, the verdict is the exact one -/
theorem isEmptyLib_iff (G : IG) (fuel : Nat) (b : Bool) (h : isEmptyLib G fuel = some b) :
    b = true ↔ ¬ G.NonEmpty :=
  isEmptyLibO_iff G id (fun _ _ => Iff.rfl) fuel b h

/-- soundness half: the answer "not empty" (in particular every early stop) is justified -/
theorem isEmptyLib_false_nonEmpty (G : IG) (fuel : Nat) (h : isEmptyLib G fuel = some false) :
    G.NonEmpty :=
  Classical.not_not.mp fun hn => Bool.false_ne_true ((isEmptyLib_iff G fuel false h).mpr hn)

/-- the library loop and the saturation model agree whenever both answer -/
theorem isEmptyLib_eq_isEmpty (G : IG) (fuel fuel' : Nat) (b b' : Bool)
    (h : isEmptyLib G fuel = some b) (h' : G.isEmpty fuel' = some b') : b = b' :=
  Bool.eq_iff_iff.mpr ((isEmptyLib_iff G fuel b h).trans (isEmpty_iff G fuel' b' h').symm)

theorem nonEmpty_congr {G G' : IG} (hr : ∀ r, r ∈ G.rules ↔ r ∈ G'.rules)
    (hs : G.start = G'.start) : G.NonEmpty ↔ G'.NonEmpty := by
  unfold NonEmpty
  rw [hs]
  exact ⟨derivable_mono (fun r h => (hr r).mp h), derivable_mono (fun r h => (hr r).mpr h)⟩

/-- the verdict of the library loop does not depend on the order of the rules, nor on the
iteration order of the sets -/
theorem isEmptyLibO_perm {G G' : IG} (ord ord' : List SetS → List SetS)
    (hord : ∀ l x, x ∈ ord l ↔ x ∈ l) (hord' : ∀ l x, x ∈ ord' l ↔ x ∈ l)
    (hp : G.rules.Perm G'.rules) (hs : G.start = G'.start) {f f' : Nat} {b b' : Bool}
    (h : isEmptyLibO ord G f = some b) (h' : isEmptyLibO ord' G' f' = some b') : b = b' :=
  Bool.eq_iff_iff.mpr ((isEmptyLibO_iff G ord hord f b h).trans
    ((not_congr (nonEmpty_congr (fun _ => hp.mem_iff) hs)).trans (isEmptyLibO_iff G' ord' hord' f' b' h').symm))

/-- property C17 for the library loop: permuting the rules keeps the verdict -/
theorem isEmptyLib_perm {G G' : IG} (hp : G.rules.Perm G'.rules) (hs : G.start = G'.start)
    {f f' : Nat} {b b' : Bool}
    (h : isEmptyLib G f = some b) (h' : isEmptyLib G' f' = some b') : b = b' :=
  isEmptyLibO_perm id id (fun _ _ => Iff.rfl) (fun _ _ => Iff.rfl) hp hs h h'

/-- same grammar, two iteration orders of the sets (e.g. two values of PYTHONHASHSEED) -/
theorem isEmptyLibO_ord (G : IG) (ord ord' : List SetS → List SetS)
    (hord : ∀ l x, x ∈ ord l ↔ x ∈ l) (hord' : ∀ l x, x ∈ ord' l ↔ x ∈ l) {f f' : Nat}
    {b b' : Bool} (h : isEmptyLibO ord G f = some b) (h' : isEmptyLibO ord' G f' = some b') :
    b = b' :=
  isEmptyLibO_perm ord ord' hord hord' (List.Perm.refl _) rfl h h'

/-- at a regular end of the loop (no early stop) the table is closed under all rules and sound:
it marks `∅` for exactly the non-terminals that derive a terminal word with the empty stack -/
theorem regular_end_table {G : IG} {ord : List SetS → List SetS}
    (hord : ∀ l x, x ∈ ord l ↔ x ∈ l) {T : Table} (hinit : Sub (initTable G) T) (hgood : GoodT G T)
    (hm : (pass ord G (libRules G) T false).2.1 = false)
    (hs : (pass ord G (libRules G) T false).2.2 = false) (a : String) (ha : a ∈ G.nonTerminals) :
    [] ∈ get T a ↔ G.Derivable a [] :=
  (closed_of_pass hord hinit hm hs).2.iff hgood

/-- the trace function runs the same pass -/
theorem passTr_pass (ord : List SetS → List SetS) (G : IG) (rs : List IRule) :
    ∀ (T : Table) (mod : Bool), (passTr ord G rs T mod).2 = pass ord G rs T mod := by
  intro T mod
  fun_induction pass ord G rs T mod with
  | case1 => rfl
  | case2 r rs T mod res hs => rw [passTr, if_pos hs]
  | case3 r rs T mod res hs ih => rw [passTr, if_neg hs]; exact ih

/-- all four rule kinds; `S[] ⇒ T[g] ⇒ T[fg] ⇒ A[fg] B[fg] ⇒* a a` -/
def nvLib1 : IG :=
  { start := "S"
    rules := [.prod "S" "T" "g", .prod "T" "T" "f", .dup "T" "A" "B", .cons "f" "A" "A",
              .cons "g" "A" "E", .cons "f" "B" "B", .cons "g" "B" "E", .end_ "E" "a"] }

/-- the same with `B` waiting for an index `h` that is never pushed: empty language (regular end
of the loop) -/
def nvLib2 : IG :=
  { start := "S"
    rules := [.prod "S" "T" "g", .prod "T" "T" "f", .dup "T" "A" "B", .cons "f" "A" "A",
              .cons "g" "A" "E", .cons "f" "B" "B", .cons "h" "B" "E", .end_ "E" "a"] }

theorem nv_isEmptyLib :
    isEmptyLib nvLib1 20 = some false ∧ isEmptyLib nvLib2 20 = some true ∧
    isEmptyLib { nvLib1 with rules := nvLib1.rules.reverse } 20 = some false ∧
    isEmptyLibO List.reverse nvLib2 20 = some true ∧
    (traceLib nvLib2 20).length = 6 := by decide +kernel

end IG
end Pfl
