/-
C20 — `RecursiveAutomaton.from_ebnf`, end to end: one box per non-terminal, whose automaton accepts
exactly the alternatives of that non-terminal's right-hand sides.

* G1 (`bodies_lines`, `group_spec`): the line reader (`splitlines`, `strip`, `"->" in`, `split("->")`,
  the `productions` dict) on a text of rule lines `head -> body` returns the heads in order of first
  appearance, each with its bodies ("epsilon" for an empty body, `Epsilon().to_text()`) joined by " | ".
* G2 (`grouped_parse`, `readRules_rules`): when every non-empty body is the blank-joined token text of a
  well-formed expression (over `A3e`: the alphabet `A3` of `parse_grammar` plus the word "epsilon",
  which `A3` excludes although the reader takes it as the ε node; `A3e_iff`,
  `parse_grammar_e`, `wf_mono`) whose tokens are free of white space and of "->", the text of a head is the
  blank-joined token text of the alternation of its alternatives (`altAll`: re-nested to the right,
  the only nesting `E.WF` admits), and the regex reader returns the tree of that alternation.
* G3 (`fromEbnf_box_lang`): the box built from that tree (Thompson, subset construction, Hopcroft,
  quotient) accepts the coding of `w` iff `w` is denoted by one of the alternatives of the head
  (`w = []` for an empty right-hand side).

The conditions on tokens are needed and are NOT implied by the token alphabet `A3` of the regex
reader: a plain symbol of `A3` may contain "->" (then the line holds "->" twice: ValueError,
`arrow_in_symbol`), a line break or other white space (`IsPl` only excludes the blank), and the escape
`\ ` (backslash, blank) at the end of a body is cut by `strip`.
-/
import Pfl.Proofs.EbnfRegex
import Pfl.Props.C05_Grammar
import Pfl.Props.C20_Boxes
namespace Pfl
namespace Ebnf
open Pfl.TextCodec Pfl.Ebnf.Lem Pfl.PyRx.E2E Pfl.PyRx.E2E.E

/-- the line reader on a text of rule lines (no final newline): the fold of `addBody` over the lines.
`Head h`: non-empty, no `isSpace` character, no "->"; `Body t`: `strip t = t`, no line break, no "->" -/
theorem bodies_lines (ls : List (List Char × List Char))
    (hh : ∀ l ∈ ls, Head l.1) (hb : ∀ l ∈ ls, Body l.2) :
    bodies (joinWith ['\n'] (ls.map fun l => l.1 ++ " -> ".toList ++ l.2)) = some (group ls) :=
  bodies_textOf ls fun l hl => ⟨hh l hl, hb l hl⟩

/-- the same for a text that ends with a newline -/
theorem bodies_lines_nl (ls : List (List Char × List Char))
    (hh : ∀ l ∈ ls, Head l.1) (hb : ∀ l ∈ ls, Body l.2) :
    bodies (joinWith ['\n'] (ls.map fun l => l.1 ++ " -> ".toList ++ l.2) ++ ['\n']) =
      some (group ls) :=
  (bodies_snoc_nl _).trans (bodies_lines ls hh hb)

/-- the dict: heads in order of first appearance; the text of head `h` is the bodies of the lines
with head `h`, in order, "epsilon" for an empty body, joined by " | " -/
theorem group_spec (ls : List (List Char × List Char)) :
    group ls = ((ls.map (·.1)).eraseDups).map fun h =>
      (h, joinWith " | ".toList
        ((ls.filter (·.1 = h)).map fun l => if l.2.isEmpty then "epsilon".toList else l.2)) :=
  Lem.group_spec ls

/-- the rules: (head, right-hand side), `none` for the empty right-hand side.  For rules satisfying
`RuleOK` (head as in G1; expression well formed over `A3e`, its tokens free of white space and "->")
the dict holds, for every head, the token text of the alternation of its alternatives, and the
reader returns the tree of that alternation. -/
theorem grouped_parse (rs : List (List Char × Option E)) (hok : ∀ r ∈ rs, RuleOK r) :
    bodies (textOf (rawLines rs)) =
      some ((heads (rawLines rs)).map fun h =>
        (h, RegexReader.joinBlank (flat (altAll (exprs rs h))))) ∧
    ∀ h ∈ heads (rawLines rs), WF A3e (altAll (exprs rs h)) ∧
      ∀ fuel, E.need (altAll (exprs rs h)) ≤ fuel →
        RegexReader.parse fuel (RegexReader.joinBlank (flat (altAll (exprs rs h)))) =
          .ok (tree (altAll (exprs rs h))) := by
  refine ⟨?_, ?_⟩
  · rw [bodies_textOf _ (rawLines_ok rs hok), group_rawLines rs hok]
  · intro h hh
    have hwf : WF A3e (altAll (exprs rs h)) := by
      apply wf_altAll _ (exprs_ne_nil rs h hh)
      intro e he
      obtain ⟨r, hr, -, rfl⟩ := (mem_exprs rs h e).mp he
      exact wf_exprOf r (hok r hr)
    exact ⟨hwf, fun fuel hf => parse_grammar_e _ hwf fuel hf⟩

/-- the loop of `from_ebnf` up to the trees: every body text is handed to the regex reader -/
def readRules (fuel : Nat) (text : List Char) : Option (List (List Char × Except RegexReader.Err Rx)) :=
  (bodies text).map fun d => d.map fun p => (p.1, RegexReader.parse fuel p.2)

/-- one tree per head, in order of first appearance: the alternation of the head's alternatives -/
theorem readRules_rules (rs : List (List Char × Option E)) (hok : ∀ r ∈ rs, RuleOK r) (fuel : Nat)
    (hf : ∀ h ∈ heads (rawLines rs), E.need (altAll (exprs rs h)) ≤ fuel) :
    readRules fuel (textOf (rawLines rs)) =
      some ((heads (rawLines rs)).map fun h => (h, .ok (tree (altAll (exprs rs h))))) := by
  obtain ⟨h1, h2⟩ := grouped_parse rs hok
  rw [readRules, h1, Option.map_some, List.map_map]
  congr 1
  apply List.map_congr_left
  intro h hh
  simp only [Function.comp]
  rw [(h2 h hh).2 fuel (hf h hh)]

/-- the fuel the reader needs for a head: the needs of the alternatives plus their number -/
theorem need_head (rs : List (List Char × Option E)) (h : List Char) (hh : h ∈ heads (rawLines rs)) :
    E.need (altAll (exprs rs h)) + 1 = ((exprs rs h).map E.need).sum + (exprs rs h).length :=
  need_altAll _ (exprs_ne_nil rs h hh)

/-- the words of a right-hand side -/
def RhsDenotes : Option E → List String → Prop
  | none, w => w = []
  | some e, w => Rx.Denote (tree e) w

theorem denote_exprOf (o : Option E) (w : List String) :
    Rx.Denote (tree (exprOf o)) w ↔ RhsDenotes o w := by
  cases o with
  | none => rw [exprOf, tree_epsilon]; exact Rx.Lem.eps_denote w
  | some e => exact Iff.rfl

theorem denote_head (rs : List (List Char × Option E)) (h : List Char)
    (hh : h ∈ heads (rawLines rs)) (w : List String) :
    Rx.Denote (tree (altAll (exprs rs h))) w ↔ ∃ r ∈ rs, r.1 = h ∧ RhsDenotes r.2 w := by
  rw [denote_altAll _ w (exprs_ne_nil rs h hh)]
  constructor
  · rintro ⟨e, he, hd⟩
    obtain ⟨r, hr, e1, rfl⟩ := (mem_exprs rs h e).mp he
    exact ⟨r, hr, e1, (denote_exprOf _ w).mp hd⟩
  · rintro ⟨r, hr, e1, hd⟩
    exact ⟨exprOf r.2, (mem_exprs rs h _).mpr ⟨r, hr, e1, rfl⟩, (denote_exprOf _ w).mpr hd⟩

variable {κ μ : Type} [DecidableEq κ] [DecidableEq μ]

/-- end to end: for the text of the rules `rs`, the loop of `from_ebnf` yields one tree per head
(`readRules_rules`), and the box of head `h` — Thompson construction, subset construction,
Hopcroft's loop, quotient, under the hypotheses of `Rx.box_lang` — accepts the coding of a word iff
the word is denoted by one of the right-hand sides of `h` (the empty word for an empty one) -/
theorem fromEbnf_box_lang (rs : List (List Char × Option E)) (hok : ∀ r ∈ rs, RuleOK r) (fuel : Nat)
    (hf : ∀ h ∈ heads (rawLines rs), E.need (altAll (exprs rs h)) ≤ fuel) :
    ∃ trees : List (List Char × Rx),
      readRules fuel (textOf (rawLines rs)) = some (trees.map fun p => (p.1, .ok p.2)) ∧
      trees.map (·.1) = (rs.map (·.1)).eraseDups ∧
      ∀ p ∈ trees, ∀ (code : String → Nat) (c : Nat)
        (key : List Nat → κ) (_ : (p.2.thompson code c).1.KeyInj key)
        (fuel1 : Nat) (D : ENFA κ) (_ : (p.2.thompson code c).1.toDet key true fuel1 = some D)
        (fuel2 : Nat) (gs : List (List (Option κ))) (_ : D.hopcroft fuel2 = some gs)
        (name : List (Option κ) → μ) (_ : ∀ g ∈ gs, ∀ g' ∈ gs, name g = name g' → g = g')
        (emptyName : μ) (ks : List Nat),
        (D.minimizeOf gs name emptyName).Lang ks ↔
          ∃ w, (∃ r ∈ rs, r.1 = p.1 ∧ RhsDenotes r.2 w) ∧ w.map code = ks := by
  refine ⟨(heads (rawLines rs)).map fun h => (h, tree (altAll (exprs rs h))), ?_, ?_, ?_⟩
  · rw [readRules_rules rs hok fuel hf, List.map_map]
    rfl
  · rw [List.map_map, ← heads_rawLines]
    simp [Function.comp_def]
  · intro p hp code c key hk fuel1 D hD fuel2 gs hgs name hname emptyName ks
    obtain ⟨h, hh, rfl⟩ := List.mem_map.mp hp
    rw [Rx.box_lang _ code c key hk fuel1 D hD fuel2 gs hgs name hname emptyName ks]
    simp only [denote_head rs h hh]

/-- "a->b" is a plain symbol of the reader's alphabet `A3`, but a rule line with it holds "->"
twice: `head, body = production.split("->")` raises ValueError -/
theorem arrow_in_symbol :
    A3 "a->b".toList ∧ bodies "S -> a->b".toList = none := by
  refine ⟨Or.inr (Or.inl ⟨?_, by decide⟩), by decide +kernel⟩
  unfold RegexReader.Lem.IsPl
  decide

/-- the escape `\ ` (backslash, blank) is a token of `A3`; at the end of a body it loses its blank -/
theorem escaped_blank_at_end :
    A3 ['\\', ' '] ∧ bodies "S -> a \\ ".toList = some [("S".toList, "a \\".toList)] :=
  ⟨Or.inr (Or.inr ⟨' ', rfl⟩), by decide +kernel⟩

/-- a plain symbol of `A3` may contain a line break; the rule is cut there -/
theorem linebreak_in_symbol :
    A3 "a\nb".toList ∧ bodies "S -> a\nb".toList = some [("S".toList, "a".toList)] := by
  refine ⟨Or.inr (Or.inl ⟨?_, by decide⟩), by decide +kernel⟩
  unfold RegexReader.Lem.IsPl
  decide

/-- the spelling written for an empty right-hand side is not a token of `A3` (which is why G2 is
stated over `A3e`), but it is one of `A3e`, and the reader gives the ε tree for it -/
theorem epsilon_token :
    ¬ A3 "epsilon".toList ∧ WF A3e (.tok "epsilon".toList) ∧ tree (.tok "epsilon".toList) = .eps :=
  ⟨epsilon_not_A3, wf_epsilon, tree_epsilon⟩

/-- three rule lines: two for `S` (one of them empty), one for `A` -/
def exRules : List (List Char × Option E) :=
  [("S".toList, some (.cat (.tok ['a']) (.tok ['b']))),
   ("S".toList, none),
   ("A".toList, some (.alt (.star (.tok ['c'])) (.tok ['a'])))]

theorem exRules_text : textOf (rawLines exRules) = "S -> a b\nS -> \nA -> c * | a".toList := by
  decide +kernel

example : textOf (rawLines exRules) = "S -> a b\nS -> \nA -> c * | a".toList := exRules_text

example : bodies "S -> a b\nS -> \nA -> c * | a".toList =
    some [("S".toList, "a b | epsilon".toList), ("A".toList, "c * | a".toList)] := by decide +kernel

example : exprs exRules "S".toList = [.cat (.tok ['a']) (.tok ['b']), .tok "epsilon".toList] := by
  rfl

theorem exRules_ok : ∀ r ∈ exRules, RuleOK r := by
  have hS : Head "S".toList := head_char 'S' (by decide)
  have hA : Head "A".toList := head_char 'A' (by decide)
  have ha := wf_tok_char 'a' (by decide)
  have hb := wf_tok_char 'b' (by decide)
  have hc := wf_tok_char 'c' (by decide)
  have pa := plain_char 'a' (by decide)
  have pb := plain_char 'b' (by decide)
  have pc := plain_char 'c' (by decide)
  have pbar := plain_char '|' (by decide)
  have pst := plain_char '*' (by decide)
  intro r hr
  simp only [exRules, List.mem_cons, List.not_mem_nil, or_false] at hr
  rcases hr with rfl | rfl | rfl
  · refine ⟨hS, ?_⟩
    rintro _ ⟨⟩
    refine ⟨⟨ha, hb, rfl, by decide⟩, ?_⟩
    intro x hx
    simp only [flat, List.cons_append, List.nil_append, List.mem_cons, List.not_mem_nil,
      or_false] at hx
    rcases hx with rfl | rfl <;> assumption
  · exact ⟨hS, nofun⟩
  · refine ⟨hA, ?_⟩
    rintro _ ⟨⟩
    refine ⟨⟨⟨hc, rfl⟩, ha, by decide⟩, ?_⟩
    intro x hx
    simp only [flat, List.cons_append, List.nil_append, List.mem_cons, List.not_mem_nil,
      or_false] at hx
    rcases hx with rfl | rfl | rfl | rfl <;> assumption

/-- the run observed with the real library: an empty and a spelled-out ε right-hand side -/
example : bodies "S ->  \nS -> epsilon".toList =
    some [("S".toList, "epsilon | epsilon".toList)] := by decide +kernel

/-- the general theorem on the example: the dict, as computed above, holds the alternation texts -/
example : bodies "S -> a b\nS -> \nA -> c * | a".toList =
    some [("S".toList, RegexReader.joinBlank (flat (.alt (.cat (.tok ['a']) (.tok ['b'])) (.tok "epsilon".toList)))),
      ("A".toList, RegexReader.joinBlank (flat (.alt (.star (.tok ['c'])) (.tok ['a']))))] := by
  rw [← exRules_text, (grouped_parse exRules exRules_ok).1]
  decide +kernel

/-- the tree read for `S` denotes "a b" and the empty word -/
example : tree (altAll (exprs exRules "S".toList)) = .alt (.cat (.sym "a") (.sym "b")) .eps := by
  decide +kernel

/-- the loop up to the trees, computed on the example -/
example : readRules 10 "S -> a b\nS -> \nA -> c * | a".toList =
    some [("S".toList, .ok (.alt (.cat (.sym "a") (.sym "b")) .eps)),
      ("A".toList, .ok (.alt (.star (.sym "c")) (.sym "a")))] := by
  have := readRules_rules exRules exRules_ok 10 (by
    intro h hh
    have : h ∈ ["S".toList, "A".toList] := hh
    simp only [List.mem_cons, List.not_mem_nil, or_false] at this
    rcases this with rfl | rfl <;> decide +kernel)
  rw [← exRules_text, this]
  rfl

end Ebnf
end Pfl
