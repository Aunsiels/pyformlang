/-
C13 — the PDA acceptance oracle (pop-relation saturation) is exact in both modes.
-/
import Pfl.Spec.PDA
import Pfl.Oracle.PdaAcc
import Pfl.Proofs.PDAAcc
namespace Pfl
namespace PDA
open Pfl.PDA.Acc
variable {σ γ : Type} [DecidableEq σ] [DecidableEq γ]

theorem accEmpty_iff (P : PDA σ γ) (w : List String) (fuel : Nat) (b : Bool)
    (h : P.accEmpty w fuel = some b) : b = true ↔ P.AccEmpty w := by
  unfold accEmpty at h
  split at h
  · rename_i s z hs hz
    obtain ⟨R, hR, rfl⟩ := Option.map_eq_some_iff.mp h
    have hR := popSaturate_exact hR
    simp only [List.any_eq_true, decide_eq_true_eq]
    constructor
    · rintro ⟨⟨q0, x0, i0, q', j⟩, hr, rfl, rfl, rfl, rfl⟩
      exact ⟨_, _, q', hs, hz, steps_iff_popsL.2 ((mem_sat_iff hR _ _ _ _ _).mp hr)⟩
    · rintro ⟨s', z', q', hs', hz', hrun⟩
      cases hs.symm.trans hs'
      cases hz.symm.trans hz'
      exact ⟨_, (mem_sat_iff hR _ _ _ _ _).mpr (steps_iff_popsL.1 hrun), rfl, rfl, rfl, rfl⟩
  · rename_i hn
    cases h
    constructor
    · intro h; cases h
    · rintro ⟨s, z, q, hs, hz, _⟩
      exact (hn s z hs hz).elim

theorem accFinal_iff (P : PDA σ γ) (w : List String) (fuel : Nat) (b : Bool)
    (h : P.accFinal w fuel = some b) : b = true ↔ P.AccFinal w := by
  unfold accFinal at h
  split at h
  · rename_i s z hs hz
    split at h
    · cases h
    · rename_i R hR
      obtain ⟨F, hF, rfl⟩ := Option.map_eq_some_iff.mp h
      have hR := popSaturate_exact hR
      have hFin := mem_finSaturate_iff hR hF
      simp only [Bool.or_eq_true, List.any_eq_true, decide_eq_true_eq]
      -- the three tests are the three ways in which `FinChain` holds of the one symbol `z`
      refine Iff.trans (b := FinChain P w s [z] 0) ?_ ⟨fun h => ?_, ?_⟩
      · rw [finChain_single, or_assoc, hFin, eq_comm]
        refine or_congr_right (or_congr_right ⟨?_, ?_⟩)
        · rintro ⟨⟨q0, x0, i0, q', j⟩, hr, rfl, rfl, rfl, hf, rfl⟩
          exact ⟨q', (mem_sat_iff hR ..).1 hr, hf⟩
        · rintro ⟨q', hp, hf⟩
          exact ⟨_, (mem_sat_iff hR ..).2 hp, rfl, rfl, rfl, hf, rfl⟩
      · obtain ⟨f, hf, β', hrun⟩ := finChain_steps h []
        exact ⟨s, z, f, β', hs, hz, hf, by simpa using hrun⟩
      · rintro ⟨s', z', f, β, hs', hz', hf, hrun⟩
        cases hs.symm.trans hs'
        cases hz.symm.trans hz'
        exact finChain_of_steps (w := w) hrun s 0 [z] f β (Nat.zero_le _) (by simp) rfl hf
  · rename_i hn
    cases h
    constructor
    · intro h; cases h
    · rintro ⟨s, z, f, β, hs, hz, _⟩
      exact (hn s z hs hz).elim

end PDA
end Pfl
