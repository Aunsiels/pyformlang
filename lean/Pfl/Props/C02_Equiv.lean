/-
C02 — `is_equivalent_to` on two DFAs exactly as the library computes it: Hopcroft's loop on each
side, the two quotients, the lock-step walk.  Then `minimize_enfa`: `EpsilonNFA.minimize()` end to
end (subset construction, Hopcroft's loop, quotient).
-/
import Pfl.Props.C02_Hopcroft
import Pfl.Props.C02_Iso
import Pfl.Props.C01_Det
namespace Pfl
namespace ENFA
variable {σ τ κ κ' : Type} [DecidableEq σ] [DecidableEq τ] [DecidableEq κ] [DecidableEq κ']

theorem isEquivalent_hopcroft_exact
    (A : ENFA σ) (B : ENFA τ) (hA : A.WF) (hB : B.WF)
    (dA : A.Deterministic) (eA : A.EpsFree) (dB : B.Deterministic) (eB : B.EpsFree)
    (nA : A.states.Nodup) (nB : B.states.Nodup)
    (fA fB : Nat) (gA : List (List (Option σ))) (gB : List (List (Option τ)))
    (hgA : A.hopcroft fA = some gA) (hgB : B.hopcroft fB = some gB)
    (keyA : List (Option σ) → κ) (keyB : List (Option τ) → κ')
    (hkA : ∀ g ∈ gA, ∀ g' ∈ gA, keyA g = keyA g' → g = g')
    (hkB : ∀ g ∈ gB, ∀ g' ∈ gB, keyB g = keyB g' → g = g') (eA' : κ) (eB' : κ') (fuel : Nat)
    (b : Bool) (h : (A.minimizeOf gA keyA eA').isoWalk (B.minimizeOf gB keyB eB') fuel = some b) :
    b = true ↔ ∀ w, A.Lang w ↔ B.Lang w :=
  (minimize_hopcroft_minimal A hA dA eA nA fA gA hgA keyA hkA eA').isoWalk_iff
    (minimize_hopcroft_minimal B hB dB eB nB fB gB hgB keyB hkB eB') h

end ENFA
end Pfl

namespace Pfl
namespace ENFA
variable {σ κ μ : Type} [DecidableEq σ] [DecidableEq κ] [DecidableEq μ]

/-- `EpsilonNFA.minimize()` = `to_deterministic().minimize()`: subset construction, Hopcroft's loop,
quotient; the result accepts the language of the automaton and is deterministic, ε-free, reduced -/
theorem minimize_enfa (A : ENFA σ) (hA : A.WF) (key : List σ → κ) (hk : A.KeyInj key)
    (fuel1 : Nat) (D : ENFA κ) (hD : A.toDet key true fuel1 = some D)
    (fuel2 : Nat) (gs : List (List (Option κ))) (hgs : D.hopcroft fuel2 = some gs)
    (name : List (Option κ) → μ) (hname : ∀ g ∈ gs, ∀ g' ∈ gs, name g = name g' → g = g') (emptyName : μ) :
    (∀ w, (D.minimizeOf gs name emptyName).Lang w ↔ A.Lang w) ∧
    (D.minimizeOf gs name emptyName).Deterministic ∧ (D.minimizeOf gs name emptyName).EpsFree ∧
    (D.minimizeOf gs name emptyName).Reduced := by
  obtain ⟨dD, eD⟩ := toDet_shape A key true fuel1 D hD
  have hshape := toDet_wf hD
  have hm := minimize_hopcroft_minimal D hshape.1 dD eD hshape.2 fuel2 gs hgs name hname emptyName
  exact ⟨fun w => (hm.lang w).trans (toDet_lang A hA key hk fuel1 D hD w), hm.det, hm.epsFree, hm.reduced⟩

end ENFA
end Pfl
