/-
C05 — `Regex.to_cfg` generates exactly the denoted language, for every tree and every start
symbol that is not one of the manufactured node names.
-/
import Pfl.Model.RegexToCFG
import Pfl.Spec.Regex
import Pfl.Spec.CFG
import Pfl.Proofs.RegexToCFGLemmas
namespace Pfl
namespace Rx

open TC in
theorem toCFG_lang (r : Rx) (start : String) (hstart : ∀ k, start ≠ nodeName k) (w : List String) :
    (r.toCFG start).Lang w ↔ Denote r w := by
  rw [CFG.lang_of_start (s := start) rfl]
  exact gen_iff r (r.toCFG start) start 0 (fun k _ => hstart k) (fun _ _ => Iff.rfl) w

theorem toCFG_wf (r : Rx) (start : String) : (r.toCFG start).WF :=
  CFG.mk'_wf _ _ _ _

end Rx
end Pfl
