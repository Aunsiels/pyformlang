/-
C03 — the reference constructions used as oracles have exactly the set-theoretic language.
-/
import Pfl.Oracle.RegOps
import Pfl.Props.C01_Det
import Pfl.Props.C03_Bool
import Pfl.Proofs.FARef
namespace Pfl
namespace ENFA
set_option linter.unusedSectionVars false
variable {σ τ : Type} [DecidableEq σ] [DecidableEq τ]

/-! The three languages: `⊆` by giving every state a set of words that the edges respect
(`Bound.lang`; a state of a copy gets what leads it to a final state of the copy, `Then`, followed
by what comes after the copy), `⊇` by copying runs (`Run.embed`). -/

theorem unionA_lang (A : ENFA σ) (B : ENFA τ) (w : List Nat) :
    (A.unionA B).Lang w ↔ A.Lang w ∨ B.Lang w := by
  constructor
  · have hb : (A.unionA B).Bound (Sum.elim (A.Then (· = [])) (B.Then (· = []))) := by
      rintro ⟨x, a, y⟩ he w hw
      rcases (mem_unionA_delta A B x y a).mp he with ⟨q, r, rfl, rfl, ht⟩ | ⟨q, r, rfl, rfl, ht⟩
      · exact Then.edge ht hw
      · exact Then.edge ht hw
    intro hw
    obtain ⟨s, hs, h⟩ := hb.lang (fun f hf => by
      rcases List.mem_append.1 hf with hf | hf <;> obtain ⟨f0, hf0, rfl⟩ := List.mem_map.1 hf <;>
        exact Then.final hf0 rfl) hw
    rcases List.mem_append.1 hs with hs | hs <;> obtain ⟨s0, hs0, rfl⟩ := List.mem_map.1 hs
    · exact Or.inl (Then.lang_nil hs0 h)
    · exact Or.inr (Then.lang_nil hs0 h)
  · rintro (⟨s, hs, f, hf, hr⟩ | ⟨s, hs, f, hf, hr⟩)
    · exact ⟨.inl s, List.mem_append_left _ (List.mem_map_of_mem hs), .inl f,
        List.mem_append_left _ (List.mem_map_of_mem hf), Run.embed (K := A.unionA B) Sum.inl
          (fun q a r he => (mem_unionA_delta A B _ _ a).mpr (.inl ⟨q, r, rfl, rfl, he⟩)) hr⟩
    · exact ⟨.inr s, List.mem_append_right _ (List.mem_map_of_mem hs), .inr f,
        List.mem_append_right _ (List.mem_map_of_mem hf), Run.embed (K := A.unionA B) Sum.inr
          (fun q a r he => (mem_unionA_delta A B _ _ a).mpr (.inr ⟨q, r, rfl, rfl, he⟩)) hr⟩

theorem concatA_lang (A : ENFA σ) (B : ENFA τ) (w : List Nat) :
    (A.concatA B).Lang w ↔ ∃ u v, w = u ++ v ∧ A.Lang u ∧ B.Lang v := by
  constructor
  · have hb : (A.concatA B).Bound (Sum.elim (A.Then B.Lang) (B.Then (· = []))) := by
      rintro ⟨x, a, y⟩ he w hw
      rcases (mem_concatA_delta A B x y a).mp he with
        ⟨q, r, rfl, rfl, ht⟩ | ⟨q, r, rfl, rfl, ht⟩ | ⟨f, s, rfl, rfl, rfl, hf, hs⟩
      · exact Then.edge ht hw
      · exact Then.edge ht hw
      · exact Then.final hf (Then.lang_nil hs hw)
    intro hw
    obtain ⟨s, hs, h⟩ := hb.lang (fun f hf => by
      obtain ⟨f0, hf0, rfl⟩ := List.mem_map.1 hf
      exact Then.final hf0 rfl) hw
    obtain ⟨s0, hs0, rfl⟩ := List.mem_map.1 hs
    exact Then.lang hs0 h
  · rintro ⟨u, v, rfl, ⟨s0, hs0, fa, hfa, hu⟩, ⟨sb, hsb, f0, hf0, hv⟩⟩
    refine ⟨Sum.inl s0, by simp [concatA, hs0], Sum.inr f0, by simp [concatA, hf0], ?_⟩
    have h1 : (A.concatA B).Run (Sum.inl s0) u (Sum.inl fa) :=
      Run.embed (K := A.concatA B) Sum.inl
        (fun q a r he => (mem_concatA_delta A B _ _ a).mpr (.inl ⟨q, r, rfl, rfl, he⟩)) hu
    have h2 : (A.concatA B).Run (Sum.inr sb) v (Sum.inr f0) :=
      Run.embed (K := A.concatA B) Sum.inr
        (fun q a r he => (mem_concatA_delta A B _ _ a).mpr (.inr (.inl ⟨q, r, rfl, rfl, he⟩))) hv
    exact Run.append h1 (Run.eps
      ((mem_concatA_delta A B _ _ _).mpr (.inr (.inr ⟨fa, sb, rfl, rfl, rfl, hfa, hsb⟩))) h2)

theorem starA_lang (A : ENFA σ) (w : List Nat) :
    A.starA.Lang w ↔ ∃ ws : List (List Nat), w = ws.flatten ∧ ∀ x ∈ ws, A.Lang x := by
  constructor
  · -- the hub holds the iterations `S`; no induction for the loop: entering the copy at a start
    -- state is the inclusion `A·S ⊆ S`
    let S := fun w => ∃ ws : List (List Nat), w = ws.flatten ∧ ∀ x ∈ ws, A.Lang x
    have hb : A.starA.Bound fun x => x.elim S (A.Then S) := by
      rintro ⟨x, a, y⟩ he w hw
      rcases (mem_starA_delta A _ _ _).mp he with
        ⟨q, r, rfl, rfl, ht⟩ | ⟨s, rfl, rfl, rfl, hs⟩ | ⟨f, rfl, rfl, rfl, hf⟩
      · exact Then.edge ht hw
      · obtain ⟨u, _, rfl, hu, ws, rfl, hws⟩ := Then.lang hs hw
        exact ⟨u :: ws, rfl, List.forall_mem_cons.2 ⟨hu, hws⟩⟩
      · exact Then.final hf hw
    intro hw
    obtain ⟨s, hs, h⟩ := hb.lang (fun f hf => by
      cases List.mem_singleton.1 hf
      exact ⟨[], rfl, nofun⟩) hw
    cases List.mem_singleton.1 hs
    exact h
  · rintro ⟨ws, rfl, hws⟩
    exact ⟨none, by simp [starA], none, by simp [starA], starA_run_of_words A ws hws⟩

theorem unionA_wf (A : ENFA σ) (B : ENFA τ) (hA : A.WF) (hB : B.WF) : (A.unionA B).WF := by
  refine wf_of_edges ?_ ?_ ?_
  · intro q hq
    simp only [unionA, List.mem_append, List.mem_map] at hq ⊢
    rcases hq with ⟨s, hs, rfl⟩ | ⟨s, hs, rfl⟩
    · exact Or.inl ⟨s, hA.starts_sub s hs, rfl⟩
    · exact Or.inr ⟨s, hB.starts_sub s hs, rfl⟩
  · intro q hq
    simp only [unionA, List.mem_append, List.mem_map] at hq ⊢
    rcases hq with ⟨s, hs, rfl⟩ | ⟨s, hs, rfl⟩
    · exact Or.inl ⟨s, hA.finals_sub s hs, rfl⟩
    · exact Or.inr ⟨s, hB.finals_sub s hs, rfl⟩
  · intro t ht
    simp only [unionA, List.mem_append, List.mem_map, List.mem_eraseDups] at ht ⊢
    rcases ht with ⟨s, hs, rfl⟩ | ⟨s, hs, rfl⟩
    · exact ⟨Or.inl ⟨_, hA.delta_src s hs, rfl⟩, Or.inl ⟨_, hA.delta_dst s hs, rfl⟩,
        fun a ha => Or.inl (hA.delta_sym s hs a ha)⟩
    · exact ⟨Or.inr ⟨_, hB.delta_src s hs, rfl⟩, Or.inr ⟨_, hB.delta_dst s hs, rfl⟩,
        fun a ha => Or.inr (hB.delta_sym s hs a ha)⟩

theorem concatA_wf (A : ENFA σ) (B : ENFA τ) (hA : A.WF) (hB : B.WF) : (A.concatA B).WF := by
  -- the states, the symbols and the copied edges are those of the union
  have hU := unionA_wf A B hA hB
  refine wf_of_edges (fun q hq => hU.starts_sub q (List.mem_append_left _ hq))
    (fun q hq => hU.finals_sub q (List.mem_append_right _ hq)) fun t ht => ?_
  rcases List.mem_append.mp ht with ht | ht
  · exact ⟨hU.delta_src t ht, hU.delta_dst t ht, hU.delta_sym t ht⟩
  · obtain ⟨f, hf, ht⟩ := List.mem_flatMap.mp ht
    obtain ⟨s, hs, rfl⟩ := List.mem_map.mp ht
    exact ⟨hU.finals_sub _ (List.mem_append_left _ (List.mem_map_of_mem hf)),
      hU.starts_sub _ (List.mem_append_right _ (List.mem_map_of_mem hs)), nofun⟩

theorem starA_wf (A : ENFA σ) (hA : A.WF) : A.starA.WF := by
  refine wf_of_edges ?_ ?_ ?_
  · intro q hq
    rw [List.mem_singleton.mp hq]
    exact List.mem_cons_self
  · intro q hq
    rw [List.mem_singleton.mp hq]
    exact List.mem_cons_self
  · intro t ht
    simp only [starA, List.mem_append, List.mem_map, List.mem_cons] at ht ⊢
    rcases ht with (⟨s, hs, rfl⟩ | ⟨s, hs, rfl⟩) | ⟨f, hf, rfl⟩
    · exact ⟨Or.inr ⟨_, hA.delta_src s hs, rfl⟩, Or.inr ⟨_, hA.delta_dst s hs, rfl⟩,
        fun a ha => hA.delta_sym s hs a ha⟩
    · exact ⟨Or.inl rfl, Or.inr ⟨s, hA.starts_sub s hs, rfl⟩, fun a ha => nomatch ha⟩
    · exact ⟨Or.inr ⟨f, hA.finals_sub f hf, rfl⟩, Or.inl rfl, fun a ha => nomatch ha⟩

/-- `canonS` separates different subsets of the states -/
theorem canonS_keyInj (A : ENFA σ) : A.KeyInj A.canonS := by
  have half : ∀ S T : List σ, (∀ q ∈ S, q ∈ A.states) → A.canonS S = A.canonS T →
      ∀ q ∈ S, q ∈ T :=
    fun S T hS h q hq => ((mem_canonS A T q).mp (h ▸ (mem_canonS A S q).mpr ⟨hS q hq, hq⟩)).2
  exact fun S T hS hT h q => ⟨half S T hS h q, half T S hT h.symm q⟩

theorem addSyms_lang (A : ENFA σ) (syms : List Nat) (w : List Nat) :
    (A.addSyms syms).Lang w ↔ A.Lang w := by
  exact lang_congr (A := A.addSyms syms) (B := A) (fun _ => Iff.rfl) (fun _ => Iff.rfl)
    (fun _ => Iff.rfl) w

theorem addSyms_wf (A : ENFA σ) (hA : A.WF) (syms : List Nat) : (A.addSyms syms).WF := by
  refine ⟨hA.starts_sub, hA.finals_sub, hA.delta_src, hA.delta_dst, ?_⟩
  intro t ht a ha
  simp only [addSyms, List.mem_eraseDups, List.mem_append]
  exact Or.inl (hA.delta_sym t ht a ha)

theorem complementRef_lang (A : ENFA σ) (hA : A.WF) (trash : List σ)
    (ht : ∃ q ∈ trash, q ∉ A.states) (fuel : Nat) (C : ENFA (List σ))
    (h : A.complementRef trash fuel = some C) (w : List Nat) :
    C.Lang w ↔ (∀ a ∈ w, a ∈ A.syms) ∧ ¬ A.Lang w := by
  unfold complementRef at h
  obtain ⟨D, hD, rfl⟩ := Option.map_eq_some_iff.mp h
  obtain ⟨seen, hseen, hDeq⟩ := toDet_eq A A.canonS true fuel D hD
  have hshape := toDet_shape A A.canonS true fuel D hD
  have hD'wf : (D.addSyms A.syms).WF := addSyms_wf D (toDet_wf hD).1 A.syms
  have hD'det : (D.addSyms A.syms).Deterministic := hshape.1
  have hstarts : (D.addSyms A.syms).starts ≠ [] :=
    List.ne_nil_of_mem (a := A.canonS (A.detStart true))
      (by rw [hDeq]; exact (mem_detOf_starts A A.canonS true seen _).mpr rfl)
  have htrash : trash ∉ (D.addSyms A.syms).states := by
    intro hmem
    have hmem' : trash ∈ (A.detOf A.canonS true seen).states := by rw [← hDeq]; exact hmem
    obtain ⟨S, hS⟩ := detOf_states_canon A true seen trash hmem'
    obtain ⟨q, hq, hqn⟩ := ht
    rw [hS] at hq
    exact hqn ((mem_canonS A S q).mp hq).1
  have hsyms : ∀ a, a ∈ (D.addSyms A.syms).syms ↔ a ∈ A.syms := by
    intro a
    simp only [addSyms, List.mem_eraseDups, List.mem_append]
    exact ⟨fun h1 => h1.elim (fun h1 => detOf_syms_sub A A.canonS true seen a (hDeq ▸ h1)) id,
      Or.inr⟩
  rw [complementRaw_lang (D.addSyms A.syms) hD'wf hD'det hstarts trash htrash w,
    addSyms_lang D A.syms w, toDet_lang A hA A.canonS (canonS_keyInj A) fuel D hD w]
  simp only [hsyms]

theorem complementRef_wf (A : ENFA σ) (hA : A.WF) (trash : List σ) (fuel : Nat)
    (C : ENFA (List σ)) (h : A.complementRef trash fuel = some C) : C.WF := by
  have _ := hA
  unfold complementRef at h
  obtain ⟨D, _, rfl⟩ := Option.map_eq_some_iff.mp h
  exact complementRaw_wf _ _ (ofParts_wf _ _ _) trash

theorem inter_wf (A : ENFA σ) (B : ENFA τ) (hA : A.WF) (hB : B.WF) (fuel : Nat)
    (P : ENFA (σ × τ)) (h : A.inter B fuel = some P) : P.WF := by
  have _ := hA; have _ := hB
  unfold inter at h
  obtain ⟨seen, _, rfl⟩ := Option.map_eq_some_iff.mp h
  exact ofParts_wf _ _ _

theorem reverse_wf (A : ENFA σ) (hA : A.WF) : A.reverse.WF := by
  have _ := hA
  exact ofParts_wf _ _ _

end ENFA
end Pfl
