/-
C18 — soundness of the Earley recogniser of FCFG (step-faithful model `Pfl/Model/Earley.lean`)
on agreement grammars: whenever `contains(w)` answers True, `w` is generated by the plain
context-free grammar obtained by instantiating every feature variable with every value.
(The converse is `earley_complete` in `C18_EarleyComplete.lean`.)
-/
import Pfl.Model.Earley
import Pfl.Spec.CFG
import Pfl.Proofs.EarleyLemmasLoop
import Pfl.Proofs.EarleyLemmasBuild
import Pfl.Proofs.CFGClean
namespace Pfl
namespace Earley

abbrev Spec := List ((String × Feat) × List (Sym × Feat))

def isVarName (v : String) : Bool := v.startsWith "?"

/-- the feature variables of a production, in order of first occurrence -/
def prodVars (pr : (String × Feat) × List (Sym × Feat)) : List String :=
  ((pr.1.2 :: pr.2.map (·.2)).filterMap fun f => match f with
    | some v => if isVarName v then some v else none
    | none => none).eraseDups

/-- all assignments of values to the given variable names -/
def envs (vals : List String) : List String → List (List (String × String))
  | [] => [[]]
  | x :: xs => (envs vals xs).flatMap fun e => vals.map fun v => (x, v) :: e

def valOfFeat (env : List (String × String)) (v : String) : String :=
  if isVarName v then ((env.find? (·.1 = v)).map (·.2)).getD v else v

/-- `X_val` for a featured occurrence, `X` for a feature-free one -/
def instName (env : List (String × String)) (x : String) (f : Feat) : String :=
  match f with
  | none => x
  | some v => x ++ "_" ++ valOfFeat env v

/-- the instantiated plain grammar (the harness's `instantiate`): for a featured grammar the start
symbol "Start" rewrites to `S_v` for every value -/
def instantiate (vals : List String) (spec : Spec) (featured : Bool) : CFG :=
  let prods : List Prod := spec.flatMap fun pr =>
    (envs vals (prodVars pr)).map fun env =>
      (instName env pr.1.1 pr.1.2, pr.2.map fun it => match it.1 with
        | .ter t => Sym.ter t
        | .var x => Sym.var (instName env x it.2))
  if featured then
    CFG.mk' [] [] (some "Start") (prods ++ vals.map fun v => ("Start", [Sym.var ("S_" ++ v)]))
  else CFG.mk' [] [] (some "S") prods

/-- the grammars the property quantifies over: either every non-terminal occurrence carries the
feature (a constant of the value domain or a variable) or none does; constants belong to `vals` -/
structure GoodSpec (vals : List String) (spec : Spec) (featured : Bool) : Prop where
  valsNe : vals ≠ []
  uniform : ∀ pr ∈ spec, (pr.1.2.isSome = featured) ∧
    ∀ it ∈ pr.2, match it.1 with
      | .var _ => it.2.isSome = featured
      | .ter _ => it.2 = none
  consts : ∀ pr ∈ spec, ∀ f ∈ pr.1.2 :: pr.2.map (·.2), ∀ v, f = some v → isVarName v = false → v ∈ vals
  /-- no head is called `Start` (the start symbol `instantiate` adds) or `Gamma` (the parser's dummy
  head); no proof reads this field -/
  noStart : ∀ pr ∈ spec, pr.1.1 ≠ "Start" ∧ pr.1.1 ≠ "Gamma"

namespace Glue
open Lem FsDag FsDag.Lem

theorem gamma_len (k : Nat) : ("Gamma" ++ String.ofList (List.replicate k '\'')).length = 5 + k := by
  have : "Gamma".length = 5 := by decide
  simp [String.length_append, this]

theorem freshGamma_not_mem (vars : List String) : freshGamma vars ∉ vars := by
  -- the candidates differ in length
  obtain ⟨x, hx, hn⟩ := find_fresh (fun k => "Gamma" ++ String.ofList (List.replicate k '\''))
    (fun a b hab => by
      have := congrArg String.length hab
      rw [gamma_len, gamma_len] at this
      exact Nat.add_left_cancel this) vars
  unfold freshGamma
  simp only [hx]
  exact hn

theorem mem_envs (vals : List String) (a : String → String) :
    ∀ xs : List String, (∀ x ∈ xs, a x ∈ vals) → (xs.map fun x => (x, a x)) ∈ envs vals xs
  | [], _ => by simp [envs]
  | x :: xs, h => by
    simp only [envs, List.map_cons, List.mem_flatMap, List.mem_map]
    refine ⟨xs.map fun x => (x, a x), mem_envs vals a xs (fun y hy => h y (List.mem_cons_of_mem _ hy)),
      a x, h x (List.mem_cons_self ..), rfl⟩

theorem valOfFeat_map (a : String → String) (v : String) (hv : isVarName v = true) :
    ∀ xs : List String, v ∈ xs → valOfFeat (xs.map fun x => (x, a x)) v = a v := by
  intro xs hmem
  unfold valOfFeat
  rw [if_pos hv]
  induction xs with
  | nil => simp at hmem
  | cons x xs ih =>
    simp only [List.map_cons, List.find?_cons]
    by_cases hx : x = v
    · subst hx; simp
    · have : v ∈ xs := by
        rcases List.mem_cons.1 hmem with h | h
        · exact absurd h.symm hx
        · exact h
      simp only [hx, decide_false]
      exact ih this

theorem mem_prodVars {pr : (String × Feat) × List (Sym × Feat)} {v : String}
    (hv : isVarName v = true) (h : some v ∈ pr.1.2 :: pr.2.map (·.2)) : v ∈ prodVars pr := by
  unfold prodVars
  rw [List.mem_eraseDups, List.mem_filterMap]
  exact ⟨some v, h, by simp [hv]⟩

/-- the context of the abstract invariant -/
def ctx (vals : List String) (spec : Spec) (featured : Bool) (w : List String) : Ctx :=
  { spec := spec
    G := (buildGrammar spec "S").2
    word := w
    tgt := instantiate vals spec featured
    vf := valOfFeat
    okEnv := fun k env => ∃ pr, spec[k]? = some pr ∧ env ∈ envs vals (prodVars pr)
    P := fun v => v ∈ vals
    featured := featured }

theorem mem_instantiate {vals : List String} {spec : Spec} {featured : Bool} {hd : String}
    {body : List Sym} : (hd, body) ∈ (instantiate vals spec featured).prods ↔
      (∃ pr ∈ spec, ∃ env ∈ envs vals (prodVars pr), hd = nmOf valOfFeat env pr.1.1 pr.1.2 ∧
        body = ibody valOfFeat env pr.2) ∨
      (featured = true ∧ ∃ v ∈ vals, hd = "Start" ∧ body = [Sym.var ("S_" ++ v)]) := by
  have key : (hd, body) ∈ (spec.flatMap fun pr => (envs vals (prodVars pr)).map fun env =>
      (nmOf valOfFeat env pr.1.1 pr.1.2, ibody valOfFeat env pr.2)) ↔
      ∃ pr ∈ spec, ∃ env ∈ envs vals (prodVars pr), hd = nmOf valOfFeat env pr.1.1 pr.1.2 ∧
        body = ibody valOfFeat env pr.2 := by
    refine ⟨fun h => ?_, fun ⟨pr, hpr, env, he, h1, h2⟩ =>
      List.mem_flatMap.2 ⟨pr, hpr, List.mem_map.2 ⟨env, he, by rw [h1, h2]⟩⟩⟩
    obtain ⟨pr, hpr, hm⟩ := List.mem_flatMap.1 h
    obtain ⟨env, he, heq⟩ := List.mem_map.1 hm
    obtain ⟨h1, h2⟩ := Prod.mk.inj heq
    exact ⟨pr, hpr, env, he, h1.symm, h2.symm⟩
  unfold instantiate
  cases featured with
  | false =>
    rw [if_neg Bool.false_ne_true, CFG.Clean.mk'_prods_eq]
    exact key.trans ⟨Or.inl, fun h => h.elim id fun h => nomatch h.1⟩
  | true =>
    rw [if_pos rfl, CFG.Clean.mk'_prods_eq, List.mem_append, List.mem_map]
    refine or_congr key ⟨fun ⟨v, hv, h⟩ => ?_, fun ⟨_, v, hv, h1, h2⟩ => ⟨v, hv, by rw [h1, h2]⟩⟩
    obtain ⟨h1, h2⟩ := Prod.mk.inj h
    exact ⟨rfl, v, hv, h1.symm, h2.symm⟩

theorem nmOf_S (env : Env) (v : String) :
    nmOf valOfFeat env "S" (some v) = "S_" ++ valOfFeat env v := by
  show "S" ++ "_" ++ valOfFeat env v = _
  rw [show "S" ++ "_" = "S_" by decide]

theorem instantiate_start (vals : List String) (spec : Spec) (featured : Bool) :
    (instantiate vals spec featured).start = some (if featured then "Start" else "S") := by
  unfold instantiate
  cases featured <;> exact CFG.Clean.mk'_start_eq ..

theorem ctxOK {vals : List String} {spec : Spec} {featured : Bool}
    (h : GoodSpec vals spec featured) (w : List String) : CtxOK (ctx vals spec featured w) := by
  obtain ⟨rk, hbo⟩ := Cmp.build_shape (Src := fun _ => True) spec "S" fun _ _ _ _ => trivial
  have hget : ∀ (k : Nat) (pr : (String × Feat) × List (Sym × Feat)), spec[k]? = some pr →
      ∃ p : FProd, (buildGrammar spec "S").2.prods[k]? = some p ∧ p.head = pr.1.1 ∧
        p.body = pr.2.map (·.1) :=
    fun k pr hk => (hbo.prods k pr hk).imp fun p h => ⟨h.1, h.2.1, h.2.2.1⟩
  have hfresh := freshGamma_not_mem (grammarVars (buildGrammar spec "S").2.prods "S")
  rw [← buildGrammar_gammaName] at hfresh
  refine ⟨hbo.len, hget, ?_, ?_, ?_, ?_⟩
  · show (buildGrammar spec "S").2.start ≠ (buildGrammar spec "S").2.gammaName
    rw [buildGrammar_start]
    exact fun e => hfresh (e ▸ start_mem_grammarVars ..)
  · intro pr hpr
    obtain ⟨h1, h2⟩ := h.uniform pr hpr
    refine ⟨h1, fun it hit X hX => ?_⟩
    have := h2 it hit
    rw [hX] at this
    exact this
  · intro pr hpr it hit hX
    obtain ⟨k, hk⟩ := List.getElem?_of_mem hpr
    obtain ⟨p, hp, _, hb⟩ := hget k pr hk
    refine hfresh (body_mem_grammarVars _ (List.mem_of_getElem? hp) ?_)
    rw [hb, List.mem_map]
    exact ⟨it, hit, hX⟩
  · intro k pr env u hk ⟨pr', hk', he⟩ hg
    obtain rfl : pr' = pr := Option.some.inj (hk'.symm.trans hk)
    exact CFG.Gen.var
      (mem_instantiate.2 (Or.inl ⟨_, List.mem_of_getElem? hk, env, he, rfl, rfl⟩)) hg

theorem goodObj {vals : List String} {spec : Spec} {featured : Bool}
    (h : GoodSpec vals spec featured) (w : List String) {st : Store} {rk : Nat → Nat}
    (hw : WFS st rk) {k F : Nat} {pr : (String × Feat) × List (Sym × Feat)}
    (hk : spec[k]? = some pr) (hp : ProdOK st pr F) : GoodObj (ctx vals spec featured w) st k F := by
  intro pr' hk' σ hσ
  have : pr' = pr := Option.some.inj (hk'.symm.trans hk)
  subst this
  obtain ⟨vn, hhead, hbody⟩ := hp
  have hprmem : pr' ∈ spec := List.mem_of_getElem? hk
  refine ⟨(prodVars pr').map fun x => (x, σ (deref st (vn x))),
    ⟨pr', hk, mem_envs vals _ _ (fun x _ => hσ.1 _)⟩, ?_⟩
  have occ := Cmp.occ_cases (pr := pr') (Q := fun name v => LeafAt st F name v vn →
      rdv st σ F [name, "n"] =
        some (valOfFeat ((prodVars pr').map fun x => (x, σ (deref st (vn x)))) v)) fun i v hi => by
    have hmem := Cmp.mem_occ (List.mem_of_getElem? hi)
    intro ⟨n, hn, hleaf⟩
    unfold rdv
    rw [hn]
    simp only [Option.map_some, Option.some.injEq]
    by_cases hv : isVarName v = true
    · rw [valOfFeat_map _ v hv _ (mem_prodVars hv hmem)]
      have hv' : (v.startsWith "?") = true := hv
      rw [if_pos hv'] at hleaf
      rw [hleaf]
    · have hv' : ¬ (v.startsWith "?") = true := hv
      rw [if_neg hv'] at hleaf
      unfold valOfFeat
      rw [if_neg hv]
      exact hσ.2 _ v (deref_ptr_none hw.inv.acyc n) hleaf
        (h.consts pr' hprmem _ hmem v rfl (by simpa using hv))
  exact ⟨fun v hv => occ.1 v hv (hhead v hv), fun j X v hj => occ.2 j X v hj (hbody j X v hj)⟩

theorem invS {vals : List String} {spec : Spec} {featured : Bool} (h : GoodSpec vals spec featured)
    (w : List String) {Src : String → Prop} {rk0 : Nat → Nat}
    (hbo : Cmp.BuiltOK Src spec (buildGrammar spec "S").1 (buildGrammar spec "S").2 rk0) :
    InvS (ctx vals spec featured w) (buildGrammar spec "S").1 rk0 :=
  ⟨hbo.inv.wfs, fun _ _ hp => (hbo.prod hp).elim fun _ hp =>
    ⟨hp.2.1.lt, hp.2.2, goodObj h w hbo.inv.wfs hp.1 (hp.2.1.prodOK hbo.inv.wfs.inv.acyc)⟩⟩

end Glue

/- The dummy head has to be fresh (model and library prime `"Gamma"` until it is): with the fixed
name `"Gamma"` the spec `S → Gamma d | c` (feature-free, or `S[?x] → Gamma[?x] d ; S[s] → c`) accepts
`c d`, because the completed dummy item `Gamma → S •` advances the user's item `S → • Gamma d`. -/

theorem earley_sound (vals : List String) (spec : Spec) (featured : Bool) (h : GoodSpec vals spec featured)
    (w : List String) (fuel : Nat) (hc : containsSpec spec "S" w fuel = some true) :
    (instantiate vals spec featured).Lang w := by
  open Lem FsDag.Lem in
  obtain ⟨rk0, hbo⟩ := Cmp.build_shape (Src := fun _ => True) spec "S" fun _ _ _ _ => trivial
  have hcont : contains (Glue.ctx vals spec featured w).G (buildGrammar spec "S").1
      (Glue.ctx vals spec featured w).word fuel = some true := hc
  obtain ⟨d, hd⟩ := List.exists_mem_of_ne_nil vals h.valsNe
  obtain ⟨k, pr, env, hk, hhead, hgen, hP⟩ :=
    contains_sound (Glue.ctxOK h w) (Glue.invS h w hbo) ⟨hbo.gam.1.lt, hbo.gam.2⟩ (d := d) hd hcont
  have hS : pr.1.1 = "S" := by rw [hhead]; exact buildGrammar_start spec "S"
  have hprmem : pr ∈ spec := List.mem_of_getElem? hk
  have huni := (h.uniform pr hprmem).1
  replace hgen : (instantiate vals spec featured).Gen
      (Sym.var (nmOf valOfFeat env pr.1.1 pr.1.2)) w := hgen
  rw [CFG.lang_of_start (Glue.instantiate_start vals spec featured)]
  cases hpf : pr.1.2 with
  | none =>
    have hf : featured = false := by rw [← huni, hpf]; rfl
    subst hf
    rw [hpf, hS] at hgen
    exact hgen
  | some v =>
    have hf : featured = true := by rw [← huni, hpf]; rfl
    subst hf
    rw [hpf, hS, Glue.nmOf_S] at hgen
    have hval : valOfFeat env v ∈ vals := hP v hpf
    refine CFG.Gen.var (Glue.mem_instantiate.2 (Or.inr ⟨rfl, _, hval, rfl, rfl⟩)) ?_
    simpa using CFG.GenList.cons hgen .nil

end Earley
end Pfl
