/-
C19 — `Regex` objects behave as values.  Model: `Pfl/Model/RegexObject.lean` (a heap of objects
sharing their operands by address, the private state counter that is never reset, the counter lent to
and taken back from the sons, the automaton cached by `accepts`).

What is proved, for every history of public calls (`Regex(text)`, `union`, `concatenate`,
`kleene_star` — also with the same object as both operands —, `to_epsilon_nfa`, `accepts`):
* a call changes nothing but the counter (and the `accepts` cache) of the object it is called on:
  the sons get their counters back (`process_spec`, `toENFA_spec`);
* the automaton handed out is the Thompson automaton of the tree the object stands for, numbered from
  the object's current counter — the automaton a fresh object hands out, shifted (`thompson_shift`) —
  and it accepts exactly the denoted language whatever the counter (`toENFA_lang`);
* the tree an address stands for never changes (`step_inv`), every cache holds a Thompson automaton of
  that tree, and every answer of `accepts` is membership in the denoted language (`step_answer`,
  `history_independent`);
* every call ends (`process_isSome`, `step_isSome`).
-/
import Pfl.Spec.RegexObject
import Pfl.Proofs.RegexObject
import Pfl.Proofs.RegexObjectShift
import Pfl.Proofs.RegexObjectHist
import Pfl.Props.C05_Regex
import Pfl.Props.C01_Accepts
namespace Pfl
namespace RxObj
open Pfl.Rx

/-- on a well-formed heap every address stands for a tree; fuel `i + 1` suffices -/
theorem treeOf_isSome {H : Heap} (hwf : WF H = true) {i : Nat} (hi : i < H.length) :
    (treeOf (i + 1) H i).isSome :=
  Option.isSome_iff_exists.2 (P.treeOf_some hwf hi)

/-- more fuel does not change the tree -/
theorem treeOf_mono {H : Heap} {fuel fuel' i : Nat} {r : Rx} (h : treeOf fuel H i = some r)
    (hle : fuel ≤ fuel') : treeOf fuel' H i = some r :=
  P.treeOf_mono h hle

/-- `_process_to_enfa` on object `i` of a well-formed heap adds exactly the edges of the Thompson
construction of its tree, numbered from the object's counter, and leaves the heap as it was except for
that counter: the sons have their counters back -/
theorem process_spec (code : String → Nat) {fuel : Nat} {H H' : Heap} {i f t : Nat} {es : List Edge}
    (hwf : WF H = true) (h : process code fuel H i f t = some (es, H')) :
    ∃ r c, treeOf (i + 1) H i = some r ∧ counterOf H i = some c ∧
      es = (thompsonAux code r f t c).1 ∧ H' = setCounter H i (thompsonAux code r f t c).2 :=
  P.process_spec code hwf h

/-- `_process_to_enfa` ends: fuel `i + 1` suffices -/
theorem process_isSome (code : String → Nat) {H : Heap} (hwf : WF H = true) {i : Nat}
    (hi : i < H.length) (f t : Nat) {fuel : Nat} (hf : i + 1 ≤ fuel) :
    (process code fuel H i f t).isSome :=
  P.process_isSome code hwf hi f t hf

/-- `to_epsilon_nfa()`: the automaton of the tree, numbered from the current counter; only the
counter of the object itself moves -/
theorem toENFA_spec (code : String → Nat) {fuel : Nat} {H H' : Heap} {i : Nat} {A : ENFA Nat}
    (hwf : WF H = true) (h : toENFA code fuel H i = some (A, H')) :
    ∃ r c, treeOf (i + 1) H i = some r ∧ counterOf H i = some c ∧
      A = (r.thompson code c).1 ∧ H' = setCounter H i (r.thompson code c).2 :=
  P.toENFA_spec code hwf h

/-- whatever the counter, the automaton handed out accepts exactly the denoted language -/
theorem toENFA_lang (code : String → Nat) {fuel : Nat} {H H' : Heap} {i : Nat} {A : ENFA Nat}
    (hwf : WF H = true) (h : toENFA code fuel H i = some (A, H')) :
    ∃ r, treeOf (i + 1) H i = some r ∧ ∀ ks, A.Lang ks ↔ ∃ w, Denote r w ∧ w.map code = ks :=
  P.toENFA_lang code hwf h

/-- the edges built from counter `c + k` (between `f + k` and `t + k`) are those built from `c`
(between `f` and `t`) with every state shifted by `k` -/
theorem thompsonAux_shift (code : String → Nat) (r : Rx) (f t c k : Nat) :
    thompsonAux code r (f + k) (t + k) (c + k) =
      ((thompsonAux code r f t c).1.map (fun e => (e.1 + k, e.2.1, e.2.2 + k)),
       (thompsonAux code r f t c).2 + k) :=
  PS.thompsonAux_shift code r f t c k

/-- the automaton an object hands out after any history is the automaton a fresh object hands
out (counter `0`) with every state shifted by the current counter -/
theorem thompson_shift (code : String → Nat) (r : Rx) (c : Nat) :
    (r.thompson code c).1 = ((r.thompson code 0).1).mapStates (· + c) ∧
    (r.thompson code c).2 = (r.thompson code 0).2 + c :=
  PS.thompson_shift code r c

/-- the addresses a call creates are new, the old objects keep their trees -/
theorem step_inv (code : String → Nat) {fuel : Nat} {H H' : Heap} {op : Op} {out : Out}
    (hinv : Inv code H) (h : step code fuel H op = some (out, H')) :
    Inv code H' ∧ H.length ≤ H'.length ∧
      ∀ i, i < H.length → treeOf (i + 1) H' i = treeOf (i + 1) H i :=
  PH.step_inv code hinv h

/-- every call answers what the trees determine, whatever the counters and caches are -/
theorem step_answer (code : String → Nat) {fuel : Nat} {H H' : Heap} {op : Op} {out : Out}
    (hinv : Inv code H) (h : step code fuel H op = some (out, H')) : Answer code H H' op out :=
  PH.step_answer code hinv h

/-- with an injective coding of the symbols, `accepts` is membership of the word itself -/
theorem accepts_exact (code : String → Nat) (hcode : Function.Injective code) {fuel : Nat}
    {H H' : Heap} {i : Nat} {w : List String} {b : Bool} (hinv : Inv code H)
    (h : accepts code fuel H i w = some (b, H')) :
    ∃ r, treeOf (i + 1) H i = some r ∧ b = r.matches w :=
  PH.accepts_exact code hcode hinv h

/-- history independence: along any history from the empty heap the invariant holds and every
call answers what the trees determine — and the tree of an address is fixed when it is created -/
theorem history_independent (code : String → Nat) (fuel : Nat) (ops : List Op) :
    ∀ e ∈ trace code fuel [] ops, Inv code e.1 ∧ Inv code e.2.2.2 ∧ Answer code e.1 e.2.2.2 e.2.1 e.2.2.1 ∧
      ∀ i, i < e.1.length → treeOf (i + 1) e.2.2.2 i = treeOf (i + 1) e.1 i :=
  PH.history_independent code fuel ops

/-- every call on valid addresses ends, fuel `|heap| + 1` suffices (a fresh tree is allocated
without fuel) -/
theorem step_isSome (code : String → Nat) {H : Heap} (hwf : WF H = true) {fuel : Nat}
    (hf : H.length + 1 ≤ fuel) (op : Op)
    (hop : match op with
      | .new _ => True
      | .union i j | .concat i j => i < H.length ∧ j < H.length
      | .star i | .toENFA i | .accepts i _ => i < H.length) :
    (step code fuel H op).isSome :=
  PH.step_isSome code hwf hf op hop

/-- the empty heap satisfies the invariant (the start of every history) -/
theorem inv_nil (code : String → Nat) : Inv code [] :=
  ⟨by decide, fun i o A h => by simp at h⟩

/-- non-vacuity: a concrete history with shared operands (`r.union(r)`), two conversions of the same
object and a cached `accepts` runs to the end, leaves a well-formed heap, and the counters have moved
(object 2 stands at 4 after one conversion, the union at 20 after two) while the sons of the union are
back at their own values -/
example :
    ((run (fun _ => 0) 20 [] [.new (.cat (.sym "a") (.sym "b")), .union 2 2, .toENFA 3,
        .accepts 3 ["a", "b"], .toENFA 2]).map fun r => (WF r.2, r.2.map (·.counter))) =
      some (true, [0, 0, 4, 20]) := by decide +kernel

end RxObj
end Pfl
