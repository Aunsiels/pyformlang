/-
C07 — the reference translation of the Python subset into plain regular expressions denotes
exactly the meaning of the pattern (so the executable matcher `Rx.matches (desugar U p)` decides
`Matches U p`, which is what the harness compares with CPython's `re.fullmatch` on every case and
with the tree built by `PythonRegex` through the verified equivalence oracle).
-/
import Pfl.Model.PyRegex
import Pfl.Spec.Regex
import Pfl.Props.C05_Regex
import Pfl.Proofs.PyRegexLemmas
namespace Pfl
namespace PyRx

open Pfl.PyRx.Lem Rx

/-- every `{m,n}` inside the pattern has `m ≤ n` (Python rejects the others at compile time) -/
def WellFormed : P → Prop
  | .lit _ => True
  | .dot => True
  | .short _ => True
  | .set _ _ => True
  | .cat a b => WellFormed a ∧ WellFormed b
  | .alt a b => WellFormed a ∧ WellFormed b
  | .star a => WellFormed a
  | .plus a => WellFormed a
  | .opt a => WellFormed a
  | .rep a m n => WellFormed a ∧ m ≤ n

/-- counterexample to the unrestricted `desugar_denote`: `a{2,1}` on the word `aa` -/
theorem desugar_denote_needs_wellformed :
    ¬ (∀ (U : List Char) (p : P) (w : List Char),
        Rx.Denote (desugar U p) (word w) ↔ Matches U p w) := by
  intro h
  have h1 : Rx.Denote (desugar [] (.rep (.lit 'a') 2 1)) (word ['a', 'a']) := by
    rw [← Rx.matches_iff]; decide
  obtain ⟨ws, -, h2, h3, -⟩ := (Lem.rep_iff _ _ _ _ _).mp ((h _ _ _).mp h1)
  omega

/-- The translation denotes a language of character words, spelled in one-character symbols, and for a
well-formed pattern it is its meaning: every clause of `desugar` is the operator on languages that the clause
of `Matches` describes (`a{m,n}` with `n < m` is translated like `a{m}`, and matches nothing). -/
theorem desugar_means (U : List Char) : ∀ p, ∃ A, Means (desugar U p) A ∧
    (WellFormed p → ∀ w, Matches U p w ↔ A w)
  | .lit c => ⟨_, Means.anyOf [c], fun _ _ => lit_iff⟩
  | .dot => ⟨_, Means.anyOf _, fun _ _ => dot_iff⟩
  | .short _ => ⟨_, Means.anyOf _, fun _ _ => short_iff⟩
  | .set _ _ => ⟨_, Means.anyOf _, fun _ _ => set_iff⟩
  | .cat a b =>
    let ⟨_, ha, ea⟩ := desugar_means U a
    let ⟨_, hb, eb⟩ := desugar_means U b
    ⟨_, ha.cat hb, fun h _ => by simp only [cat_iff, ea h.1, eb h.2]⟩
  | .alt a b =>
    let ⟨_, ha, ea⟩ := desugar_means U a
    let ⟨_, hb, eb⟩ := desugar_means U b
    ⟨_, ha.alt hb, fun h _ => by simp only [alt_iff, ea h.1, eb h.2]⟩
  | .star a =>
    let ⟨_, ha, ea⟩ := desugar_means U a
    ⟨_, ha.star, fun h _ => by simp only [star_iff, ea h]⟩
  | .plus a =>
    let ⟨_, ha, ea⟩ := desugar_means U a
    ⟨_, ha.cat ha.star, fun h _ => by simp only [plus_iff, star_iff, ea h]⟩
  | .opt a =>
    let ⟨_, ha, ea⟩ := desugar_means U a
    ⟨_, ha.alt Means.eps, fun h _ => by simp only [opt_iff, ea h]⟩
  | .rep a m n =>
    let ⟨_, ha, ea⟩ := desugar_means U a
    ⟨_, ha.rep m (n - m), fun h _ => by
      simp only [Lem.rep_iff, ea h.1, Pieces, show m + (n - m) = n from Nat.add_sub_cancel' h.2]⟩

theorem desugar_denote (U : List Char) (p : P) (hp : WellFormed p) (w : List Char) :
    Rx.Denote (desugar U p) (word w) ↔ Matches U p w :=
  let ⟨_, h, e⟩ := desugar_means U p
  (h.iff w).trans (e hp w).symm

/-- the translation only speaks about single characters -/
theorem desugar_chars (U : List Char) (p : P) (ws : List String) (h : Rx.Denote (desugar U p) ws) :
    ∃ w, ws = word w :=
  let ⟨_, hA, _⟩ := desugar_means U p
  let ⟨w, e, _⟩ := (hA ws).mp h
  ⟨w, e⟩

/-- the executable matcher decides the meaning (for patterns whose `{m,n}` have `m ≤ n`) -/
theorem matches_iff_Matches (U : List Char) (p : P) (hp : WellFormed p) (w : List Char) :
    (desugar U p).matches (word w) = true ↔ Matches U p w := by
  rw [Rx.matches_iff]; exact desugar_denote U p hp w

/-- `{m,n}` means between `m` and `n` copies -/
theorem rep_iff (U : List Char) (a : P) (m n : Nat) (w : List Char) :
    Matches U (.rep a m n) w ↔
      ∃ ws : List (List Char), w = ws.flatten ∧ m ≤ ws.length ∧ ws.length ≤ n ∧ ∀ x ∈ ws, Matches U a x :=
  Lem.rep_iff U a m n w

end PyRx
end Pfl
