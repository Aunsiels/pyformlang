/-
C19 — an `IndexedGrammar` object behaves as a value: `is_empty()` never resets `self.marked`
(filled by `__init__`, extended by every call, also by a call that stops early), yet every call of
a history returns the exact verdict, the one a fresh object returns.  Model:
`Pfl/Model/IndexedObject.lean` (`loopT`: one call, verdict and table left; `runCalls` /
`runCallsO`: a history of calls on one object).

The reason is `loop_iff` (`Pfl/Props/C17_Lib.lean`): the loop is exact from any table that is above
the initial one and sound, and a call leaves such a table (`loopT_sound`).
-/
import Pfl.Model.IndexedObject
import Pfl.Proofs.IndexedObject
import Pfl.Props.C17_Lib
namespace Pfl
namespace IG
namespace Obj
open Pfl.IG.Lib Pfl.IG.LibP Pfl.IG.ObjP
open Pfl.Term (WFT total initTable_wft total_initTable)

/-- a call on a fresh object is `isEmptyLibO` -/
theorem loopT_fresh (ord : List SetS → List SetS) (G : IG) (fuel : Nat) :
    (loopT ord G fuel (initTable G)).map (·.1) = isEmptyLibO ord G fuel :=
  loopT_fst ord G fuel (initTable G)

/-- a call only adds sets to `marked` -/
theorem loopT_grows {G : IG} {ord : List SetS → List SetS} (hord : OrdOK ord) {fuel : Nat}
    {T T' : Table} {b : Bool} (hgood : GoodT G T) (h : loopT ord G fuel T = some (b, T')) :
    Sub T T' :=
  (loopT_sound hord G fuel T T' b hgood h).1

theorem runCallsO_exact {G : IG} {fuel : Nat} :
    ∀ (ords : List (List SetS → List SetS)) (T T' : Table) (bs : List Bool),
      (∀ ord ∈ ords, OrdOK ord) → Sub (initTable G) T → GoodT G T →
      runCallsO G fuel ords T = some (bs, T') →
      (∀ b ∈ bs, (b = true ↔ ¬ G.NonEmpty)) ∧ bs.length = ords.length ∧
        Sub (initTable G) T' ∧ GoodT G T' := by
  intro ords T
  fun_induction runCallsO G fuel ords T with
  | case1 =>
    rintro _ _ _ hinit hgood ⟨⟩
    exact ⟨nofun, rfl, hinit, hgood⟩
  | case2 | case3 => exact fun _ _ _ _ _ h => nomatch h
  | case4 ord ords T b T' h1 bs' T'' h2 ih =>
    rintro _ _ hords hinit hgood ⟨⟩
    have hord := hords ord List.mem_cons_self
    obtain ⟨hs, hg'⟩ := loopT_sound hord G fuel T T' b hgood h1
    obtain ⟨h3, h4, h5, h6⟩ := ih T'' bs' (fun o ho => hords o (List.mem_cons_of_mem _ ho))
      (hinit.trans hs) hg' h2
    refine ⟨?_, by simp [h4], h5, h6⟩
    intro b' hb'
    rcases List.mem_cons.mp hb' with rfl | hb'
    · exact loop_iff hord fuel T _ hinit hgood (loop_of_loopT h1)
    · exact h3 b' hb'

/-- objects behave as values: `n` successive calls of `is_empty()` on one object all return
the exact verdict, whatever the earlier calls left in `self.marked` -/
theorem isEmpty_history_independent (G : IG) (ord : List SetS → List SetS) (hord : OrdOK ord)
    (fuel n : Nat) (bs : List Bool) (T : Table)
    (h : runCalls ord G fuel n (initTable G) = some (bs, T)) :
    ∀ b ∈ bs, (b = true ↔ ¬ G.NonEmpty) := by
  rw [runCalls_eq] at h
  exact (runCallsO_exact _ _ T bs (ordOK_replicate hord n) (Sub.refl _) (initTable_good G) h).1

/-- hence all calls of a history return the same Boolean, the one a fresh object returns -/
theorem isEmpty_history_fresh (G : IG) (ord ord' : List SetS → List SetS) (hord : OrdOK ord)
    (hord' : OrdOK ord') (fuel fuel' n : Nat) (bs : List Bool) (T : Table) (b' : Bool)
    (h : runCalls ord G fuel n (initTable G) = some (bs, T))
    (h' : isEmptyLibO ord' G fuel' = some b') : ∀ b ∈ bs, b = b' := by
  intro b hb
  exact Bool.eq_iff_iff.mpr ((isEmpty_history_independent G ord hord fuel n bs T h b hb).trans
    (isEmptyLibO_iff G ord' hord' fuel' b' h').symm)

/-- total form: with `|N| * 2 ^ |N| + 1 - |N|` passes per call, every history answers, and every
answer is right -/
theorem runCalls_total (G : IG) (ord : List SetS → List SetS) (hord : OrdOK ord) (fuel n : Nat)
    (hf : G.nonTerminals.length * 2 ^ G.nonTerminals.length + 1 ≤ fuel + G.nonTerminals.length) :
    ∃ bs T, runCalls ord G fuel n (initTable G) = some (bs, T) ∧ bs.length = n ∧
      ∀ b ∈ bs, (b = true ↔ ¬ G.NonEmpty) := by
  have h1 : (runCalls ord G fuel n (initTable G)).isSome := by
    rw [runCalls_eq]
    apply runCallsO_isSome G fuel _ _ (ordOK_replicate hord n) (initTable_wft G)
    have := total_initTable G
    omega
  obtain ⟨⟨bs, T⟩, h2⟩ := Option.isSome_iff_exists.mp h1
  have h3 := h2
  rw [runCalls_eq] at h3
  obtain ⟨hb, hl, _⟩ := runCallsO_exact _ _ T bs (ordOK_replicate hord n) (Sub.refl _)
    (initTable_good G) h3
  exact ⟨bs, T, h2, by rw [hl, List.length_replicate], hb⟩

/-- `S → A B`, `C → A B`, `A → a`, `B → b`.  First call: the rule `S → A B` marks `∅` for `S` and
asks to stop, `C → A B` is not reached.  Second call: nothing new for `S`, the rule of `C` is
processed now (two passes, regular end).  Third call: one pass, nothing changes. -/
def nvObj : IG :=
  { start := "S", rules := [.dup "S" "A" "B", .dup "C" "A" "B", .end_ "A" "a", .end_ "B" "b"] }

/-- the table after the first call (early stop) -/
def nvObjT1 : Table :=
  [("S", [["S"], ["A", "B"], ["A"], ["B"], []]), ("A", [["A"], []]), ("B", [["B"], []]),
   ("C", [["C"]])]

/-- the table after the second call -/
def nvObjT2 : Table :=
  [("S", [["S"], ["A", "B"], ["A"], ["B"], []]), ("A", [["A"], []]), ("B", [["B"], []]),
   ("C", [["C"], ["A", "B"], ["A"], ["B"], []])]

/-- the first call stops early and leaves a table that is not the initial one; the second call
continues from there: no early stop, the table grows (two passes), regular end -/
theorem nv_loopT :
    (pass id nvObj (libRules nvObj) (initTable nvObj) false).2.2 = true ∧
    loopT id nvObj 1 (initTable nvObj) = some (false, nvObjT1) := by decide +kernel

theorem nv_loopT2 :
    pass id nvObj (libRules nvObj) nvObjT1 false = (nvObjT2, true, false) ∧
    loopT id nvObj 1 nvObjT1 = none := by decide +kernel

theorem nv_loopT3 : loopT id nvObj 2 nvObjT1 = some (false, nvObjT2) := by decide +kernel

/-- three calls on one object -/
theorem nv_runCalls :
    runCalls id nvObj 2 3 (initTable nvObj) = some ([false, false, false], nvObjT2) := by
  decide +kernel

/-- three calls, the iteration order of the sets changing from call to call (the table left lists
the same sets in another insertion order) -/
theorem nv_runCallsO :
    (runCallsO nvObj 2 [List.reverse, id, List.reverse] (initTable nvObj)).map (·.1)
      = some [false, false, false] ∧
    isEmptyCalls nvObj 2 3 = some [false, false, false] := by decide +kernel

/-- an empty language (`nvLib2`), three calls, and a non-empty one where the early stop comes from
`_production_process`, in the second pass of the first call (`nvLib1`) -/
theorem nv_runCalls_lib :
    isEmptyCalls nvLib2 3 3 = some [true, true, true] ∧
    (pass id nvLib1 (libRules nvLib1) (initTable nvLib1) false).2 = (true, false) ∧
    (pass id nvLib1 (libRules nvLib1)
      (pass id nvLib1 (libRules nvLib1) (initTable nvLib1) false).1 false).2.2 = true ∧
    isEmptyCalls nvLib1 2 3 = some [false, false, false] ∧
    (runCallsO nvLib1 2 [id, List.reverse] (initTable nvLib1)).map (·.1)
      = some [false, false] := by decide +kernel

example : ∀ b ∈ [false, false, false], (b = true ↔ ¬ nvObj.NonEmpty) :=
  isEmpty_history_independent nvObj id ordOK_id 2 3 _ nvObjT2 nv_runCalls

/-- four non-terminals: `4 * 2 ^ 4 + 1 - 4 = 61` passes per call are enough for any history -/
example : ∃ bs T, runCalls id nvObj 61 5 (initTable nvObj) = some (bs, T) ∧ bs.length = 5 ∧
    ∀ b ∈ bs, (b = true ↔ ¬ nvObj.NonEmpty) :=
  runCalls_total nvObj id ordOK_id 61 5 (by decide +kernel)

end Obj
end IG
end Pfl
