/-
C15 — the recursive descent parser (step-faithful model `Pfl/Model/RecDescent.lean`): a returned
tree is a parse tree of the word, and the parser only refuses words outside the language.
(It may also fail to terminate — `none` — on left/right-recursive grammars, as documented.)
-/
import Pfl.Model.RecDescent
import Pfl.Props.C15_Trees
import Pfl.Proofs.RecDescentLemmas
namespace Pfl
namespace RecDescent
open CFG

/-- the pruning test never rejects a sentential form that derives the word -/
theorem rdMatch_of_derives (G : CFG) (e : List Sym) (w : List String)
    (h : G.Derives e (w.map Sym.ter)) : rdMatch w e = true :=
  Lem.rdMatch_of_genList G e w ((genList_iff_derives G e w).mpr h)

/-- whatever tree `parse` returns is a parse tree of the word -/
theorem parse_valid (G : CFG) (w : List String) (left : Bool) (fuel : Nat) (t : PTree)
    (h : parse G w left fuel = some (some t)) : G.treeValid t w = true := by
  unfold parse at h
  split at h
  · cases h
  · next s hst =>
    split at h
    · cases h
    · cases h
    · next ps hps =>
      split at h
      · next t' hbt =>
        cases h
        obtain ⟨h3, h2⟩ := Lem.rdSub_ans G left fuel w _ _ hps
        obtain ⟨t₀, e, hv⟩ := Lem.build_start G left hst h3 h2 (Nat.lt_succ_self _)
        cases e.symm.trans hbt
        exact hv
      · cases h

theorem parse_refuses_only_nonmembers (G : CFG) (w : List String) (left : Bool) (fuel : Nat)
    (h : parse G w left fuel = some none) : ¬ G.Lang w := by
  rintro ⟨s, hs, hd⟩
  unfold parse at h
  rw [hs] at h
  simp only at h
  split at h
  · cases h
  · next hr => exact Lem.rdSub_ans G left fuel w _ _ hr ((genList_iff_derives G _ w).mpr hd)
  · split at h <;> cases h

/-- (`some none`: NotParsableException; a grammar without start symbol generates nothing, so this
agrees with `parse_refuses_only_nonmembers`) -/
theorem parse_no_start (G : CFG) (h : G.start = none) (w : List String) (left : Bool)
    (fuel : Nat) : parse G w left fuel = some none := by
  unfold parse
  rw [h]

end RecDescent
end Pfl
