/-
C20 — a box of a recursive automaton (`RecursiveAutomaton.from_regex` / `from_ebnf`):
`Regex(body).to_epsilon_nfa().minimize()`, i.e. Thompson construction, subset construction,
Hopcroft's loop and the quotient.  Its language is the denotation of the body.  Composition of
`thompson_lang` (C05), `toDet_lang` / `toDet_shape` (C01) and `minimize_hopcroft_lang` (C02).
-/
import Pfl.Props.C05_Regex
import Pfl.Props.C01_Det
import Pfl.Props.C02_Hopcroft
namespace Pfl
namespace Rx
variable {κ μ : Type} [DecidableEq κ] [DecidableEq μ]

theorem box_lang (r : Rx) (code : String → Nat) (c : Nat)
    (key : List Nat → κ) (hk : (r.thompson code c).1.KeyInj key)
    (fuel1 : Nat) (D : ENFA κ) (hD : (r.thompson code c).1.toDet key true fuel1 = some D)
    (fuel2 : Nat) (gs : List (List (Option κ))) (hgs : D.hopcroft fuel2 = some gs)
    (name : List (Option κ) → μ) (hname : ∀ g ∈ gs, ∀ g' ∈ gs, name g = name g' → g = g') (emptyName : μ)
    (ks : List Nat) :
    (D.minimizeOf gs name emptyName).Lang ks ↔ ∃ w, Denote r w ∧ w.map code = ks := by
  obtain ⟨dD, eD⟩ := ENFA.toDet_shape _ key true fuel1 D hD
  obtain ⟨wD, nD⟩ := ENFA.toDet_wf hD
  rw [ENFA.minimize_hopcroft_lang D wD dD eD nD fuel2 gs hgs name hname emptyName ks,
    ENFA.toDet_lang _ (thompson_wf code r c) key hk fuel1 D hD ks, thompson_lang]

end Rx
end Pfl
