/-
Termination (fuel sufficiency) of the fuelled loops of the finite-automaton / pushdown models that
`C01_Termination.lean` does not treat: explicit bounds under which they always answer.  Together with
the partial-correctness theorems this gives total correctness.  In file order:

* product exploration of `get_intersection` (C03)  — `inter_isSome`: `|Q_A| * |Q_B|` rounds (tight)
* path search of `is_acyclic` (C04)                — `isAcyclic_isSome`: `|starts| * (D + 1) ^ |Q|`,
    `D` the out-degree; exponential growth is real: `Term2.ladder_isAcyclic` (`2 ^ |Q| - 1` rounds)
* queue loop of `get_accepted_words` (C04)         — `acceptedWords_isSome` (length bound `n`),
    `acceptedWords_isSome_of_finite`, `acceptedWords_isSome_of_acyclic` (no length bound)
* walk of `_is_equivalent_to_minimal`, oracles (C02) — `isoWalk_isSome` (`|Q₁|` rounds, tight),
    `langDiff_isSome`, `nerodeGroups_isSome`, `isReduced_isSome` (`4 ^ |Q|`)
* `PDA.intersection`, `CFG.intersection` (C11)     — `PDA.inter_isSome`, `CFG.interD_isSome`

Helper lemmas: `Pfl/Proofs/FATermination.lean`, `FALadder.lean`, `PDATermination.lean`,
`FAMinTermination.lean` (namespace `Pfl.Term2`).
-/
import Pfl.Proofs.FATermination
import Pfl.Proofs.PDATermination
import Pfl.Proofs.FAMinTermination
import Pfl.Proofs.FALadder
import Pfl.Props.C03_Bool
import Pfl.Props.C04_Words
import Pfl.Props.C02_Min
import Pfl.Props.C02_Iso
import Pfl.Props.C13_ToCFG

namespace Pfl

/-- `n` states on a ring, one symbol -/
def ringA (n : Nat) : ENFA Nat :=
  { states := List.range n, syms := [0], starts := [0], finals := [0]
    delta := (List.range n).map fun i => (i, some 0, (i + 1) % n) }

theorem ringA_wf2 : (ringA 2).WF := by decide +kernel
theorem ringA_wf3 : (ringA 3).WF := by decide +kernel
theorem ringA_wf5 : (ringA 5).WF := by decide +kernel

namespace ENFA
section T1
variable {σ τ : Type} [DecidableEq σ] [DecidableEq τ]

/-! ## `get_intersection`

The worklist holds pairs of states; the model's `bfs` never queues a pair twice, the seeds are a
duplicate-free list, and for well-formed automata all successors stay inside
`A.states × B.states`. -/

/-- `get_intersection` terminates within `|Q_A| * |Q_B|` rounds -/
theorem inter_isSome (A : ENFA σ) (B : ENFA τ) (hA : A.WF) (hB : B.WF) (fuel : Nat)
    (hf : A.states.length * B.states.length ≤ fuel) : (A.inter B fuel).isSome := by
  unfold ENFA.inter
  simp only [Option.isSome_map]
  exact Term2.inter_bfs_isSome A B hA hB fuel hf

/-- total correctness of `get_intersection` -/
theorem inter_total (A : ENFA σ) (B : ENFA τ) (hA : A.WF) (hB : B.WF) (fuel : Nat)
    (hf : A.states.length * B.states.length ≤ fuel) :
    ∃ P, A.inter B fuel = some P ∧ ∀ w, P.Lang w ↔ A.Lang w ∧ B.Lang w :=
  Term.total_of_isSome (inter_isSome A B hA hB fuel hf) (inter_lang A B hA hB fuel)

end T1

/-- the bound is tight: rings of 2 and 3 states, all 6 pairs are explored -/
theorem inter_bound_tight :
    (ringA 2).states.length * (ringA 3).states.length = 6 ∧
    (ringA 2).inter (ringA 3) 5 = none ∧ ((ringA 2).inter (ringA 3) 6).isSome = true := by
  decide +kernel

/-- non-vacuity of `inter_isSome` -/
example : ((ringA 2).inter (ringA 3) 6).isSome :=
  inter_isSome _ _ ringA_wf2 ringA_wf3 6 (by decide)

section T2
variable {σ : Type} [DecidableEq σ]

/-! ## `is_acyclic`

The loop keeps a stack of pairs `(state, path that led to it)` and walks the tree of all paths from
the start states until a path closes.  A path never repeats a state, so the tree has depth `≤ |Q|`;
a node has as many children as the state has out-edges (parallel edges counted, one per symbol). -/

/-- general form: `U` lists the start states and all targets, `D` bounds the out-degree -/
theorem isAcyclic_isSome_of (A : ENFA σ) (U : List σ) (D : Nat)
    (hs : ∀ q ∈ A.starts, q ∈ U) (hU : ∀ q r, r ∈ A.outs q → r ∈ U)
    (hD : ∀ q ∈ U, (A.outs q).length ≤ D) (fuel : Nat)
    (hf : A.starts.length * (D + 1) ^ U.length ≤ fuel) : (A.isAcyclic fuel).isSome := by
  unfold isAcyclic
  apply Term2.acyclicLoop_isSome_of A U D hU hD
  · intro e he
    obtain ⟨q, hq, rfl⟩ := List.mem_map.mp he
    exact ⟨by simpa using hs q (List.mem_reverse.mp hq), List.nodup_nil⟩
  · rw [Term2.stkW_children, List.length_reverse]
    exact Nat.le_trans (Nat.mul_le_mul_left _ (Term2.treeW_le_pow D U.length)) hf

/-- `is_acyclic` terminates within `|starts| * ((|Σ| + 1) * |δ| + 1) ^ |Q|` rounds -/
theorem isAcyclic_isSome (A : ENFA σ) (hA : A.WF) (fuel : Nat)
    (hf : A.starts.length * ((A.syms.length + 1) * A.delta.length + 1) ^ A.states.length ≤ fuel) :
    (A.isAcyclic fuel).isSome :=
  isAcyclic_isSome_of A A.states _ hA.starts_sub (Term2.outs_states A hA)
    (fun q _ => Term2.length_outs_le A q) fuel hf

/-- … within `|starts| * (|δ| + 1) ^ |Q|` rounds when the symbol list has no repetition (it is a
Python set) -/
theorem isAcyclic_isSome_nodup (A : ENFA σ) (hA : A.WF) (hs : A.syms.Nodup) (fuel : Nat)
    (hf : A.starts.length * (A.delta.length + 1) ^ A.states.length ≤ fuel) :
    (A.isAcyclic fuel).isSome :=
  isAcyclic_isSome_of A A.states _ hA.starts_sub (Term2.outs_states A hA)
    (fun q _ => Term2.length_outs_le_of_nodup A hs q) fuel hf

/-- total correctness of `is_acyclic` -/
theorem isAcyclic_total (A : ENFA σ) (hA : A.WF) (fuel : Nat)
    (hf : A.starts.length * ((A.syms.length + 1) * A.delta.length + 1) ^ A.states.length ≤ fuel) :
    ∃ b, A.isAcyclic fuel = some b ∧ (b = true ↔ ¬ A.HasReachableCycle) :=
  Term.total_of_isSome (isAcyclic_isSome A hA fuel hf) (isAcyclic_iff A fuel)

end T2

/-! ### no bound polynomial in `|Q|`, `|Σ|`, `|δ|` is correct

`Term2.ladder n`: states `0 … n`, two symbols, edges `i ─0→ i+1` and `i ─1→ i+1`.  The loop visits
every path from state `0`: exactly `2 ^ (n+1) - 1` rounds, with `|Q| = n + 1`, `|Σ| = 2`,
`|δ| = 2 * n`. -/

open Term2 (ladder) in
theorem ladder_sizes (n : Nat) :
    (ladder n).states.length = n + 1 ∧ (ladder n).syms.length = 2 ∧
    (ladder n).delta.length = 2 * n ∧ (ladder n).starts.length = 1 := by
  exact ⟨by simp [ladder], rfl, Term2.ladder_delta_length n, rfl⟩

open Term2 (ladder) in
/-- hence no bound of the form `c * (|Q| + |Σ| + |δ|) ^ k` is correct -/
theorem isAcyclic_no_polynomial_bound (c k : Nat) :
    ∃ n, (ladder n).isAcyclic
      (c * ((ladder n).states.length + (ladder n).syms.length + (ladder n).delta.length) ^ k) = none :=
  Term2.isAcyclic_no_polynomial_bound c k

open Term2 (ladder) in
/-- e.g. ten rungs (11 states, 2 symbols, 20 transitions): 2047 rounds are needed, the guess
`4 * |Q| * |Σ| * |δ| = 1760` is not enough -/
theorem isAcyclic_cubic_bound_false :
    4 * (ladder 10).states.length * (ladder 10).syms.length * (ladder 10).delta.length = 1760 ∧
    (ladder 10).isAcyclic 1760 = none ∧ (ladder 10).isAcyclic 2047 = some true :=
  ⟨by decide +kernel, (Term2.ladder_isAcyclic 10).2 1760 (by decide), (Term2.ladder_isAcyclic 10).1⟩

open Term2 (ladder) in
/-- non-vacuity of `isAcyclic_isSome_nodup` / `isAcyclic_isSome` (3 states, 4 transitions) -/
example : ((ladder 2).isAcyclic 125).isSome :=
  isAcyclic_isSome_nodup (ladder 2) (by decide +kernel) (by decide +kernel) 125 (by decide +kernel)

example : ((ringA 3).isAcyclic 343).isSome :=
  isAcyclic_isSome (ringA 3) ringA_wf3 343 (by decide +kernel)

section T3
variable {σ : Type} [DecidableEq σ]

/-! ## `get_accepted_words`

Every round pops one queue entry `(state, word)`.  An entry is expanded at most once and only if
its word passes the length test; an expansion queues at most `|δ|` entries.  With words of length
`≤ n` over `s` symbols at most `|Q| * (1 + s + … + s ^ n) ≤ |Q| * (s + 1) ^ n` entries are expanded:
`wordsFuel A n = |starts| + |Q| * (|Σ| + 1) ^ n * |δ|` rounds are enough. -/

omit [DecidableEq σ] in
theorem wordsFuel_eq (A : ENFA σ) (n : Nat) :
    Term2.wordsFuel A n =
      A.starts.length + A.states.length * (A.syms.length + 1) ^ n * A.delta.length := rfl

/-- `get_accepted_words(n)` terminates -/
theorem acceptedWords_isSome (A : ENFA σ) (hA : A.WF) (n fuel : Nat)
    (hf : A.starts.length + A.states.length * (A.syms.length + 1) ^ n * A.delta.length ≤ fuel) :
    (A.acceptedWords (some n) fuel).isSome :=
  Term2.acceptedWords_isSome_of A hA (some n) n (fun _ _ h => h) fuel hf

/-- total correctness of `get_accepted_words(n)` -/
theorem acceptedWords_total (A : ENFA σ) (hA : A.WF) (n fuel : Nat)
    (hf : A.starts.length + A.states.length * (A.syms.length + 1) ^ n * A.delta.length ≤ fuel) :
    ∃ ws, A.acceptedWords (some n) fuel = some ws ∧ ws.Nodup ∧
      ∀ w, w ∈ ws ↔ w.length ≤ n ∧ A.Lang w :=
  Term.total_of_isSome (acceptedWords_isSome A hA n fuel hf) (acceptedWords_exact A n fuel)

/-- `get_accepted_words()` without a length bound terminates whenever the language is finite
(`n` bounds the length of the accepted words): every expanded word is a prefix of an accepted
word.  ε-cycles do no harm. -/
theorem acceptedWords_isSome_of_finite (A : ENFA σ) (hA : A.WF) (maxLen : Option Nat) (n : Nat)
    (hfin : ∀ w, A.Lang w → w.length ≤ n) (fuel : Nat)
    (hf : A.starts.length + A.states.length * (A.syms.length + 1) ^ n * A.delta.length ≤ fuel) :
    (A.acceptedWords maxLen fuel).isSome := by
  apply Term2.acceptedWords_isSome_of A hA maxLen n _ fuel hf
  rintro ⟨q, w⟩ ⟨⟨s, hs, hr⟩, hlead⟩ _
  rcases hlead with hlead | rfl
  · obtain ⟨v, f, hf, hv⟩ := (mem_leadingToFinal_iff A q).mp hlead
    have := hfin (w ++ v) ⟨s, hs, f, hf, Run.append hr hv⟩
    simp only [List.length_append] at this ⊢
    omega
  · simp

/-- no cycle among the states that are reachable from a start state and lead to a final state:
accepted words have length `≤ |Q|` -/
theorem lang_length_le_of_noTrimCycle (A : ENFA σ) (hA : A.WF) (hac : ¬ Term2.HasTrimCycle A)
    (w : List Nat) (h : A.Lang w) : w.length ≤ A.states.length := by
  obtain ⟨s, hs, f, hf, hr⟩ := h
  exact Term2.run_length_add_le A hA hr hf [] (OpenWalk.nil fun ⟨y, hy, hc⟩ => hac ⟨s, hs, y, hy, hc⟩)

/-- `get_accepted_words()` terminates when the part between the start states and the final states
has no cycle (`Term2.HasTrimCycle`: edges with any label into states leading to a final state) -/
theorem acceptedWords_isSome_of_noTrimCycle (A : ENFA σ) (hA : A.WF) (hac : ¬ Term2.HasTrimCycle A)
    (maxLen : Option Nat) (fuel : Nat)
    (hf : A.starts.length +
        A.states.length * (A.syms.length + 1) ^ A.states.length * A.delta.length ≤ fuel) :
    (A.acceptedWords maxLen fuel).isSome :=
  acceptedWords_isSome_of_finite A hA maxLen _ (lang_length_le_of_noTrimCycle A hA hac) fuel hf

/-- … in particular when no cycle at all is reachable -/
theorem acceptedWords_isSome_of_acyclic (A : ENFA σ) (hA : A.WF) (hac : ¬ A.HasReachableCycle)
    (fuel : Nat)
    (hf : A.starts.length +
        A.states.length * (A.syms.length + 1) ^ A.states.length * A.delta.length ≤ fuel) :
    (A.acceptedWords none fuel).isSome :=
  -- a cycle in the part between the start and the final states is a reachable cycle
  acceptedWords_isSome_of_noTrimCycle A hA
    (fun ⟨s, hs, q, hsq, r, hr, hrq⟩ => hac ⟨s, hs, q,
      Term2.reach_mono (Term2.trimNext_sub_outs A hA) hsq, r, Term2.trimNext_sub_outs A hA q r hr,
      Term2.reach_mono (Term2.trimNext_sub_outs A hA) hrq⟩) none fuel hf

/-- … i.e. when `is_acyclic()` says so (`isAcyclic_iff`) -/
theorem acceptedWords_isSome_of_isAcyclic (A : ENFA σ) (hA : A.WF) (fuel' : Nat)
    (hac : A.isAcyclic fuel' = some true) (fuel : Nat)
    (hf : A.starts.length +
        A.states.length * (A.syms.length + 1) ^ A.states.length * A.delta.length ≤ fuel) :
    (A.acceptedWords none fuel).isSome :=
  acceptedWords_isSome_of_acyclic A hA ((isAcyclic_iff A fuel' true hac).mp rfl) fuel hf

/-- … or the cycle oracle (`reachableCycle_iff`) -/
theorem acceptedWords_isSome_of_reachableCycle (A : ENFA σ) (hA : A.WF)
    (hac : A.reachableCycle = false) (fuel : Nat)
    (hf : A.starts.length +
        A.states.length * (A.syms.length + 1) ^ A.states.length * A.delta.length ≤ fuel) :
    (A.acceptedWords none fuel).isSome :=
  acceptedWords_isSome_of_acyclic A hA
    (fun h => by rw [(reachableCycle_iff A).mpr h] at hac; cases hac) fuel hf

/-- total correctness of the unbounded enumeration on acyclic automata -/
theorem acceptedWords_unbounded_total (A : ENFA σ) (hA : A.WF) (hac : ¬ A.HasReachableCycle)
    (fuel : Nat)
    (hf : A.starts.length +
        A.states.length * (A.syms.length + 1) ^ A.states.length * A.delta.length ≤ fuel) :
    ∃ ws, A.acceptedWords none fuel = some ws ∧ ws.Nodup ∧ ∀ w, w ∈ ws ↔ A.Lang w :=
  Term.total_of_isSome (acceptedWords_isSome_of_acyclic A hA hac fuel hf)
    (acceptedWords_exact_unbounded A fuel)

end T3

/-- one state, two loops: all `2 ^ (n+1) - 1` words of length `≤ n` are accepted -/
def loops2 : ENFA Nat :=
  { states := [0], syms := [0, 1], starts := [0], finals := [0]
    delta := [(0, some 0, 0), (0, some 1, 0)] }

/-- growth exponential in `n` is real: `2 ^ (n+2) - 1` rounds here (31 for `n = 3`, 63 for
`n = 4`), the bound being `1 + 3 ^ n * 2` (55, 163) -/
theorem acceptedWords_rounds_loops2 :
    loops2.acceptedWords (some 3) 30 = none ∧ (loops2.acceptedWords (some 3) 31).isSome = true ∧
    loops2.acceptedWords (some 4) 62 = none ∧ (loops2.acceptedWords (some 4) 63).isSome = true ∧
    Term2.wordsFuel loops2 3 = 55 ∧ Term2.wordsFuel loops2 4 = 163 := by decide +kernel

/-- non-vacuity of `acceptedWords_isSome` -/
example : (loops2.acceptedWords (some 3) 55).isSome :=
  acceptedWords_isSome loops2 (by decide +kernel) 3 55 (by decide +kernel)

/-- an ε-cycle between the start and the final state, finite language `{ε}`: there is a cycle in
the trimmed part, but `acceptedWords_isSome_of_finite` applies (with `n = 0`) -/
def epsRing : ENFA Nat :=
  { states := [0, 1], syms := [], starts := [0], finals := [1]
    delta := [(0, none, 1), (1, none, 0)] }

theorem epsRing_wf : epsRing.WF := by decide +kernel

theorem epsRing_lang (w : List Nat) (h : epsRing.Lang w) : w.length ≤ 0 := by
  obtain ⟨s, _, f, _, hr⟩ := h
  cases w with
  | nil => exact Nat.le_refl 0
  | cons a w => exact nomatch epsRing_wf.run_syms hr a List.mem_cons_self

example : (epsRing.acceptedWords none 5).isSome :=
  acceptedWords_isSome_of_finite epsRing epsRing_wf none 0 epsRing_lang 5 (by decide +kernel)

theorem epsRing_answer : epsRing.reachableCycle = true ∧ epsRing.acceptedWords none 3 = some [[]] := by
  decide +kernel

open Term2 (ladder) in
/-- non-vacuity of the acyclic case (`ladder 2`: 3 states, the four words of length 2) -/
example : ((ladder 2).acceptedWords none 325).isSome :=
  acceptedWords_isSome_of_reachableCycle (ladder 2) (by decide +kernel) (by decide +kernel) 325
    (by decide +kernel)

open Term2 (ladder) in
example : ((ladder 2).acceptedWords none 325).isSome :=
  acceptedWords_isSome_of_isAcyclic (ladder 2) (by decide +kernel) 7 (by decide +kernel) 325
    (by decide +kernel)

section T5
variable {σ τ : Type} [DecidableEq σ] [DecidableEq τ]

/-! ## the walk of `_is_equivalent_to_minimal` and the oracles of `Pfl/Model/Minimize.lean`

A pair is pushed on the walk's stack only when its first component has no partner yet; hence at
most `|Q₁|` rounds.  The language-difference oracle `langDiff` is a `bfsK` whose keys are pairs of
sub-lists of the two state lists (`canonS` filters `A.states`); no well-formedness is needed. -/

/-- the walk terminates within `|Q₁|` rounds -/
theorem isoWalk_isSome (M1 : ENFA σ) (M2 : ENFA τ) (h1 : M1.WF) (hs1 : M1.starts ≠ [])
    (hs2 : M2.starts ≠ []) (fuel : Nat) (hf : M1.states.length ≤ fuel) :
    (isoWalk M1 M2 fuel).isSome := by
  obtain ⟨s1, r1, e1⟩ := List.exists_cons_of_ne_nil hs1
  obtain ⟨s2, r2, e2⟩ := List.exists_cons_of_ne_nil hs2
  unfold isoWalk
  rw [e1, e2]
  simp only [List.head?_cons]
  apply Term2.isoWalkLoop_isSome_of M1 M2 M1.states h1.delta_dst
  · simp
  · intro x hx
    simp only [List.mem_singleton] at hx
    subst hx
    exact h1.starts_sub s1 (by rw [e1]; exact List.mem_cons_self)
  · simp only [List.length_cons, List.length_nil]; omega

/-- (the model answers `none` for another reason when a start state is missing: the library
raises) -/
theorem isoWalk_none (M1 : ENFA σ) (M2 : ENFA τ) (fuel : Nat)
    (h : M1.starts = [] ∨ M2.starts = []) : isoWalk M1 M2 fuel = none := by
  unfold isoWalk
  rcases h with h | h
  · rw [h]; rfl
  · rw [h]; cases M1.starts.head? <;> rfl

/-- total correctness of the `true` answer of the walk, and existence of an answer -/
theorem isoWalk_total (M1 : ENFA σ) (M2 : ENFA τ) (w1 : M1.WF) (h1 : M1.Deterministic)
    (e1 : M1.EpsFree) (h2 : M2.Deterministic) (e2 : M2.EpsFree) (hs1 : M1.starts ≠ [])
    (hs2 : M2.starts ≠ []) (fuel : Nat) (hf : M1.states.length ≤ fuel) :
    ∃ b, isoWalk M1 M2 fuel = some b ∧ (b = true → ∀ w, M1.Lang w ↔ M2.Lang w) :=
  Term.total_of_isSome (isoWalk_isSome M1 M2 w1 hs1 hs2 fuel hf)
    (fun _ hb ht => isoWalk_true M1 M2 h1 e1 h2 e2 fuel (ht ▸ hb))

/-- `langDiff` answers with fuel `2 ^ |Q_A| * 2 ^ |Q_B|` -/
theorem langDiff_isSome (A : ENFA σ) (B : ENFA τ) (fuel : Nat)
    (hf : 2 ^ A.states.length * 2 ^ B.states.length ≤ fuel) : (A.langDiff B fuel).isSome :=
  Term2.langDiff_isSome A B fuel hf

theorem sameRight_isSome (A : ENFA σ) (fuel : Nat) (hf : 4 ^ A.states.length ≤ fuel)
    (p q : Option σ) : (A.sameRight fuel p q).isSome :=
  Term2.sameRight_isSome A fuel hf p q

/-- the Nerode partition oracle answers with fuel `4 ^ |Q|` -/
theorem nerodeGroups_isSome (A : ENFA σ) (fuel : Nat) (hf : 4 ^ A.states.length ≤ fuel) :
    (A.nerodeGroups fuel).isSome := by
  unfold nerodeGroups
  exact Term2.foldlM_isSome _ (fun gs x => Term2.insertGroup_isSome A fuel hf x gs) _ _

theorem nerodeGroups_total (A : ENFA σ) (hA : A.WF) (fuel : Nat) (hf : 4 ^ A.states.length ≤ fuel) :
    ∃ gs, A.nerodeGroups fuel = some gs ∧ A.IsNerodePartition gs :=
  Term.total_of_isSome (nerodeGroups_isSome A fuel hf) (nerodeGroups_spec A hA fuel)

/-- `isReduced` answers with fuel `4 ^ |Q|` -/
theorem isReduced_isSome (M : ENFA σ) (fuel : Nat) (hf : 4 ^ M.states.length ≤ fuel) :
    (M.isReduced fuel).isSome := by
  unfold isReduced
  simp only
  split
  · rfl
  · apply Term2.foldlM_isSome
    intro acc pq
    rw [Option.isSome_map]
    exact sameRight_isSome M fuel hf _ _

theorem isReduced_total (M : ENFA σ) (hM : M.WF) (fuel : Nat) (hf : 4 ^ M.states.length ≤ fuel) :
    ∃ b, M.isReduced fuel = some b ∧ (b = true ↔ M.Reduced) :=
  Term.total_of_isSome (isReduced_isSome M fuel hf) (isReduced_iff M hM fuel)

end T5

/-- the bound of the walk is tight: a ring of five states against itself -/
theorem isoWalk_bound_tight :
    isoWalk (ringA 5) (ringA 5) 4 = none ∧ isoWalk (ringA 5) (ringA 5) 5 = some true := by
  decide +kernel

/-- non-vacuity of `isoWalk_isSome`, `nerodeGroups_isSome`, `isReduced_isSome`, `langDiff_isSome` -/
example : (isoWalk (ringA 5) (ringA 3) 5).isSome :=
  isoWalk_isSome _ _ ringA_wf5 (by decide) (by decide) 5 (by decide)

example : ((ringA 3).nerodeGroups 64).isSome := nerodeGroups_isSome _ 64 (by decide)

example : ((ringA 3).isReduced 64).isSome := isReduced_isSome _ 64 (by decide)

example : ((ringA 2).langDiff (ringA 3) 32).isSome := langDiff_isSome _ _ 32 (by decide)

end ENFA


namespace PDA
section T4
variable {σ γ τ : Type} [DecidableEq σ] [DecidableEq γ] [DecidableEq τ]

/-- the product exploration of `PDA.intersection` terminates within `|Q_P| * |Q_D|` rounds -/
theorem inter_isSome (P : PDA σ γ) (hP : P.WF) (D : ENFA τ) (hD : D.WF)
    (symOf : String → Option Nat) (hs : P.start.isSome) (hd : D.starts ≠ [])
    (fuel : Nat) (hf : P.states.length * D.states.length ≤ fuel) :
    (P.inter D symOf fuel).isSome := by
  obtain ⟨s, hs⟩ := Option.isSome_iff_exists.mp hs
  obtain ⟨d, ds, hds⟩ := List.exists_cons_of_ne_nil hd
  have hd0 : D.starts.head? = some d := by rw [hds]; rfl
  unfold PDA.inter
  rw [hs, hd0]
  simp only [Option.isSome_map]
  exact Term2.pda_inter_bfs_isSome P hP D hD symOf s d (hP.start s hs)
    (hD.starts_sub d (by rw [hds]; exact List.mem_cons_self)) fuel hf

/-- (without a start state on either side the model has no product to build) -/
theorem inter_none (P : PDA σ γ) (D : ENFA τ) (symOf : String → Option Nat) (fuel : Nat)
    (h : P.start = none ∨ D.starts = []) : P.inter D symOf fuel = none := by
  unfold PDA.inter
  rcases h with h | h
  · rw [h]
  · rw [h]; cases P.start <;> rfl

/-- total correctness of `PDA.intersection` -/
theorem inter_total (P : PDA σ γ) (hP : P.WF) (D : ENFA τ) (hD : D.WF) (dD : D.Deterministic)
    (eD : D.EpsFree) (symOf : String → Option Nat) (hs : P.start.isSome) (hd : D.starts ≠ [])
    (fuel : Nat) (hf : P.states.length * D.states.length ≤ fuel) :
    ∃ Q, P.inter D symOf fuel = some Q ∧
      ∀ w, Q.AccFinal w ↔ P.AccFinal w ∧ ∃ ks, w.mapM symOf = some ks ∧ D.Lang ks :=
  Term.total_of_isSome (inter_isSome P hP D hD symOf hs hd fuel hf)
    (inter_lang P hP D dD eD symOf fuel)

end T4

end PDA

namespace CFG
section T4
variable {τ : Type} [DecidableEq τ]

/-- the only fuelled part of `CFG.intersection` is `to_normal_form`: fuel 2 -/
theorem interD_isSome (G : CFG) (D : ENFA τ) (symOf : String → Option Nat) (nm : τ → String)
    (fuel : Nat) (hf : 2 ≤ fuel) : (G.interD D symOf nm fuel).isSome :=
  Term2.interD_isSome G D symOf nm fuel hf

end T4

end CFG

end Pfl
