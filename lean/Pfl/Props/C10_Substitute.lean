/-
C10 — substitution, and through it union / concatenation / closures, build exactly the intended
language.  All five are read off `Sub.substitute_spec`: `substitute_lang` by cutting a tree of the
result where it leaves the receiver's copy; a template by looking at its start variable in the result,
whose leaves generate the operands' languages.
-/
import Pfl.Proofs.CFGBase
import Pfl.Props.C09_Clean
import Pfl.Proofs.CFGSubst
namespace Pfl
namespace CFG
open Pfl.CFG.Sub

theorem substitute_lang (G : CFG) (subst : List (String × CFG)) (h : SubstOK G subst) (w : List String) :
    (G.substitute subst).Lang w ↔ ∃ u, G.Lang u ∧ SubstWord subst u w := by
  obtain ⟨σ, ρ, hs⟩ := substitute_spec h
  exact hs.lang h.wfG w

theorem union_lang (G H : CFG) (hG : G.WF) (hH : H.WF) (sG : G.start ≠ none) (sH : H.start ≠ none)
    (w : List String) : (G.union H).Lang w ↔ G.Lang w ∨ H.Lang w := by
  have ok : SubstOK unionT [("#0UNION#", G), ("#1UNION#", H)] :=
    ok_pair (mk'_wf _ _ _ _) (by decide) hG hH sG sH
  obtain ⟨σ, ρ, h⟩ := substitute_spec ok
  rw [union, h.lang_of_start rfl]
  refine gen_alt_iff (h.repl _ List.mem_cons_self)
    (h.repl _ (List.mem_cons_of_mem _ List.mem_cons_self)) (fun body => ?_) w
  rw [h.prods_iff (ok.wfG.start_mem _ rfl)]
  simp [unionT_prods]

theorem concatenate_lang (G H : CFG) (hG : G.WF) (hH : H.WF) (sG : G.start ≠ none) (sH : H.start ≠ none)
    (w : List String) : (G.concatenate H).Lang w ↔ ∃ u v, w = u ++ v ∧ G.Lang u ∧ H.Lang v := by
  have ok : SubstOK concT [("#0CONC#", G), ("#1CONC#", H)] :=
    ok_pair (mk'_wf _ _ _ _) (by decide) hG hH sG sH
  obtain ⟨σ, ρ, h⟩ := substitute_spec ok
  rw [concatenate, h.lang_of_start rfl]
  refine gen_cat_iff (h.repl _ List.mem_cons_self)
    (h.repl _ (List.mem_cons_of_mem _ List.mem_cons_self)) (fun body => ?_) w
  rw [h.prods_iff (ok.wfG.start_mem _ rfl)]
  simp [concT_prods]

theorem closure_lang (G : CFG) (hG : G.WF) (sG : G.start ≠ none) (w : List String) :
    G.closure.Lang w ↔ ∃ ws : List (List String), w = ws.flatten ∧ ∀ x ∈ ws, G.Lang x := by
  have ok : SubstOK closT [("#1CLOS#", G)] := ok_single (mk'_wf _ _ _ _) hG sG
  obtain ⟨σ, ρ, h⟩ := substitute_spec ok
  rw [closure, h.lang_of_start rfl]
  refine gen_star_iff (h.repl _ List.mem_cons_self) (fun body => ?_) w
  rw [h.prods_iff (ok.wfG.start_mem _ rfl)]
  simp [closT_prods, h.emb.var]

theorem posClosure_lang (G : CFG) (hG : G.WF) (sG : G.start ≠ none) (w : List String) :
    G.posClosure.Lang w ↔ ∃ ws : List (List String), ws ≠ [] ∧ w = ws.flatten ∧ ∀ x ∈ ws, G.Lang x := by
  have ok : SubstOK posClosT [("#1POSCLOS#", G)] := ok_single (mk'_wf _ _ _ _) hG sG
  obtain ⟨σ, ρ, h⟩ := substitute_spec ok
  have leaf := h.repl _ List.mem_cons_self
  have hv : "#VARPOSCLOS#" ∈ posClosT.vars :=
    ok.wfG.var_mem _ List.mem_cons_self _ (List.mem_cons_of_mem _ List.mem_cons_self)
  rw [posClosure, h.lang_of_start rfl, gen_cat_iff leaf
    (gen_star_iff leaf fun body => by
      rw [h.prods_iff hv]; simp [posClosT_prods, h.emb.var, or_left_comm])
    fun body => by rw [h.prods_iff (ok.wfG.start_mem _ rfl)]; simp [posClosT_prods, h.emb.var]]
  constructor
  · rintro ⟨u, _, rfl, hu, ws, rfl, hws⟩
    exact ⟨u :: ws, List.cons_ne_nil _ _, rfl, List.forall_mem_cons.2 ⟨hu, hws⟩⟩
  · rintro ⟨ws, h0, rfl, hws⟩
    cases ws with
    | nil => exact absurd rfl h0
    | cons v ws =>
      exact ⟨v, _, rfl, hws v List.mem_cons_self, ws, rfl, fun x hx => hws x (List.mem_cons_of_mem _ hx)⟩

end CFG
end Pfl
