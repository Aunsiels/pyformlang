/-
C19 / C13 — a PDA object built and extended through the public API stands for a well-formed value.
Model: `Pfl/Model/PDAObject.lean` (the private fields, the transition table as the dict it is, the
constructor and the four mutators; `TransitionFunction.copy()`).

* `run_edges`: after any history the transitions present are exactly those added, nothing repeated;
* `numTransitions_eq`: `get_number_transitions()` counts them;
* `mk_wf`, `step_wf`, `run_wf`, `api_wf`: everything the API can build satisfies `PDA.WF`, the hypothesis of
  `toFinalState_lang`, `toEmptyStack_lang`, `toCFG_lang` (C13) and `PDA.inter_lang` (C11); the field
  `finals` of `WF` rests on `add_final_state` registering the state;
* `copyT_spec`: the copy of the table the conversions start from holds the same transitions.
-/
import Pfl.Model.PDAObject
import Pfl.Proofs.PDAObject
namespace Pfl
namespace PDAObj

/-- adding a transition adds exactly that transition -/
theorem addT_spec {T : Table} (hi : TInv T) (k : Key) (out : Outcome) :
    TInv (addT T k out) ∧
      ∀ t, t ∈ edges (addT T k out) ↔ t = (k.1, k.2.1, k.2.2, out.1, out.2) ∨ t ∈ edges T :=
  P.addT_spec hi k out

theorem edges_nodup {T : Table} (hi : TInv T) : (edges T).Nodup := by
  refine nodup_flatMap_of_keys (·.1) (fun t => (t.1, t.2.1, t.2.2.1)) hi.1 (fun e he => ?_)
    (fun e t ht => ?_)
  · refine (hi.2 e he).map fun x y hxy => ?_
    simp only [Prod.mk.injEq, true_and] at hxy
    exact Prod.ext hxy.1 hxy.2
  · obtain ⟨out, _, rfl⟩ := List.mem_map.1 ht
    rfl

/-- after any history the transitions present are those the object had plus those added, nothing
repeated; the table keeps its shape -/
theorem run_edges (o : Obj) (ops : List Op) (hi : TInv o.trans) :
    TInv (run o ops).trans ∧ (edges (run o ops).trans).Nodup ∧
      ∀ t, t ∈ edges (run o ops).trans ↔ t ∈ edges o.trans ∨ t ∈ added ops := by
  rw [P.run_trans]
  exact ⟨(P.foldl_addE _ hi).1, edges_nodup (P.foldl_addE _ hi).1, (P.foldl_addE _ hi).2⟩

/-- `get_number_transitions()` counts the transitions present -/
theorem numTransitions_eq (T : Table) : numTransitions T = (edges T).length :=
  P.numTransitions_eq T

/-- the object the constructor builds stands for a well-formed value -/
theorem mk_wf (states inputs stack : List String) (start startStack : Option String)
    (finals : List String) :
    (toPDA (mk states inputs stack start startStack finals)).WF ∧
      TInv (mk states inputs stack start startStack finals).trans := by
  have hd : ∀ t, t ∉ (toPDA (mk states inputs stack start startStack finals)).delta :=
    fun _ => List.not_mem_nil
  refine ⟨⟨fun t ht => absurd ht (hd t), fun t ht => absurd ht (hd t), fun t ht => absurd ht (hd t),
    fun t ht => absurd ht (hd t), fun t ht => absurd ht (hd t), ?_, ?_, ?_⟩, P.tinv_nil⟩
  · rintro s rfl
    exact P.mem_insAll.2 (.inr (P.mem_insAll.2 (.inl (List.mem_singleton.2 rfl))))
  · rintro z rfl
    exact P.mem_insAll.2 (.inl (List.mem_singleton.2 rfl))
  · intro f hf
    exact P.mem_insAll.2 (.inl ((P.mem_insAll.1 hf).resolve_right List.not_mem_nil))

/-- a mutator call keeps well-formedness -/
theorem step_wf {o : Obj} (op : Op) (hi : TInv o.trans) (hwf : (toPDA o).WF) :
    (toPDA (step o op)).WF ∧ TInv (step o op).trans :=
  P.step_wf op hi hwf

/-- everything the public API can build stands for a well-formed PDA — the hypothesis `WF` of the
conversion theorems of C13 and of the intersection theorem of C11 (`add_final_state` registering the
state is what gives the field `finals`) -/
theorem run_wf (o : Obj) (ops : List Op) (hi : TInv o.trans) (hwf : (toPDA o).WF) :
    (toPDA (run o ops)).WF ∧ TInv (run o ops).trans :=
  P.run_wf o ops hi hwf

/-- `TransitionFunction.copy()` (used by `to_empty_stack`, `to_final_state`, `intersection`) holds
exactly the same transitions -/
theorem copyT_spec {T : Table} (hi : TInv T) :
    TInv (copyT T) ∧ ∀ t, t ∈ edges (copyT T) ↔ t ∈ edges T :=
  P.copyT_spec hi

/-- in particular: the constructor followed by any history of mutator calls -/
theorem api_wf (states inputs stack : List String) (start startStack : Option String)
    (finals : List String) (ops : List Op) :
    (toPDA (run (mk states inputs stack start startStack finals) ops)).WF :=
  (run_wf _ ops (mk_wf states inputs stack start startStack finals).2
    (mk_wf states inputs stack start startStack finals).1).1

/-- non-vacuity: a second outcome on an existing key joins the entry; a final state nobody else mentions is
registered -/
example :
    (run (mk [] [] [] none (some "Z") []) [.addT "q" none "Z" "q" ["A", "Z"], .addT "q" none "Z" "r" [],
        .addFinal "g"]).trans = [(("q", none, "Z"), [("q", ["A", "Z"]), ("r", [])])] ∧
    (run (mk [] [] [] none (some "Z") []) [.addT "q" none "Z" "q" ["A", "Z"], .addT "q" none "Z" "r" [],
        .addFinal "g"]).states = ["q", "r", "g"] := by
  decide +kernel

end PDAObj
end Pfl
