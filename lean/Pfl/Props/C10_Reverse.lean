/-
C10 — reversal of a grammar generates the mirror image.
-/
import Pfl.Proofs.CFGBase
namespace Pfl
namespace CFG

theorem derives_reverse_of {G H : CFG}
    (hp : ∀ h body, (h, body) ∈ G.prods → (h, body.reverse) ∈ H.prods) {u v : List Sym}
    (hd : G.Derives u v) : H.Derives u.reverse v.reverse := by
  refine derives_inv G (fun γ => H.Derives u.reverse γ.reverse) (fun x h body y hm hx => ?_) hd
    (.refl _)
  have := hx.trans (by simpa using (Derives.prod (hp _ _ hm)).context y.reverse x.reverse)
  simpa using this

theorem genList_reverse_of {G H : CFG}
    (hp : ∀ h body, (h, body) ∈ G.prods → (h, body.reverse) ∈ H.prods) :
    ∀ {u : List Sym} {w : List String}, G.GenList u w → H.GenList u.reverse w.reverse := by
  intro u w h
  rw [genList_iff_derives, List.map_reverse]
  exact derives_reverse_of hp (genList_derives h)

theorem mem_map_reverse_body {ps : List Pfl.Prod} {h : String} {body : List Sym} :
    (h, body) ∈ ps.map (fun p => (p.1, p.2.reverse)) ↔ (h, body.reverse) ∈ ps := by
  constructor
  · intro hm
    obtain ⟨p, hp, heq⟩ := List.mem_map.mp hm
    obtain ⟨rfl, rfl⟩ := Prod.mk.inj heq
    rw [List.reverse_reverse]
    exact hp
  · intro hm
    exact List.mem_map.mpr ⟨(h, body.reverse), hm, by rw [List.reverse_reverse]⟩

theorem derives_reverse_iff {G H : CFG}
    (hp : H.prods = G.prods.map fun p => (p.1, p.2.reverse)) {u v : List Sym} :
    G.Derives u v ↔ H.Derives u.reverse v.reverse := by
  constructor
  · refine derives_reverse_of fun h body hm => ?_
    rw [hp, mem_map_reverse_body, List.reverse_reverse]
    exact hm
  · intro hd
    have := derives_reverse_of (H := G) (fun h body hm => by
      rw [hp] at hm
      exact mem_map_reverse_body.mp hm) hd
    rwa [List.reverse_reverse, List.reverse_reverse] at this

theorem reverse_lang (G : CFG) (w : List String) : G.reverse.Lang w ↔ G.Lang w.reverse := by
  have hs : G.reverse.start = G.start := rfl
  unfold Lang
  rw [hs]
  simp only [derives_reverse_iff (G := G) (H := G.reverse) rfl, List.reverse_singleton,
    List.map_reverse, List.reverse_reverse]

end CFG
end Pfl
