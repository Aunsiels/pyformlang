/-
C15 — the parse-tree side of the FCFG Earley parser: the tree handed out by `get_parse_tree` is a parse tree
of the word in the context-free skeleton of the grammar, and a tree is
handed out exactly when the recogniser accepts (so, by `earley_exact`, exactly for the members of the
instantiated grammar).
-/
import Pfl.Model.EarleyTree
import Pfl.Props.C18_EarleyComplete
import Pfl.Props.C15_Trees
import Pfl.Proofs.EarleyTreeSim
import Pfl.Proofs.EarleyTreeInv
import Pfl.Proofs.EarleyTreeNV
namespace Pfl
namespace Earley
open FsDag

/-- the tree-carrying run is the recogniser's run with trees attached: a tree is returned iff the recogniser
says yes, and the run ends (fuel) in the same cases -/
theorem parseTree_isSome (G : Grammar) (st0 : Store) (word : List String) (fuel : Nat) :
    (parseTree G st0 word fuel).map (·.isSome) = contains G st0 word fuel := by
  rw [Tr.parseTree_eq, Lem.contains_eq]
  have h := Tr.run_dec (G := G) (w := word) Tr.Rules.trivial st0 fuel
  generalize parseTree.cols G word fuel _ _ = a, contains.cols G word fuel _ _ = b at h ⊢
  cases h with
  | none => rfl
  | some h =>
    simp only [Option.map_some, Option.isSome_map]
    rw [Lem.procStates, h.snapshot, List.any_map]
    congr 1
    rw [Bool.eq_iff_iff]
    simp only [List.find?_isSome, List.any_eq_true, Function.comp]

/-- every tree handed out is a parse tree of the word in the skeleton grammar -/
theorem parseTree_valid (G : Grammar) (st0 : Store) (word : List String) (fuel : Nat) (t : PTree)
    (hG : G.gammaName ∉ grammarVars G.prods G.start)
    (h : parseTree G st0 word fuel = some (some t)) :
    (skeleton G).treeValid t word = true := by
  rw [Tr.parseTree_eq, Option.map_eq_some_iff] at h
  obtain ⟨T3, hc, h⟩ := h
  obtain ⟨s, hf, rfl⟩ := Option.map_eq_some_iff.1 h
  have h3 := Tr.run_dec (Tr.TreeOK.rules word hG) st0 fuel
  rw [hc] at h3
  generalize contains.cols G word fuel _ _ = b at h3
  obtain ⟨h3⟩ := h3
  have hsm := List.mem_of_find?_eq_some hf
  have hsp := List.find?_some hf
  simp only [Bool.and_eq_true, decide_eq_true_eq, Bool.not_eq_true', Bool.decide_and] at hsp
  obtain ⟨hb, hinc, hhead⟩ := hsp
  obtain ⟨hs, hse⟩ := h3.all.2 _ _ hsm
  have hk : s.1.prod < G.prods.length :=
    Tr.head_mem_vars_real G _ hG (by rw [hhead]; exact Lem.start_mem_grammarVars ..)
  obtain ⟨r1, r2, r3⟩ := hs.complete G word s hk hinc
  rw [CFG.Trees.treeValid_iff]
  exact ⟨⟨_, Tr.skeleton_start G, by rw [r1, hhead]⟩, r2, by rw [r3, hb, hse]; simp⟩

/-- the same for grammars given as the harness gives them -/
theorem parseTreeSpec_valid (spec : List ((String × Feat) × List (Sym × Feat))) (word : List String)
    (fuel : Nat) (t : PTree) (h : parseTreeSpec spec "S" word fuel = some (some t)) :
    (skeleton (buildGrammar spec "S").2).treeValid t word = true := by
  refine parseTree_valid (buildGrammar spec "S").2 (buildGrammar spec "S").1 word fuel t ?_ h
  rw [Lem.buildGrammar_gammaName, Lem.buildGrammar_start]
  exact Glue.freshGamma_not_mem _

theorem parseTreeSpec_isSome (spec : List ((String × Feat) × List (Sym × Feat))) (word : List String) (fuel : Nat) :
    (parseTreeSpec spec "S" word fuel).map (·.isSome) = containsSpec spec "S" word fuel :=
  parseTree_isSome (buildGrammar spec "S").2 (buildGrammar spec "S").1 word fuel

/-! ### non-vacuity

`FsDag.unify` is compiled by well-founded recursion and does not reduce in the kernel, so the run is first
rewritten to its kernel-reducible copy (`Tr.NV.parseTreeSpec_eq_K`) and then decided by the kernel.
(`#eval parseTreeSpec nvSpec "S" ["a", "b"] 20` gives `S(A(a), b)`, `["b"]` gives `S(A(), b)`.) -/

/-- `S → A b`, `A → a | ε` -/
def nvSpec : List ((String × Feat) × List (Sym × Feat)) :=
  [(("S", none), [(Sym.var "A", none), (Sym.ter "b", none)]), (("A", none), [(Sym.ter "a", none)]),
    (("A", none), [])]

theorem nvSpec_ab : (parseTreeSpec nvSpec "S" ["a", "b"] 20).map (·.isSome) = some true := by
  rw [Tr.NV.parseTreeSpec_eq_K]; decide +kernel

/-- a tree is handed out for `a b` and for `b` (through the ε-rule), none for `a` -/
example : (parseTreeSpec nvSpec "S" ["a", "b"] 20).map (·.isSome) = some true ∧
    (parseTreeSpec nvSpec "S" ["b"] 20).map (·.isSome) = some true ∧
    (parseTreeSpec nvSpec "S" ["a"] 20).map (·.isSome) = some false := by
  refine ⟨nvSpec_ab, ?_⟩
  simp only [Tr.NV.parseTreeSpec_eq_K]
  decide +kernel

/-- the hypothesis of `parseTreeSpec_valid` is satisfiable, and its conclusion then holds -/
example : ∃ t, parseTreeSpec nvSpec "S" ["a", "b"] 20 = some (some t) ∧
    (skeleton (buildGrammar nvSpec "S").2).treeValid t ["a", "b"] = true := by
  have h := nvSpec_ab
  cases hp : parseTreeSpec nvSpec "S" ["a", "b"] 20 with
  | none => rw [hp] at h; simp at h
  | some o =>
    cases o with
    | none => rw [hp] at h; simp at h
    | some t => exact ⟨t, rfl, parseTreeSpec_valid nvSpec ["a", "b"] 20 t hp⟩

end Earley
end Pfl
