/-
C02 — the Nerode oracle is exact; the quotient built by `minimize` keeps the language, is
deterministic and reduced.

The spec vocabulary (`RightLang`, `Nerode`, `IsNerodePartition`, `Reduced`) is defined in
`Pfl/Proofs/FAMin.lean`, next to the helper lemmas.
-/
import Pfl.Model.Minimize
import Pfl.Props.C04_Oracle
import Pfl.Props.C04_Words
import Pfl.Proofs.FAMin
namespace Pfl
namespace ENFA
variable {σ κ : Type} [DecidableEq σ] [DecidableEq κ]

theorem sameRight_iff (A : ENFA σ) (hA : A.WF) (fuel : Nat) (p q : Option σ)
    (hp : ∀ x, p = some x → x ∈ A.states) (hq : ∀ x, q = some x → x ∈ A.states) (b : Bool)
    (h : A.sameRight fuel p q = some b) : b = true ↔ A.Nerode p q :=
  sameRight_iff' A hA fuel p q hp hq b h

theorem nerodeGroups_spec (A : ENFA σ) (hA : A.WF) (fuel : Nat) (gs : List (List (Option σ)))
    (h : A.nerodeGroups fuel = some gs) : A.IsNerodePartition gs := by
  unfold nerodeGroups at h
  have hv : ∀ x ∈ none :: A.states.eraseDups.map some, ∀ q, x = some q → q ∈ A.states := by
    rintro _ hx q rfl
    simpa using hx
  obtain ⟨hG, hc⟩ := foldlM_insertGroup_spec A hA fuel _ [] gs hv (by simp)
    ⟨by simp, by simp, List.Pairwise.nil⟩ h
  refine ⟨fun x => ?_, hG.same, ?_⟩
  · rw [hc x]
    simp only [List.not_mem_nil, false_and, exists_false, false_or, List.mem_cons, List.mem_map,
      List.mem_eraseDups]
    exact or_congr_right (exists_congr fun q => and_congr_right fun _ => eq_comm)
  · intro g hg g' hg' x hx y hy hxy
    rcases pairwise_eq_or (R := fun g g' => ∀ x ∈ g, ∀ y ∈ g', ¬ A.Nerode x y)
      (fun a b hab x hx y hy hn => hab y hy x hx hn.symm) gs hG.sep g hg g' hg' with h | h
    · exact h
    · exact absurd hxy (h x hx y hy)

/-- the quotient by the Nerode partition (restricted to reachable, co-reachable states) keeps
the language, for any injective naming of the blocks -/
theorem minimizeOf_lang (A : ENFA σ) (hA : A.WF) (hd : A.Deterministic) (he : A.EpsFree)
    (gs : List (List (Option σ))) (hgs : A.IsNerodePartition gs) (key : List (Option σ) → κ)
    (hkey : ∀ g ∈ gs, ∀ g' ∈ gs, key g = key g' → g = g') (emptyKey : κ) (w : List Nat) :
    (A.minimizeOf gs key emptyKey).Lang w ↔ A.Lang w :=
  (minimizeOf_minimal A hA hd he gs hgs key hkey emptyKey).lang w

theorem minimizeOf_shape (A : ENFA σ) (hA : A.WF) (hd : A.Deterministic) (he : A.EpsFree)
    (gs : List (List (Option σ))) (hgs : A.IsNerodePartition gs) (key : List (Option σ) → κ)
    (hkey : ∀ g ∈ gs, ∀ g' ∈ gs, key g = key g' → g = g') (emptyKey : κ) :
    (A.minimizeOf gs key emptyKey).Deterministic ∧ (A.minimizeOf gs key emptyKey).EpsFree ∧
    (A.minimizeOf gs key emptyKey).WF := by
  have h := minimizeOf_minimal A hA hd he gs hgs key hkey emptyKey
  exact ⟨h.det, h.epsFree, h.wf⟩

theorem minimizeOf_reduced (A : ENFA σ) (hA : A.WF) (hd : A.Deterministic) (he : A.EpsFree)
    (gs : List (List (Option σ))) (hgs : A.IsNerodePartition gs) (key : List (Option σ) → κ)
    (hkey : ∀ g ∈ gs, ∀ g' ∈ gs, key g = key g' → g = g') (emptyKey : κ) :
    (A.minimizeOf gs key emptyKey).Reduced :=
  (minimizeOf_minimal A hA hd he gs hgs key hkey emptyKey).reduced

/-- the reducedness oracle decides `Reduced` -/
theorem isReduced_iff (M : ENFA σ) (hM : M.WF) (fuel : Nat) (b : Bool)
    (h : M.isReduced fuel = some b) : b = true ↔ M.Reduced := by
  unfold isReduced at h
  simp only at h
  split at h
  · rename_i hall
    simp only [Option.some.injEq] at h
    subst h
    simp only [Bool.false_eq_true, false_iff]
    intro hred
    simp only [Bool.not_eq_eq_eq_not, Bool.not_true, List.all_eq_false, decide_eq_true_eq,
      List.mem_eraseDups] at hall
    obtain ⟨q, hq, hnr⟩ := hall
    exact hnr ((mem_reachable_iff M hM q).mpr (hred.1 q hq))
  · rename_i hall
    simp only [Bool.not_eq_eq_eq_not, Bool.not_true, Bool.not_eq_false, List.all_eq_true,
      decide_eq_true_eq, List.mem_eraseDups] at hall
    have hmem : ∀ pq : σ × σ, pq ∈ (M.states.eraseDups.flatMap fun p =>
        M.states.eraseDups.filterMap fun q => if p = q then none else some (p, q)) ↔
        pq.1 ∈ M.states ∧ pq.2 ∈ M.states ∧ pq.1 ≠ pq.2 := by
      rintro ⟨p, q⟩
      simp only [List.mem_flatMap, List.mem_filterMap, List.mem_eraseDups]
      constructor
      · rintro ⟨p', hp', q', hq', hh⟩
        split at hh
        · cases hh
        · rename_i hne
          simp only [Option.some.injEq, Prod.mk.injEq] at hh
          obtain ⟨rfl, rfl⟩ := hh
          exact ⟨hp', hq', hne⟩
      · rintro ⟨hp, hq, hne⟩
        exact ⟨p, hp, q, hq, by rw [if_neg hne]⟩
    have := foldlM_sameRight M hM fuel _ true b
      (fun pq hpq => ⟨((hmem pq).mp hpq).1, ((hmem pq).mp hpq).2.1⟩) h
    rw [this]
    unfold Reduced
    constructor
    · rintro ⟨_, hsep⟩
      refine ⟨fun k hk => (mem_reachable_iff M hM k).mp (hall k hk), ?_⟩
      intro k hk k' hk' hn
      by_contra hne
      exact hsep (k, k') ((hmem _).mpr ⟨hk, hk', hne⟩) hn
    · rintro ⟨_, hsep⟩
      refine ⟨rfl, ?_⟩
      intro pq hpq hn
      obtain ⟨h1, h2, h3⟩ := (hmem pq).mp hpq
      exact h3 (hsep _ h1 _ h2 hn)

end ENFA
end Pfl
