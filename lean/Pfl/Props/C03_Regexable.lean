/-
C03 — `union`, `concatenate`, `kleene_star` of automata (`Regexable`): the library converts the
operands to regular expressions (state elimination), combines the expressions and builds the
Thompson automaton.  Composition of `toRegexRx_lang` (C06) and `thompson_lang` (C05): first for one
automaton (the round trip `to_regex().to_epsilon_nfa()`), then for the three operations, which are
round trips under `alt`, `cat`, `star`.
-/
import Pfl.Props.C06_ToRegex
import Pfl.Props.C05_Regex
namespace Pfl
namespace ENFA
variable {σ τ : Type} [DecidableEq σ] [DecidableEq τ]

/-- `a.union(b)` -/
def unionR (A : ENFA σ) (B : ENFA τ) (symName : Nat → String) (code : String → Nat)
    (oa : σ → List (Option σ)) (ob : τ → List (Option τ)) (c : Nat) : ENFA Nat :=
  ((Rx.alt (A.toRegexRx symName oa) (B.toRegexRx symName ob)).thompson code c).1

/-- `a.concatenate(b)` -/
def concatR (A : ENFA σ) (B : ENFA τ) (symName : Nat → String) (code : String → Nat)
    (oa : σ → List (Option σ)) (ob : τ → List (Option τ)) (c : Nat) : ENFA Nat :=
  ((Rx.cat (A.toRegexRx symName oa) (B.toRegexRx symName ob)).thompson code c).1

/-- `a.kleene_star()` -/
def starR (A : ENFA σ) (symName : Nat → String) (code : String → Nat)
    (oa : σ → List (Option σ)) (c : Nat) : ENFA Nat :=
  ((Rx.star (A.toRegexRx symName oa)).thompson code c).1

private theorem map_code (symName : Nat → String) (code : String → Nat)
    (hcode : ∀ a, code (symName a) = a) (w : List Nat) : (w.map symName).map code = w := by
  rw [List.map_map]
  exact (List.map_congr_left fun a _ => hcode a).trans (List.map_id' w)

/-- `fa.to_regex().to_epsilon_nfa()` accepts the language of `fa` -/
theorem toRegex_roundtrip_lang (A : ENFA σ) (hA : A.WF) (symName : Nat → String) (code : String → Nat)
    (hcode : ∀ a, code (symName a) = a) (order : σ → List (Option σ)) (c : Nat) (w : List Nat) :
    ((A.toRegexRx symName order).thompson code c).1.Lang w ↔ A.Lang w := by
  rw [Rx.thompson_lang]
  constructor
  · rintro ⟨u, hu, rfl⟩
    obtain ⟨w', rfl, hw'⟩ := (toRegexRx_lang A hA symName order u).1 hu
    rwa [map_code symName code hcode]
  · intro h
    exact ⟨w.map symName, (toRegexRx_lang A hA symName order _).2 ⟨w, rfl, h⟩,
      map_code symName code hcode w⟩

variable (symName : Nat → String) (code : String → Nat) (hcode : ∀ a, code (symName a) = a)
include hcode

private theorem decoded (A : ENFA σ) (hA : A.WF) (oa : σ → List (Option σ)) (w : List Nat) :
    (∃ u, Rx.Denote (A.toRegexRx symName oa) u ∧ u.map code = w) ↔ A.Lang w :=
  (Rx.thompson_lang code _ 0 w).symm.trans (toRegex_roundtrip_lang A hA symName code hcode oa 0 w)

theorem unionR_lang (A : ENFA σ) (B : ENFA τ) (hA : A.WF) (hB : B.WF)
    (oa : σ → List (Option σ)) (ob : τ → List (Option τ)) (c : Nat) (w : List Nat) :
    (unionR A B symName code oa ob c).Lang w ↔ A.Lang w ∨ B.Lang w := by
  simp only [unionR, Rx.thompson_lang, Rx.alt_denote, or_and_right, exists_or,
    decoded symName code hcode A hA, decoded symName code hcode B hB]

theorem concatR_lang (A : ENFA σ) (B : ENFA τ) (hA : A.WF) (hB : B.WF)
    (oa : σ → List (Option σ)) (ob : τ → List (Option τ)) (c : Nat) (w : List Nat) :
    (concatR A B symName code oa ob c).Lang w ↔ ∃ u v, w = u ++ v ∧ A.Lang u ∧ B.Lang v := by
  simp only [concatR, Rx.thompson_lang, Rx.cat_denote, ← decoded symName code hcode A hA oa,
    ← decoded symName code hcode B hB ob]
  constructor
  · rintro ⟨_, ⟨u, v, rfl, hu, hv⟩, rfl⟩
    exact ⟨_, _, List.map_append, ⟨u, hu, rfl⟩, ⟨v, hv, rfl⟩⟩
  · rintro ⟨_, _, rfl, ⟨u, hu, rfl⟩, ⟨v, hv, rfl⟩⟩
    exact ⟨u ++ v, ⟨u, v, rfl, hu, hv⟩, List.map_append⟩

theorem starR_lang (A : ENFA σ) (hA : A.WF) (oa : σ → List (Option σ)) (c : Nat) (w : List Nat) :
    (starR A symName code oa c).Lang w ↔ ∃ ws : List (List Nat), w = ws.flatten ∧ ∀ x ∈ ws, A.Lang x := by
  simp only [starR, Rx.thompson_lang, Rx.star_denote]
  constructor
  · rintro ⟨_, ⟨xs, rfl, hxs⟩, rfl⟩
    refine ⟨xs.map (·.map code), List.map_flatten, fun y hy => ?_⟩
    obtain ⟨x, hx, rfl⟩ := List.mem_map.1 hy
    exact (decoded symName code hcode A hA oa _).mp ⟨x, hxs x hx, rfl⟩
  · rintro ⟨ws, rfl, hws⟩
    refine ⟨(ws.map (·.map symName)).flatten, ⟨ws.map (·.map symName), rfl, ?_⟩, ?_⟩
    · intro x hx
      obtain ⟨y, hy, rfl⟩ := List.mem_map.1 hx
      exact (toRegexRx_lang A hA symName oa _).2 ⟨y, rfl, hws y hy⟩
    · rw [← List.map_flatten, map_code symName code hcode]

end ENFA
end Pfl
