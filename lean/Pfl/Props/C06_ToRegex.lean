/-
C06 — state elimination (`EpsilonNFA.to_regex`, tree-level model `Pfl/Model/ToRegex.lean`)
produces a regular expression denoting exactly the automaton's language, for every automaton,
every naming of the symbols and every elimination order.
-/
import Pfl.Model.ToRegex
import Pfl.Spec.FA
import Pfl.Spec.Regex
import Pfl.Proofs.ToRegexLemmas
namespace Pfl
namespace ENFA
variable {σ : Type} [DecidableEq σ]

theorem toRegexRx_lang (A : ENFA σ) (hA : A.WF) (symName : Nat → String)
    (order : σ → List (Option σ)) (u : List String) :
    Rx.Denote (A.toRegexRx symName order) u ↔ ∃ w, u = w.map symName ∧ A.Lang w :=
  ToRegex.Lem.toRegexRx_lang A hA symName order u

end ENFA
end Pfl
