/-
C01 — acceptance is run semantics: the three `accepts` methods (`EpsilonNFA`,
`NondeterministicFiniteAutomaton`, `DeterministicFiniteAutomaton`) against `Lang`, each for
automata of its class.
-/
import Pfl.Proofs.FAEpsCopy
namespace Pfl
namespace ENFA
variable {σ κ : Type} [DecidableEq σ] [DecidableEq κ]

/-- `EpsilonNFA.accepts(w)` ⇔ some run from a start state spells `w` (ε symbols in the
word are skipped) and ends in a final state -/
theorem acceptsE_iff (A : ENFA σ) (w : List (Option Nat)) :
    A.acceptsE w = true ↔ A.Lang (w.filterMap id) :=
  acceptsE_iff_lang A w

/-- `NondeterministicFiniteAutomaton.accepts`, for automata of that class (no ε-edge) -/
theorem acceptsN_iff (A : ENFA σ) (h : A.EpsFree) (w : List Nat) :
    A.acceptsN (w.map some) = true ↔ A.Lang w := by
  unfold acceptsN Lang
  simp only [List.any_eq_true, decide_eq_true_eq, mem_foldl_nextL_iff A h, List.mem_eraseDups]
  constructor
  · rintro ⟨f, ⟨s, hs, hr⟩, hf⟩; exact ⟨s, hs, f, hf, hr⟩
  · rintro ⟨s, hs, f, hf, hr⟩; exact ⟨f, ⟨s, hs, hr⟩, hf⟩

theorem foldl_headSucc_iff (A : ENFA σ) (hd : A.Deterministic) (he : A.EpsFree)
    (cur : Option σ) (w : List Nat) (r : σ) :
    (w.map some).foldl (fun cur a => cur.bind (fun q => (A.succs q a).head?)) cur = some r ↔
      ∃ q, cur = some q ∧ A.Run q w r := by
  rw [List.foldl_map]
  simp only [he.run_iff_runC]
  refine mem_foldl_iff_runC (fun r c => c = some r) A
    (fun cur a => cur.bind fun q => (A.succs q (some a)).head?) (fun c a r => ?_) w cur r
  simp only [Option.bind_eq_some_iff, hd.head?_succs_iff, EpsReach, he.run_nil_iff,
    exists_eq_right]

/-- `DeterministicFiniteAutomaton.accepts`, for automata of that class -/
theorem acceptsD_iff (A : ENFA σ) (hd : A.Deterministic) (he : A.EpsFree) (w : List Nat) :
    A.acceptsD (w.map some) = true ↔ A.Lang w := by
  have hstart := hd.head?_starts_iff
  unfold acceptsD Lang
  split
  · rename_i hnone
    constructor
    · intro h; cases h
    · rintro ⟨s, hs, f, hf, hr⟩
      have := (foldl_headSucc_iff A hd he _ w f).mpr ⟨s, (hstart s).mpr hs, hr⟩
      rw [hnone] at this; cases this
  · rename_i q hq
    obtain ⟨s, hs, hr⟩ := (foldl_headSucc_iff A hd he _ w q).mp hq
    simp only [decide_eq_true_eq]
    constructor
    · intro hf; exact ⟨s, (hstart s).mp hs, q, hf, hr⟩
    · rintro ⟨s', hs', f, hf, hr'⟩
      have := (foldl_headSucc_iff A hd he _ w f).mpr ⟨s', (hstart s').mpr hs', hr'⟩
      rw [hq] at this
      cases this; exact hf

end ENFA
end Pfl
