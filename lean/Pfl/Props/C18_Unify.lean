/-
C18 — unification of (sharing-free, consistently typed) feature structures is the greatest
lower bound: it succeeds exactly when no shared path carries two different atoms, and the
result carries exactly the information of both arguments, whatever the argument order.
-/
import Pfl.Model.Feature
import Pfl.Proofs.FeatureLemmas
namespace Pfl
namespace FS

/-- the information carried by a structure: the atomic values at its paths -/
def facts : FS → List (List String × String)
  | .unspec => []
  | .atom v => [([], v)]
  | .node fs => factsL fs
where
  factsL : List (String × FS) → List (List String × String)
    | [] => []
    | (f, x) :: rest => ((facts x).map fun e => (f :: e.1, e.2)) ++ factsL rest

/-- records list every feature once, at every depth (that atoms and records do not meet on a path is
a relation between two structures: `Agree`) -/
inductive WT : FS → Prop
  | unspec : WT .unspec
  | atom (v : String) : WT (.atom v)
  | node (fs : List (String × FS)) : (fs.map (·.1)).Nodup → (∀ e ∈ fs, WT e.2) → WT (.node fs)

/-- `a` and `b` are consistently typed: wherever both are specified they are both atoms or both records -/
inductive Agree : FS → FS → Prop
  | unspecL (b : FS) : Agree .unspec b
  | unspecR (a : FS) : Agree a .unspec
  | atom (v w : String) : Agree (.atom v) (.atom w)
  | node (fs gs : List (String × FS)) :
      (∀ f x y, lookup f fs = some x → lookup f gs = some y → Agree x y) → Agree (.node fs) (.node gs)

/-- two structures conflict when some path carries two different atoms -/
def Conflict (a b : FS) : Prop := ∃ p v w, (p, v) ∈ facts a ∧ (p, w) ∈ facts b ∧ v ≠ w

section
open Pfl.FS.Lem

theorem factsL_eq (fs : List (String × FS)) :
    facts.factsL fs = fs.flatMap fun e => (facts e.2).map fun l => (e.1 :: l.1, l.2) := by
  induction fs with
  | nil => rfl
  | cons e rest ih => rw [List.flatMap_cons, ← ih]; rfl

theorem mem_facts_node {fs : List (String × FS)} (hnd : (fs.map (·.1)).Nodup) (p : List String) (v : String) :
    (p, v) ∈ facts (.node fs) ↔ ∃ f q, p = f :: q ∧ (q, v) ∈ facts (feat fs f) := by
  simp only [facts, factsL_eq, List.mem_flatMap, List.mem_map, Prod.exists, Prod.mk.injEq]
  constructor
  · rintro ⟨f, x, hm, q, _, hq, rfl, rfl⟩
    exact ⟨f, q, rfl, by rwa [feat_of_mem hnd hm]⟩
  · rintro ⟨f, q, rfl, hq⟩
    rcases feat_cases fs f with h | h
    · rw [h] at hq; cases hq
    · exact ⟨f, _, lookup_some_mem h, q, v, hq, rfl, rfl⟩

theorem conflict_node {fs gs : List (String × FS)} (hfs : (fs.map (·.1)).Nodup) (hgs : (gs.map (·.1)).Nodup) :
    Conflict (.node fs) (.node gs) ↔ ∃ f, Conflict (feat fs f) (feat gs f) := by
  constructor
  · rintro ⟨p, v, w, h1, h2, h3⟩
    obtain ⟨f, q, rfl, hq⟩ := (mem_facts_node hfs _ _).1 h1
    obtain ⟨_, _, ⟨⟩, hq'⟩ := (mem_facts_node hgs _ _).1 h2
    exact ⟨f, q, v, w, hq, hq', h3⟩
  · rintro ⟨f, q, v, w, h1, h2, h3⟩
    exact ⟨f :: q, v, w, (mem_facts_node hfs _ _).2 ⟨f, q, rfl, h1⟩,
      (mem_facts_node hgs _ _).2 ⟨f, q, rfl, h2⟩, h3⟩

theorem Agree.symm {a b : FS} (h : Agree a b) : Agree b a := by
  induction h with
  | unspecL b => exact .unspecR b
  | unspecR a => exact .unspecL a
  | atom v w => exact .atom w v
  | node fs gs _ ih => exact .node gs fs fun f x y hx hy => ih f y x hy hx

theorem Conflict.symm {a b : FS} (h : Conflict a b) : Conflict b a := by
  obtain ⟨p, v, w, h1, h2, h3⟩ := h
  exact ⟨p, w, v, h2, h1, fun e => h3 e.symm⟩

theorem wt_feat {fs : List (String × FS)} (h : ∀ e ∈ fs, WT e.2) (f : String) : WT (feat fs f) := by
  rcases feat_cases fs f with hx | hx
  · rw [hx]; exact .unspec
  · exact h _ (lookup_some_mem hx)

/-- `unify a b` is the greatest lower bound of `a` and `b`, and is `none` where there is none -/
def Glb (a b : FS) : Prop :=
  (unify a b = none ↔ Conflict a b) ∧
    ∀ c, unify a b = some c → WT c ∧ ∀ e, e ∈ facts c ↔ e ∈ facts a ∨ e ∈ facts b

theorem glb_unspecL {b : FS} (hb : WT b) : Glb .unspec b := by
  rw [Glb, unify.eq_1]
  refine ⟨by simp [Conflict, facts], ?_⟩
  rintro c ⟨⟩
  exact ⟨hb, fun e => by simp [facts]⟩

theorem glb_unspecR {a : FS} (ha : WT a) : Glb a .unspec := by
  rw [Glb, unify_unspec]
  refine ⟨by simp [Conflict, facts], ?_⟩
  rintro c ⟨⟩
  exact ⟨ha, fun e => by simp [facts]⟩

/-- all three properties at once; in a record the induction hypothesis holds at every feature, listed
or not -/
theorem unify_main {a b : FS} (hab : Agree a b) : WT a → WT b → Glb a b := by
  induction hab with
  | unspecL b => exact fun _ => glb_unspecL
  | unspecR a => exact fun ha _ => glb_unspecR ha
  | atom v w =>
    intro ha _
    rw [Glb, unify.eq_3]
    by_cases h : v = w
    · subst h
      refine ⟨by simp [Conflict, facts], ?_⟩
      intro c hc
      simp only [if_true, Option.some.injEq] at hc
      subst hc
      exact ⟨ha, fun e => by simp [facts]⟩
    · refine ⟨?_, by simp [h]⟩
      simp only [h, if_false, true_iff]
      exact ⟨[], v, w, by simp [facts], by simp [facts], h⟩
  | node fs gs _ ih =>
    intro ha hb
    cases ha with | node _ hfs hfw =>
    cases hb with | node _ hgs hgw =>
    have IH : ∀ f, Glb (feat fs f) (feat gs f) := by
      intro f
      rcases feat_cases fs f with hx | hx
      · rw [hx]; exact glb_unspecL (wt_feat hgw f)
      rcases feat_cases gs f with hy | hy
      · rw [hy]; exact glb_unspecR (wt_feat hfw f)
      exact ih f _ _ hx hy (wt_feat hfw f) (wt_feat hgw f)
    have hspec := unifyFields_spec hfs hgs
    rw [Glb, unify.eq_6, conflict_node hfs hgs]
    split at hspec
    · next hs hu =>
      obtain ⟨hnd, hp⟩ := hspec
      rw [hu]
      refine ⟨iff_of_false nofun ?_, ?_⟩
      · rintro ⟨f, hf⟩
        have := (IH f).1.2 hf
        rw [hp f] at this; cases this
      · rintro c ⟨⟩
        refine ⟨.node hs hnd ?_, ?_⟩
        · rintro ⟨f, z⟩ hm
          rw [← feat_of_mem hnd hm]
          exact ((IH f).2 _ (hp f)).1
        · rintro ⟨p, v⟩
          rw [mem_facts_node hnd, mem_facts_node hfs, mem_facts_node hgs]
          -- `IH` at each feature; `∃` and `∧` distribute over `∨`
          simp only [fun f q => ((IH f).2 _ (hp f)).2 (q, v), and_or_left, exists_or]
    · next hu =>
      obtain ⟨f, hf⟩ := hspec
      rw [hu]
      exact ⟨iff_of_true rfl ⟨f, (IH f).1.1 hf⟩, nofun⟩

end

theorem unify_none_iff (a b : FS) (ha : WT a) (hb : WT b) (hab : Agree a b) :
    unify a b = none ↔ Conflict a b :=
  (unify_main hab ha hb).1

theorem unify_facts (a b c : FS) (ha : WT a) (hb : WT b) (hab : Agree a b) (h : unify a b = some c)
    (e : List String × String) : e ∈ facts c ↔ e ∈ facts a ∨ e ∈ facts b :=
  ((unify_main hab ha hb).2 c h).2 e

theorem unify_wt (a b c : FS) (ha : WT a) (hb : WT b) (hab : Agree a b) (h : unify a b = some c) : WT c :=
  ((unify_main hab ha hb).2 c h).1

/-- independence of the argument order, up to the information carried -/
theorem unify_comm (a b : FS) (ha : WT a) (hb : WT b) (hab : Agree a b) :
    (unify a b = none ↔ unify b a = none) ∧
    ∀ c d, unify a b = some c → unify b a = some d → ∀ e, e ∈ facts c ↔ e ∈ facts d := by
  refine ⟨?_, ?_⟩
  · rw [unify_none_iff a b ha hb hab, unify_none_iff b a hb ha hab.symm]
    exact ⟨Conflict.symm, Conflict.symm⟩
  · intro c d hc hd e
    rw [unify_facts a b c ha hb hab hc, unify_facts b a d hb ha hab.symm hd]
    exact Or.comm

end FS
end Pfl
