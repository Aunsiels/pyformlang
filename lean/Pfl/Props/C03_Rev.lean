/-
C03 — `reverse` accepts the mirrored words; renaming states injectively keeps the language.
-/
import Pfl.Proofs.FABase
import Pfl.Proofs.FAEpsCopy
namespace Pfl
namespace ENFA
variable {σ τ : Type} [DecidableEq σ] [DecidableEq τ]

set_option linter.unusedSectionVars false in
/-- renaming states by a function that is injective on the states in use keeps the language -/
theorem mapStates_lang (A : ENFA σ) (hA : A.WF) (f : σ → τ)
    (hf : ∀ p ∈ A.states, ∀ q ∈ A.states, f p = f q → p = q) (w : List Nat) :
    (A.mapStates f).Lang w ↔ A.Lang w := by
  constructor
  · -- the copy of `q` accepts at most what `q` accepts
    have hb : (A.mapStates f).Bound fun x w => ∃ q ∈ A.states, f q = x ∧ A.Then (· = []) q w := by
      rintro _ he w ⟨q, hq, hqy, hw⟩
      obtain ⟨t, ht, rfl⟩ := (mem_mapStates_delta f A _).mp he
      cases hf _ hq _ (hA.delta_dst _ ht) hqy
      exact ⟨t.1, hA.delta_src _ ht, rfl, Then.edge ht hw⟩
    intro hw
    obtain ⟨s', hs', q, hq, rfl, h⟩ := hb.lang (fun f' hf' => by
      obtain ⟨f0, hf0, rfl⟩ := (mem_mapStates_finals f A f').mp hf'
      exact ⟨f0, hA.finals_sub _ hf0, rfl, Then.final hf0 rfl⟩) hw
    obtain ⟨s, hs, hqs⟩ := (mem_mapStates_starts f A _).mp hs'
    cases hf _ (hA.starts_sub _ hs) _ hq hqs
    exact Then.lang_nil hs h
  · rintro ⟨s, hs, f0, hf0, hr⟩
    exact ⟨f s, (mem_mapStates_starts f A _).mpr ⟨s, hs, rfl⟩, f f0,
      (mem_mapStates_finals f A _).mpr ⟨f0, hf0, rfl⟩,
      Run.embed f (fun _ _ _ he => (mem_mapStates_delta f A _).mpr ⟨_, he, rfl⟩) hr⟩

theorem reverse_lang (A : ENFA σ) (hA : A.WF) (w : List Nat) :
    A.reverse.Lang w ↔ A.Lang w.reverse := by
  unfold Lang
  have hs : ∀ q, q ∈ A.reverse.starts ↔ q ∈ A.finals := fun q => by
    unfold reverse; rw [mem_ofParts_starts]
  have hf : ∀ q, q ∈ A.reverse.finals ↔ q ∈ A.starts := fun q => by
    unfold reverse; rw [mem_ofParts_finals]
  constructor
  · rintro ⟨s, hs', f, hf', hr⟩
    exact ⟨f, (hf f).mp hf', s, (hs s).mp hs', (reverse_run A hA f s w).mp hr⟩
  · rintro ⟨s, hs', f, hf', hr⟩
    exact ⟨f, (hs f).mpr hf', s, (hf s).mpr hs', (reverse_run A hA s f w).mpr hr⟩

end ENFA
end Pfl
