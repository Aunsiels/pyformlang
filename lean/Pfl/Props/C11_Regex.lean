/-
C11 — `CFG.intersection(regex)`: the regular expression becomes its Thompson automaton, that
automaton is determinised by the subset construction and the Bar-Hillel construction is applied.
Composition of `Rx.thompsonDet_lang` (the regular half, shared with `PDA.interRegex_lang`),
`toDet_shape` (C01) and `interD_lang`.
-/
import Pfl.Props.C11_BarHillel
import Pfl.Props.C05_Regex
import Pfl.Props.C01_Det
import Pfl.Props.C05_Compose
namespace Pfl
namespace CFG
variable {κ : Type} [DecidableEq κ]

theorem interRegex_lang (G : CFG) (hG : G.WF) (r : Rx) (code : String → Nat) (c : Nat)
    (hcode : ∀ s t, code s = code t → s = t)
    (symOf : String → Option Nat) (hsym : ∀ s, symOf s = some (code s))
    (key : List Nat → κ) (hk : (r.thompson code c).1.KeyInj key)
    (fuel1 : Nat) (D : ENFA κ) (hD : (r.thompson code c).1.toDet key true fuel1 = some D)
    (nm : κ → String)
    (hinj : ∀ p a q p' a' q', p ∈ D.states → q ∈ D.states → p' ∈ D.states → q' ∈ D.states →
      PDA.tripleName nm id p a q = PDA.tripleName nm id p' a' q' → p = p' ∧ a = a' ∧ q = q')
    (hstart : ∀ p a q, PDA.tripleName nm id p a q ≠ "Start")
    (fuel2 : Nat) (R : CFG) (hR : G.interD D symOf nm fuel2 = some R) (w : List String) :
    R.Lang w ↔ G.Lang w ∧ Rx.Denote r w := by
  obtain ⟨dD, eD⟩ := ENFA.toDet_shape _ key true fuel1 D hD
  rw [interD_lang G hG D (ENFA.toDet_wf hD).1 dD eD symOf nm hinj hstart fuel2 R hR w,
    Rx.thompsonDet_lang r code c hcode symOf hsym key hk fuel1 D hD]

end CFG
end Pfl
