/-
C02 — the library's own refinement loop (`_get_partition`, modelled step for step in
`Pfl/Model/Hopcroft.lean`) computes the Nerode partition, and terminates within an explicit
number of iterations.  Second half: `minimize()` as Hopcroft's loop followed by the quotient
`minimizeOf` keeps the language and is reduced (`minimize_hopcroft_lang`, `minimize_hopcroft_reduced`).
-/
import Pfl.Model.Hopcroft
import Pfl.Props.C02_Min
import Pfl.Proofs.HopcroftLemmas
namespace Pfl
namespace ENFA
variable {σ : Type} [DecidableEq σ]
open Pfl.ENFA.Hop

/-- Hopcroft's loop ends with the Nerode classes of `states ∪ {trash}` (the class of final
states may be empty when there is no final state, hence the filter) -/
theorem hopcroft_isNerodePartition (A : ENFA σ) (hA : A.WF) (hd : A.Deterministic) (he : A.EpsFree)
    (hnd : A.states.Nodup) (fuel : Nat) (gs : List (List (Option σ)))
    (h : A.hopcroft fuel = some gs) : A.IsNerodePartition (gs.filter (· ≠ [])) := by
  rw [hopcroft_eq, Option.map_eq_some_iff] at h
  obtain ⟨st', hst', rfl⟩ := h
  obtain ⟨⟨c, h1, hm⟩, hs⟩ := loop_inv A
    (fun st => ∃ c, Inv1 A st.part c ∧ Mid A c st)
    (fun st j a rest hs ⟨_, h1, hm⟩ => iter_inv2 hA hd he hnd st j a rest hs h1 hm)
    fuel _ st' ⟨_, init_inv1 A hnd, init_mid he⟩ hst'
  exact h1.rep.isNerodePartition (hm.nerode hA hd he hs)

/-- the groups are pairwise disjoint lists without repetition (what `to_new_states` relies on) -/
theorem hopcroft_groups_nodup (A : ENFA σ) (hnd : A.states.Nodup) (fuel : Nat)
    (gs : List (List (Option σ))) (h : A.hopcroft fuel = some gs) :
    (gs.flatMap id).Nodup := by
  rw [hopcroft_eq, Option.map_eq_some_iff] at h
  obtain ⟨st', hst', rfl⟩ := h
  obtain ⟨⟨c, h1⟩, -⟩ := loop_inv A (fun st => ∃ c, Inv1 A st.part c)
    (fun st j a rest _ h1 => iter_inv1 hnd st j a rest h1) fuel _ st' ⟨_, init_inv1 A hnd⟩ hst'
  exact h1.rep.nodup_flatMap

/-- termination: every pop is paid for by an initial insertion or by a split, and there are at most
`|states|` splits -/
theorem hopcroft_isSome (A : ENFA σ) (hnd : A.states.Nodup) (fuel : Nat)
    (hfuel : A.syms.length * (A.states.length + 2) < fuel) : (A.hopcroft fuel).isSome := by
  rw [hopcroft_eq, Option.isSome_map]
  apply loop_isSome hnd fuel _ ⟨_, init_inv1 A hnd⟩
  rw [initState_stack_length, initState_part]
  simp only [List.length_cons, List.length_nil]
  omega

end ENFA
end Pfl

namespace Pfl
namespace ENFA
variable {σ κ : Type} [DecidableEq σ] [DecidableEq κ]

theorem groupKey_filter_nonempty (gs : List (List (Option σ))) (key : List (Option σ) → κ) (q : σ) :
    groupKey (gs.filter (· ≠ [])) key q = groupKey gs key q := by
  unfold groupKey
  rw [List.find?_filter]
  congr 2
  funext g
  by_cases h : some q ∈ g
  · simp [h, List.ne_nil_of_mem h]
  · simp [h]

theorem minimizeOf_filter_nonempty (A : ENFA σ) (gs : List (List (Option σ)))
    (key : List (Option σ) → κ) (emptyKey : κ) :
    A.minimizeOf (gs.filter (· ≠ [])) key emptyKey = A.minimizeOf gs key emptyKey := by
  rw [minimizeOf_eq, minimizeOf_eq, funext (groupKey_filter_nonempty gs key)]

/-- `minimize()` as the library computes it — Hopcroft's loop followed by the quotient — returns the
minimal automaton, for every well-formed DFA and every injective naming of the blocks -/
theorem minimize_hopcroft_minimal (A : ENFA σ) (hA : A.WF) (hd : A.Deterministic) (he : A.EpsFree)
    (hnd : A.states.Nodup) (fuel : Nat) (gs : List (List (Option σ))) (h : A.hopcroft fuel = some gs)
    (key : List (Option σ) → κ)
    (hkey : ∀ g ∈ gs, ∀ g' ∈ gs, key g = key g' → g = g') (emptyKey : κ) :
    (A.minimizeOf gs key emptyKey).MinimalOf A := by
  rw [← minimizeOf_filter_nonempty]
  exact minimizeOf_minimal A hA hd he _ (hopcroft_isNerodePartition A hA hd he hnd fuel gs h) key
    (fun g hg g' hg' => hkey g (List.mem_of_mem_filter hg) g' (List.mem_of_mem_filter hg')) emptyKey

/-- `minimize()` as the library computes it — Hopcroft's loop followed by the quotient — keeps the
language, for every well-formed DFA and every injective naming of the blocks -/
theorem minimize_hopcroft_lang (A : ENFA σ) (hA : A.WF) (hd : A.Deterministic) (he : A.EpsFree)
    (hnd : A.states.Nodup) (fuel : Nat) (gs : List (List (Option σ))) (h : A.hopcroft fuel = some gs)
    (key : List (Option σ) → κ)
    (hkey : ∀ g ∈ gs, ∀ g' ∈ gs, key g = key g' → g = g') (emptyKey : κ) (w : List Nat) :
    (A.minimizeOf gs key emptyKey).Lang w ↔ A.Lang w :=
  (minimize_hopcroft_minimal A hA hd he hnd fuel gs h key hkey emptyKey).lang w

/-- … and is deterministic, ε-free, well-formed and reduced -/
theorem minimize_hopcroft_reduced (A : ENFA σ) (hA : A.WF) (hd : A.Deterministic) (he : A.EpsFree)
    (hnd : A.states.Nodup) (fuel : Nat) (gs : List (List (Option σ))) (h : A.hopcroft fuel = some gs)
    (key : List (Option σ) → κ)
    (hkey : ∀ g ∈ gs, ∀ g' ∈ gs, key g = key g' → g = g') (emptyKey : κ) :
    (A.minimizeOf gs key emptyKey).Deterministic ∧ (A.minimizeOf gs key emptyKey).EpsFree ∧
    (A.minimizeOf gs key emptyKey).WF ∧ (A.minimizeOf gs key emptyKey).Reduced := by
  have hm := minimize_hopcroft_minimal A hA hd he hnd fuel gs h key hkey emptyKey
  exact ⟨hm.det, hm.epsFree, hm.wf, hm.reduced⟩

theorem reduced_of_singletons (A : ENFA σ) (hA : A.WF)
    (gs : List (List (Option σ))) (hgs : A.IsNerodePartition gs) (h1 : ∀ g ∈ gs, g.length ≤ 1)
    (hr : ∀ k ∈ A.states, k ∈ A.reachable) : A.Reduced := by
  refine ⟨fun k hk => (mem_reachable_iff A hA k).mp (hr k hk), fun k hk k' hk' hn => ?_⟩
  obtain ⟨g, hg, hkg⟩ := (hgs.cover (some k)).mpr (Or.inr ⟨k, hk, rfl⟩)
  obtain ⟨g', hg', hkg'⟩ := (hgs.cover (some k')).mpr (Or.inr ⟨k', hk', rfl⟩)
  rw [← hgs.sep g hg g' hg' _ hkg _ hkg' hn] at hkg'
  exact Option.some.inj (eq_of_length_le_one (h1 g hg) hkg hkg')

end ENFA
end Pfl
