/-
C13 — to_final_state / to_empty_stack exchange the two acceptance modes; CFG.to_pda accepts
the grammar's language by empty stack.
-/
import Pfl.Spec.PDA
import Pfl.Proofs.CFGBase
import Pfl.Proofs.PDAModes
namespace Pfl
namespace PDA

/- The structure `PDA.WF` (`_states` / `_stack_alphabet` mention everything in use) is defined in
`Pfl/Proofs/PDARuns.lean`. -/

/-- `get_next_free` returns a name that is not in use -/
theorem nextFree_fresh (pre : String) (used : List String) : nextFree pre used ∉ used :=
  Modes.nextFree_fresh pre used

theorem toFinalState_lang (P : PDA String String) (hP : P.WF) (w : List String) :
    P.toFinalState.AccFinal w ↔ P.AccEmpty w :=
  ⟨Modes.toFinalState_sound hP, Modes.toFinalState_complete hP⟩

theorem toEmptyStack_lang (P : PDA String String) (hP : P.WF) (w : List String) :
    P.toEmptyStack.AccEmpty w ↔ P.AccFinal w :=
  ⟨Modes.toEmptyStack_sound hP, Modes.toEmptyStack_complete hP⟩

/-- `CFG.to_pda`, for grammars in which no variable is named like the stack symbol of a
terminal (`#TERM#t`) -/
theorem ofCFG_lang (G : CFG) (hG : G.WF) (hfresh : ∀ t ∈ G.ters, ("#TERM#" ++ t) ∉ G.vars)
    (w : List String) : (ofCFG G).AccEmpty w ↔ G.Lang w :=
  Modes.ofCFG_lang G hG hfresh w

end PDA
end Pfl
