/-
C02 — the lock-step walk `_is_equivalent_to_minimal` decides language equality on minimised
automata; the isomorphism oracle is sound.
-/
import Pfl.Props.C02_Min
import Pfl.Proofs.FAIso
namespace Pfl
namespace ENFA
variable {σ τ : Type} [DecidableEq σ] [DecidableEq τ]

/-- if the walk answers `True` the two deterministic automata accept the same words
(no minimality needed for this direction) -/
theorem isoWalk_true (M1 : ENFA σ) (M2 : ENFA τ) (h1 : M1.Deterministic) (e1 : M1.EpsFree)
    (h2 : M2.Deterministic) (e2 : M2.EpsFree) (fuel : Nat)
    (h : M1.isoWalk M2 fuel = some true) : ∀ w, M1.Lang w ↔ M2.Lang w := by
  unfold isoWalk at h
  split at h
  · rename_i s1 s2 hs1 hs2
    obtain ⟨S, hS1, hS2, hS3⟩ := isoWalkLoop_true M1 M2 fuel _ _ h
    have hS : ∀ x ∈ S, Checked M1 M2 S x := fun x hx => (hS3 x hx).elim (hS2 x) id
    exact (lang_iff_rightEq h1 h2 hs1 hs2).mpr (checked_bisim M1 M2 e1 e2 S hS _ (hS1 _ (by simp)))
  · cases h

/-- every edge leads to a state that can reach a final state -/
def Trim (M : ENFA σ) : Prop := ∀ t ∈ M.delta, ∃ w, ∃ f ∈ M.finals, M.Run t.2.2 w f

theorem isoWalk_false (M1 : ENFA σ) (M2 : ENFA τ) (w2 : M2.WF)
    (h1 : M1.Deterministic) (e1 : M1.EpsFree) (h2 : M2.Deterministic) (e2 : M2.EpsFree)
    (t1 : M1.Trim) (t2 : M2.Trim) (r2 : M2.Reduced) (fuel : Nat)
    (h : M1.isoWalk M2 fuel = some false) : ¬ ∀ w, M1.Lang w ↔ M2.Lang w := by
  intro heq
  unfold isoWalk at h
  split at h
  · rename_i s1 s2 hs1 hs2
    have hstart : ∀ x ∈ [(s1, s2)], x.2 ∈ M2.states ∧ RightEq M1 M2 x := fun x hx => by
      rw [List.mem_singleton.mp hx]
      exact ⟨w2.starts_sub _ (List.mem_of_head? hs2), (lang_iff_rightEq h1 h2 hs1 hs2).mp heq⟩
    exact isoWalkLoop_false M1 M2 w2 h1 e1 h2 e2 t1 t2 r2 fuel _ _ h hstart hstart
  · cases h

theorem minimizeOf_trim {κ : Type} [DecidableEq κ] (A : ENFA σ) (hA : A.WF) (hd : A.Deterministic)
    (he : A.EpsFree) (gs : List (List (Option σ))) (hgs : A.IsNerodePartition gs)
    (key : List (Option σ) → κ) (hkey : ∀ g ∈ gs, ∀ g' ∈ gs, key g = key g' → g = g')
    (emptyKey : κ) : (A.minimizeOf gs key emptyKey).Trim :=
  (minimizeOf_minimal A hA hd he gs hgs key hkey emptyKey).trim

omit [DecidableEq σ] [DecidableEq τ] in
theorem MinimalOf.isoWalk_iff {κ κ' : Type} [DecidableEq κ] [DecidableEq κ'] {M1 : ENFA κ}
    {M2 : ENFA κ'} {A : ENFA σ} {B : ENFA τ} (m1 : M1.MinimalOf A) (m2 : M2.MinimalOf B)
    {fuel : Nat} {b : Bool} (h : M1.isoWalk M2 fuel = some b) :
    b = true ↔ ∀ w, A.Lang w ↔ B.Lang w := by
  simp only [← m1.lang, ← m2.lang]
  cases b with
  | true => exact iff_of_true rfl (isoWalk_true _ _ m1.det m1.epsFree m2.det m2.epsFree fuel h)
  | false =>
    exact iff_of_false nofun (isoWalk_false _ _ m2.wf m1.det m1.epsFree m2.det m2.epsFree
      m1.trim m2.trim m2.reduced fuel h)

/-- `is_equivalent_to` on two DFAs (minimise both, then walk): whenever it answers, the
answer is language equality -/
theorem isEquivalent_exact {κ κ' : Type} [DecidableEq κ] [DecidableEq κ']
    (A : ENFA σ) (B : ENFA τ) (hA : A.WF) (hB : B.WF)
    (dA : A.Deterministic) (eA : A.EpsFree) (dB : B.Deterministic) (eB : B.EpsFree)
    (gA : List (List (Option σ))) (gB : List (List (Option τ)))
    (hgA : A.IsNerodePartition gA) (hgB : B.IsNerodePartition gB)
    (keyA : List (Option σ) → κ) (keyB : List (Option τ) → κ')
    (hkA : ∀ g ∈ gA, ∀ g' ∈ gA, keyA g = keyA g' → g = g')
    (hkB : ∀ g ∈ gB, ∀ g' ∈ gB, keyB g = keyB g' → g = g') (eA' : κ) (eB' : κ') (fuel : Nat)
    (b : Bool) (h : (A.minimizeOf gA keyA eA').isoWalk (B.minimizeOf gB keyB eB') fuel = some b) :
    b = true ↔ ∀ w, A.Lang w ↔ B.Lang w :=
  (minimizeOf_minimal A hA dA eA gA hgA keyA hkA eA').isoWalk_iff
    (minimizeOf_minimal B hB dB eB gB hgB keyB hkB eB') h

/-- the graph `m` of a bijection between the states respecting starts, finals and edges -/
def IsIso (M1 : ENFA σ) (M2 : ENFA τ) (m : List (σ × τ)) : Prop :=
  (∀ p ∈ M1.states, ∃ q, (p, q) ∈ m ∧ ∀ q', (p, q') ∈ m → q' = q) ∧
  (∀ q ∈ M2.states, ∃ p, (p, q) ∈ m ∧ ∀ p', (p', q) ∈ m → p' = p) ∧
  (∀ pq ∈ m, pq.1 ∈ M1.states ∧ pq.2 ∈ M2.states) ∧
  (∀ pq ∈ m, (pq.1 ∈ M1.starts ↔ pq.2 ∈ M2.starts) ∧ (pq.1 ∈ M1.finals ↔ pq.2 ∈ M2.finals)) ∧
  (∀ pq ∈ m, ∀ pq' ∈ m, ∀ a ∈ M1.syms ++ M2.syms,
    ((pq.1, some a, pq'.1) ∈ M1.delta ↔ (pq.2, some a, pq'.2) ∈ M2.delta))

theorem checkIso_iff (M1 : ENFA σ) (M2 : ENFA τ) (m : List (σ × τ)) :
    M1.checkIso M2 m = true ↔ M1.IsIso M2 m := by
  unfold checkIso IsIso
  simp only [Bool.and_eq_true, List.all_eq_true, decide_eq_true_eq, beq_iff_eq, decide_eq_decide,
    FAIso.filter_fst_unique, FAIso.filter_snd_unique]
  constructor
  · rintro ⟨⟨⟨⟨⟨a, b⟩, c⟩, d⟩, e⟩, f⟩
    exact ⟨a, b, c, fun pq h => ⟨d pq h, e pq h⟩, f⟩
  · rintro ⟨a, b, c, d, f⟩
    exact ⟨⟨⟨⟨⟨a, b⟩, c⟩, fun pq h => (d pq h).1⟩, fun pq h => (d pq h).2⟩, f⟩

set_option linter.unusedSectionVars false in
/-- isomorphic automata accept the same words -/
theorem isIso_lang (M1 : ENFA σ) (M2 : ENFA τ) (w1 : M1.WF) (w2 : M2.WF) (e1 : M1.EpsFree)
    (e2 : M2.EpsFree) (m : List (σ × τ)) (h : M1.IsIso M2 m) (w : List Nat) :
    M1.Lang w ↔ M2.Lang w := by
  obtain ⟨ha, hb, hc, hd, he⟩ := h
  -- the graph of an isomorphism passes the walk's local check against itself
  have hS : ∀ x ∈ m, Checked M1 M2 m x := fun x hx =>
    ⟨(hd x hx).2, fun a p' hedge => (ha p' (w1.delta_dst _ hedge)).imp fun q' hq' =>
        ⟨(he x hx (p', q') hq'.1 a (List.mem_append_left _ (w1.delta_sym _ hedge a rfl))).mp hedge, hq'.1⟩,
      fun a q' hedge => (hb q' (w2.delta_dst _ hedge)).imp fun p' hp' =>
        ⟨(he x hx (p', q') hp'.1 a (List.mem_append_right _ (w2.delta_sym _ hedge a rfl))).mpr hedge, hp'.1⟩⟩
  have hb' := checked_bisim M1 M2 e1 e2 m hS
  constructor
  · rintro ⟨s, hs, hacc⟩
    obtain ⟨q, hq, _⟩ := ha s (w1.starts_sub s hs)
    exact ⟨q, (hd _ hq).1.mp hs, (hb' _ hq w).mp hacc⟩
  · rintro ⟨s, hs, hacc⟩
    obtain ⟨p, hp, _⟩ := hb s (w2.starts_sub s hs)
    exact ⟨p, (hd _ hp).1.mpr hs, (hb' _ hp w).mpr hacc⟩

end ENFA
end Pfl
