/-
C08 — the independent membership oracle (span saturation) is exact.  A round `spanStep` is a
saturation pass (`Pass`, three folds around `Pass.add`) for the rule "the head of a production spans
what its body matches" (`Rule`), so `saturate` answers with the least set of spans closed under that
rule (`saturate_least`).  That set is the set of true span facts: the true facts are closed under the
rule (`rule_sound`, by recursion on the body), and a closed set holds every true fact
(`genList_complete`, by induction on the derivation).
-/
import Pfl.Proofs.CFGBase
import Pfl.Oracle.CfgMem
import Pfl.Proofs.HornSat
import Pfl.Proofs.WordLevels
import Mathlib.Data.List.Basic
import Mathlib.Data.List.Nodup
namespace Pfl
namespace CFG

namespace C08

theorem extends_fix {α : Type} {S S' : List α} (he : ∃ T, S' = S ++ T)
    (h : S'.length = S.length) : S' = S := by
  obtain ⟨T, rfl⟩ := he
  exact ((List.prefix_append S T).eq_of_length h.symm).symm

/-- what a round of `spanStep` adds: the head of a production over a span that its body matches -/
def Rule (G : CFG) (w : List String) (F : List Span) (x : Span) : Prop :=
  ∃ p ∈ G.prods, ∃ i ∈ List.range (w.length + 1), ∃ j ∈ matchBody F w p.2 i, x = (p.1, i, j)

theorem spanStep_pass (G : CFG) (w : List String) : Pass (Rule G w) (spanStep G w) :=
  Pass.foldl _ _ G.prods fun p _ => Pass.foldl _ _ (List.range (w.length + 1)) fun i _ =>
    Pass.add (fun j => ((p.1, i, j) : Span)) fun F => matchBody F w p.2 i

theorem spanStep_extends (G : CFG) (w : List String) (S : List Span) :
    ∃ T, spanStep G w S = S ++ T :=
  ((spanStep_pass G w).pre S).imp fun _ => Eq.symm

theorem saturate_least {G : CFG} {w : List String} {fuel : Nat} {S S' : List Span}
    (h : saturate G w fuel S = some S') : Least (Rule G w) S S' :=
  (spanStep_pass G w).untilFixed (saturate G w) (fun _ => rfl) (fun _ _ => rfl) h

theorem mem_matchBody_ter {S : List Span} {w : List String} {t : String} {rest : List Sym}
    {i j : Nat} : j ∈ matchBody S w (.ter t :: rest) i ↔
      w[i]? = some t ∧ j ∈ matchBody S w rest (i + 1) := by
  by_cases h : w[i]? = some t <;> simp [matchBody, h]

theorem mem_matchBody_var {S : List Span} {w : List String} {u : String} {rest : List Sym}
    {i j : Nat} : j ∈ matchBody S w (.var u :: rest) i ↔
      ∃ k, (u, i, k) ∈ S ∧ j ∈ matchBody S w rest k := by
  simp only [matchBody, List.mem_flatMap, List.mem_filterMap, Option.ite_none_right_eq_some,
    Option.some.injEq]
  constructor
  · rintro ⟨k, ⟨⟨X, i', k'⟩, hs, ⟨rfl, rfl⟩, rfl⟩, hj⟩
    exact ⟨_, hs, hj⟩
  · rintro ⟨k, hs, hj⟩
    exact ⟨k, ⟨_, hs, ⟨rfl, rfl⟩, rfl⟩, hj⟩

/-- the span fact is true -/
def Good (G : CFG) (w : List String) (s : Span) : Prop :=
  ∃ v, At w s.2.1 v ∧ s.2.2 = s.2.1 + v.length ∧ G.Gen (.var s.1) v

theorem matchBody_sound (G : CFG) (w : List String) (S : List Span) (hS : ∀ s ∈ S, Good G w s)
    (body : List Sym) (i j : Nat) (hi : i ≤ w.length) (hj : j ∈ matchBody S w body i) :
    ∃ v, At w i v ∧ j = i + v.length ∧ G.GenList body v := by
  induction body generalizing i with
  | nil =>
    cases List.mem_singleton.mp hj
    exact ⟨[], at_nil hi, rfl, .nil⟩
  | cons s rest ih =>
    cases s with
    | ter t =>
      obtain ⟨ht, hj⟩ := mem_matchBody_ter.mp hj
      have h1 : At w i [t] := at_singleton.mpr ht
      obtain ⟨v, hv, rfl, hg⟩ := ih (i + 1) (at_le h1) hj
      exact ⟨[t] ++ v, at_append h1 hv, by rw [List.length_append, ← Nat.add_assoc]; rfl,
        .cons (.ter t) hg⟩
    | var u =>
      obtain ⟨k, hs, hj⟩ := mem_matchBody_var.mp hj
      obtain ⟨v₁, hv₁, hk, hg₁⟩ := hS _ hs
      have hk : k = i + v₁.length := hk
      subst hk
      obtain ⟨v₂, hv₂, rfl, hg₂⟩ := ih _ (at_le hv₁) hj
      exact ⟨v₁ ++ v₂, at_append hv₁ hv₂, by rw [List.length_append, ← Nat.add_assoc],
        .cons hg₁ hg₂⟩

theorem rule_sound {G : CFG} {w : List String} {F : List Span} {x : Span}
    (hF : ∀ s ∈ F, Good G w s) : Rule G w F x → Good G w x := by
  rintro ⟨p, hp, i, hi, j, hj, rfl⟩
  obtain ⟨v, hv, rfl, hg⟩ :=
    matchBody_sound G w F hF p.2 i j (Nat.le_of_lt_succ (List.mem_range.mp hi)) hj
  exact ⟨v, hv, rfl, .var (body := p.2) hp hg⟩

theorem rule_of_gen {G : CFG} {w : List String} {S : List Span} {X : String} {body : List Sym}
    {i : Nat} {v : List String} (hp : (X, body) ∈ G.prods) (hv : At w i v)
    (hm : i + v.length ∈ matchBody S w body i) : Rule G w S (X, i, i + v.length) :=
  ⟨(X, body), hp, i, List.mem_range.mpr (Nat.lt_succ_of_le
    (Nat.le_trans (Nat.le_add_right _ _) (at_le hv))), _, hm, rfl⟩

theorem genList_complete {G : CFG} {w : List String} {S : List Span}
    (hC : ∀ x, Rule G w S x → x ∈ S) {u : List Sym} {v : List String} (h : G.GenList u v) :
    ∀ i, At w i v → i + v.length ∈ matchBody S w u i := by
  refine (Clean.gen_ind (G := G)
    (P := fun s v => ∀ i, At w i v → ∀ rest k,
      k ∈ matchBody S w rest (i + v.length) → k ∈ matchBody S w (s :: rest) i)
    (Q := fun u v => ∀ i, At w i v → i + v.length ∈ matchBody S w u i) ?_ ?_ ?_ ?_).2 u v h
  · intro t i hi rest k hk
    exact mem_matchBody_ter.mpr ⟨at_singleton.mp hi, hk⟩
  · intro X body v hp _ ih i hi rest k hk
    exact mem_matchBody_var.mpr ⟨_, hC _ (rule_of_gen hp hi (ih i hi)), hk⟩
  · intro i _
    exact List.mem_singleton.mpr rfl
  · intro s u v₁ v₂ _ _ ih₁ ih₂ i hi
    obtain ⟨h1, h2⟩ := at_split hi
    rw [List.length_append, ← Nat.add_assoc]
    exact ih₁ i h1 _ _ (ih₂ _ h2)

theorem mem_saturated_iff {G : CFG} {w : List String} {S : List Span}
    (h : Least (Rule G w) [] S) (X : String) (i j : Nat) :
    (X, i, j) ∈ S ↔ ∃ v, At w i v ∧ j = i + v.length ∧ G.Gen (.var X) v := by
  refine ⟨h.ind (Good G w) (fun _ _ => rule_sound) nofun _, ?_⟩
  rintro ⟨v, hv, rfl, hg⟩
  obtain ⟨body, hp, hl⟩ := gen_var_iff.mp hg
  exact h.closed _ (rule_of_gen hp hv (genList_complete h.closed hl i hv))

theorem mem_saturated_full {G : CFG} {w : List String} {S : List Span}
    (h : Least (Rule G w) [] S) (X : String) : (X, 0, w.length) ∈ S ↔ G.Gen (.var X) w := by
  rw [mem_saturated_iff h]
  constructor
  · rintro ⟨v, hv, hl, hg⟩
    rw [Nat.zero_add] at hl
    rw [← at_zero_full hv hl.symm]
    exact hg
  · intro hg
    exact ⟨w, at_full w, (Nat.zero_add _).symm, hg⟩

theorem mem_wordsOfLenS (syms : List String) (k : Nat) (w : List String) :
    w ∈ wordsOfLenS syms k ↔ w.length = k ∧ ∀ a ∈ w, a ∈ syms :=
  Levels.mem ⟨rfl, fun _ => rfl⟩ k w

theorem wordsOfLenS_nodup (syms : List String) (hs : syms.Nodup) (k : Nat) :
    (wordsOfLenS syms k).Nodup :=
  Levels.nodup ⟨rfl, fun _ => rfl⟩ hs k

/-- the candidate words enumerated by `langUpTo` -/
def cands (G : CFG) (n : Nat) : List (List String) :=
  (List.range (n + 1)).flatMap fun k => wordsOfLenS G.ters.eraseDups k

theorem mem_cands (G : CFG) (n : Nat) (w : List String) :
    w ∈ cands G n ↔ w.length ≤ n ∧ ∀ a ∈ w, a ∈ G.ters := by
  simp only [cands, List.mem_flatMap, List.mem_range, mem_wordsOfLenS, List.mem_eraseDups]
  constructor
  · rintro ⟨k, hk, rfl, h⟩; exact ⟨by omega, h⟩
  · rintro ⟨hl, h⟩; exact ⟨_, by omega, rfl, h⟩

theorem cands_nodup (G : CFG) (n : Nat) : (cands G n).Nodup :=
  nodup_flatMap_range _ (fun k => wordsOfLenS_nodup _ (nodup_eraseDups _) k)
    (fun k w hw => ((mem_wordsOfLenS _ k w).mp hw).1) (n + 1)

theorem foldlM_filter {α : Type} (c : α → Option Bool) (l : List α) (acc ws : List α)
    (h : l.foldlM (fun acc w => (c w).map fun b => if b then acc ++ [w] else acc) acc = some ws) :
    (∀ w ∈ l, ∃ b, c w = some b) ∧ ws = acc ++ l.filter (fun w => c w == some true) := by
  induction l generalizing acc with
  | nil =>
    simp only [List.foldlM_nil] at h
    cases h
    simp
  | cons a l ih =>
    simp only [List.foldlM_cons] at h
    cases hc : c a with
    | none => simp [hc] at h
    | some b =>
      simp only [hc, Option.map_some, Option.bind_eq_bind, Option.bind_some] at h
      obtain ⟨h1, h2⟩ := ih _ h
      refine ⟨?_, ?_⟩
      · intro w hw
        rcases List.mem_cons.mp hw with rfl | hw
        · exact ⟨b, hc⟩
        · exact h1 w hw
      · rw [h2]
        cases b <;> simp [hc]

theorem lang_ters {G : CFG} (hG : G.WF) {w : List String} (h : G.Lang w) :
    ∀ a ∈ w, a ∈ G.ters := by
  obtain ⟨s, _, hg⟩ := (lang_iff_gen G w).mp h
  exact gen_ters hG hg (fun t ht => by cases ht)

end C08

open C08

/-- whenever the oracle answers, the answer is derivability from the start symbol -/
theorem cfgMem_iff (G : CFG) (w : List String) (fuel : Nat) (b : Bool)
    (h : G.cfgMem w fuel = some b) : b = true ↔ G.Lang w := by
  unfold cfgMem at h
  obtain ⟨S, hS, hb⟩ := Option.map_eq_some_iff.mp h
  rw [lang_iff_gen]
  subst hb
  cases hst : G.start with
  | none => simp
  | some s =>
    simp only [decide_eq_true_eq, Option.some.injEq, exists_eq_left']
    exact mem_saturated_full (saturate_least hS) s

/-- the bounded-language oracle lists exactly the generated words of length `≤ n` -/
theorem mem_langUpTo_iff (G : CFG) (hG : G.WF) (n fuel : Nat) (ws : List (List String))
    (h : G.langUpTo n fuel = some ws) (w : List String) :
    w ∈ ws ↔ w.length ≤ n ∧ G.Lang w := by
  obtain ⟨h1, h2⟩ := foldlM_filter (fun w => G.cfgMem w fuel) (cands G n) [] ws h
  subst h2
  simp only [List.nil_append, List.mem_filter, mem_cands, beq_iff_eq]
  constructor
  · rintro ⟨⟨hl, _⟩, hc⟩
    exact ⟨hl, (cfgMem_iff G w fuel true hc).mp rfl⟩
  · rintro ⟨hl, hL⟩
    have hm : w.length ≤ n ∧ ∀ a ∈ w, a ∈ G.ters := ⟨hl, lang_ters hG hL⟩
    refine ⟨hm, ?_⟩
    obtain ⟨b, hb⟩ := h1 w ((mem_cands G n w).mpr hm)
    rw [hb, (cfgMem_iff G w fuel b hb).mpr hL]

theorem langUpTo_nodup (G : CFG) (n fuel : Nat) (ws : List (List String))
    (h : G.langUpTo n fuel = some ws) : ws.Nodup := by
  obtain ⟨_, h2⟩ := foldlM_filter (fun w => G.cfgMem w fuel) (cands G n) [] ws h
  subst h2
  simp only [List.nil_append]
  exact List.Nodup.filter _ (cands_nodup G n)

end CFG
end Pfl
