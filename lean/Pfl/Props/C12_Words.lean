/-
C12 — word enumeration and finiteness.
-/
import Pfl.Props.C09_CNF
import Pfl.Proofs.CFGWords
namespace Pfl
namespace CFG
open Words

/-- `get_words(n)`: whenever the loop finishes it has yielded each generated word of length
`≤ n` exactly once and nothing else -/
theorem getWords_exact (G : CFG) (hG : G.WF) (n fuel : Nat) (ws : List (List String))
    (h : G.getWords (some n) fuel = some ws) :
    ws.Nodup ∧ ∀ w, w ∈ ws ↔ w.length ≤ n ∧ G.Lang w := by
  obtain ⟨hnd, hmem⟩ := getWords_spec G hG (some n) fuel ws h
  exact ⟨hnd, fun w => (hmem w).trans ⟨fun ⟨h1, _, h2⟩ => ⟨h2 _ rfl, h1⟩,
    fun ⟨h1, h2⟩ => ⟨h2, Nat.zero_le _, fun m hm => Option.some.inj hm ▸ h1⟩⟩⟩

/-- unbounded `get_words()`: the stopping rule only fires when no longer word exists -/
theorem getWords_exact_unbounded (G : CFG) (hG : G.WF) (fuel : Nat) (ws : List (List String))
    (h : G.getWords none fuel = some ws) :
    ws.Nodup ∧ ∀ w, w ∈ ws ↔ G.Lang w := by
  obtain ⟨hnd, hmem⟩ := getWords_spec G hG none fuel ws h
  exact ⟨hnd, fun w => (hmem w).trans ⟨fun h => h.1, fun h => ⟨h, Nat.zero_le _, nofun⟩⟩⟩

/-- `is_finite`: whenever it answers, the answer is finiteness of the language -/
theorem isFinite_iff (G : CFG) (hG : G.WF) (fuel : Nat) (b : Bool)
    (h : G.isFinite fuel = some b) :
    b = true ↔ ∃ n, ∀ w, G.Lang w → w.length ≤ n := by
  rw [isFinite_eq] at h
  cases hN : G.toNormalForm fuel with
  | none => rw [hN] at h; cases h
  | some N =>
    rw [hN] at h
    simp only [Option.map_some, Option.some.injEq] at h
    have hlang := toNormalForm_lang G hG fuel N hN
    have hnf := toNormalForm_isNormalForm G hG fuel N hN
    have hwf := toNormalForm_wf G hG fuel N hN
    have hcyc := hasCycle_iff N hwf
    rw [← h]
    simp only [Bool.not_eq_true', ← Bool.not_eq_true, hcyc]
    constructor
    · intro hc
      refine ⟨2 ^ N.vars.length, ?_⟩
      intro w hw
      by_cases hw0 : w = []
      · subst hw0; simp
      · have : N.Lang w := (hlang w).mpr ⟨hw, hw0⟩
        obtain ⟨s, _, hg⟩ := (lang_iff_gen N w).mp this
        exact acyclic_bounded hnf hwf hc s w hg
    · exact acyclic_of_finite G hG fuel N hN

end CFG
end Pfl
