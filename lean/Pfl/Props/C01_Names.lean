/-
C01 / C03 — the naming layer: when manufactured names are faithful, and a machine-checked
witness that in general they are not (known finding KF-C01-1).
-/
import Pfl.Model.Names
import Pfl.Props.C01_Det
import Pfl.Props.C03_Rev
import Pfl.Props.C03_Bool
import Pfl.Proofs.NamesLemmas
namespace Pfl
namespace Names
open ENFA
set_option linter.unusedSectionVars false
variable {σ τ : Type} [DecidableEq σ] [DecidableEq τ]

/-- names under which `to_single_state` is faithful: pairwise different, non-empty, no `;` -/
def Clean (states : List σ) (names : σ → List Char) : Prop :=
  (∀ p ∈ states, ∀ q ∈ states, names p = names q → p = q) ∧
  (∀ q ∈ states, names q ≠ []) ∧ (∀ q ∈ states, ';' ∉ names q)

/-- with clean names the merged name determines the subset -/
theorem mergeName_keyInj (A : ENFA σ) (names : σ → List Char) (h : Clean A.states names) :
    A.KeyInj (mergeName names) := by
  obtain ⟨hinj, hne, hsc⟩ := h
  intro S T hS hT heq
  have hmem := mem_of_join_sort_eq (S.map names) (T.map names)
    (fun x hx => by
      obtain ⟨q, hq, rfl⟩ := List.mem_map.mp hx
      exact ⟨hne q (hS q hq), hsc q (hS q hq)⟩)
    (fun x hx => by
      obtain ⟨q, hq, rfl⟩ := List.mem_map.mp hx
      exact ⟨hne q (hT q hq), hsc q (hT q hq)⟩) heq
  intro q
  constructor
  · intro hq
    obtain ⟨r, hr, hrq⟩ := List.mem_map.mp ((hmem (names q)).mp (List.mem_map.mpr ⟨q, hq, rfl⟩))
    rw [← hinj r (hT r hr) q (hS q hq) hrq]; exact hr
  · intro hq
    obtain ⟨r, hr, hrq⟩ := List.mem_map.mp ((hmem (names q)).mpr (List.mem_map.mpr ⟨q, hq, rfl⟩))
    rw [← hinj r (hS r hr) q (hT q hq) hrq]; exact hr

/-- hence `to_deterministic` with the library's naming keeps the language (clean names) -/
theorem toDet_named_lang_partial (A : ENFA σ) (hA : A.WF) (names : σ → List Char)
    (h : Clean A.states names) (fuel : Nat) (D : ENFA (List Char))
    (hD : A.toDet (mergeName names) true fuel = some D) (w : List Nat) :
    D.Lang w ↔ A.Lang w :=
  toDet_lang A hA (mergeName names) (mergeName_keyInj A names h) fuel D hD w

/-- the full claim ("any hashable state values, including names that look like merged
names") is false: a concrete NFA with pairwise different names whose determinisation
differs from the NFA on some word (here `y z` is lost, under the other symbol order `x z` is gained) -/
def d01 : ENFA Nat :=
  { states := [0, 1, 2, 3, 4], syms := [0, 1, 2], starts := [0], finals := [4],
    delta := [(0, some 0, 1), (0, some 0, 2), (0, some 1, 3), (3, some 2, 4)] }
def d01Names : Nat → List Char
  | 0 => "a".toList | 1 => "b".toList | 2 => "c".toList | 3 => "b;c".toList | _ => "f".toList

theorem toDet_named_lang_false :
    ¬ (∀ (A : ENFA Nat) (names : Nat → List Char),
        (∀ p ∈ A.states, ∀ q ∈ A.states, names p = names q → p = q) →
        ∀ D, A.toDet (mergeName names) false 100 = some D →
        ∀ w : List Nat, D.acceptsD (w.map some) = A.acceptsN (w.map some)) := by
  intro h
  have h1 := h d01 d01Names (by decide)
  rw [mergeName_eq_mergeName'] at h1
  have key : (match d01.toDet (mergeName' d01Names) false 100 with
      | some D => D.acceptsD ([1, 2].map some) != d01.acceptsN ([1, 2].map some)
      | none => false) = true := by decide +kernel
  cases hD : d01.toDet (mergeName' d01Names) false 100 with
  | none => rw [hD] at key; exact absurd key (by decide)
  | some D =>
    rw [hD] at key
    have h2 := h1 D hD [1, 2]
    dsimp only at key
    rw [h2] at key
    simp at key

/-- pair names are faithful when no name contains `;` -/
theorem pairName_inj (sa : List σ) (sb : List τ) (na : σ → List Char) (nb : τ → List Char)
    (ha : Clean sa na) (hb : Clean sb nb) :
    ∀ p ∈ ENFA.prod sa sb, ∀ q ∈ ENFA.prod sa sb, pairName na nb p = pairName na nb q → p = q := by
  rintro ⟨p1, p2⟩ hp ⟨q1, q2⟩ hq heq
  rw [mem_prod] at hp hq
  simp only [pairName, List.append_assoc, List.cons_append, List.nil_append] at heq
  obtain ⟨h1, h2⟩ := append_cons_inj_left (ha.2.2 p1 hp.1) (ha.2.2 q1 hq.1) heq
  simp only [List.cons.injEq, true_and] at h2
  rw [ha.1 p1 hp.1 q1 hq.1 h1, hb.1 p2 hp.2 q2 hq.2 h2]

/-- and not in general: `("a; b", "c")` and `("a", "b; c")` get the same name -/
theorem pairName_not_inj :
    ¬ (∀ (na nb : Nat → List Char), (∀ p q, na p = na q → p = q) → (∀ p q, nb p = nb q → p = q) →
        ∀ p q : Nat × Nat, pairName na nb p = pairName na nb q → p = q) := by
  intro h
  -- the names `s, c, cc, ccc, …` are pairwise different when `s` contains a letter other than `c`
  have hinj : ∀ (c : Char) (s : List Char), ';' ∈ s → c ≠ ';' → ∀ p q : Nat,
      (if p = 0 then s else List.replicate p c) = (if q = 0 then s else List.replicate q c) →
        p = q := by
    intro c s hs hc p q hpq
    by_cases hp : p = 0 <;> by_cases hq : q = 0
    · rw [hp, hq]
    · rw [if_pos hp, if_neg hq] at hpq
      rw [hpq] at hs
      exact absurd (List.eq_of_mem_replicate hs).symm hc
    · rw [if_neg hp, if_pos hq] at hpq
      rw [← hpq] at hs
      exact absurd (List.eq_of_mem_replicate hs).symm hc
    · rw [if_neg hp, if_neg hq] at hpq
      simpa using congrArg List.length hpq
  have := h (fun n => if n = 0 then ['a', ';', ' ', 'b'] else List.replicate n 'a')
    (fun n => if n = 0 then ['b', ';', ' ', 'c'] else List.replicate n 'c')
    (hinj 'a' _ (by decide) (by decide)) (hinj 'c' _ (by decide) (by decide)) (0, 1) (1, 0)
    (by decide)
  exact absurd this (by decide)

end Names
end Pfl
