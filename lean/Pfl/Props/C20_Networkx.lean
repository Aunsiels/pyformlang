/-
C20 — `from_networkx (to_networkx x)` rebuilds the same machine: same states, same start / final marking,
same transitions, for finite automata, PDAs and transducers, whatever the states are called (names such
as "starting_q" that coincide with decoration nodes included).
-/
import Pfl.Model.Networkx
import Pfl.Props.C20_Labels
import Pfl.Proofs.Networkx
namespace Pfl
namespace Nx
open LabelCodec Pfl.Nx.Lem

/-- what an automaton built through the API satisfies, plus the quantifier of the property: no symbol
value is an ε spelling -/
structure FA.WF (A : FA) : Prop where
  starts : ∀ q ∈ A.starts, q ∈ A.states
  finals : ∀ q ∈ A.finals, q ∈ A.states
  delta : ∀ t ∈ A.delta, t.1 ∈ A.states ∧ t.2.2 ∈ A.states
  noEps : ∀ t ∈ A.delta, ∀ a, t.2.1 = some a → isEps a = false

theorem FA.roundtrip (A : FA) (h : A.WF) :
    (∀ q, q ∈ (FA.fromNetworkx A.toNetworkx).states ↔ q ∈ A.states) ∧
    (∀ q, q ∈ (FA.fromNetworkx A.toNetworkx).starts ↔ q ∈ A.starts) ∧
    (∀ q, q ∈ (FA.fromNetworkx A.toNetworkx).finals ↔ q ∈ A.finals) ∧
    (∀ t, t ∈ (FA.fromNetworkx A.toNetworkx).delta ↔ t ∈ A.delta) := by
  let lab : Val × Option Val × Val → Val := fun t => match t.2.1 with | none => .str "ɛ" | some a => a
  let g0 : Graph Val := A.states.foldl (stateStep (· ∈ A.starts) (· ∈ A.finals)) {}
  have hinv : Inv (· ∈ A.starts) (· ∈ A.finals) A.states g0 :=
    inv_statePass A.states
  have hg : A.toNetworkx =
      { nodes := g0.nodes, edges := g0.edges ++ A.delta.map fun t => (t.1, t.2.2, some (lab t)) } :=
    foldl_addEdge A.delta g0 h.delta hinv.nodes
  have hdelta : (g0.edges ++ A.delta.map fun t => (t.1, t.2.2, some (lab t))).filterMap
      (fun e => e.2.2.map fun l => (e.1, (if isEps l then none else some l), e.2.1)) = A.delta := by
    rw [filterMap_labelled hinv.edges]
    refine (List.map_congr_left ?_).trans (List.map_id _)
    rintro ⟨u, a, v⟩ ht
    cases a with
    | none => simp [lab, isEps]
    | some a => simp [lab, h.noEps _ ht a rfl]
  rw [hg]
  simp only [FA.fromNetworkx, hdelta]
  refine ⟨fun q => ?_, hinv.mem_starts_iff h.starts, hinv.mem_finals_iff h.finals, fun _ => trivial⟩
  -- each of the other three lists holds states only
  rw [List.mem_append, List.mem_append, List.mem_append, hinv.mem_starts_iff h.starts,
    hinv.mem_finals_iff h.finals, hinv.mem_stateNodes, or_iff_right_of_imp (mem_endpoints h.delta),
    or_iff_left_of_imp (h.starts q), or_iff_left_of_imp (h.finals q)]

/-- `json.loads ∘ json.dumps = id`, on values and on lists of values -/
structure JsonOK (J : Json) : Prop where
  loads_dumps : ∀ v, J.loads (J.dumps v) = some v
  loadsL_dumpsL : ∀ l, J.loadsL (J.dumpsL l) = some l

/-- the exact condition under which a PDA label splits back into its three texts (`readPdaLabel_pdaLabel`);
`Clear` texts satisfy it (`readPdaLabel_pdaLabel_clear`) -/
def PdaLabelOK (i f t : List Char) : Prop :=
  ¬ sepArrow <:+: i ++ sepArrow.dropLast ∧ ¬ sepArrow <:+: f ++ sepSlash ++ t ∧
  ¬ sepSlash <:+: f ++ sepSlash.dropLast ∧ ¬ sepSlash <:+: t

structure PDA.WF (J : Json) (P : PDA) : Prop where
  start : ∀ q, P.start = some q → q ∈ P.states
  finals : ∀ q ∈ P.finals, q ∈ P.states
  delta : ∀ t ∈ P.delta, t.1 ∈ P.states ∧ t.2.2.2.1 ∈ P.states
  labels : ∀ t ∈ P.delta, PdaLabelOK (J.dumps t.2.1) (J.dumps t.2.2.1) (J.dumpsL t.2.2.2.2)

/-- `json.loads ∘ json.dumps = id` on the values that occur in `P`: all the round trip of `P` asks of `json` -/
structure PDA.JsonOn (J : Json) (P : PDA) : Prop where
  delta : ∀ t ∈ P.delta, J.loads (J.dumps t.2.1) = some t.2.1 ∧ J.loads (J.dumps t.2.2.1) = some t.2.2.1 ∧
    J.loadsL (J.dumpsL t.2.2.2.2) = some t.2.2.2.2
  stack : ∀ z, P.startStack = some z → J.loads (J.dumps z) = some z

theorem JsonOK.on {J : Json} (hJ : JsonOK J) (P : PDA) : P.JsonOn J :=
  ⟨fun _ _ => ⟨hJ.loads_dumps _, hJ.loads_dumps _, hJ.loadsL_dumpsL _⟩, fun z _ => hJ.loads_dumps z⟩

/-- the graph after the state pass of `PDA.to_networkx` -/
def PDA.stateGraph (P : PDA) : Graph (List Char) :=
  P.states.foldl (stateStep (fun q => some q = P.start) (· ∈ P.finals)) {}

/-- the graph after the state pass and the hidden node (before the transitions) -/
def PDA.nodeGraph (J : Json) (P : PDA) : Graph (List Char) :=
  match P.startStack with
  | some z => P.stateGraph.addNode hiddenStack { label := some (.str (String.ofList (J.dumps z))), initialStack := some (J.dumps z) }
  | none => P.stateGraph

theorem PDA.nodeGraph_none (J : Json) {P : PDA} (hz : P.startStack = none) : P.nodeGraph J = P.stateGraph := by
  simp only [PDA.nodeGraph, hz]

theorem PDA.nodeGraph_some (J : Json) {P : PDA} {z : Val} (hz : P.startStack = some z) :
    P.nodeGraph J = P.stateGraph.addNode hiddenStack
      { label := some (.str (String.ofList (J.dumps z))), initialStack := some (J.dumps z) } := by
  simp only [PDA.nodeGraph, hz]

theorem PDA.stateGraph_inv (P : PDA) :
    Inv (fun q => some q = P.start) (· ∈ P.finals) P.states P.stateGraph :=
  inv_statePass P.states

theorem PDA.nodeGraph_inv (J : Json) (P : PDA) :
    Inv (fun q => some q = P.start) (· ∈ P.finals) P.states (P.nodeGraph J) := by
  unfold PDA.nodeGraph
  split
  · exact P.stateGraph_inv.addDeco _ _ rfl rfl
  · exact P.stateGraph_inv

theorem PDA.toNetworkx_eq (J : Json) (P : PDA) (h : P.WF J) :
    P.toNetworkx J =
      { nodes := (P.nodeGraph J).nodes
        edges := (P.nodeGraph J).edges ++ P.delta.map fun t =>
          (t.1, t.2.2.2.1, some (pdaLabel (J.dumps t.2.1) (J.dumps t.2.2.1) (J.dumpsL t.2.2.2.2))) } :=
  foldl_addEdge P.delta _ h.delta (PDA.nodeGraph_inv J P).nodes

/-- the import of a graph made of nodes that satisfy the state-pass invariant and from which the start stack
symbol is read back, plus the transition edges of `P` -/
theorem PDA.import_of_nodes (J : Json) (P : PDA) (h : P.WF J) (hJ : P.JsonOn J) (g1 : Graph (List Char))
    (hinv : Inv (fun q => some q = P.start) (· ∈ P.finals) P.states g1)
    (hstack : readStack J g1 = some P.startStack) :
    ∃ Q, PDA.fromNetworkx J
        { nodes := g1.nodes
          edges := g1.edges ++ P.delta.map fun t =>
            (t.1, t.2.2.2.1, some (pdaLabel (J.dumps t.2.1) (J.dumps t.2.2.1) (J.dumpsL t.2.2.2.2))) } = some Q ∧
      (∀ q, q ∈ Q.states ↔ q ∈ P.states) ∧ Q.start = P.start ∧ Q.startStack = P.startStack ∧
      (∀ q, q ∈ Q.finals ↔ q ∈ P.finals) ∧ (∀ t, t ∈ Q.delta ↔ t ∈ P.delta) := by
  have hR : ∀ t ∈ P.delta, PDA.readEdge J t.1 t.2.2.2.1
      (pdaLabel (J.dumps t.2.1) (J.dumps t.2.2.1) (J.dumpsL t.2.2.2.2)) = some t := by
    rintro ⟨u, i, f, v, o⟩ ht
    have hl := h.labels _ ht
    obtain ⟨hi, hf, ho⟩ : J.loads (J.dumps i) = some i ∧ J.loads (J.dumps f) = some f ∧
      J.loadsL (J.dumpsL o) = some o := hJ.delta _ ht
    simp only [PDA.readEdge, readPdaLabel_pdaLabel _ _ _ hl.1 hl.2.1 hl.2.2.1 hl.2.2.2, hi, hf, ho]
  have hstarts : ∀ q, q ∈ (g1.nodes.filter fun n => n.2.isStart.getD false).map (·.1) ↔ some q = P.start :=
    hinv.mem_starts_iff fun q hq => h.start q hq.symm
  unfold PDA.fromNetworkx
  rw [allSome_labelled hinv.edges hR]
  -- the start stack symbol is read from the nodes, which are those of `g1`
  show ∃ Q, (readStack J g1).map _ = some Q ∧ _
  rw [hstack]
  refine ⟨_, rfl, fun q => ?_, getLast?_eq_of_mem_iff hstarts, rfl, hinv.mem_finals_iff h.finals, fun t => Iff.rfl⟩
  rw [List.mem_append, List.mem_append, hstarts, hinv.mem_stateNodes,
    or_iff_right_of_imp (mem_endpoints h.delta), or_iff_left_of_imp fun hq => h.start q hq.symm]

/-- what the state pass leaves on a node called INITIAL_STACK_HIDDEN: it is no marker, so it carries `is_final`,
and no `initial_stack` -/
theorem PDA.statePass_hidden (P : PDA) (b : Attrs) (hb : (hiddenStack, b) ∈ P.stateGraph.nodes) :
    b.initialStack = none ∧ b.isFinal.isSome = true :=
  (stateOnly_statePass P.states _ b hb).imp_right fun h => h.resolve_left fun ⟨v, hv⟩ => marker_ne_hidden v hv.symm

theorem PDA.readStack_nodeGraph (J : Json) (P : PDA) (hJ : P.JsonOn J) :
    readStack J (P.nodeGraph J) = some P.startStack := by
  cases hz : P.startStack with
  | none =>
    rw [PDA.nodeGraph_none J hz]
    exact readStack_state J (PDA.statePass_hidden P)
  | some z =>
    rw [PDA.nodeGraph_some J hz, readStack_attr J (txt := J.dumps z), hJ.stack z hz]
    · rfl
    · intro b hb
      exact (set_addNode _ _ hb rfl).2 _ rfl
    · rw [hasNode_addNode]; exact Or.inr rfl

/-- the round trip of `P` asks `json` to round-trip the values of `P` only -/
theorem PDA.roundtrip_of (J : Json) (P : PDA) (h : P.WF J) (hJ : P.JsonOn J) :
    ∃ Q, PDA.fromNetworkx J (P.toNetworkx J) = some Q ∧
      (∀ q, q ∈ Q.states ↔ q ∈ P.states) ∧ Q.start = P.start ∧ Q.startStack = P.startStack ∧
      (∀ q, q ∈ Q.finals ↔ q ∈ P.finals) ∧ (∀ t, t ∈ Q.delta ↔ t ∈ P.delta) := by
  rw [PDA.toNetworkx_eq J P h]
  exact PDA.import_of_nodes J P h hJ _ (PDA.nodeGraph_inv J P) (PDA.readStack_nodeGraph J P hJ)

theorem PDA.roundtrip (J : Json) (hJ : JsonOK J) (P : PDA) (h : P.WF J) :
    ∃ Q, PDA.fromNetworkx J (P.toNetworkx J) = some Q ∧
      (∀ q, q ∈ Q.states ↔ q ∈ P.states) ∧ Q.start = P.start ∧ Q.startStack = P.startStack ∧
      (∀ q, q ∈ Q.finals ↔ q ∈ P.finals) ∧ (∀ t, t ∈ Q.delta ↔ t ∈ P.delta) :=
  PDA.roundtrip_of J P h (hJ.on P)

/-- a graph written by the library before the attribute `initial_stack` existed (`Graph.eraseStack`: the same
graph without that attribute) is still imported: the start stack symbol is read from the label of the
decoration node.  This needs that no state is called INITIAL_STACK_HIDDEN when there
is a start stack symbol (the node would carry `is_final` and be taken for a state); without a start stack
symbol the name is free. -/
theorem PDA.import_old_format (J : Json) (hJ : JsonOK J) (P : PDA) (h : P.WF J)
    (hh : P.startStack ≠ none → hiddenStack ∉ P.states) :
    ∃ Q, PDA.fromNetworkx J (P.toNetworkx J).eraseStack = some Q ∧
      (∀ q, q ∈ Q.states ↔ q ∈ P.states) ∧ Q.start = P.start ∧ Q.startStack = P.startStack ∧
      (∀ q, q ∈ Q.finals ↔ q ∈ P.finals) ∧ (∀ t, t ∈ Q.delta ↔ t ∈ P.delta) := by
  have hinv := PDA.nodeGraph_inv J P
  rw [PDA.toNetworkx_eq J P h]
  -- erasing touches the nodes only: what is left is the erased node graph plus the same edges
  refine PDA.import_of_nodes J P h (hJ.on P) (P.nodeGraph J).eraseStack hinv.eraseStack ?_
  cases hz : P.startStack with
  | none =>
    rw [PDA.nodeGraph_none J hz]
    apply readStack_state
    intro b hb
    obtain ⟨a, ha, rfl⟩ := mem_eraseStack.1 hb
    exact ⟨rfl, (PDA.statePass_hidden P a ha).2⟩
  | some z =>
    have hnot : hiddenStack ∉ P.states := hh (by rw [hz]; exact Option.some_ne_none z)
    rw [readStack_label J (txt := String.ofList (J.dumps z)), String.toList_ofList, hJ.loads_dumps]
    · rfl
    · intro b hb
      obtain ⟨a, ha, rfl⟩ := mem_eraseStack.1 hb
      refine ⟨rfl, (hinv.marks _ _ ha).2.trans (if_neg hnot), ?_⟩
      rw [PDA.nodeGraph_some J hz] at ha
      exact (set_addNode _ _ ha rfl).1 _ rfl
    · rw [hasNode_eraseStack, PDA.nodeGraph_some J hz, hasNode_addNode]; exact Or.inr rfl

/-- in the old format the hypothesis on the name is needed: with a start stack symbol and a state called
INITIAL_STACK_HIDDEN the node carries `is_final`, and the import answers that there is no start stack
symbol -/
theorem PDA.import_old_format_needs_name (J : Json) :
    (PDA.fromNetworkx J (PDA.toNetworkx J
      { states := [hiddenStack], start := none, startStack := some (.int 0), finals := [], delta := [] }).eraseStack).map
      (·.startStack) = some none := by
  rfl

/-- a toy `json` for witnesses: an int prints as its digits, a string between double quotes -/
def toyJson : Json :=
  { dumps := fun v => match v with | .int n => (toString n).toList | .str s => '"' :: s.toList ++ ['"']
    loads := fun t => match t with
      | '"' :: rest => if rest.getLast? = some '"' then some (.str (String.ofList rest.dropLast)) else none
      | _ => (String.ofList t).toInt?.map .int
    dumpsL := fun _ => "[]".toList
    loadsL := fun t => if t = "[]".toList then some [] else none }

/-- a PDA without start stack symbol one of whose states is called "INITIAL_STACK_HIDDEN" is exported
and imported back (the import must not read that state's own label as JSON) -/
theorem PDA.roundtrip_hidden_name :
    ∃ Q, PDA.fromNetworkx toyJson (PDA.toNetworkx toyJson
      { states := [hiddenStack], start := some hiddenStack, startStack := none, finals := [], delta := [] }) = some Q ∧
      Q.startStack = none ∧ Q.start = some hiddenStack ∧ (∀ q, q ∈ Q.states ↔ q = hiddenStack) ∧
      Q.finals = [] ∧ Q.delta = [] := by
  obtain ⟨Q, hQ, hstates, hstart, hstack, hfinals, hdelta⟩ := PDA.roundtrip_of toyJson
    { states := [hiddenStack], start := some hiddenStack, startStack := none, finals := [], delta := [] }
    (by constructor <;> simp) (by constructor <;> simp)
  exact ⟨Q, hQ, hstack, hstart, fun q => (hstates q).trans List.mem_singleton,
    List.eq_nil_iff_forall_not_mem.mpr fun q hq => List.not_mem_nil ((hfinals q).mp hq),
    List.eq_nil_iff_forall_not_mem.mpr fun t ht => List.not_mem_nil ((hdelta t).mp ht)⟩

def FstLabelOK (i o : List Char) : Prop :=
  ¬ sepArrow <:+: i ++ sepArrow.dropLast ∧ ¬ sepArrow <:+: o

/-- every state of a transducer built through the API is a start state, a final state or an endpoint of a
transition (there is no other way to add a state) -/
structure FST.WF (J : Json) (T : FST) : Prop where
  states : ∀ q ∈ T.states, q ∈ T.starts ∨ q ∈ T.finals ∨ ∃ t ∈ T.delta, q = t.1 ∨ q = t.2.2.1
  starts : ∀ q ∈ T.starts, q ∈ T.states
  finals : ∀ q ∈ T.finals, q ∈ T.states
  delta : ∀ t ∈ T.delta, t.1 ∈ T.states ∧ t.2.2.1 ∈ T.states
  labels : ∀ t ∈ T.delta, FstLabelOK (J.dumps t.2.1) (J.dumpsL t.2.2.2)

theorem FST.roundtrip (J : Json) (hJ : JsonOK J) (T : FST) (h : T.WF J) :
    ∃ U, FST.fromNetworkx J (T.toNetworkx J) = some U ∧
      (∀ q, q ∈ U.states ↔ q ∈ T.states) ∧ (∀ q, q ∈ U.starts ↔ q ∈ T.starts) ∧
      (∀ q, q ∈ U.finals ↔ q ∈ T.finals) ∧ (∀ t, t ∈ U.delta ↔ t ∈ T.delta) := by
  let lab : Val × Val × Val × List Val → List Char := fun t => fstLabel (J.dumps t.2.1) (J.dumpsL t.2.2.2)
  let g0 : Graph (List Char) := T.states.foldl (stateStep (· ∈ T.starts) (· ∈ T.finals)) {}
  have hinv : Inv (· ∈ T.starts) (· ∈ T.finals) T.states g0 :=
    inv_statePass T.states
  have hg : T.toNetworkx J =
      { nodes := g0.nodes, edges := g0.edges ++ T.delta.map fun t => (t.1, t.2.2.1, some (lab t)) } :=
    foldl_addEdge T.delta g0 h.delta hinv.nodes
  have hR : ∀ t ∈ T.delta, FST.readEdge J t.1 t.2.2.1 (lab t) = some t := by
    rintro ⟨u, i, v, o⟩ ht
    have hl := h.labels _ ht
    simp only [FST.readEdge, lab, readFstLabel_fstLabel _ _ hl.1 hl.2, hJ.loads_dumps, hJ.loadsL_dumpsL]
  rw [hg]
  simp only [FST.fromNetworkx, allSome_labelled hinv.edges hR]
  refine ⟨_, rfl, fun q => ?_, hinv.mem_starts_iff h.starts, hinv.mem_finals_iff h.finals, fun t => Iff.rfl⟩
  rw [List.mem_append, List.mem_append, hinv.mem_starts_iff h.starts, hinv.mem_finals_iff h.finals]
  constructor
  · rintro ((hq | hq) | hq)
    · exact mem_endpoints h.delta hq
    · exact h.starts q hq
    · exact h.finals q hq
  · intro hq
    rcases h.states q hq with hq | hq | ⟨t, ht, hq⟩
    · exact Or.inl (Or.inr hq)
    · exact Or.inr hq
    · exact Or.inl (Or.inl (List.mem_flatMap.mpr ⟨t, ht, by simpa using hq⟩))

/-- an automaton whose state names coincide with decoration nodes -/
def demoFA : FA :=
  { states := [.str "q", .str "starting_q", .int 0], starts := [.str "q", .int 0], finals := [.str "starting_q"]
    delta := [(.str "q", some (.str "a"), .str "starting_q"), (.str "starting_q", none, .int 0),
              (.int 0, some (.int 0), .str "q")] }

example : demoFA.WF := by constructor <;> decide +kernel

/-- a PDA with a start stack symbol and a state called like the hidden node: all hypotheses of
`PDA.roundtrip` hold (no condition on names is left) -/
example : PDA.WF toyJson
    { states := [hiddenStack], start := some hiddenStack, startStack := some (.int 0), finals := [], delta := [] } := by
  constructor <;> simp

end Nx
end Pfl
