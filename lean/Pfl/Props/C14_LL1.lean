/-
C14 — the saturation computing FIRST / FOLLOW yields the textbook sets (on grammars all of whose
symbols are generating), and the reference LL(1) parser only returns parse trees.
-/
import Pfl.Oracle.Trees
import Pfl.Props.C12_Classes
import Pfl.Proofs.LL1
import Pfl.Proofs.Trees
namespace Pfl
namespace CFG
open Pfl.CFG.LL1

/-- every symbol occurring in the grammar generates some terminal word -/
def AllGenerating (G : CFG) : Prop :=
  ∀ p ∈ G.prods, (∃ w, G.Gen (.var p.1) w) ∧ ∀ s ∈ p.2, ∃ w, G.Gen s w

/-- textbook FIRST: `t` can begin a word generated by `v` -/
theorem mem_firstSets_iff (G : CFG) (hg : G.AllGenerating) (hG : G.WF) (v t : String) :
    (v, t) ∈ G.firstSets ↔ ∃ w, G.Gen (.var v) (t :: w) :=
  mem_firstSets_iff' G (fun p hp => (hg p hp).2) hG v t

/-- textbook FOLLOW: `t` can follow `v` in a sentential form (`none`: `v` can end one), for grammars
without useless symbols as property C14 quantifies: all symbols generating and every production head
reachable from the start symbol (without reachability the saturation also records what follows
unreachable variables, see `mem_followSets_iff_counterexample`: `S → a, B → C b, C → c` yields
`("C", some "b")`) -/
theorem mem_followSets_iff (G : CFG) (hg : G.AllGenerating) (hG : G.WF)
    (hreach : ∀ p ∈ G.prods, Sym.var p.1 ∈ G.reachable) (v : String) (x : Option String) :
    (v, x) ∈ G.followSets ↔
      ∃ st, G.start = some st ∧ ∃ α β, G.Derives [.var st] (α ++ [.var v] ++ β) ∧
        (match x with
          | none => β = []
          | some t => ∃ β', β = .ter t :: β') := by
  rw [mem_followSets_iff' G (fun p hp => (hg p hp).2) hG hreach v x]
  cases x <;> rfl

/-- the reference LL(1) parser returns only valid parse trees -/
theorem llParse_valid (G : CFG) (w : List String) (fuel : Nat) (t : PTree)
    (h : G.llParse w fuel = some t) : G.treeValid t w = true := by
  unfold llParse at h
  cases hst : G.start with
  | none => rw [hst] at h; cases h
  | some s =>
    rw [hst] at h
    simp only at h
    split at h
    · next t' hr =>
      cases h
      obtain ⟨h1, h2, h3⟩ := llParseAux_spec G fuel _ w _ _ hr
      exact (Trees.treeValid_iff G t w).mpr ⟨⟨s, hst, (List.cons.inj h2).1⟩,
        by simpa [wellFormedL] using h3, by simp [h1, yieldL]⟩
    · cases h

/-! ### `mem_followSets_iff` is false without reachability of the production heads

Counterexample `S → a, B → C b, C → c` (start `S`): the saturation records `b ∈ FOLLOW(C)` although
no sentential form contains `C`. -/

def cexG : CFG := { vars := ["S","B","C"], ters := ["a","b","c"], start := some "S", prods := [("S",[.ter "a"]), ("B",[.var "C", .ter "b"]), ("C",[.ter "c"])] }

theorem cexG_wf : cexG.WF := by
  refine ⟨?_, ?_, ?_, ?_⟩
  · intro p hp; simp [cexG] at hp ⊢; rcases hp with rfl | rfl | rfl <;> simp
  · intro p hp v hv; simp [cexG] at hp ⊢; rcases hp with rfl | rfl | rfl <;> simp at hv ⊢ <;> simp [hv]
  · intro p hp v hv; simp [cexG] at hp ⊢; rcases hp with rfl | rfl | rfl <;> simp at hv ⊢ <;> simp [hv]
  · intro s hs; simp [cexG] at hs ⊢; simp [← hs]

/-- by the saturation of C12, which is exact (`mem_generating_iff`) -/
theorem cexG_gen : cexG.AllGenerating := by
  have key : ∀ p ∈ cexG.prods, ∀ s ∈ Sym.var p.1 :: p.2, s ∈ cexG.generating := by decide +kernel
  have gen : ∀ p ∈ cexG.prods, ∀ s ∈ Sym.var p.1 :: p.2, ∃ w, cexG.Gen s w := by
    intro p hp s hs
    rcases (mem_generating_iff cexG cexG_wf s).mp (key p hp s hs) with ⟨t, rfl, _⟩ | ⟨v, w, rfl, hw⟩
    · exact ⟨_, Gen.ter t⟩
    · exact ⟨w, hw⟩
  exact fun p hp => ⟨gen p hp _ List.mem_cons_self, fun s hs => gen p hp s (List.mem_cons_of_mem _ hs)⟩

theorem cexG_mem : ("C", some "b") ∈ cexG.followSets :=
  (followSets_least cexG cexG_wf).closed _ ⟨("B", [.var "C", .ter "b"]), by simp [cexG],
    .first "C" "b" [.ter "b"] (List.mem_singleton.mpr rfl)⟩

/-- `C` is not among the reachable symbols that C12 computes (`mem_reachable_iff`) -/
theorem cexG_unreach :
    ¬ ∃ st, cexG.start = some st ∧ ∃ α β, cexG.Derives [.var st] (α ++ [.var "C"] ++ β) :=
  fun h => absurd ((mem_reachable_iff cexG (.var "C")).mpr h) (by decide +kernel)

/-- without the reachability hypothesis the statement of `mem_followSets_iff` fails on `cexG` -/
theorem mem_followSets_iff_counterexample :
    cexG.AllGenerating ∧ cexG.WF ∧ ("C", some "b") ∈ cexG.followSets ∧
      ¬ ∃ st, cexG.start = some st ∧ ∃ α β, cexG.Derives [.var st] (α ++ [.var "C"] ++ β) ∧
        ∃ β', β = .ter "b" :: β' := by
  exact ⟨cexG_gen, cexG_wf, cexG_mem, fun ⟨st, hst, α, β, hd, _⟩ => cexG_unreach ⟨st, hst, α, β, hd⟩⟩

end CFG
end Pfl
