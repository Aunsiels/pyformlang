/-
C07 — end to end on the models: pattern text (rendered from an AST of the documented subset)
→ the seven rewriting passes of `PythonRegex` (`Pfl/Model/PyRegexPasses.lean`) → the reader of
`Regex` (`Pfl/Model/Regex.lean`) yields a tree that denotes exactly the meaning of the pattern
(`Pfl/Model/PyRegex.lean`: `Matches` over Python's printable characters).
Staged by the size of the fragment; every stage is a statement about ALL patterns of its fragment.
-/
import Pfl.Model.PyRegexPasses
import Pfl.Model.PyRender
import Pfl.Model.Regex
import Pfl.Spec.Regex
import Pfl.Props.C07_Desugar
import Pfl.Proofs.PyRxEndToEnd
namespace Pfl
namespace PyRx

/-- the tree `PythonRegex(text)` ends up with: passes, then the reader -/
def pythonRegexTree (text : List Char) (fuel : Nat) : Option Rx :=
  match PyPass.transform text with
  | .ok t =>
    match RegexReader.parse fuel t with
    | .ok r => some r
    | .error _ => none
  | .error _ => none

def printable : List Char := PyPass.printables

def plainLit (c : Char) : Bool := c.isAlphanum

/-- stage 1: plain letters and digits, concatenation, alternation, star -/
def Stage1 : P → Prop
  | .lit c => plainLit c = true
  | .cat a b => Stage1 a ∧ Stage1 b
  | .alt a b => Stage1 a ∧ Stage1 b
  | .star a => Stage1 a
  | _ => False

/-- stage 2: stage 1 plus `+`, `?`, `{m}`, `{m,n}` (with `m ≤ n`) -/
def Stage2 : P → Prop
  | .lit c => plainLit c = true
  | .cat a b => Stage2 a ∧ Stage2 b
  | .alt a b => Stage2 a ∧ Stage2 b
  | .star a => Stage2 a
  | .plus a => Stage2 a
  | .opt a => Stage2 a
  | .rep a m n => Stage2 a ∧ m ≤ n
  | _ => False

/-- stage 3: stage 2 plus every printable literal (escaped metacharacters included), `.`, `\d \s \w` -/
def Stage3 : P → Prop
  | .lit c => c ∈ printable
  | .dot => True
  | .short k => k = 'd' ∨ k = 's' ∨ k = 'w'
  | .cat a b => Stage3 a ∧ Stage3 b
  | .alt a b => Stage3 a ∧ Stage3 b
  | .star a => Stage3 a
  | .plus a => Stage3 a
  | .opt a => Stage3 a
  | .rep a m n => Stage3 a ∧ m ≤ n
  | .set _ _ => False

/-- the items of a set in stage 4: a printable character other than the newline, or a range `lo ≤ hi`
within the visible ASCII characters; no shortcut inside a set -/
def GoodItem : Item → Prop
  | .ch c => c ∈ printable ∧ c ≠ '\n'
  | .range lo hi => lo ∈ printable ∧ hi ∈ printable ∧ lo.toNat ≤ hi.toNat ∧ lo.toNat ≥ 33 ∧ hi.toNat ≤ 126
  | .short _ => False

/-- stage 4: stage 3 plus non-empty character sets and negated sets of good items -/
def Stage4 : P → Prop
  | .lit c => c ∈ printable
  | .dot => True
  | .short k => k = 'd' ∨ k = 's' ∨ k = 'w'
  | .set _ items => items ≠ [] ∧ ∀ it ∈ items, GoodItem it
  | .cat a b => Stage4 a ∧ Stage4 b
  | .alt a b => Stage4 a ∧ Stage4 b
  | .star a => Stage4 a
  | .plus a => Stage4 a
  | .opt a => Stage4 a
  | .rep a m n => Stage4 a ∧ m ≤ n

/-- what is claimed for a fragment `S` -/
def Correct (S : P → Prop) : Prop :=
  ∀ p, S p → ∃ fuel r, pythonRegexTree (render p .top) fuel = some r ∧
    ∀ w : List Char, (∀ c ∈ w, c ∈ printable) → (Rx.Denote r (word w) ↔ Matches printable p w)

theorem GoodItem.goodIt {neg : Bool} : ∀ it, GoodItem it → E2E.S3.GoodIt neg it
  | .ch _, h => ⟨h.1, fun _ => h.2⟩
  | .range _ _, h => ⟨h.2.2.2.1, h.2.2.1, h.2.2.2.2⟩
  | .short _, h => h

theorem Stage4.frag4 : ∀ p, Stage4 p → E2E.S3.Frag4 p
  | .lit _, h => h
  | .dot, _ => trivial
  | .short _, h => h
  | .set _ _, h => ⟨h.1, fun it hit => GoodItem.goodIt it (h.2 it hit)⟩
  | .cat a b, h => ⟨Stage4.frag4 a h.1, Stage4.frag4 b h.2⟩
  | .alt a b, h => ⟨Stage4.frag4 a h.1, Stage4.frag4 b h.2⟩
  | .star a, h => Stage4.frag4 a h
  | .plus a, h => Stage4.frag4 a h
  | .opt a, h => Stage4.frag4 a h
  | .rep a _ _, h => ⟨Stage4.frag4 a h.1, h.2⟩

theorem pythonRegex_correct_stage4 : Correct Stage4 := by
  intro p hp
  obtain ⟨t, fuel, r, h1, h2, h3⟩ := E2E.S3.stage4 p (Stage4.frag4 p hp)
  exact ⟨fuel, r, by simp [pythonRegexTree, h1, h2], fun w _ => h3 w⟩

theorem Correct.anti {S T : P → Prop} (h : ∀ p, S p → T p) (hT : Correct T) : Correct S :=
  fun p hp => hT p (h p hp)

theorem Stage3.stage4 : ∀ p, Stage3 p → Stage4 p
  | .lit _, h => h
  | .dot, _ => trivial
  | .short _, h => h
  | .cat a b, h => ⟨Stage3.stage4 a h.1, Stage3.stage4 b h.2⟩
  | .alt a b, h => ⟨Stage3.stage4 a h.1, Stage3.stage4 b h.2⟩
  | .star a, h => Stage3.stage4 a h
  | .plus a, h => Stage3.stage4 a h
  | .opt a, h => Stage3.stage4 a h
  | .rep a _ _, h => ⟨Stage3.stage4 a h.1, h.2⟩

theorem pythonRegex_correct_stage3 : Correct Stage3 :=
  pythonRegex_correct_stage4.anti Stage3.stage4

theorem plainLit_printable (c : Char) (h : plainLit c = true) : c ∈ printable := by
  have hr := E2E.alnum_range c h
  exact E2E.S3.visible_char c (by omega) (by omega)

theorem Stage2.stage3 : ∀ p, Stage2 p → Stage3 p
  | .lit c, h => plainLit_printable c h
  | .cat a b, h => ⟨Stage2.stage3 a h.1, Stage2.stage3 b h.2⟩
  | .alt a b, h => ⟨Stage2.stage3 a h.1, Stage2.stage3 b h.2⟩
  | .star a, h => Stage2.stage3 a h
  | .plus a, h => Stage2.stage3 a h
  | .opt a, h => Stage2.stage3 a h
  | .rep a _ _, h => ⟨Stage2.stage3 a h.1, h.2⟩

theorem pythonRegex_correct_stage2 : Correct Stage2 :=
  pythonRegex_correct_stage3.anti Stage2.stage3

theorem Stage1.stage2 : ∀ p, Stage1 p → Stage2 p
  | .lit _, h => h
  | .cat a b, h => ⟨Stage1.stage2 a h.1, Stage1.stage2 b h.2⟩
  | .alt a b, h => ⟨Stage1.stage2 a h.1, Stage1.stage2 b h.2⟩
  | .star a, h => Stage1.stage2 a h

theorem pythonRegex_correct_stage1 : Correct Stage1 :=
  pythonRegex_correct_stage2.anti Stage1.stage2

end PyRx
end Pfl
