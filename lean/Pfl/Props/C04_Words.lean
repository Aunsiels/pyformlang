/-
C04 — acyclicity test and word enumeration.
-/
import Pfl.Proofs.FAOracle
import Pfl.Props.C04_Oracle
import Pfl.Proofs.FAWords
namespace Pfl
namespace ENFA
variable {σ : Type} [DecidableEq σ]

/-- a state reachable from a start state lies on a non-trivial cycle of (symbol or ε) edges -/
def HasReachableCycle (A : ENFA σ) : Prop :=
  ∃ s ∈ A.starts, ∃ q, Reach A.outs s q ∧ ∃ r ∈ A.outs q, Reach A.outs r q

/-- the oracle `reachableCycle` decides `HasReachableCycle` -/
theorem reachableCycle_iff (A : ENFA σ) : A.reachableCycle = true ↔ A.HasReachableCycle := by
  unfold reachableCycle HasReachableCycle
  simp only [List.any_eq_true, decide_eq_true_eq, mem_cycle_bfs_iff, mem_reachable_reach]
  constructor
  · rintro ⟨q, ⟨s, hs, hsq⟩, r, hr, hrq⟩
    exact ⟨s, hs, q, hsq, r, hr, hrq⟩
  · rintro ⟨s, hs, q, hsq, r, hr, hrq⟩
    exact ⟨q, ⟨s, hs, hsq⟩, r, hr, hrq⟩

/-- `is_acyclic` (explicit stack of paths): whenever it answers, the answer is
"no cycle is reachable from a start state" -/
theorem isAcyclic_iff (A : ENFA σ) (fuel : Nat) (b : Bool) (h : A.isAcyclic fuel = some b) :
    b = true ↔ ¬ A.HasReachableCycle := by
  -- a reachable cycle is a walk from a start state, with no history, that closes
  rw [acyclicLoop_spec A _ _ b h]
  simp only [List.forall_mem_map, List.mem_reverse, HasReachableCycle, Closes, List.not_mem_nil,
    false_or, not_exists, not_and]

/-- the bounded-language oracle lists exactly the accepted words of length `≤ n` -/
theorem mem_langUpTo_iff (A : ENFA σ) (hA : A.WF) (n : Nat) (w : List Nat) :
    w ∈ A.langUpTo n ↔ w.length ≤ n ∧ A.Lang w := by
  unfold langUpTo
  simp only [List.mem_flatMap, List.mem_range, List.mem_filter, mem_wordsOfLen, member_iff,
    List.mem_eraseDups]
  constructor
  · rintro ⟨k, hk, ⟨hl, _⟩, hL⟩
    exact ⟨by omega, hL⟩
  · rintro ⟨hl, hL⟩
    refine ⟨w.length, by omega, ⟨rfl, ?_⟩, hL⟩
    obtain ⟨s, _, f, _, hr⟩ := hL
    exact hA.run_syms hr

theorem langUpTo_nodup (A : ENFA σ) (n : Nat) : (A.langUpTo n).Nodup :=
  nodup_flatMap_range _ (fun k => (wordsOfLen_nodup _ (nodup_eraseDups _) k).filter _)
    (fun k w hw => ((mem_wordsOfLen _ k w).mp (List.mem_filter.mp hw).1).1) (n + 1)

/-- `_get_states_leading_to_final`: exactly the states from which a final
state can be reached -/
theorem mem_leadingToFinal_iff (A : ENFA σ) (q : σ) :
    q ∈ A.leadingToFinal ↔ ∃ w, ∃ f ∈ A.finals, A.Run q w f :=
  mem_leadingToFinal_iff' A q

/-- `get_accepted_words(max_length)`: whenever the queue loop finishes, it has yielded every
accepted word of length `≤ n` exactly once and nothing else -/
theorem acceptedWords_exact (A : ENFA σ) (n : Nat) (fuel : Nat) (ws : List (List Nat))
    (h : A.acceptedWords (some n) fuel = some ws) :
    ws.Nodup ∧ ∀ w, w ∈ ws ↔ w.length ≤ n ∧ A.Lang w :=
  wordsLoop_exact A (some n) fuel ws h

/-- unbounded enumeration: if it finishes, it has yielded exactly the language -/
theorem acceptedWords_exact_unbounded (A : ENFA σ) (fuel : Nat) (ws : List (List Nat))
    (h : A.acceptedWords none fuel = some ws) :
    ws.Nodup ∧ ∀ w, w ∈ ws ↔ A.Lang w := by
  have := wordsLoop_exact A none fuel ws h
  simpa [lenOK] using this

end ENFA
end Pfl
