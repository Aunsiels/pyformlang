/-
Non-vacuity witnesses, second part (the first is `Pfl/Props/NonVacuity.lean`, whose example objects
are reused): the theorems of `C18_Dag` and `C17_Inter`, and the hypotheses / fuelled functions of
`C06_ToRegex`, `C03_Regexable`, `C16_ToFST`, `C20_Labels`, `C15_RecDescent`,
`C07_Desugar`, `C20_Boxes`.  Same discipline: every witness is checked by the kernel (`decide`,
`decide +kernel`, `rfl`, `simp`, short manual proofs; no `sorry`, no `native_decide`).
-/
import Pfl.Props.NonVacuity
import Pfl.Props.C17_Inter
import Pfl.Props.C18_Dag
import Pfl.Proofs.EarleyTreeNV
import Pfl.Props.C03_Termination

namespace Pfl
namespace NonVacuity2
open NonVacuity

/-! ## 1. Feature structures with sharing (C18_Dag) -/
section Dag
open FsDag FsGround FsDag.Lem
open Earley.Tr.NV (unifyK unify_eq_unifyK)

/-- `unify` is compiled by well-founded recursion and does not reduce in the kernel: the witnesses run its
structurally recursive copy `unifyK` (`Pfl/Proofs/EarleyTreeNV.lean`) -/
def unifySFSK (a b : SFS) (fuel : Nat) : Res × Nat :=
  (unifyK fuel (buildInto (buildInto [] a).1 b).1 (buildInto [] a).2 (buildInto (buildInto [] a).1 b).2,
    (buildInto [] a).2)

theorem unifySFS_eq_K (a b : SFS) (fuel : Nat) : unifySFS a b fuel = unifySFSK a b fuel := by
  simp only [unifySFS, unifySFSK, unify_eq_unifyK]

def isOk : Res × Nat → Bool
  | (.ok _, _) => true
  | _ => false
def isConflict : Res × Nat → Bool
  | (.conflict, _) => true
  | _ => false
/-- what `read_sfs` sees in the receiver after a successful unification -/
def readRes (paths : List (List String)) : Res × Nat → Option SFS
  | (.ok st, r) => some (read st r paths)
  | _ => none

theorem exists_of_isOk {x : Res × Nat} (h : isOk x = true) : ∃ st r, x = (.ok st, r) := by
  match x, h with
  | (.ok st, r), _ => exact ⟨st, r, rfl⟩
theorem exists_of_isConflict {x : Res × Nat} (h : isConflict x = true) : ∃ r, x = (.conflict, r) := by
  match x, h with
  | (.conflict, r), _ => exact ⟨r, rfl⟩

def pathsX : List (List String) := [["n"], ["c"], ["agr", "n"], ["agr", "c"]]
/-- `n` and `agr.n` shared, `c` unspecified -/
def sA : SFS := [(["n"], .var "x"), (["agr", "n"], .var "x"), (["c"], .free)]
/-- `n` atomic, `c` and `agr.c` shared -/
def sB : SFS := [(["n"], .atom "s"), (["agr", "c"], .var "y"), (["c"], .var "y")]
/-- incompatible with `sA` only through the sharing `n = agr.n` -/
def sC : SFS := [(["n"], .atom "s"), (["agr", "n"], .atom "p")]

theorem nv_pathsX_shape : ∀ p ∈ pathsX, (∃ g, p = [g] ∧ g ≠ "agr") ∨ (∃ g, p = ["agr", g]) := by
  intro p hp
  simp only [pathsX, List.mem_cons, List.not_mem_nil, or_false] at hp
  rcases hp with rfl | rfl | rfl | rfl
  · exact Or.inl ⟨"n", rfl, by decide⟩
  · exact Or.inl ⟨"c", rfl, by decide⟩
  · exact Or.inr ⟨"n", rfl⟩
  · exact Or.inr ⟨"c", rfl⟩

-- `Typed` (`unifySFS_terminates`, `unifySFS_ok`, `unifySFS_conflict`)
theorem nv_typed_A : Typed pathsX sA := ⟨by decide, by decide, nv_pathsX_shape, by decide⟩
theorem nv_typed_B : Typed pathsX sB := ⟨by decide, by decide, nv_pathsX_shape, by decide⟩
theorem nv_typed_C : Typed pathsX sC := ⟨by decide, by decide, nv_pathsX_shape, by decide⟩

-- `unifySFS_ok`: two structures with shared variables that unify …
theorem nv_unify_ok : ∃ st r, unifySFS sA sB 10 = (.ok st, r) :=
  exists_of_isOk (by rw [unifySFS_eq_K]; decide +kernel)
/-- … and the receiver then shares `n`, `agr.n` (atom `s`) and `c`, `agr.c` (one class) -/
theorem nv_unify_read : readRes pathsX (unifySFS sA sB 10) =
    some [(["n"], .atom "s"), (["c"], .var "c0"), (["agr", "n"], .atom "s"), (["agr", "c"], .var "c0")] := by
  rw [unifySFS_eq_K]; decide +kernel
/-- `unifySFS_ok` fully instantiated on a common ground instance -/
theorem nv_unify_ok_inst : ∃ st r, unifySFS sA sB 10 = (.ok st, r) ∧
    sat (read st r pathsX) [(["n"], "s"), (["c"], "p"), (["agr", "n"], "s"), (["agr", "c"], "p")] = true := by
  obtain ⟨st, r, h⟩ := nv_unify_ok
  exact ⟨st, r, h, (unifySFS_ok pathsX ["s", "p"] sA sB nv_typed_A nv_typed_B 10 st r h _
    (by decide +kernel)).mpr (by decide +kernel)⟩

-- `unifySFS_conflict`: a pair that conflicts (only because of the sharing in `sA`)
theorem nv_unify_conflict : ∃ r, unifySFS sA sC 10 = (.conflict, r) :=
  exists_of_isConflict (by rw [unifySFS_eq_K]; decide +kernel)
theorem nv_unify_conflict_plain :
    ∃ r, unifySFS [(["n"], .atom "s")] [(["n"], .atom "p")] 10 = (.conflict, r) :=
  exists_of_isConflict (by rw [unifySFS_eq_K]; decide +kernel)
/-- each of the two is satisfiable on its own -/
theorem nv_conflict_each_sat :
    sat sA [(["n"], "s"), (["c"], "p"), (["agr", "n"], "s"), (["agr", "c"], "p")] = true ∧
    sat sC [(["n"], "s"), (["c"], "p"), (["agr", "n"], "p"), (["agr", "c"], "p")] = true := by
  decide +kernel

-- `unifySFS_terminates`: the fuel bound
theorem nv_unify_fuel : (4 : Nat) ≤ 10 := by decide

end Dag

/-! ## 2. Indexed grammar ∩ regular language (C17_Inter) and `to_fst` (C16_ToFST) -/
section Inter
open IG

def symAB (n : Nat) : String := if n = 0 then "a" else "b"

/-- the identity transducer of the DFA `a* b b` -/
def fstABB : FST Nat := dfaABB.toFST symAB
/-- the identity transducer of the DFA `a* b` -/
def fstAB : FST Nat := dfaAB.toFST symAB

-- `toFST_rel` (no hypothesis): the construction on a concrete automaton
theorem nv_toFST : fstABB.states = [0, 2, 1] ∧ fstABB.inputs = ["a", "b"] ∧ fstABB.outputs = ["a", "b"] ∧
    fstABB.starts = [0] ∧ fstABB.finals = [2] ∧
    fstABB.delta = [(0, some "a", 0, ["a"]), (0, some "b", 1, ["b"]), (1, some "b", 2, ["b"])] := by
  decide +kernel
theorem nv_toFST_eps : (enfa1.toFST symAB).delta =
    [(0, none, 1, []), (0, some "a", 1, ["a"]), (0, some "a", 2, ["a"]), (1, some "b", 3, ["b"]),
     (2, some "b", 3, ["b"]), (3, none, 0, [])] := by decide +kernel
theorem nv_toFST_relOutputs : fstABB.relOutputs ["a", "b", "b"] 50 = some [["a", "b", "b"]] ∧
    fstABB.relOutputs ["a", "b"] 50 = some [] := by decide +kernel

/-- all four rule kinds; `S[] ⇒ X[g] ⇒ X[fg] ⇒ A[fg] B[fg] ⇒* a b` (whatever the number of `f`s pushed,
the word is `a b`: the language is `{a b}`) -/
def igAB : IG :=
  { start := "S"
    rules := [.prod "S" "X" "g", .prod "X" "X" "f", .dup "X" "A" "B", .cons "f" "A" "A",
              .cons "g" "A" "Ea", .cons "f" "B" "B", .cons "g" "B" "Eb", .end_ "Ea" "a",
              .end_ "Eb" "b"] }

/-- the characters of a printed state avoid the punctuation of a Python tuple -/
def CleanNames {σ : Type} (rs : σ → String) : Prop :=
  ∀ p, ',' ∉ (rs p).toList ∧ ' ' ∉ (rs p).toList

theorem nv_cleanNames_toString : CleanNames (toString : Nat → String) := fun p =>
  ⟨fun h => absurd (Fresh.toString_isDigit p _ h) (by decide),
    fun h => absurd (Fresh.toString_isDigit p _ h) (by decide)⟩

private theorem e_open : "(".toList = ['('] := rfl
private theorem e_close : ")".toList = [')'] := rfl
private theorem e_mid1 : ", '".toList = [',', ' ', '\''] := rfl
private theorem e_mid2 : "', ".toList = ['\'', ',', ' '] := rfl
private theorem e_tmid1 : ", ('terminal', '".toList =
    [',', ' ', '(', '\'', 't', 'e', 'r', 'm', 'i', 'n', 'a', 'l', '\'', ',', ' ', '\''] := String.toList_ofList
private theorem e_tmid2 : "'), ".toList = ['\'', ')', ',', ' '] := rfl

theorem tripleStr_toList {σ : Type} (rs : σ → String) (p : σ) (x : String) (q : σ) :
    (tripleStr rs p x q).toList =
      '(' :: ((rs p).toList ++ ',' :: (' ' :: '\'' :: x.toList ++ '\'' :: ',' :: [] ++ ' ' :: ((rs q).toList ++ [')']))) := by
  simp only [tripleStr, String.toList_append, e_open, e_close, e_mid1, e_mid2, List.cons_append,
    List.nil_append, List.append_assoc]

theorem terTripleStr_toList {σ : Type} (rs : σ → String) (p : σ) (x : String) (q : σ) :
    (terTripleStr rs p x q).toList =
      '(' :: ((rs p).toList ++ ',' :: (' ' :: '(' :: '\'' :: 't' :: 'e' :: 'r' :: 'm' :: 'i' :: 'n' :: 'a' :: 'l' ::
        '\'' :: ',' :: ' ' :: '\'' :: x.toList ++ '\'' :: ')' :: ',' :: [] ++ ' ' :: ((rs q).toList ++ [')']))) := by
  simp only [terTripleStr, String.toList_append, e_open, e_close, e_tmid1, e_tmid2, List.cons_append,
    List.nil_append, List.append_assoc]

/-- both kinds of printed triple have the shape `p ++ "," ++ pre ++ x ++ post ++ " " ++ q ++ ")"`: framed by the
first comma and the last blank; then strip `pre` and `post` -/
theorem triple_chars_inj {σ : Type} (rs : σ → String) (hc : CleanNames rs)
    (hinj : ∀ p q, rs p = rs q → p = q) (pre post : List Char) (p : σ) (x : String) (q p' : σ) (x' : String)
    (q' : σ)
    (h : (rs p).toList ++ ',' :: (pre ++ x.toList ++ post ++ ' ' :: ((rs q).toList ++ [')'])) =
      (rs p').toList ++ ',' :: (pre ++ x'.toList ++ post ++ ' ' :: ((rs q').toList ++ [')']))) :
    p = p' ∧ x = x' ∧ q = q' := by
  have hq : ∀ q, ' ' ∉ (rs q).toList ++ [')'] := fun q hm => by
    rcases List.mem_append.mp hm with hm | hm
    · exact (hc q).2 hm
    · simp at hm
  obtain ⟨h1, h3, h4⟩ := frame_inj ',' ' ' (hc p).1 (hc p').1 (hq q) (hq q') h
  rw [List.append_cancel_right_eq, List.append_cancel_left_eq] at h3
  rw [List.append_cancel_right_eq] at h4
  exact ⟨hinj _ _ (String.toList_injective h1), String.toList_injective h3,
    hinj _ _ (String.toList_injective h4)⟩

theorem tripleStr_inj {σ : Type} (rs : σ → String) (hc : CleanNames rs)
    (hinj : ∀ p q, rs p = rs q → p = q) (p : σ) (x : String) (q p' : σ) (x' : String) (q' : σ)
    (h : tripleStr rs p x q = tripleStr rs p' x' q') : p = p' ∧ x = x' ∧ q = q' := by
  have h' := congrArg String.toList h
  rw [tripleStr_toList, tripleStr_toList, List.cons.injEq] at h'
  exact triple_chars_inj rs hc hinj [' ', '\''] ['\'', ','] p x q p' x' q' h'.2

theorem terTripleStr_inj {σ : Type} (rs : σ → String) (hc : CleanNames rs)
    (hinj : ∀ p q, rs p = rs q → p = q) (p : σ) (x : String) (q p' : σ) (x' : String) (q' : σ)
    (h : terTripleStr rs p x q = terTripleStr rs p' x' q') : p = p' ∧ x = x' ∧ q = q' := by
  have h' := congrArg String.toList h
  rw [terTripleStr_toList, terTripleStr_toList, List.cons.injEq] at h'
  exact triple_chars_inj rs hc hinj [' ', '(', '\'', 't', 'e', 'r', 'm', 'i', 'n', 'a', 'l', '\'', ',', ' ', '\'']
    ['\'', ')', ','] p x q p' x' q' h'.2

theorem tripleStr_ne_ter {σ : Type} (rs : σ → String) (hc : CleanNames rs)
    (p : σ) (x : String) (q p' : σ) (x' : String) (q' : σ) :
    tripleStr rs p x q ≠ terTripleStr rs p' x' q' := by
  intro h
  have h' := congrArg String.toList h
  rw [tripleStr_toList, terTripleStr_toList, List.cons.injEq] at h'
  obtain ⟨-, h2⟩ := append_cons_inj_left (hc p).1 (hc p').1 h'.2
  simp at h2

theorem tripleStr_not {σ : Type} (rs : σ → String) {t : String} {d : Char} {l : List Char}
    (ht : t.toList = d :: l) (hd : '(' ≠ d) (p : σ) (x : String) (q : σ) :
    tripleStr rs p x q ≠ t ∧ terTripleStr rs p x q ≠ t :=
  ⟨ne_of_head (tripleStr_toList rs p x q) ht hd, ne_of_head (terTripleStr_toList rs p x q) ht hd⟩

theorem interOK_toString (T : FST Nat) (G : IG) (hs : G.start = "S") (hwf : T.WF)
    (heps : ∀ t ∈ T.delta, t.2.1 ≠ some "epsilon") : InterOK T toString G :=
  { start := hs, wf := hwf
    tripleInj := fun p x q p' x' q' _ _ _ _ h =>
      tripleStr_inj toString nv_cleanNames_toString nv_toString_inj p x q p' x' q' h
    terTripleInj := fun p x q p' x' q' _ _ _ _ h =>
      terTripleStr_inj toString nv_cleanNames_toString nv_toString_inj p x q p' x' q' h
    tripleNeTer := tripleStr_ne_ter toString nv_cleanNames_toString
    tripleNotS := tripleStr_not toString (t := "S") (l := []) String.toList_ofList (by decide)
    tripleNotT := tripleStr_not toString (t := "T") (l := []) String.toList_ofList (by decide)
    inNotEps := heps }

-- `InterOK` (`inter_nonEmpty`)
theorem nv_fstAB_wf : fstAB.WF := fst_wf_of_check _ (by decide +kernel)
theorem nv_fstABB_wf : fstABB.WF := fst_wf_of_check _ (by decide +kernel)
theorem nv_interOK : InterOK fstAB toString igAB :=
  interOK_toString fstAB igAB rfl nv_fstAB_wf (by decide +kernel)
theorem nv_interOK_empty : InterOK fstABB toString igAB :=
  interOK_toString fstABB igAB rfl nv_fstABB_wf (by decide +kernel)

/-- `inter_nonEmpty` instantiated on the two-state transducer, right to left: the word `a b` is derived
by the grammar and read by the transducer, hence the triple grammar is non-empty (no evaluation) -/
theorem nv_igAB_gen : igAB.Gen "S" [] ["a", "b"] := by
  have ha : igAB.Gen "Ea" [] ["a"] := by
    simpa using Gen.end_ (G := igAB) (a := "Ea") (t := "a") (σ := []) (by decide +kernel)
  have hb : igAB.Gen "Eb" [] ["b"] := by
    simpa using Gen.end_ (G := igAB) (a := "Eb") (t := "b") (σ := []) (by decide +kernel)
  have hA : igAB.Gen "A" ["f", "g"] ["a"] :=
    Gen.cons (f := "f") (b := "A") (by decide +kernel) (Gen.cons (f := "g") (b := "Ea") (by decide +kernel) ha)
  have hB : igAB.Gen "B" ["f", "g"] ["b"] :=
    Gen.cons (f := "f") (b := "B") (by decide +kernel) (Gen.cons (f := "g") (b := "Eb") (by decide +kernel) hb)
  exact Gen.prod (b := "X") (f := "g") (by decide +kernel)
    (Gen.prod (b := "X") (f := "f") (by decide +kernel) (Gen.dup (b := "A") (c := "B") (by decide +kernel) hA hB))
theorem nv_fstAB_rel : fstAB.Rel ["a", "b"] ["a", "b"] :=
  ⟨0, by decide +kernel, 1, by decide +kernel,
    FST.Path.read (r := 0) (o := ["a"]) (by decide +kernel)
      (FST.Path.read (r := 1) (o := ["b"]) (by decide +kernel) (FST.Path.nil 1))⟩
theorem nv_inter_nonEmpty : (inter fstAB toString igAB).NonEmpty :=
  (inter_nonEmpty fstAB toString igAB nv_interOK).mpr ⟨_, nv_igAB_gen, _, nv_fstAB_rel⟩

/-! evaluation of `is_empty` on the triple grammar: the kernel compares the long triple names byte by
byte, hence the small instance — a one-state transducer (`a*` and `b*`) and a four-rule grammar
(all four rule kinds, language `{a a}`) -/
def igS : IG :=
  { start := "S"
    rules := [.prod "S" "A" "f", .cons "f" "A" "B", .dup "B" "C" "C", .end_ "C" "a"] }
def dfaAstar : ENFA Nat := { states := [0], syms := [0], starts := [0], finals := [0], delta := [(0, some 0, 0)] }
def dfaBstar : ENFA Nat := { states := [0], syms := [1], starts := [0], finals := [0], delta := [(0, some 1, 0)] }
def fstA1 : FST Nat := dfaAstar.toFST symAB
def fstB1 : FST Nat := dfaBstar.toFST symAB

theorem nv_interOK_A1 : InterOK fstA1 toString igS :=
  interOK_toString fstA1 igS rfl (fst_wf_of_check _ (by decide +kernel)) (by decide +kernel)
theorem nv_interOK_B1 : InterOK fstB1 toString igS :=
  interOK_toString fstB1 igS rfl (fst_wf_of_check _ (by decide +kernel)) (by decide +kernel)

theorem nv_inter_rules : (inter fstA1 toString igS).rules.length = 11 := by decide +kernel
theorem nv_inter_isEmpty_false : (inter fstA1 toString igS).isEmpty 40 = some false := by decide +kernel
theorem nv_inter_isEmpty_true : (inter fstB1 toString igS).isEmpty 40 = some true := by decide +kernel

/-- `inter_nonEmpty` + `isEmpty_iff` fully instantiated, left to right: from the verdict of
`is_empty` to a word of the grammar read by the transducer … -/
theorem nv_inter_nonEmpty_inst : ∃ w, igS.Gen "S" [] w ∧ ∃ o, fstA1.Rel w o := by
  rw [← inter_nonEmpty fstA1 toString igS nv_interOK_A1]
  have h := isEmpty_iff (inter fstA1 toString igS) 40 false nv_inter_isEmpty_false
  by_contra hn
  exact absurd (h.mpr hn) (by decide)
/-- … and to the absence of such a word -/
theorem nv_inter_empty_inst : ¬ ∃ w, igS.Gen "S" [] w ∧ ∃ o, fstB1.Rel w o := by
  rw [← inter_nonEmpty fstB1 toString igS nv_interOK_B1]
  exact (isEmpty_iff (inter fstB1 toString igS) 40 true nv_inter_isEmpty_true).mp rfl

end Inter

/-! ## 3. State elimination and the `Regexable` operations (C06_ToRegex, C03_Regexable) -/
section ToRegex
open ENFA

/-- symbol names `x`, `xx`, `xxx`, … and their decoding (`hcode` of `unionR_lang`, `concatR_lang`,
`starR_lang`, `toRegex_roundtrip_lang`, with readable non-empty names) -/
def symX (a : Nat) : String := String.ofList (List.replicate (a + 1) 'x')
def codeX (s : String) : Nat := s.length - 1
theorem nv_codeX_symX : ∀ a, codeX (symX a) = a := by
  intro a; simp [codeX, symX]

-- `toRegexRx_lang`: state elimination on concrete automata gives concrete trees
theorem nv_toRegexRx_dfa : dfaABB.toRegexRx symX (fun _ => []) =
    .cat (.star (.sym "x")) (.cat (.sym "xx") (.sym "xx")) := by decide +kernel
/-- an ε-NFA with a cycle through the start state, a prescribed elimination order -/
theorem nv_toRegexRx_enfa : enfa1.toRegexRx symX (fun _ => [some 2, some 1]) =
    .cat (.star (.alt (.cat (.sym "x") (.sym "xx")) (.cat (.alt .eps (.sym "x")) (.sym "xx"))))
      (.alt (.cat (.sym "x") (.sym "xx")) (.cat (.alt .eps (.sym "x")) (.sym "xx"))) := by
  decide +kernel
theorem nv_toRegexRx_matches :
    (enfa1.toRegexRx symX (fun _ => [some 2, some 1])).matches ["x", "xx", "xx"] = true ∧
    (enfa1.toRegexRx symX (fun _ => [some 2, some 1])).matches ["x", "x"] = false := by
  decide +kernel

-- `toRegex_roundtrip_lang`: the Thompson automaton of the eliminated expression, run on coded words
theorem nv_roundtrip : ((dfaABB.toRegexRx symX (fun _ => [])).thompson codeX 0).1.acceptsE
      [some 0, some 0, some 1, some 1] = true ∧
    ((dfaABB.toRegexRx symX (fun _ => [])).thompson codeX 0).1.acceptsE [some 0, some 1] = false := by
  decide +kernel

-- `unionR_lang`, `concatR_lang`, `starR_lang`
theorem nv_unionR : (unionR dfaAB dfaABB symX codeX (fun _ => []) (fun _ => []) 0).acceptsE
      [some 0, some 1] = true ∧
    (unionR dfaAB dfaABB symX codeX (fun _ => []) (fun _ => []) 0).acceptsE [some 0, some 1, some 1] = true ∧
    (unionR dfaAB dfaABB symX codeX (fun _ => []) (fun _ => []) 0).acceptsE [some 1, some 0] = false := by
  decide +kernel
theorem nv_concatR : (concatR dfaAB dfaABB symX codeX (fun _ => []) (fun _ => []) 0).acceptsE
      [some 0, some 1, some 0, some 1, some 1] = true ∧
    (concatR dfaAB dfaABB symX codeX (fun _ => []) (fun _ => []) 0).acceptsE [some 0, some 1] = false := by
  decide +kernel
theorem nv_starR : (starR dfaAB symX codeX (fun _ => []) 0).acceptsE [] = true ∧
    (starR dfaAB symX codeX (fun _ => []) 0).acceptsE [some 1, some 0, some 1] = true ∧
    (starR dfaAB symX codeX (fun _ => []) 0).acceptsE [some 1, some 0] = false := by
  decide +kernel

/-- `unionR_lang` fully instantiated -/
theorem nv_unionR_inst : (unionR dfaAB dfaABB symX codeX (fun _ => []) (fun _ => []) 0).Lang [0, 1, 1] :=
  (unionR_lang symX codeX nv_codeX_symX dfaAB dfaABB nv_dfaAB.1 nv_dfaABB.1 _ _ 0 [0, 1, 1]).mpr
    (Or.inr (by rw [← member_iff]; decide))

end ToRegex

/-! ## 4. Single hypotheses (C15_RecDescent, C07_Desugar, C20_Labels, C20_Boxes) -/
section Misc
open CFG

-- `rdMatch_of_derives`: a sentential form that derives the word, and the pruning test on it
theorem nv_g3_derives : g3.Derives [.var "S"] (["a", "c", "b"].map Sym.ter) := by
  have h : g3.Lang ["a", "c", "b"] := (cfgMem_iff g3 ["a", "c", "b"] 20 true (by decide +kernel)).mp rfl
  obtain ⟨s, hs, hd⟩ := h
  have : s = "S" := (Option.some.inj hs).symm
  rw [this] at hd
  exact hd
theorem nv_rdMatch : RecDescent.rdMatch ["a", "c", "b"] [.var "S"] = true :=
  RecDescent.rdMatch_of_derives g3 _ _ nv_g3_derives

-- `matches_iff_Matches` / `desugar_denote` fully instantiated: the declarative semantics holds
theorem nv_py_Matches : PyRx.Matches "abcx019_".toList pyPat "bx_c".toList :=
  (PyRx.matches_iff_Matches _ pyPat nv_py_wellFormed _).mp nv_py_matches.1

-- `readFstLabel_fstLabel_clear`
open LabelCodec in
theorem nv_fstLabel : readFstLabel (fstLabel "\"a\"".toList "[\"X\", \"Y\"]".toList) =
    some ("\"a\"".toList, "[\"X\", \"Y\"]".toList) :=
  readFstLabel_fstLabel_clear _ _ nv_clear_json_string nv_clear_json_list

-- `box_lang` fully instantiated: the minimised box of `(a|b)* c` accepts the codes of `a b c`
theorem nv_box_lang : ∃ gs, detBox.hopcroft 100 = some gs ∧
    (detBox.minimizeOf gs id []).Lang (["a", "b", "c"].map codeInj) := by
  obtain ⟨gs, hgs⟩ : ∃ gs, detBox.hopcroft 100 = some gs :=
    Option.isSome_iff_exists.mp (by rw [detBox_eq]; exact detBoxV_hopcroft)
  refine ⟨gs, hgs, (Rx.box_lang rxSmall codeInj 0 id nv_box_keyInj 100 detBox nv_detBox 100 gs hgs id
    (fun _ _ _ _ h => h) [] _).mpr ⟨["a", "b", "c"], ?_, rfl⟩⟩
  rw [← Rx.matches_iff]
  exact nv_rx_matches.1

end Misc

end NonVacuity2

-- non-vacuity of the two termination theorems for intersections (`C03_Termination`)
namespace PDA
open NonVacuity in
/-- non-vacuity of `PDA.inter_isSome` (3 × 3 states) -/
example : (pda1.inter dfaABB symOfAB 9).isSome :=
  inter_isSome pda1 nv_pda1_wf dfaABB nv_dfaABB.1 symOfAB (by decide) (by decide) 9 (by decide)
end PDA

namespace CFG
open NonVacuity in
example : (g2.interD dfaAB symOfAB toString 2).isSome := interD_isSome _ _ _ _ 2 (by decide)
end CFG

end Pfl
