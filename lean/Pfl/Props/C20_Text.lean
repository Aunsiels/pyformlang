/-
C20 — `CFG.from_text(g.to_text())` reads back exactly the productions of `g`, for every grammar whose symbols
are plain tokens (whitespace-free, no "->", no '|', not themselves spelled like a `"VAR:…"` / `"TER:…"` marker;
terminals not spelled like ε), whatever needs the explicit markers included.
-/
import Pfl.Model.TextCodec
import Pfl.Props.C20_Codec
import Pfl.Proofs.TextCodecLemmas
namespace Pfl
namespace TextCodec
open Codec Pfl.TextCodec.Lem

def PlainTok (t : List Char) : Prop :=
  t ≠ [] ∧ (∀ c ∈ t, isSpace c = false ∧ c ≠ '|') ∧ ¬ ['-', '>'] <:+: t ∧ isSpecial t = false

def PlainSym : TSym → Prop
  | .var v => PlainTok v
  | .ter t => PlainTok t ∧ t ∉ epsilonSpellings

def PlainProd (p : TProd) : Prop := PlainTok p.1 ∧ ∀ s ∈ p.2, PlainSym s

/-- text round trip: the reader returns the productions written, in order -/
theorem fromText_toText (up : Char → Bool) (hup : ∀ c, isUpper c = true → up c = true)
    (prods : List TProd) (h : ∀ p ∈ prods, PlainProd p) :
    fromText (toText up prods) = some prods := by
  have htok : ∀ {t : List Char}, PlainTok t → Tok t := fun ht => ⟨ht.1, ht.2.1, ht.2.2.1⟩
  have hsym : ∀ s : TSym, PlainSym s → Tok (symText up s) ∧ compSym (symText up s) = some s := by
    intro s hs
    cases s with
    | var v =>
      exact ⟨tok_var v (htok hs), by
        simp only [compSym, symText, read_varToText v ⟨hs.1, hs.2.2.2⟩]⟩
    | ter t =>
      exact ⟨tok_ter up t (htok hs.1), by
        simp only [compSym, symText, Codec.Lem.read_terText up hup t hs.1.1 hs.1.2.2.2 hs.2]⟩
  have hbody : ∀ body : List TSym, (∀ s ∈ body, PlainSym s) →
      (body.map (symText up)).filterMap compSym = body := by
    intro body
    induction body with
    | nil => intro _; rfl
    | cons s rest ih =>
      intro hb
      rw [List.map_cons, List.filterMap_cons, (hsym s (hb s (by simp))).2,
        ih fun x hx => hb x (List.mem_cons_of_mem _ hx)]
  have hline : ∀ p : TProd, lineOf up p = p.1 ++ [' ', '-', '>', ' '] ++ joinWith [' '] (p.2.map (symText up)) :=
    fun _ => rfl
  have htoks : ∀ p ∈ prods, ∀ t ∈ p.2.map (symText up), Tok t := by
    intro p hp t ht
    obtain ⟨s, hs, rfl⟩ := List.mem_map.mp ht
    exact (hsym s ((h p hp).2 s hs)).1
  unfold toText
  apply fromText_lines
  · intro p hp
    rw [hline]
    exact line_noBreak p.1 _ (fun c hc => ((h p hp).1.2.1 c hc).1) (join_noBreak _ (Tok.words (htoks p hp)))
  · intro p hp
    rw [hline]
    have := readLine_line p.1 _ (htok (h p hp).1) (h p hp).1.2.2.2 (htoks p hp)
    rw [hbody p.2 (h p hp).2] at this
    exact this

/-- the conditions are needed: a terminal spelled like a marker is read back as a variable -/
theorem fromText_toText_needs_not_special :
    fromText (toText (fun _ => false) [("S".toList, [.ter "\"VAR:x\"".toList])]) =
      some [("S".toList, [.var "x".toList])] := by
  decide +kernel

/-- non-vacuity: a grammar that needs both markers and has an empty production -/
example : ∀ p ∈ [(("S".toList, [.var "x".toList, .ter "A".toList, .ter "b".toList]) : TProd), ("x".toList, [])],
    PlainProd p := by
  intro p hp
  simp only [List.mem_cons, List.not_mem_nil, or_false] at hp
  rcases hp with rfl | rfl
  · refine ⟨by unfold PlainTok; decide +kernel, ?_⟩
    intro s hs
    simp only [List.mem_cons, List.not_mem_nil, or_false] at hs
    rcases hs with rfl | rfl | rfl <;> simp only [PlainSym, PlainTok] <;> decide +kernel
  · exact ⟨by unfold PlainTok; decide +kernel, by simp⟩

end TextCodec
end Pfl
