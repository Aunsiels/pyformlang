/-
Compositions of proved pieces (C05 / C11): `Regex.accepts` and `PDA.intersection(regex)`
(the round trip `to_regex().to_epsilon_nfa()`: `Pfl/Props/C03_Regexable.lean`).
-/
import Pfl.Props.C05_Regex
import Pfl.Props.C06_ToRegex
import Pfl.Props.C01_Accepts
import Pfl.Props.C01_Det
import Pfl.Props.C13_ToCFG
namespace Pfl

namespace Rx

/-- `Regex.accepts(word)`: the Thompson automaton run on the coded word -/
theorem regexAccepts_iff (r : Rx) (code : String → Nat) (hcode : ∀ s t, code s = code t → s = t)
    (c : Nat) (w : List String) :
    (r.thompson code c).1.acceptsE (w.map fun s => some (code s)) = true ↔ Denote r w :=
  (Lem.thompson_accepts code r c w).trans (Lem.coded_iff (fun _ _ => hcode _ _) r w)

/-- the determinised Thompson automaton accepts the coded word exactly when `r` denotes the word:
the regular half of both `intersection(regex)` results -/
theorem thompsonDet_lang {κ : Type} [DecidableEq κ] (r : Rx) (code : String → Nat) (c : Nat)
    (hcode : ∀ s t, code s = code t → s = t)
    (symOf : String → Option Nat) (hsym : ∀ s, symOf s = some (code s))
    (key : List Nat → κ) (hk : (r.thompson code c).1.KeyInj key)
    (fuel : Nat) (D : ENFA κ) (hD : (r.thompson code c).1.toDet key true fuel = some D)
    (w : List String) : (∃ ks, w.mapM symOf = some ks ∧ D.Lang ks) ↔ Denote r w := by
  have hmap : w.mapM symOf = some (w.map code) := by
    induction w with
    | nil => rfl
    | cons a w ih => simp [List.mapM_cons, hsym a, ih]
  rw [hmap, ← Lem.coded_iff (fun _ _ => hcode _ _) r w, ← thompson_lang code r c,
    ← ENFA.toDet_lang _ (thompson_wf code r c) key hk fuel D hD]
  simp

end Rx

namespace PDA
variable {σ γ κ : Type} [DecidableEq σ] [DecidableEq γ] [DecidableEq κ]

/-- `PDA.intersection(regex)`: Thompson automaton, subset construction, product -/
theorem interRegex_lang (P : PDA σ γ) (hP : P.WF) (r : Rx) (code : String → Nat) (c : Nat)
    (hcode : ∀ s t, code s = code t → s = t)
    (symOf : String → Option Nat) (hsym : ∀ s, symOf s = some (code s))
    (key : List Nat → κ) (hk : (r.thompson code c).1.KeyInj key)
    (fuel1 : Nat) (D : ENFA κ) (hD : (r.thompson code c).1.toDet key true fuel1 = some D)
    (fuel2 : Nat) (Q : PDA (σ × κ) γ) (hQ : P.inter D symOf fuel2 = some Q) (w : List String) :
    Q.AccFinal w ↔ P.AccFinal w ∧ Rx.Denote r w := by
  obtain ⟨dD, eD⟩ := ENFA.toDet_shape _ key true fuel1 D hD
  rw [inter_lang P hP D dD eD symOf fuel2 Q hQ w,
    Rx.thompsonDet_lang r code c hcode symOf hsym key hk fuel1 D hD]

end PDA
end Pfl
