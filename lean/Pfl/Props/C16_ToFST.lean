/-
C16 — `FiniteAutomaton.to_fst()` is the identity relation restricted to the automaton's language.
-/
import Pfl.Model.ToFST
import Pfl.Spec.FA
import Pfl.Spec.FST
import Pfl.Proofs.FSTLemmas
namespace Pfl
namespace ENFA
variable {σ : Type} [DecidableEq σ]

theorem mem_toFST_delta (A : ENFA σ) (symName : Nat → String) {q r : σ} {a : Option String}
    {o : List String} : (q, a, r, o) ∈ (A.toFST symName).delta ↔
      ∃ x : Option Nat, (q, x, r) ∈ A.delta ∧ a = x.map symName ∧ o = (x.map symName).toList := by
  have e : (A.toFST symName).delta = A.delta.map fun t =>
      (t.1, t.2.1.map symName, t.2.2, (t.2.1.map symName).toList) :=
    List.map_congr_left fun ⟨_, x, _⟩ _ => by cases x <;> rfl
  rw [e, List.mem_map]
  constructor
  · rintro ⟨⟨_, x, _⟩, ht, he⟩
    cases he
    exact ⟨x, ht, rfl, rfl⟩
  · rintro ⟨x, ht, rfl, rfl⟩
    exact ⟨_, ht, rfl⟩

theorem toFST_path_of_run (A : ENFA σ) (symName : Nat → String) {q r : σ} {w : List Nat}
    (h : A.Run q w r) : (A.toFST symName).Path q (w.map symName) (w.map symName) r := by
  induction h with
  | nil q => exact FST.Path.nil q
  | eps hd _ ih => exact FST.Path.eps ((mem_toFST_delta A symName).mpr ⟨none, hd, rfl, rfl⟩) ih
  | @step _ _ _ a _ hd _ ih =>
    exact FST.Path.read ((mem_toFST_delta A symName).mpr ⟨some a, hd, rfl, rfl⟩) ih

theorem toFST_run_of_path (A : ENFA σ) (symName : Nat → String) {q r : σ} {i o : List String}
    (h : (A.toFST symName).Path q i o r) : i = o ∧ ∃ w, i = w.map symName ∧ A.Run q w r := by
  induction h using FST.Lem.Path.ind with
  | nil q => exact ⟨rfl, [], rfl, Run.nil q⟩
  | step hd _ ih =>
    obtain ⟨x, ht, rfl, rfl⟩ := (mem_toFST_delta A symName).mp hd
    obtain ⟨h1, w, h2, h3⟩ := ih
    cases x with
    | none => exact ⟨h1, w, h2, Run.eps ht h3⟩
    | some b =>
      exact ⟨congrArg (symName b :: ·) h1, b :: w, congrArg (symName b :: ·) h2, Run.step ht h3⟩

/-- the relation of `to_fst()`: `(i, o)` with `i = o` the spelling of an accepted word -/
theorem toFST_rel (A : ENFA σ) (symName : Nat → String) (i o : List String) :
    (A.toFST symName).Rel i o ↔ i = o ∧ ∃ w, i = w.map symName ∧ A.Lang w := by
  have hs : (A.toFST symName).starts = A.starts.eraseDups := rfl
  have hf : (A.toFST symName).finals = A.finals.eraseDups := rfl
  constructor
  · rintro ⟨s, hs', f, hf', hp⟩
    rw [hs, List.mem_eraseDups] at hs'
    rw [hf, List.mem_eraseDups] at hf'
    obtain ⟨h1, w, h2, h3⟩ := toFST_run_of_path A symName hp
    exact ⟨h1, w, h2, s, hs', f, hf', h3⟩
  · rintro ⟨rfl, w, rfl, s, hs', f, hf', hr⟩
    exact ⟨s, by rw [hs, List.mem_eraseDups]; exact hs', f, by rw [hf, List.mem_eraseDups]; exact hf',
      toFST_path_of_run A symName hr⟩

end ENFA
end Pfl
