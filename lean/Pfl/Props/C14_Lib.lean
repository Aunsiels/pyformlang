/-
C14 — the library's own LL(1) machinery (trigger-driven worklists of `get_first_set` /
`get_follow_set`, `get_llone_parsing_table`, `is_llone_parsable`, the stack machine of
`get_llone_parse_tree`; step-faithful model `Pfl/Model/LL1Lib.lean`) computes the textbook sets and
only returns valid parse trees.
-/
import Pfl.Model.LL1Lib
import Pfl.Props.C14_LL1
import Pfl.Proofs.LL1LibFirst
import Pfl.Proofs.LL1LibParse
import Pfl.Proofs.LL1LibFollow
import Pfl.Proofs.RecDescentLemmas
namespace Pfl
namespace LL1Lib
open CFG Lem

/-- FIRST of a variable, as the worklist leaves it: exactly the terminals that can begin a word
of the variable, `Epsilon` exactly when the variable is nullable, never the end marker -/
theorem firstSet_spec (G : CFG) (hg : G.AllGenerating) (hG : G.WF) (fuel : Nat)
    (F : SetMap Sym Look) (h : firstSet G fuel = some F) (v : String) (hv : v ∈ G.vars) :
    (∀ t, Look.ter t ∈ getD F (.var v) ↔ ∃ w, G.Gen (.var v) (t :: w)) ∧
    (Look.eps ∈ getD F (.var v) ↔ G.Gen (.var v) []) ∧
    Look.eof ∉ getD F (.var v) :=
  firstSet_sem G (fun p hp => (hg p hp).2) hG fuel F h (.var v) (fun t e => by cases e)

theorem firstSet_ter (G : CFG) (hG : G.WF) (fuel : Nat)
    (F : SetMap Sym Look) (h : firstSet G fuel = some F) (t : String) (ht : t ∈ G.ters) :
    getD F (.ter t) = [Look.ter t] :=
  firstSet_ters G fuel F h t ht

/-- FOLLOW of a variable, as the worklist leaves it, is the reference FOLLOW (hence, by
`mem_followSets_iff`, the textbook set when every head is reachable) -/
theorem followSet_spec (G : CFG) (hg : G.AllGenerating) (hG : G.WF) (fuel : Nat)
    (Fo : SetMap (Option Sym) Look) (h : followSet G fuel = some Fo) (v : String) (hv : v ∈ G.vars) :
    (∀ t, Look.ter t ∈ getD Fo (some (.var v)) ↔ (v, some t) ∈ G.followSets) ∧
    (Look.eof ∈ getD Fo (some (.var v)) ↔ (v, none) ∈ G.followSets) ∧
    Look.eps ∉ getD Fo (some (.var v)) := by
  have h' := followSet_ref G hG fuel Fo h v
  exact ⟨fun t => h'.1 (some t), h'.1 none, h'.2⟩

/-- the table holds production `p` in column `a` of row `p.1` exactly when `a` is in the
predict set of `p` -/
theorem table_spec (G : CFG) (hg : G.AllGenerating) (hG : G.WF) (fuel : Nat)
    (tb : List (String × Look × Prod)) (h : table G fuel = some tb) (hd : String) (a : Look) (p : Prod) :
    (hd, a, p) ∈ tb ↔ p ∈ G.prods ∧ hd = p.1 ∧
      (match a with
       | .ter t => some t ∈ G.predict p
       | .eof => none ∈ G.predict p
       | .eps => False) := by
  obtain ⟨F, Fo, hF, hFo, rfl⟩ := table_eq G fuel tb h
  rw [tableOf_spec G hG fuel F Fo hF hFo]
  cases a <;> exact Iff.rfl

theorem isLLOne_iff (G : CFG) (hg : G.AllGenerating) (hG : G.WF) (hnd : G.prods.Nodup) (fuel : Nat)
    (b : Bool) (h : isLLOne G fuel = some b) : b = G.isLL1 := by
  unfold isLLOne at h
  obtain ⟨tb, htb, rfl⟩ := Option.map_eq_some_iff.mp h
  obtain ⟨F, Fo, hF, hFo, rfl⟩ := table_eq G fuel tb htb
  obtain ⟨_, _, _, hI⟩ := followSet_res G hG fuel Fo hFo
  rw [Bool.eq_iff_iff, isLL1_iff]
  exact llcheck_iff G _ (fun hd a p => tableOf_spec G hG fuel F Fo hF hFo hd a p)
    (tableOf_nodup G hnd F Fo hI.nodup)

/-- the leftmost sequence of productions the machine emits (`buildTree` does not reduce in the
kernel, so examples with a tree are stated on the machine and completed by `parse_of_emitted`) -/
def emitted (G : CFG) (w : List String) (fuel : Nat) : Option (Option (List Pfl.Prod)) :=
  match G.start with
  | none => some none
  | some s =>
    match table G fuel with
    | none => none
    | some tb => parseLoop tb fuel [some (.var s), none] w []

/-- `get_llone_parse_tree` answers as its stack machine does: a sequence that the machine emits is
always rebuilt into a tree (the fuel that sufficed for the run exceeds the length of the sequence),
and the tree is valid -/
theorem parse_of_emitted (G : CFG) (w : List String) (fuel : Nat) :
    match emitted G w fuel with
    | none => parse G w fuel = none
    | some none => parse G w fuel = some none
    | some (some _) => ∃ t, parse G w fuel = some (some t) ∧ G.treeValid t w = true := by
  unfold emitted parse
  cases hst : G.start with
  | none => rfl
  | some s =>
    cases htb : table G fuel with
    | none => rfl
    | some tb =>
      dsimp only
      rcases hps : parseLoop tb fuel [some (.var s), none] w [] with _ | _ | ps
      · rfl
      · rfl
      · obtain ⟨ps', h1, h2, h3, hlen⟩ := parseLoop_lm (fun p => p ∈ G.prods) tb
          (table_entry G fuel tb htb) fuel [.var s] w [] ps hps
        cases (List.nil_append ps').symm.trans h1.symm
        obtain ⟨t, e, hv⟩ := RecDescent.Lem.build_start G true hst h3 h2 hlen
        simp only [buildTree_eq_build, e]
        exact ⟨t, rfl, hv⟩

/-- whatever tree the stack machine returns is a parse tree of the word -/
theorem parse_valid (G : CFG) (w : List String) (fuel : Nat) (t : PTree)
    (h : parse G w fuel = some (some t)) : G.treeValid t w = true := by
  have hp := parse_of_emitted G w fuel
  split at hp
  · rw [hp] at h; cases h
  · rw [hp] at h; cases h
  · obtain ⟨t', e, hv⟩ := hp
    cases e.symm.trans h
    exact hv

end LL1Lib
end Pfl
