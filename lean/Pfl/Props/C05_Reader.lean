/-
C05 — the reader inverts the printer: the text `str(regex)` / `repr'` of any regular expression
over plain symbols (`PlainRx`, in `ReaderChars`: no `Empty` node, no symbol that would need
escaping) is read back (character-level model of `_pre_process_regex`,
`_get_regex_componants`, parenthesis stripping, precedence computation and the recursive
re-parsing of the sons) as the same tree.
-/
import Pfl.Model.Regex
import Pfl.Proofs.ReaderChars
import Pfl.Proofs.ReaderTokens
import Pfl.Proofs.ReaderGrammar
namespace Pfl
namespace RegexReader

theorem parse_repr (r : Rx) (h : PlainRx r) :
    ∃ fuel, ∀ fuel', fuel ≤ fuel' → parse fuel' (Rx.repr' r).toList = .ok r :=
  have ⟨k, _, hk, hw⟩ := Lem.PlainRx.printed r h
  ⟨k, fun _ hf => hk.parse_written hf hw⟩

example : PlainRx (.cat (.star (.alt (.sym "ab") .eps)) (.sym "c")) := by
  refine ⟨⟨?_, trivial⟩, ?_⟩ <;> (refine ⟨by decide, ?_, by decide⟩; intro c hc; simp at hc; rcases hc with rfl | rfl <;> decide)

end RegexReader
end Pfl

