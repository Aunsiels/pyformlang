/-
The whole development: the generic worklist, the models of pyformlang with their specifications and
verified oracles, and the property theorems C01–C20 (which import the proof modules they rest on).
-/
import Pfl.Core.Closure
import Pfl.Spec.CFG
import Pfl.Spec.FA
import Pfl.Spec.FAObject
import Pfl.Spec.FST
import Pfl.Spec.Indexed
import Pfl.Spec.PDA
import Pfl.Spec.Regex
import Pfl.Spec.RegexObject
import Pfl.Model.BarHillel
import Pfl.Model.CFG
import Pfl.Model.CFGCounters
import Pfl.Model.CFGObject
import Pfl.Model.CYKTree
import Pfl.Model.Codec
import Pfl.Model.Earley
import Pfl.Model.EarleyTree
import Pfl.Model.Ebnf
import Pfl.Model.FA
import Pfl.Model.FAObject
import Pfl.Model.FST
import Pfl.Model.FSTObject
import Pfl.Model.Feature
import Pfl.Model.FeatureDag
import Pfl.Model.Hopcroft
import Pfl.Model.Indexed
import Pfl.Model.IndexedInter
import Pfl.Model.IndexedMark
import Pfl.Model.IndexedObject
import Pfl.Model.LL1Lib
import Pfl.Model.LabelCodec
import Pfl.Model.Minimize
import Pfl.Model.Names
import Pfl.Model.Networkx
import Pfl.Model.PDA
import Pfl.Model.PDAObject
import Pfl.Model.PyRegex
import Pfl.Model.PyRegexPasses
import Pfl.Model.PyRender
import Pfl.Model.RecDescent
import Pfl.Model.Regex
import Pfl.Model.RegexObject
import Pfl.Model.RegexToCFG
import Pfl.Model.TextCodec
import Pfl.Model.ToFST
import Pfl.Model.ToRegex
import Pfl.Oracle.CfgMem
import Pfl.Oracle.FsGround
import Pfl.Oracle.FstRel
import Pfl.Oracle.LangEquiv
import Pfl.Oracle.PdaAcc
import Pfl.Oracle.RegOps
import Pfl.Oracle.Trees
import Pfl.Props.C01_Accepts
import Pfl.Props.C01_Det
import Pfl.Props.C01_EpsCopy
import Pfl.Props.C01_Names
import Pfl.Props.C01_Termination
import Pfl.Props.C02_Equiv
import Pfl.Props.C02_Hopcroft
import Pfl.Props.C02_Iso
import Pfl.Props.C02_Min
import Pfl.Props.C03_Bool
import Pfl.Props.C03_Ref
import Pfl.Props.C03_Regexable
import Pfl.Props.C03_Rev
import Pfl.Props.C03_Termination
import Pfl.Props.C04_Oracle
import Pfl.Props.C04_Preds
import Pfl.Props.C04_Words
import Pfl.Props.C05_Compose
import Pfl.Props.C05_Grammar
import Pfl.Props.C05_Reader
import Pfl.Props.C05_Regex
import Pfl.Props.C05_ToCFG
import Pfl.Props.C06_ToRegex
import Pfl.Props.C07_Desugar
import Pfl.Props.C07_EndToEnd
import Pfl.Props.C07_Passes
import Pfl.Props.C08_Oracle
import Pfl.Props.C09_CNF
import Pfl.Props.C09_Clean
import Pfl.Props.C09_Termination
import Pfl.Props.C10_Reverse
import Pfl.Props.C10_Substitute
import Pfl.Props.C11_BarHillel
import Pfl.Props.C11_Regex
import Pfl.Props.C12_Classes
import Pfl.Props.C12_Words
import Pfl.Props.C13_Modes
import Pfl.Props.C13_Oracle
import Pfl.Props.C13_ToCFG
import Pfl.Props.C14_LL1
import Pfl.Props.C14_Lib
import Pfl.Props.C14_Termination
import Pfl.Props.C15_CYKTree
import Pfl.Props.C15_EarleyTree
import Pfl.Props.C15_RecDescent
import Pfl.Props.C15_Trees
import Pfl.Props.C16_FST
import Pfl.Props.C16_Termination
import Pfl.Props.C16_ToFST
import Pfl.Props.C17_Indexed
import Pfl.Props.C17_Inter
import Pfl.Props.C17_Lib
import Pfl.Props.C18_Dag
import Pfl.Props.C18_Earley
import Pfl.Props.C18_EarleyComplete
import Pfl.Props.C18_Termination
import Pfl.Props.C18_Unify
import Pfl.Props.C19_Counters
import Pfl.Props.C19_FAObject
import Pfl.Props.C19_FSTObject
import Pfl.Props.C19_Indexed
import Pfl.Props.C19_Object
import Pfl.Props.C19_PDAObject
import Pfl.Props.C19_Regex
import Pfl.Props.C20_Boxes
import Pfl.Props.C20_Codec
import Pfl.Props.C20_Ebnf
import Pfl.Props.C20_Labels
import Pfl.Props.C20_Networkx
import Pfl.Props.C20_Text
import Pfl.Props.NonVacuity
import Pfl.Props.NonVacuity2
